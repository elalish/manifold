import MV.Proof.CrossOpsHull
import MV.Proof.CrossOpsSimplify
import MV.Proof.CrossOpsDecompose
import MV.Proof.CrossOpsJoin
import Mathlib.Tactic.NormNum
/-!
# C12 — Offset, Hull, Decompose and Simplify of CrossSections mean what they say

Model: MV/Model/CrossOps.lean — ONE `Scalar`-polymorphic definition per C++ function of
`src/cross_section.cpp` (HullBacktrack, HullImpl, SimplifyRing) and `src/boolean2_offset.cpp`
(DecomposeByContainment with Summarize/BoxInside/PointInRing/RingInside, UnitFromScaled,
OutwardNormal, MiterPoint, AppendSquareJoin, AppendRoundJoin, OffsetContour).  The compiled driver
runs these definitions at `Float` against the real functions (bit-exact, harness/c12_crossops.cpp);
the theorems below are about THE SAME definitions at the instance `fieldScalar F` of an arbitrary
linearly ordered field `F` (exact arithmetic: what the code computes when no operation rounds).
All statements quantify over ALL inputs (all point lists, all rings and tolerances, all polygon
lists and — for `decomposeIdx` — all outcomes of the geometric tests, all unit normals and deltas).

What is NOT proved here (decided per run by the oracles of the harness on the real outputs only):

`offset_distance_partial` — "for a regularised cross-section A, finite delta and round joins with
  `segments` chords per turn, a point p is in `Offset(A, delta)` if `sdist(p, A) ≤ delta − chord`
  and only if `sdist(p, A) ≤ delta + chord`, `chord = |delta|(1 − cos(π/segments))`; for every join
  type `Offset(A, delta) ⊇ A ⊕ (edges swept by delta along their normals)` and
  `Offset(A, delta) ⊆ {sdist ≤ L|delta|}` with `L` the miter limit".  This needs real analysis over
  arcs and the winding-number semantics of the final `ApplyFillRule(Add)` (property C11's sweep);
  the per-corner facts it rests on ARE proved below (`miter_on_both_offsets`, `miter_within_limit`,
  `square_cap_*`, `round_on_circle`, `bevel_on_offset`).
`offset_monotone_partial` — "`delta₁ ≤ delta₂ ⇒ Offset(A, delta₁) ⊆ Offset(A, delta₂)`" (up to the
  chordal error for round joins).  Same reason.
Rounding: the hull and deviation predicates are evaluated in floating point by the code; the
theorems are exact-arithmetic statements (the harness checks integer-lattice inputs, where the
double computation is exact, exactly, and double inputs with a rounding allowance).
-/
namespace MV.CrossOps.C12
open MV.CrossOps

section Field
variable {F : Type} [Field F] [LinearOrder F] [IsStrictOrderedRing F]

/-! ## Hull: `HullImpl` returns the convex hull of the points -/

/-- **hull_vertices_subset**: every vertex of the hull is an input point. -/
theorem hull_vertices_subset (pts : List (V2 F)) : ∀ v ∈ hullImpl pts, v ∈ pts :=
  hull_subset pts

/-- **hull_contains_all**: every input point is on the inner (left) side of, or on, every edge of
the returned ring (edges taken cyclically). -/
theorem hull_contains_all (pts : List (V2 F)) :
    ∀ e ∈ cyclicPairs (hullImpl pts), ∀ q ∈ pts, 0 ≤ orient e.1 e.2 q :=
  hull_contains pts

/-- **hull_convex**: a returned ring with at least 3 vertices (the only kind `CrossSection::Hull`
keeps) turns STRICTLY left at every vertex, cyclically — the `CCW(…) <= 0` pop removes collinear
and duplicate points, so the ring is the list of extreme points in counter-clockwise order. -/
theorem hull_convex (pts : List (V2 F)) (h3 : 3 ≤ (hullImpl pts).length) :
    ∀ t ∈ cyclicTriples (hullImpl pts), 0 < orient t.1 t.2.1 t.2.2 :=
  hull_strictly_convex pts h3

/-- the public entry point: empty, or a strictly convex counter-clockwise ring of input points that
contains every input point. -/
theorem hull_public (pts : List (V2 F)) :
    hullPublic pts = [] ∨
    (3 ≤ (hullPublic pts).length ∧ (∀ v ∈ hullPublic pts, v ∈ pts) ∧
     (∀ e ∈ cyclicPairs (hullPublic pts), ∀ q ∈ pts, 0 ≤ orient e.1 e.2 q) ∧
     (∀ t ∈ cyclicTriples (hullPublic pts), 0 < orient t.1 t.2.1 t.2.2)) := by
  unfold hullPublic
  by_cases h : (hullImpl pts).length < 3
  · left; simp [h]
  · right
    simp only [h, if_false]
    exact ⟨by omega, hull_subset pts, hull_contains pts, hull_strictly_convex pts (by omega)⟩

end Field

/-- non-vacuity: six points of the 3×3 lattice (two of them not extreme); the hull is the square -/
def hullEx : List (V2 ℚ) := [⟨0, 0⟩, ⟨0, 2⟩, ⟨1, 0⟩, ⟨1, 1⟩, ⟨2, 0⟩, ⟨2, 2⟩]

theorem hullEx_eq : hullImpl hullEx = [⟨0, 0⟩, ⟨2, 0⟩, ⟨2, 2⟩, ⟨0, 2⟩] :=
  hullImpl_lattice

example : (⟨2, 2⟩ : V2 ℚ) ∈ hullEx := hull_vertices_subset hullEx ⟨2, 2⟩ (by rw [hullEx_eq]; simp)
example : 0 ≤ orient (⟨0, 0⟩ : V2 ℚ) ⟨2, 0⟩ ⟨1, 1⟩ :=
  hull_contains_all hullEx (⟨0, 0⟩, ⟨2, 0⟩) (by rw [hullEx_eq]; exact List.mem_cons_self) ⟨1, 1⟩ (by simp [hullEx])
example : 0 < orient (⟨2, 0⟩ : V2 ℚ) ⟨2, 2⟩ ⟨0, 2⟩ :=
  hull_convex hullEx (by rw [hullEx_eq]; decide) (⟨2, 0⟩, ⟨2, 2⟩, ⟨0, 2⟩) (by rw [hullEx_eq]; exact List.mem_cons_of_mem _ List.mem_cons_self)
example : 3 ≤ (hullPublic hullEx).length := by
  unfold hullPublic; rw [hullEx_eq]; decide

/-! ## Simplify: `SimplifyRing` only deletes vertices and stops only when the tolerance is met -/

/-- **simplify_sublist**: the returned ring is an in-order sublist of the input ring (no rotation, no
new or moved vertex) — for EVERY scalar type, `Float` included. -/
theorem simplify_sublist {α : Type} [Scalar α] (ring : List (V2 α)) (tol : α) :
    (simplifyRing ring tol).Sublist ring :=
  MV.CrossOps.simplify_sublist ring tol

example : (simplifyRing exRing (1 / 2)).Sublist exRing := simplify_sublist _ _
example : simplifyRing exRing (1 / 2) = [⟨0, 0⟩, ⟨2, 0⟩, ⟨2, 2⟩, ⟨0, 2⟩] := exRing_simplified

section Field
variable {F : Type} [Field F] [LinearOrder F] [IsStrictOrderedRing F]

omit [IsStrictOrderedRing F] in
/-- **simplify_exit** (state level, the heap invariant "every live vertex has a current-stamp entry
carrying its current deviation"): at exit either at most 3 vertices are alive or EVERY live vertex is
at squared distance `≥ tol²` from the line through its current neighbours in the linked ring. -/
theorem simplify_exit (ring : List (V2 F)) (tol : F) (h : 3 < ring.length) :
    (simplifyFinal ring tol).numAlive ≤ 3 ∨
    ∀ i < ring.length, (simplifyFinal ring tol).alive i = true →
      tol * tol ≤ deviation2 (fun i => ring.getD i V2.zero) (simplifyFinal ring tol).prev
        (simplifyFinal ring tol).next i :=
  MV.CrossOps.simplify_exit ring tol h

omit [IsStrictOrderedRing F] in
/-- **simplify_exit_ring** (the property as worded): the returned ring has at most 3 vertices, or no
vertex of it is closer than `tol` to the line through its two neighbours IN THE RETURNED RING
(`dev2pts a b c` = squared distance of `b` from line `a c`, exactly the code's formula; the linked
list at exit is the cyclic adjacency of the survivors, `simplify_linked`). -/
theorem simplify_exit_ring (ring : List (V2 F)) (tol : F) (h : 3 < ring.length) :
    (simplifyRing ring tol).length ≤ 3 ∨
      ∀ t ∈ cyclicTriples (simplifyRing ring tol), tol * tol ≤ dev2pts t.1 t.2.1 t.2.2 :=
  MV.CrossOps.simplify_exit_ring ring tol h

omit [IsStrictOrderedRing F] in
/-- a ring with more than 3 vertices never drops below 3 -/
theorem simplify_keeps_three (ring : List (V2 F)) (tol : F) (h : 3 < ring.length) :
    3 ≤ (simplifyRing ring tol).length := by
  unfold simplifyRing
  rw [List.length_map, simplifyKept_length ring tol h]
  exact (simplify_count ring tol h).2

end Field

/-- rings of at most 3 vertices are returned unchanged (every scalar type) -/
theorem simplify_small {α : Type} [Scalar α] (ring : List (V2 α)) (tol : α) (h : ring.length ≤ 3) :
    simplifyRing ring tol = ring := by
  unfold simplifyRing simplifyKept
  rw [if_pos h]
  exact map_getD_range ring V2.zero

example : 3 < exRing.length := by decide
example : 3 ≤ (simplifyRing exRing (1 / 2)).length := simplify_keeps_three _ _ (by decide)
/-- the `break` exit on a concrete ring: the collinear vertex is dropped, the corners stay -/
example : simplifyKept exRing (1 / 2) = [0, 2, 3, 4] := exRing_kept
example : simplifyRing ([⟨0, 0⟩, ⟨1, 0⟩, ⟨0, 1⟩] : List (V2 ℚ)) 5 = [⟨0, 0⟩, ⟨1, 0⟩, ⟨0, 1⟩] :=
  simplify_small _ _ (by decide)

/-! ## Decompose: `DecomposeByContainment` partitions the rings -/

/-- **decompose_partition_any_geometry**: for EVERY outcome of the geometric tests (`parent` = the
smallest containing ring found, `isNeg`/`isPos` = the sign tests on the areas — arbitrary functions
here), every positive ring seeds exactly one component, in increasing order, as its first ring; the
other rings of a component are non-positive rings whose walk up the parents ended at that seed; no
ring index occurs twice (each hole is attached to at most one component); no ring is invented; and
any additive weight (area) of the components sums to the weight of the placed rings. -/
theorem decompose_partition_any_geometry (parent : Nat → Option Nat) (isNeg isPos : Nat → Bool) (n : Nat) :
    (decomposeIdx parent isNeg isPos n).map List.head? = ((List.range n).filter isPos).map some ∧
    (∀ c ∈ decomposeIdx parent isNeg isPos n, ∀ p, c.head? = some p → ∀ i ∈ c.tail,
      i < n ∧ isPos i = false ∧ holeTarget parent isNeg isPos n i = some p) ∧
    (decomposeIdx parent isNeg isPos n).flatten.Nodup ∧
    (decomposeIdx parent isNeg isPos n).flatten.Subperm (List.range n) ∧
    (∀ {M : Type} [AddCommMonoid M] (area : Nat → M),
      ((decomposeIdx parent isNeg isPos n).map fun c => (c.map area).sum).sum =
        ((decomposeIdx parent isNeg isPos n).flatten.map area).sum) :=
  ⟨decompose_heads _ _ _ _, decompose_tails _ _ _ _, decompose_nodup _ _ _ _, decompose_subperm _ _ _ _,
    fun area => decompose_area_sum _ _ _ _ area⟩

example : decomposeIdx (fun i => if i = 1 ∨ i = 2 then some 0 else none) (fun i => decide (i = 1 ∨ i = 2))
    (fun i => decide (i = 0 ∨ i = 3)) 4 = [[0, 1, 2], [3]] := by decide

section Field
variable {F : Type} [Field F] [LinearOrder F] [IsStrictOrderedRing F]

omit [IsStrictOrderedRing F] in
/-- **decompose_partition**: the whole `DecomposeByContainment` in exact arithmetic (parents computed
by the model's own `parentOf` from `BoxInside`/`RingInside`): the kept rings are the input rings that
pass the size/sliver filter; components are seeded by the positive kept rings; holes are attached to
at most one component; exactly the positive rings and the holes with a positive ancestor are placed;
areas add up; and when no hole is orphaned (every regularised input: each hole lies in an outline)
the components are a PARTITION of the kept rings (multiset preserved) with the total area preserved. -/
theorem decompose_partition (epsOf : F → F) (polys : List (List (V2 F))) :
    let rings := (decompose epsOf polys).1
    let comps := (decompose epsOf polys).2
    let n := rings.length
    let target := holeTarget (dParent epsOf polys) (dNeg epsOf polys) (dPos epsOf polys) n
    rings = polys.filter (keepRing epsOf) ∧
    comps.map List.head? = ((List.range n).filter (dPos epsOf polys)).map some ∧
    (∀ c ∈ comps, ∀ p, c.head? = some p → ∀ i ∈ c.tail,
      i < n ∧ dPos epsOf polys i = false ∧ target i = some p) ∧
    comps.flatten.Nodup ∧
    (∀ i, i ∈ comps.flatten ↔ i < n ∧ (dPos epsOf polys i = true ∨ (target i).isSome = true)) ∧
    (∀ {M : Type} [AddCommMonoid M] (area : Nat → M),
      (comps.map fun c => (c.map area).sum).sum = (comps.flatten.map area).sum) ∧
    ((∀ i, i < n → dPos epsOf polys i = false → (target i).isSome = true) →
      comps.flatten.Perm (List.range n) ∧
      ∀ {M : Type} [AddCommMonoid M] (area : Nat → M),
        (comps.map fun c => (c.map area).sum).sum = ((List.range n).map area).sum) :=
  MV.CrossOps.decompose_partition epsOf polys

/-- the two sign tests of the code (`area > 0` seeds, `area < 0` is walked through) are exclusive, and
with a non-negative epsilon every kept ring passes exactly one of them -/
theorem decompose_signs (epsOf : F → F) (heps : ∀ x, 0 ≤ epsOf x) (polys : List (List (V2 F))) (i : Nat)
    (hi : i < (polys.filter (keepRing epsOf)).length) :
    (dNeg epsOf polys i = true ∨ dPos epsOf polys i = true) ∧
    ¬ (dNeg epsOf polys i = true ∧ dPos epsOf polys i = true) :=
  ⟨decompose_kept_signed epsOf heps polys i hi, dNeg_dPos_exclusive epsOf polys i⟩

end Field

/-- non-vacuity: a 4×4 square with a 2×2 hole, `eps = 0`: one component holding both rings -/
example : (decompose (fun _ => (0 : ℚ))
    [[⟨0, 0⟩, ⟨4, 0⟩, ⟨4, 4⟩, ⟨0, 4⟩], [⟨1, 1⟩, ⟨1, 3⟩, ⟨3, 3⟩, ⟨3, 1⟩]]).2 = [[0, 1]] := by decide +kernel

/-! ## Offset joins: the points `OffsetContour` pushes at a corner -/

section Field
variable {F : Type} [Field F] [LinearOrder F] [IsStrictOrderedRing F]

/-- **miter_on_both_offsets**: for unit normals with `1 + nP·nN > 0` the miter point lies on the offset
line of the previous edge AND on the offset line of the next edge. -/
theorem miter_on_both_offsets (V nP nN : V2 F) (delta : F) (hP : dot nP nP = 1) (hN : dot nN nN = 1)
    (hd : 0 < 1 + dot nP nN) :
    dot ((miterPoint V nP nN delta).sub V) nP = delta ∧ dot ((miterPoint V nP nN delta).sub V) nN = delta :=
  MV.CrossOps.miter_on_both_offsets V nP nN delta hP hN hd

/-- **miter_within_limit**: if `2/L² − 1 ≤ nP·nN` (the code's miter test with tie tolerance 0; the code's
own guard, with `miterTieTol > 0` and `kMinMiterDenom`, is `miter_branch` below) the miter point is within
`L·|delta|` of the vertex. -/
theorem miter_within_limit (V nP nN : V2 F) (delta L : F) (hP : dot nP nP = 1) (hN : dot nN nN = 1)
    (hL : 0 < L) (hbr : 2 / (L * L) - 1 ≤ dot nP nN) (hd : 0 < 1 + dot nP nN) :
    dot ((miterPoint V nP nN delta).sub V) ((miterPoint V nP nN delta).sub V) ≤ (L * delta) ^ 2 :=
  MV.CrossOps.miter_within_limit V nP nN delta L hP hN hL hbr hd

/-- the same from the code's own Boolean guard, with its tie tolerance and `kMinMiterDenom` -/
theorem miter_branch (V nP nN : V2 F) (delta L tie md : F) (hP : dot nP nP = 1)
    (hN : dot nN nN = 1) (hmd : 0 < md)
    (hbr : (Scalar.lt (Scalar.add (dot nP nN) tie)
        (Scalar.sub (Scalar.div two (Scalar.mul L L)) Scalar.one) ||
      Scalar.lt (Scalar.add Scalar.one (dot nP nN)) md) = false) :
    dot ((miterPoint V nP nN delta).sub V) nP = delta ∧
    dot ((miterPoint V nP nN delta).sub V) nN = delta ∧
    dot ((miterPoint V nP nN delta).sub V) ((miterPoint V nP nN delta).sub V) ≤ 2 * delta ^ 2 / md ∧
    (tie < 2 / (L * L) →
      dot ((miterPoint V nP nN delta).sub V) ((miterPoint V nP nN delta).sub V) ≤
        2 * delta ^ 2 / (2 / (L * L) - tie)) :=
  miter_branch_spec V nP nN delta L tie md hP hN hmd hbr

/-- **square_cap_within_limit**: both points of a square cap (unit bisector `b`, `c = cosHalf ≥ 0`,
`s = sinHalf`, half-width `|delta|·s/(1+c)` as the code computes it) lie on the tangent to the circle
of radius `|delta|` at the bisector and within `√2·|delta| ≤ L·|delta|` of the vertex, for every valid
miter limit `L ≥ 2`. -/
theorem square_cap_within_limit (V b : V2 F) (delta c s L : F) (hb : dot b b = 1) (hc : 0 ≤ c)
    (hcs : s ^ 2 = 1 - c ^ 2) (hL : 2 ≤ L) :
    ∀ P ∈ squareCap V b delta (|delta| * s / (1 + c)),
      dot (P.sub V) b = delta ∧ dot (P.sub V) (P.sub V) ≤ (L * delta) ^ 2 := by
  intro P hP
  exact ⟨(squareCap_spec V b delta _ hb P hP).1, squareCap_within_limit V b delta c s L hb hc hcs hL P hP⟩

/-- **square_cap_on_prev_offset**: the first cap point lies on the previous edge's offset line (and the
second on the next edge's, `squareCap_on_next_offset`) at a convex corner. -/
theorem square_cap_on_prev_offset (V b nP : V2 F) (delta c s : F) (hb : dot b b = 1) (hP : dot nP nP = 1)
    (hc : dot b nP = c) (hc1 : 0 < 1 + c) (hcs : s ^ 2 = 1 - c ^ 2)
    (hx : cross b nP = -(if 0 ≤ delta then 1 else -1) * s) :
    dot (((squareCap V b delta (|delta| * s / (1 + c))).headD V).sub V) nP = delta :=
  squareCap_on_prev_offset V b nP delta c s hb hP hc hc1 hcs hx

/-- **round_on_circle**: every sampled point of a round join is at distance exactly `|delta|` from the
vertex (a true rotation of a unit normal). -/
theorem round_on_circle (V nP : V2 F) (delta : F) (rots : List (F × F)) (hP : dot nP nP = 1)
    (hrot : ∀ cs ∈ rots, cs.1 ^ 2 + cs.2 ^ 2 = 1) :
    ∀ P ∈ roundJoin V nP delta rots, dot (P.sub V) (P.sub V) = delta ^ 2 :=
  MV.CrossOps.round_on_circle V nP delta rots hP hrot

/-- **bevel_on_offset**: the two endpoints every join starts and ends with (`endPrev`, `startNext`; all
there is to a bevel join and to a concave corner) lie on their edge's offset line at distance `|delta|`. -/
theorem bevel_on_offset (V n : V2 F) (delta : F) (hn : dot n n = 1) :
    dot ((V.add (V2.smul delta n)).sub V) n = delta ∧
    dot ((V.add (V2.smul delta n)).sub V) ((V.add (V2.smul delta n)).sub V) = delta ^ 2 :=
  endpoint_on_offset V n delta hn

omit [IsStrictOrderedRing F] in
/-- `ValidMiterLimit` never returns less than 2 -/
theorem miter_limit_valid (m : F) : 2 ≤ validMiterLimit m := validMiterLimit_ge m

end Field

/-- non-vacuity: the right-angle corner with normals (1,0), (0,1), delta = 2: miter point (2,2) -/
example : dot ((miterPoint (⟨0, 0⟩ : V2 ℚ) ⟨1, 0⟩ ⟨0, 1⟩ 2).sub ⟨0, 0⟩) ⟨1, 0⟩ = 2 :=
  (miter_on_both_offsets _ _ _ _ (by decide +kernel) (by decide +kernel) (by decide +kernel)).1
example : dot ((miterPoint (⟨0, 0⟩ : V2 ℚ) ⟨1, 0⟩ ⟨0, 1⟩ 2).sub ⟨0, 0⟩)
    ((miterPoint (⟨0, 0⟩ : V2 ℚ) ⟨1, 0⟩ ⟨0, 1⟩ 2).sub ⟨0, 0⟩) ≤ ((2 : ℚ) * 2) ^ 2 :=
  miter_within_limit _ _ _ _ 2 (by decide +kernel) (by decide +kernel) (by decide +kernel) (by decide +kernel) (by decide +kernel)
example : ∀ P ∈ squareCap (⟨0, 0⟩ : V2 ℚ) ⟨1, 0⟩ 2 (|2| * (4 / 5) / (1 + 3 / 5)),
    dot (P.sub ⟨0, 0⟩) ⟨1, 0⟩ = 2 ∧ dot (P.sub ⟨0, 0⟩) (P.sub ⟨0, 0⟩) ≤ ((2 : ℚ) * 2) ^ 2 :=
  square_cap_within_limit _ _ _ (3 / 5) (4 / 5) 2 (by decide +kernel) (by decide +kernel) (by decide +kernel) (by decide +kernel)
example : ∀ P ∈ roundJoin (⟨1, 1⟩ : V2 ℚ) ⟨4 / 5, 3 / 5⟩ 2 [(3 / 5, 4 / 5), (1, 0)],
    dot (P.sub ⟨1, 1⟩) (P.sub ⟨1, 1⟩) = 2 ^ 2 :=
  round_on_circle _ _ _ _ (by decide +kernel) (by decide +kernel)
example : dot (((⟨1, 1⟩ : V2 ℚ).add (V2.smul 2 ⟨4 / 5, 3 / 5⟩)).sub ⟨1, 1⟩) ⟨4 / 5, 3 / 5⟩ = 2 :=
  (bevel_on_offset _ _ _ (by decide +kernel)).1
example : validMiterLimit (1 : ℚ) = 2 := by decide +kernel

end MV.CrossOps.C12
