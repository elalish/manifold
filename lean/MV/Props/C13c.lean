/-
Property C13c.  "Concurrent unite/find on the union-find structure yields the partition a
sequential run over the same pairs yields, and concurrent inserts into the hash table leave
every inserted key retrievable with its value unless the table reports Full."

Models: MV/Model/Dsu.lean (DisjointSets, /repo/src/disjoint_sets.h) and MV/Model/HashT.lean
(HashTableD, /repo/src/hashtable.h): small-step machines, one step = one atomic memory
operation, sequentially consistent, any number of threads, every schedule.  "Reachable" =
reached from the initial state by SOME schedule, so a theorem about all reachable states is
a theorem about every interleaving.

Findings worth reporting (all proved or exhibited below):
* (I1) holds with the key order "rank ascending, then id DESCENDING" (on a rank tie `unite`
  links the root with the LARGER id under the smaller one).
* Path halving under concurrency does NOT replace the parent by a current ancestor in
  general, only by a former ancestor: an element of the same class with a strictly larger
  key (`Ext.word`); that is enough for (I1)/(I2).
* (I3) "rank-0 roots have no children" is NOT an invariant of reachable states: it is
  violated between the link CAS and the rank CAS (`dsu_I3_transient_violation`).  It holds
  with exactly that exception (`Inv.child`) and therefore at quiescence
  (`quiescent_noChild0`), which is what `connectedComponents` needs.  The "retry when rank
  is 0" rule contributes nothing to this: after a successful link the retried loop finds
  both ids in one tree and returns; the rank CAS can only fail when the target is no longer
  a rank-0 root.
* Hash table: needs `key ≠ kOpen` (`MV.HashT.kOpen_key_breaks_exclusion`), and quiescence
  for the VALUE (a lookup racing with the claimer's plain store reads the initial value).
-/
import MV.Proof.DsuRoot
import MV.Proof.DsuPairs
import MV.Proof.DsuSeq
import MV.Proof.HashT

namespace MV.C13c

open MV.Dsu

/-- reachable from the initial state of `DisjointSets(n)` with thread programs `progs` -/
def DsuReachable (n : Nat) (progs : List (List Op)) (s : State) : Prop :=
  ∃ sched : List (Nat × Bool), exec (init n progs) sched = s

theorem run_fst (s : State) (sched : List (Nat × Bool)) : (run s sched).1 = exec s sched := by
  induction sched generalizing s with
  | nil => rfl
  | cons e rest ih => obtain ⟨tid, sp⟩ := e; simp only [run, exec]; exact ih _

/-- all `unite` argument pairs of all thread programs -/
def allUnitePairs (progs : List (List Op)) : List (Nat × Nat) := (progs.map unitePairs).flatten

theorem allUnitePairs_lt {n : Nat} {progs : List (List Op)} (hp : ProgsOk n progs) :
    ∀ p, p ∈ allUnitePairs progs → p.1 < n ∧ p.2 < n := by
  rintro ⟨a, b⟩ hpm
  obtain ⟨l, hl, hpl⟩ := List.mem_flatten.1 hpm
  obtain ⟨prog, hprog, rfl⟩ := List.mem_map.1 hl
  exact hp prog hprog _ (mem_unitePairs.1 hpl)

/-- THEOREM `dsu_inv_reachable`.  In every reachable state (any number of threads, any
programs with arguments `< n`, any schedule, any pattern of spurious weak-CAS failures):

* `Inv.mem.klt`  (I1) every parent link `i → p`, `p ≠ i`, strictly increases the key:
  `rank i < rank p ∨ (rank i = rank p ∧ p < i)`; hence the parent graph is a forest and
  following parents from any `i` reaches a root within `n` steps (`root_spec`,
  `findSeq_spec`).
* `Inv.mem.edge`, `Inv.mem.uroot`  (I2) parent links stay inside the classes of
  `Conn s.links` (`s.links` = ghost list of the `(id1,id2)` of the successful link CASes)
  and each class contains at most one root; equivalently (`root_eq_iff`)
  `root a = root b ↔ Conn s.links a b`.
* `Inv.thr` what each thread knows at its program point (`At`; e.g. at the link CAS:
  `id1 ≠ id2`, the ranks read are lower bounds, `(r1,id1) < (r2,id2)`; inside `findImpl`: the
  earlier values of `id` are a chain of non-roots below `id`; in `unite a b`: `{id1,id2}` are in
  the classes of `{a,b}`), and that results of completed operations are in the right class.
* `Inv.child` (I3) with its one exception (see the header).
* `LinksStarted`: every link lies inside the equivalence closure of the `unite` pairs started
  so far, hence of the programs' pairs.

The two-state facts ("ranks never decrease, a non-root's word changes only by path
halving, classes only grow") are `dsu_step_mono`; "every successful link CAS joins the
classes of the arguments of its `unite`" is `dsu_link_joins`. -/
theorem dsu_inv_reachable {n : Nat} {progs : List (List Op)} {s : State}
    (hp : ProgsOk n progs) (hr : DsuReachable n progs s) :
    Inv n s ∧ LinksStarted s ∧ allPairs s = allUnitePairs progs := by
  obtain ⟨sched, rfl⟩ := hr
  have h0 := init_inv n progs hp
  exact ⟨exec_inv h0 sched, exec_induct step_linksStarted h0 (init_linksStarted n progs) sched,
    (exec_allPairs _ sched).trans (init_allPairs n progs)⟩

/-- (I2): the partition induced by "same root" equals the equivalence
closure of the pairs whose link CAS has succeeded so far. -/
theorem dsu_same_root_iff_links {n : Nat} {progs : List (List Op)} {s : State}
    (hp : ProgsOk n progs) (hr : DsuReachable n progs s) {a b : Nat} (ha : a < n) (hb : b < n) :
    root s.mem a = root s.mem b ↔ Conn s.links a b :=
  root_eq_iff (dsu_inv_reachable hp hr).1.mem ha hb

/-- the parent graph is a forest: from every element, following parent links reaches a root
of its class in at most `n` steps (`root` uses fuel `n`) -/
theorem dsu_root_reached {n : Nat} {progs : List (List Op)} {s : State}
    (hp : ProgsOk n progs) (hr : DsuReachable n progs s) {i : Nat} (hi : i < n) :
    root s.mem i < n ∧ par s.mem (root s.mem i) = root s.mem i ∧ Conn s.links i (root s.mem i) :=
  root_spec (dsu_inv_reachable hp hr).1.mem hi

/-- two-state part of the invariant, for one step of any thread from a reachable state:
ranks never decrease; a non-root stays a non-root with the same rank; its word is unchanged
or its parent is replaced by an element of the same class with a strictly larger key;
classes only grow. -/
theorem dsu_step_mono {n : Nat} {progs : List (List Op)} {s : State}
    (hp : ProgsOk n progs) (hr : DsuReachable n progs s) (tid : Nat) (sp : Bool) :
    Ext s.mem (step s tid sp).1.mem s.links (step s tid sp).1.links :=
  (step_inv (dsu_inv_reachable hp hr).1 tid sp).2.ext

/-- every successful link CAS `(i, j)` is performed by a thread inside some `unite a b` and
joins the classes of `a` and `b`: `{i, j}` lie in the classes of `{a, b}`. -/
theorem dsu_link_joins {n : Nat} {progs : List (List Op)} {s : State}
    (hp : ProgsOk n progs) (hr : DsuReachable n progs s) (tid : Nat) (sp : Bool) {i j : Nat}
    (hl : (step s tid sp).1.links = (i, j) :: s.links) :
    ∃ t a b, s.thr[tid]? = some t ∧ t.curOp = some (.unite a b) ∧ t.pc = .uLink ∧
      ((Conn s.links i a ∧ Conn s.links j b) ∨ (Conn s.links i b ∧ Conn s.links j a)) :=
  step_link_joins (dsu_inv_reachable hp hr).1 tid sp hl

/-- Intermediate states (the non-quiescent form of "concurrent = sequential"): the classes
of the links made so far contain the closure of the COMPLETED `unite` pairs and are
contained in the closure of the STARTED ones (completed or in progress); with
`dsu_same_root_iff_links` this sandwiches the "same root" partition. -/
theorem dsu_links_between {n : Nat} {progs : List (List Op)} {s : State}
    (hp : ProgsOk n progs) (hr : DsuReachable n progs s) (a b : Nat) :
    (Conn (donePairs s) a b → Conn s.links a b) ∧
    (Conn s.links a b → Conn (startedPairs s) a b) :=
  links_between (dsu_inv_reachable hp hr).1 (dsu_inv_reachable hp hr).2.1 a b

/-- `findImpl` is wait-free (termination of `find` under arbitrary interference): in every
reachable state, a thread inside a `findImpl` call has performed fewer than `n` iterations
of its loop in this call (`trail` = ghost list of the previous values of `id`, one per
iteration; they are distinct non-roots forming a strictly increasing chain in the key
order).  Each iteration is at most 4 atomic steps, so a call takes at most `4(n-1)+1` of
the thread's own steps.  (`unite`/`same` are only lock-free: their outer loops retry when
another thread's link wins.) -/
theorem dsu_find_wait_free {n : Nat} {progs : List (List Op)} {s : State}
    (hp : ProgsOk n progs) (hr : DsuReachable n progs s) {tid : Nat} {t : Thr}
    (ht : s.thr[tid]? = some t) (hfin : t.finished = false) (hpc : FindPc t.pc) :
    t.trail.length < n ∧ Chain n s.mem t.trail t.id :=
  find_chain (dsu_inv_reachable hp hr).1 ht hfin hpc

/-- THEOREM `dsu_quiescent_partition`.  When all threads have finished their programs, with
`U` = all `unite` pairs of all programs:
* `root a = root b` iff `(a,b)` is in the equivalence closure of `U`, iff the sequential
  reference `seqPartition n U` gives `a` and `b` the same label;
* `connectedComponents` returns `k` and a labelling with values in `0..k-1`, each value
  used, inducing exactly that partition. -/
theorem dsu_quiescent_partition {n : Nat} {progs : List (List Op)} {s : State}
    (hp : ProgsOk n progs) (hr : DsuReachable n progs s) (hq : quiescent s = true) :
    (∀ a b, a < n → b < n →
      ((root s.mem a = root s.mem b ↔ Conn (allUnitePairs progs) a b) ∧
       ((seqPartition n (allUnitePairs progs)).getD a 0 =
          (seqPartition n (allUnitePairs progs)).getD b 0 ↔ Conn (allUnitePairs progs) a b) ∧
       ((connectedComponents s.mem).2.getD a 0 = (connectedComponents s.mem).2.getD b 0 ↔
          Conn (allUnitePairs progs) a b))) ∧
    (connectedComponents s.mem).2.length = n ∧
    (∀ a, a < n → (connectedComponents s.mem).2.getD a 0 < (connectedComponents s.mem).1) ∧
    (∀ l, l < (connectedComponents s.mem).1 →
      ∃ a, a < n ∧ (connectedComponents s.mem).2.getD a 0 = l) := by
  obtain ⟨hI, hL, hU⟩ := dsu_inv_reachable hp hr
  have hconn : ∀ a b, Conn s.links a b ↔ Conn (allUnitePairs progs) a b := fun a b => by
    rw [← hU]; exact quiescent_conn_iff hI hL hq a b
  obtain ⟨c1, c2, c3, c4⟩ := connectedComponents_spec hI.mem (quiescent_noChild0 hI hq)
  refine ⟨fun a b ha hb => ⟨?_, ?_, ?_⟩, c1, c2, c3⟩
  · exact (root_eq_iff hI.mem ha hb).trans (hconn a b)
  · exact (seqPartition_spec n _ (allUnitePairs_lt hp)).2 a b ha hb
  · exact (c4 a b ha hb).trans (hconn a b)

/-- the sequential reference is canonical: `seqPartition n U` labels `i` with the least
element of its class -/
theorem dsu_seqPartition_least {n : Nat} {progs : List (List Op)} (hp : ProgsOk n progs)
    {i : Nat} (hi : i < n) :
    Conn (allUnitePairs progs) i ((seqPartition n (allUnitePairs progs)).getD i 0) ∧
    ∀ j, j < n → Conn (allUnitePairs progs) i j →
      (seqPartition n (allUnitePairs progs)).getD i 0 ≤ j :=
  seqPartition_least n _ (allUnitePairs_lt hp) hi

/-- THEOREM `dsu_find_sound` (for EVERY reachable state, not only the final one): once a
`find a` has completed with result `r`, `r` is in the class of `a` with respect to the links
made so far -- in particular at the moment of completion -- and, classes only growing, in every
later state and in the final partition.  NOT proved: that `r` was a root of that class at some moment during the
call (true: the last load saw `parent(r) = r`; stating it needs a history variable). -/
theorem dsu_find_sound {n : Nat} {progs : List (List Op)} {s : State}
    (hp : ProgsOk n progs) (hr : DsuReachable n progs s) {tid : Nat} {t : Thr} {j a r : Nat}
    (ht : s.thr[tid]? = some t) (hop : t.prog[j]? = some (.find a))
    (hres : t.results[j]? = some r) :
    Conn s.links a r ∧ Conn (allUnitePairs progs) a r := by
  obtain ⟨hI, hL, hU⟩ := dsu_inv_reachable hp hr
  have h : Conn s.links a r := (hI.thr tid t ht).base.resOk j _ r hop hres
  exact ⟨h, hU ▸ (h.of_sub hL).mono fun _ => startedPairs_sub_allPairs⟩

/-- a completed `unite a b` has put `a` and `b` in one class and returned an element of it;
a completed `same a b` that returned true had `a`, `b` in one class -/
theorem dsu_unite_same_sound {n : Nat} {progs : List (List Op)} {s : State}
    (hp : ProgsOk n progs) (hr : DsuReachable n progs s) {tid : Nat} {t : Thr} {j a b r : Nat}
    (ht : s.thr[tid]? = some t) (hres : t.results[j]? = some r) :
    (t.prog[j]? = some (.unite a b) → Conn s.links a b ∧ Conn s.links a r) ∧
    (t.prog[j]? = some (.same a b) → (r = 1 → Conn s.links a b) ∧ r ≤ 1) := by
  have hI := (dsu_inv_reachable hp hr).1
  exact ⟨fun hop => (hI.thr tid t ht).base.resOk j _ r hop hres,
    fun hop => (hI.thr tid t ht).base.resOk j _ r hop hres⟩

/-! ## non-vacuity: concrete 2-thread executions -/

/-- thread 0: `unite 0 1; find 3`, thread 1: `unite 1 2`, on 4 elements -/
def exProgs : List (List Op) := [[.unite 0 1, .find 3], [.unite 1 2]]

/-- thread 1 wins the race for element 1; thread 0's link CAS fails, it retries and links
root 0 under root 1 -/
def exSched : List (Nat × Bool) :=
  [0, 1, 1, 0, 0, 0, 1, 1, 1, 1, 0, 0, 0, 0, 0, 0, 0].map (·, false)

def exFinal : State := exec (init 4 exProgs) exSched
/-- after 11 steps: thread 1 done, thread 0 has just failed its link CAS -/
def exMid : State := exec (init 4 exProgs) (exSched.take 11)

theorem exProgs_ok : ProgsOk 4 exProgs := by
  intro p hp op hop
  simp only [exProgs, List.mem_cons, List.not_mem_nil, or_false] at hp
  rcases hp with rfl | rfl <;> simp at hop <;> rcases hop with rfl | rfl <;> simp [Op.Ok]

example : exMid.mem.map Word.pack = [0, 2 ^ 32 + 1, 1, 3] ∧ exMid.links = [(2, 1)] ∧
    quiescent exMid = false ∧ exMid.thr.map (·.pc) = [.fLoadP, .uRankCas] ∧
    exMid.thr.map (·.results) = [[], [1]] := by decide +kernel
example : Inv 4 exMid := (dsu_inv_reachable exProgs_ok ⟨exSched.take 11, rfl⟩).1

example : exFinal.mem.map Word.pack = [1, 2 ^ 32 + 1, 1, 3] ∧ exFinal.links = [(0, 1), (2, 1)] ∧
    quiescent exFinal = true ∧ exFinal.thr.map (·.results) = [[1, 3], [1]] := by decide +kernel
example : connectedComponents exFinal.mem = (2, [0, 0, 0, 1]) := by decide +kernel
example : seqPartition 4 (allUnitePairs exProgs) = [0, 0, 0, 3] := by decide +kernel
example : (List.range 4).map (root exFinal.mem) = [1, 1, 1, 3] := by decide +kernel
example := dsu_quiescent_partition exProgs_ok ⟨exSched, rfl⟩ (by decide +kernel)
example : Conn exFinal.links 3 3 ∧ Conn (allUnitePairs exProgs) 3 3 :=
  dsu_find_sound (s := exFinal) (tid := 0) (j := 1) exProgs_ok ⟨exSched, rfl⟩ rfl rfl rfl

/-- path halving with a spurious failure: one thread builds the chain 3 → 2 → 0 and then
`find 3`: the first weak CAS fails spuriously (`true`), so 3 keeps parent 2 -/
def exHalve : List (Nat × Bool) := (List.replicate 18 (0, false)) ++ [(0, false), (0, false), (0, false), (0, true)]
example : (exec (init 4 [[.unite 0 1, .unite 2 3, .unite 0 2, .find 3]]) exHalve).mem.map Word.pack
    = [2 * 2 ^ 32 + 0, 0, 2 ^ 32 + 0, 2] := by decide +kernel
example : (exec (init 4 [[.unite 0 1, .unite 2 3, .unite 0 2, .find 3]])
      (exHalve.dropLast ++ [(0, false)])).mem.map Word.pack
    = [2 * 2 ^ 32 + 0, 0, 2 ^ 32 + 0, 0] := by decide +kernel

/-- the same run, whose last step is the spuriously failing CAS: `find 3` has completed one
iteration (trail = [3], id = 0) and is back at the load of the parent -/
example : ((exec (init 4 [[.unite 0 1, .unite 2 3, .unite 0 2, .find 3]]) exHalve).thr.map
    fun t => (t.trail, t.id, t.pc)) = [([3], 0, .fLoadP)] := by decide +kernel

/-- (I3) is NOT an invariant: after the link CAS of `unite 0 1` and before its rank CAS,
element 0 is a rank-0 root with child 1. -/
theorem dsu_I3_transient_violation :
    ∃ s, DsuReachable 2 [[.unite 0 1]] s ∧ ¬ NoChild0 2 s.mem := by
  refine ⟨exec (init 2 [[.unite 0 1]]) (List.replicate 5 (0, false)), ⟨_, rfl⟩, ?_⟩
  intro h
  have := h 0 1 (by decide) (by decide) (by decide) (by decide) (by decide)
  exact absurd this (by decide)

open MV.HashT in
/-- THEOREM `hash_inv_reachable` (see MV/Proof/HashT.lean for the fields of `Inv`): sizes,
`used + #threads between CAS and fetch_add = #claimed slots`, per-thread probe prefix
(`Fresh`), slot ownership (`Own`: one claimer per slot, value written once by the claimer). -/
theorem hash_inv_reachable {cfg : Cfg} {progs : List (List MV.HashT.Op)} {s : MV.HashT.State}
    (hk : KeysOK progs) (hr : MV.HashT.Reachable cfg progs s) : MV.HashT.Inv cfg s :=
  MV.HashT.hash_inv_reachable hk hr

open MV.HashT in
/-- THEOREM `hash_insert_retrievable`: in every reachable quiescent state, every completed
`ins key val` that did not return `full` is found by `lookup`, in the slot its result names,
with the value of the `ins key v` that claimed the slot (its own if it is the claimer). -/
theorem hash_insert_retrievable {cfg : Cfg} {progs : List (List MV.HashT.Op)} {s : MV.HashT.State}
    (hk : KeysOK progs) (hr : MV.HashT.Reachable cfg progs s) (hq : MV.HashT.quiescent s = true)
    {t n key val : Nat} {r : Res}
    (hop : opOf progs t n = some (.ins key val)) (hres : s.res t n = some r) (hnf : r ≠ .full) :
    ∃ i v, lookup cfg s.keys s.vals key = some (i, v) ∧
      (∃ t2 n2, opOf progs t2 n2 = some (.ins key v) ∧ s.res t2 n2 = some (.inserted i)) ∧
      (r = .inserted i ∨ r = .present i) ∧
      (∀ i', r = .inserted i' → i' = i ∧ v = val) :=
  MV.HashT.hash_insert_retrievable hk hr hq hop hres hnf

open MV.HashT in
/-- the property's wording: either some Insert observed `Full()` or every inserted key is
retrievable with a value some Insert wrote for it -/
theorem hash_full_or_all_found {cfg : Cfg} {progs : List (List MV.HashT.Op)} {s : MV.HashT.State}
    (hk : KeysOK progs) (hr : MV.HashT.Reachable cfg progs s) (hq : MV.HashT.quiescent s = true) :
    (∃ t n, s.res t n = some .full) ∨
    (∀ t n key val, opOf progs t n = some (.ins key val) →
      ∃ i v, lookup cfg s.keys s.vals key = some (i, v) ∧
        ∃ t2 n2, opOf progs t2 n2 = some (.ins key v) ∧ s.res t2 n2 = some (.inserted i)) :=
  MV.HashT.hash_full_or_all_found hk hr hq

open MV.HashT in
/-- a claimed key slot never changes -/
theorem hash_no_two_keys {cfg : Cfg} {progs : List (List MV.HashT.Op)} {s : MV.HashT.State}
    (hr : MV.HashT.Reachable cfg progs s) (sched : List Nat) (i : Nat)
    (h : s.keys.getD i kOpen ≠ kOpen) :
    (MV.HashT.run cfg s sched).1.keys.getD i kOpen = s.keys.getD i kOpen :=
  (run_keys_mono cfg sched s).2 i h

open MV.HashT in
/-- at quiescence `used_` = number of claimed slots -/
theorem hash_used_eq_claimed {cfg : Cfg} {progs : List (List MV.HashT.Op)} {s : MV.HashT.State}
    (hk : KeysOK progs) (hr : MV.HashT.Reachable cfg progs s) (hq : MV.HashT.quiescent s = true) :
    s.used = claimed s.keys := by
  have hinv := MV.HashT.hash_inv_reachable hk hr
  have h0 : cntAdd s.thr = 0 := cntAdd_eq_zero fun x th hx =>
    finished_not_claiming (hinv.thrOK x th hx) (quiescent_finished hq hx)
  have := hinv.count
  omega

open MV.HashT in
/-- Each slot's value is stored at most once: any two plain stores
`values_[idx] = val` occurring in one execution (at any two different times, by any
threads) target different slots; hence there is no write-write race on `values_`. -/
theorem hash_store_once {cfg : Cfg} {progs : List (List MV.HashT.Op)} (hk : KeysOK progs)
    (sched1 sched2 : List Nat) (tid1 tid2 : Nat) :
    let sA := (MV.HashT.run cfg (MV.HashT.init cfg progs) sched1).1
    let stA := MV.HashT.step cfg sA tid1
    let sB := (MV.HashT.run cfg stA.1 sched2).1
    let stB := MV.HashT.step cfg sB tid2
    stA.2.kind = .vstore → stB.2.kind = .vstore → stA.2.index ≠ stB.2.index := by
  intro sA stA sB stB hA hB heq
  have invA : MV.HashT.Inv cfg sA := MV.HashT.hash_inv_reachable hk ⟨sched1, rfl⟩
  have invB : MV.HashT.Inv cfg sB := inv_run sched2 _ (inv_step invA tid1)
  obtain ⟨t1, ht1, _, hi1, hthr1⟩ := step_vstore hA
  obtain ⟨t2, ht2, hpc2, hi2, _⟩ := step_vstore hB
  have hres1 : stA.1.res tid1 t1.results.length = some (.inserted t1.idx) := by
    have : stA.1.thr[tid1]? = some (t1.finish cfg (.inserted t1.idx)) := by
      rw [hthr1]; exact getElem?_set_self_of ht1
    rw [res_of_thr this, Thr.finish_results]
    exact (getElem?_snoc _ _ _ _).mpr (Or.inr ⟨rfl, rfl⟩)
  have hresB : sB.res tid1 t1.results.length = some (.inserted t1.idx) :=
    run_res_mono sched2 _ hres1
  obtain ⟨th, hx, hr⟩ := res_some hresB
  have hidx : t1.idx = t2.idx := by rw [← hi1, ← hi2]; exact heq
  rw [hidx] at hr
  exact invB.own.exclDone tid2 tid1 t2 th _ ht2 (Or.inr hpc2) hx hr

/- non-vacuity (more examples, incl. `Full()` observed and the stale read, in
MV/Proof/HashT.lean): two threads insert the same key 1 with different values, and key 5
collides with it -/
open MV.HashT in
example : sEx.keys = [kOpen, 1, 5, kOpen] ∧ sEx.vals = [0, 20, 50, 0] ∧ sEx.used = 2 ∧
    MV.HashT.quiescent sEx = true ∧ lookup cfgEx sEx.keys sEx.vals 1 = some (1, 20) := by decide +kernel
open MV.HashT in
example := hash_full_or_all_found (cfg := cfgEx) (progs := progsEx) (s := sEx) (by decide +kernel)
  ⟨schedEx, rfl⟩ (by decide +kernel)

end MV.C13c
