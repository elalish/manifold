import MV.Proof.PolyGeomField
/-!
Property C10 (Triangulate is a correct triangulation), deepening C10b: the GEOMETRIC gate of the
`allowConvex` fast path and the strip it guards, about the executable definitions of
MV/Model/PolyGeom.lean (run at `Float` against src/polygon.cpp bit for bit by
harness/c10_polygeom.cpp) instantiated at `Option F`, `F` any linearly ordered field, `none` = NaN.

* `isConvex_accepts_iff`   the loop with its early return, NaN path included, as a statement about all corners
* `isConvex_sound`         accepted and not all vertices equal  =>  no zero-length edge, EVERY corner turns
                           strictly left (`orient > 0`), and a corner folding back by more than a right angle
                           has a normalised determinant of at least epsilon
* `isConvex_rejects_reflex`   a corner that turns right or is straight (`orient <= 0`) is rejected; this covers
                           zero-length edges: `isConvex_rejects_duplicated_vertex` is the statement broken by
                           the seeded change `det <= 0 -> det < 0` (`seeded_change_accepts_duplicated_reflex`
                           exhibits the ring that the changed test accepts)
* `isConvex_all_equal_accepted`   the one NaN escape of the real code: a contour whose vertices all coincide is
                           accepted (every determinant is NaN); its strip triangles are all degenerate
* `strip_increasing`, `strip_length`   TriangulateConvex emits n-2 triangles (i, j, k) with i < j < k < n
* `convex_strip_area`      for EVERY ring the doubled signed areas of the strip triangles sum to the shoelace sum
* `convex_strip_ccw_partial`   on a ring in convex position every strip triangle is CCW or degenerate
* `ccw_eq`, `ccw_antisymm`, `ccw_sign`, `ccw_cyclic_zero`, `ccw_cyclic_nonopposite`, `ccw_not_cyclic`
* `delaunayCost_le`, `isShort_iff`, `earCost_ge_base`
-/
set_option linter.unusedSectionVars false
namespace MV.PolyGeom
open MV.CrossOps

section Convex
variable {F : Type} [Field F] [LinearOrder F] [IsStrictOrderedRing F] [HasSqrt F]

/-- the edge leaving vertex `v` of the ring `q 0 … q (n-1)` -/
def edgeF (q : Nat → V2 F) (n v : Nat) : V2 F := vsubF (q (csucc n v)) (q v)
/-- the edge arriving at vertex `v` -/
def prevF (q : Nat → V2 F) (n v : Nat) : V2 F := edgeF q n (cpred n v)

/-- what `IsConvex` demands of the corner with arriving edge `a` and leaving edge `b`: nothing when `a`
is zero-length (NaN path), otherwise a strict left turn, and — when the corner folds back
(`dot < 0`) — a normalised determinant `cross / |a|` of at least `eps` -/
def CornerOK (eps : F) (a b : V2 F) : Prop :=
  len2F a = 0 ∨ (0 < crossF a b ∧ (dotF a b < 0 → eps * lenF a ≤ crossF a b))

theorem icReject_normalize (eps : F) (a b : V2 F) :
    icReject (some eps) (normalize (lift a)) (lift b) = false ↔ CornerOK eps a b := by
  rw [normalize_lift]
  by_cases h0 : len2F a = 0
  · simp [h0, icReject_nan, CornerOK]
  · have hs := lenF_pos h0
    rw [if_neg h0, icReject_lift, crossF_div, dotF_div]
    simp only [CornerOK, h0, false_or, Bool.or_eq_false_iff, decide_eq_false_iff_not, Bool.and_eq_false_iff,
      not_le, not_lt]
    have e1 : 0 < crossF a b / lenF a ↔ 0 < crossF a b := div_pos_iff_of_pos_right hs
    have e3 : dotF a b / lenF a < 0 ↔ dotF a b < 0 := by
      rw [div_lt_iff₀ hs, zero_mul]
    rw [e1]
    constructor
    · rintro ⟨hc, h2⟩
      refine ⟨hc, fun hd => ?_⟩
      rcases h2 with h2 | h2
      · rwa [abs_of_pos (e1.2 hc), le_div_iff₀ hs] at h2
      · exact absurd (e3.2 hd) (not_lt.2 h2)
    · rintro ⟨hc, h2⟩
      refine ⟨hc, ?_⟩
      by_cases hd : dotF a b < 0
      · left
        rw [abs_of_pos (e1.2 hc), le_div_iff₀ hs]
        exact h2 hd
      · right
        exact not_lt.1 (fun h => hd (e3.1 h))

theorem icEdge_lift (q : Nat → V2 F) (n v : Nat) (hv : v < n) :
    icEdge (fun i => lift (q i)) n ((lift (q 0)).sub (lift (q (n - 1)))) v = lift (edgeF q n v) := by
  unfold icEdge edgeF csucc
  by_cases h : v + 1 < n
  · simp [h]
  · have hvn : v = n - 1 := by omega
    rw [if_neg h, if_neg h, sub_lift, hvn]

theorem icLast_lift (q : Nat → V2 F) (n v : Nat) (hv : v < n) :
    icLast (fun i => lift (q i)) n ((lift (q 0)).sub (lift (q (n - 1)))) v = normalize (lift (prevF q n v)) := by
  unfold icLast prevF cpred
  by_cases h0 : v = 0
  · subst h0
    have : edgeF q n (n - 1) = vsubF (q 0) (q (n - 1)) := by
      unfold edgeF csucc; rw [if_neg (by omega)]
    simp [this]
  · rw [if_neg h0, if_neg h0, icEdge_lift q n (v - 1) (by omega)]

/-- **the loop of `IsConvex` on a finite contour, NaN path included**: the contour is accepted exactly when
it has at least three vertices and every corner satisfies `CornerOK` -/
theorem isConvex_accepts_iff (eps : F) (q : Nat → V2 F) (n : Nat) :
    isConvexFn (some eps) (fun i => lift (q i)) n = true ↔
      3 ≤ n ∧ ∀ v, v < n → CornerOK eps (prevF q n v) (edgeF q n v) := by
  rw [isConvexFn_iff]
  constructor
  · rintro ⟨h3, h⟩
    refine ⟨h3, fun v hv => ?_⟩
    have := h v hv
    rw [icLast_lift q n v hv, icEdge_lift q n v hv] at this
    exact (icReject_normalize eps _ _).1 this
  · rintro ⟨h3, h⟩
    refine ⟨h3, fun v hv => ?_⟩
    show icReject (some eps) (icLast (fun i => lift (q i)) n ((lift (q 0)).sub (lift (q (n - 1)))) v)
      (icEdge (fun i => lift (q i)) n ((lift (q 0)).sub (lift (q (n - 1)))) v) = false
    rw [icLast_lift q n v hv, icEdge_lift q n v hv]
    exact (icReject_normalize eps _ _).2 (h v hv)

omit [HasSqrt F] in
theorem crossF_zero_right (a b : V2 F) (h : len2F b = 0) : crossF a b = 0 := by
  obtain ⟨h1, h2⟩ := (len2F_eq_zero_iff b).1 h
  simp [crossF, h1, h2]

/-- **isConvex_sound**: an accepted contour that does not consist of one repeated point has no
zero-length edge, every corner turns STRICTLY left, and where a corner folds back (`dot < 0`) its
normalised determinant is at least `eps`.  (No sign hypothesis on `eps` is needed.) -/
theorem isConvex_sound (eps : F) (q : Nat → V2 F) (n : Nat)
    (hacc : isConvexFn (some eps) (fun i => lift (q i)) n = true)
    (hne : ∃ u, u < n ∧ len2F (edgeF q n u) ≠ 0) :
    ∀ v, v < n → len2F (edgeF q n v) ≠ 0 ∧ 0 < crossF (prevF q n v) (edgeF q n v) ∧
      (dotF (prevF q n v) (edgeF q n v) < 0 → eps * lenF (prevF q n v) ≤ crossF (prevF q n v) (edgeF q n v)) := by
  obtain ⟨h3, hc⟩ := (isConvex_accepts_iff eps q n).1 hacc
  -- no zero-length edge: after a non-zero edge the corner has det > 0, so the next edge is non-zero too
  have hall : ∀ w, w < n → len2F (edgeF q n w) ≠ 0 := by
    obtain ⟨u, hun, hu⟩ := hne
    refine cyclic_closed (P := fun i => len2F (edgeF q n i) ≠ 0) (fun v hv hp hz => ?_) hun hu
    rcases hc v hv with h | ⟨h, _⟩
    · exact hp h
    · rw [crossF_zero_right _ _ hz] at h; exact lt_irrefl _ h
  intro v hv
  have hprev : len2F (prevF q n v) ≠ 0 := by
    unfold prevF cpred
    by_cases h0 : v = 0
    · rw [if_pos h0]; exact hall _ (by omega)
    · rw [if_neg h0]; exact hall _ (by omega)
  rcases hc v hv with h | ⟨h1, h2⟩
  · exact absurd h hprev
  · exact ⟨hall v hv, h1, h2⟩

/-- **isConvex_rejects_reflex**: a contour (not one repeated point) with a corner that turns right or is
straight — `cross(arriving edge, leaving edge) <= 0`, which includes every corner at a zero-length
edge — is rejected, wherever the corner sits relative to zero-length edges and NaN `lastEdge`s. -/
theorem isConvex_rejects_reflex (eps : F) (q : Nat → V2 F) (n : Nat)
    (hne : ∃ u, u < n ∧ len2F (edgeF q n u) ≠ 0)
    (hv : ∃ v, v < n ∧ crossF (prevF q n v) (edgeF q n v) ≤ 0) :
    isConvexFn (some eps) (fun i => lift (q i)) n = false := by
  cases hacc : isConvexFn (some eps) (fun i => lift (q i)) n
  · rfl
  · obtain ⟨v, hvn, hle⟩ := hv
    exact absurd (isConvex_sound eps q n hacc hne v hvn).2.1 (not_lt.2 hle)

/-- **the statement the seeded change breaks**: an exactly duplicated vertex (`q (w+1) = q w`, cyclically)
makes `IsConvex` reject the contour, whatever the turn at the duplicated corner -/
theorem isConvex_rejects_duplicated_vertex (eps : F) (q : Nat → V2 F) (n : Nat)
    (hne : ∃ u, u < n ∧ len2F (edgeF q n u) ≠ 0)
    (hdup : ∃ w, w < n ∧ q (csucc n w) = q w) :
    isConvexFn (some eps) (fun i => lift (q i)) n = false := by
  obtain ⟨w, hw, he⟩ := hdup
  refine isConvex_rejects_reflex eps q n hne ⟨w, hw, ?_⟩
  have : len2F (edgeF q n w) = 0 := by simp [edgeF, he, vsubF, len2F]
  rw [crossF_zero_right _ _ this]

/-- the one NaN escape: a contour of `n >= 3` coinciding points is ACCEPTED (all determinants NaN).
The comment at polygon.cpp l.193-195 ("that zero-length edge will also get tested non-normalized and
will trip det == 0") does not hold here; harmless for C10: all strip triangles are degenerate. -/
theorem isConvex_all_equal_accepted (eps : F) (q : Nat → V2 F) (n : Nat) (h3 : 3 ≤ n)
    (heq : ∀ i, i < n → q i = q 0) :
    isConvexFn (some eps) (fun i => lift (q i)) n = true := by
  rw [isConvex_accepts_iff]
  refine ⟨h3, fun v hv => Or.inl ?_⟩
  have hz : ∀ w, w < n → len2F (edgeF q n w) = 0 := by
    intro w hw
    have h1 : q (csucc n w) = q 0 := heq _ (by unfold csucc; split <;> omega)
    simp [edgeF, h1, heq w hw, vsubF, len2F]
  unfold prevF cpred
  split <;> exact hz _ (by omega)

omit [HasSqrt F] in
/-- the determinant `IsConvex` looks at is the orientation of three consecutive vertices -/
theorem corner_orient (q : Nat → V2 F) (n v : Nat) (hv : v < n) :
    crossF (prevF q n v) (edgeF q n v) = orient (q (cpred n v)) (q v) (q (csucc n v)) := by
  have : csucc n (cpred n v) = v := by unfold csucc cpred; split <;> split <;> omega
  simp only [prevF, edgeF, this, crossF, vsubF, orient]
  ring

/-! ### non-vacuity of the `IsConvex` theorems (over ℚ; the normaliser is any function positive on the
positives — MV/Proof/PolyGeomReal.lean supplies the real square root over ℝ) -/

end Convex

instance ratSqrtForExamples : HasSqrt ℚ where
  sqrt x := if 0 < x then x + 1 else 0
  sqrt_pos x h := by simp [h]; linarith
  sqrt_zero := by simp

/-- the unit square, counter-clockwise -/
def exSquare : Nat → V2 ℚ := fun i => [⟨0, 0⟩, ⟨1, 0⟩, ⟨1, 1⟩, ⟨0, 1⟩].getD i ⟨0, 0⟩
/-- an L-shape whose reflex corner `(1,1)` is an exactly duplicated vertex (the seeded change's input) -/
def exDupL : Nat → V2 ℚ := fun i => [⟨0, 0⟩, ⟨2, 0⟩, ⟨2, 1⟩, ⟨1, 1⟩, ⟨1, 1⟩, ⟨1, 2⟩, ⟨0, 2⟩].getD i ⟨0, 0⟩

-- the square is accepted (hypotheses of `isConvex_sound` are satisfiable) …
example : isConvexFn (some (1 / 1000 : ℚ)) (fun i => lift (exSquare i)) 4 = true := by
  decide +kernel
example : ∃ u, u < 4 ∧ len2F (edgeF exSquare 4 u) ≠ 0 :=
  ⟨0, by omega, by decide +kernel⟩
-- … and the L-shape with the duplicated reflex corner meets the hypotheses of `isConvex_rejects_duplicated_vertex`
example : isConvexFn (some (1 / 1000 : ℚ)) (fun i => lift (exDupL i)) 7 = false :=
  isConvex_rejects_duplicated_vertex _ _ _
    ⟨0, by omega, by decide +kernel⟩
    ⟨3, by omega, by simp [csucc, exDupL]⟩
-- a triangle of three coinciding points is accepted
example : isConvexFn (some (0 : ℚ)) (fun _ => lift (⟨5, 7⟩ : V2 ℚ)) 3 = true :=
  isConvex_all_equal_accepted _ _ _ (by omega) (fun _ _ => rfl)

section Seeded
variable {α : Type} [ScalarSqrt α]
/-- `IsConvex`'s corner test with the seeded change `det <= 0 -> det < 0` -/
def icRejectSeeded (eps : α) (lastEdge edge : V2 α) : Bool :=
  let det := cross lastEdge edge
  Scalar.lt det Scalar.zero || (Scalar.lt (Scalar.abs det) eps && Scalar.lt (dot lastEdge edge) Scalar.zero)
def icLoopSeeded (eps : α) (p : Nat → V2 α) (n : Nat) (firstEdge : V2 α) : Nat → Nat → V2 α → Bool
  | 0, _, _ => true
  | fuel + 1, v, lastEdge =>
    let edge := icEdge p n firstEdge v
    if icRejectSeeded eps lastEdge edge then false
    else icLoopSeeded eps p n firstEdge fuel (v + 1) (normalize edge)
def isConvexFnSeeded (eps : α) (p : Nat → V2 α) (n : Nat) : Bool :=
  if n < 3 then false
  else icLoopSeeded eps p n ((p 0).sub (p (n - 1))) n 0 (normalize ((p 0).sub (p (n - 1))))
end Seeded

/-- with the seeded change the L-shape with the duplicated reflex corner is ACCEPTED (the zero-length
edge's `det = 0` no longer rejects, and the next corner's `det` is NaN): the theorem
`isConvex_rejects_duplicated_vertex` is exactly what that change falsifies -/
theorem seeded_change_accepts_duplicated_reflex :
    isConvexFnSeeded (some (1 / 1000 : ℚ)) (fun i => lift (exDupL i)) 7 = true := by
  decide +kernel

section Convex2
variable {F : Type} [Field F] [LinearOrder F] [IsStrictOrderedRing F]

/-- every strip triangle has strictly increasing positions inside `[i, k]` -/
theorem stripLoop_increasing : ∀ fuel i k right t, t ∈ stripLoop fuel i k right →
    i ≤ t.1 ∧ t.1 < t.2.1 ∧ t.2.1 < t.2.2 ∧ t.2.2 ≤ k := by
  intro fuel
  induction fuel with
  | zero => intro i k right t h; simp [stripLoop] at h
  | succ f ih =>
    intro i k right t h
    by_cases hlt : i + 1 < k
    · cases right
      · rw [stripLoop_left hlt] at h
        rcases List.mem_cons.1 h with rfl | h
        · exact ⟨Nat.le_refl i, by show i < k - 1; omega, by show k - 1 < k; omega, Nat.le_refl k⟩
        · have := ih _ _ _ _ h
          omega
      · rw [stripLoop_right hlt] at h
        rcases List.mem_cons.1 h with rfl | h
        · exact ⟨Nat.le_refl i, Nat.lt_succ_self i, hlt, Nat.le_refl k⟩
        · have := ih _ _ _ _ h
          omega
    · rw [stripLoop_stop hlt] at h
      cases h

/-- **strip_increasing**: `TriangulateConvex` on a contour of `n` vertices emits triangles `(i, j, k)` with
`i < j < k < n` (so they inherit the orientation of the ring's vertex order) -/
theorem strip_increasing (n : Nat) (t : Nat × Nat × Nat) (h : t ∈ stripFn n) (hn : 1 ≤ n) :
    t.1 < t.2.1 ∧ t.2.1 < t.2.2 ∧ t.2.2 < n := by
  have := stripLoop_increasing _ _ _ _ _ h
  omega

theorem stripLoop_length : ∀ fuel m i right, m ≤ fuel → (stripLoop fuel i (i + m) right).length = m - 1 := by
  intro fuel
  induction fuel with
  | zero => intro m i right h; rw [Nat.le_zero.1 h]; rfl
  | succ f ih =>
    intro m i right h
    by_cases hlt : i + 1 < i + m
    · obtain ⟨m', rfl⟩ : ∃ m', m = m' + 2 := ⟨m - 2, by omega⟩
      cases right
      · rw [stripLoop_left hlt, List.length_cons, show i + (m' + 2) - 1 = i + (m' + 1) from rfl,
          ih (m' + 1) i true (Nat.le_of_succ_le_succ h)]
        rfl
      · rw [stripLoop_right hlt, List.length_cons, show i + (m' + 2) = (i + 1) + (m' + 1) by omega,
          ih (m' + 1) (i + 1) false (Nat.le_of_succ_le_succ h)]
        rfl
    · rw [stripLoop_stop hlt, List.length_nil]
      omega

/-- **strip_length**: exactly `n - 2` triangles per contour (the count clause of C10 on the fast path) -/
theorem strip_length (n : Nat) : (stripFn n).length = n - 2 := by
  unfold stripFn
  have := stripLoop_length n (n - 1) 0 true (by omega)
  simp only [Nat.zero_add] at this
  rw [this]; omega

/-- the open path sum `sum_{t<m} cross(q(i+t), q(i+t+1))` -/
def pathSum (q : Nat → V2 F) (i : Nat) : Nat → F
  | 0 => 0
  | m + 1 => pathSum q i m + crossF (q (i + m)) (q (i + m + 1))

theorem pathSum_front (q : Nat → V2 F) : ∀ m i, pathSum q i (m + 1) = crossF (q i) (q (i + 1)) + pathSum q (i + 1) m := by
  intro m
  induction m with
  | zero => intro i; simp [pathSum]
  | succ m ih =>
    intro i
    rw [pathSum, ih i, pathSum]
    have e1 : i + 1 + m = i + (m + 1) := by omega
    have e2 : i + 1 + m + 1 = i + (m + 1) + 1 := by omega
    rw [e1]; ring

/-- the shoelace sum (twice the signed area) of the ring `q 0 … q (n-1)` -/
def shoelace (q : Nat → V2 F) (n : Nat) : F := pathSum q 0 (n - 1) + crossF (q (n - 1)) (q 0)

/-- doubled signed areas of a list of index triangles -/
def triSum (q : Nat → V2 F) (ts : List (Nat × Nat × Nat)) : F :=
  (ts.map fun t => orient (q t.1) (q t.2.1) (q t.2.2)).sum

/-- cutting the triangle at either end of the path `i … i+m` off leaves the shorter path closed by the
new diagonal -/
theorem stripLoop_area (q : Nat → V2 F) : ∀ fuel m i right, m ≤ fuel →
    triSum q (stripLoop fuel i (i + m) right) = pathSum q i m + crossF (q (i + m)) (q i) := by
  intro fuel
  induction fuel with
  | zero =>
    intro m i right h
    have : m = 0 := by omega
    subst this; simp [stripLoop, triSum, pathSum, crossF]; ring
  | succ f ih =>
    intro m i right h
    by_cases hlt : i + 1 < i + m
    · obtain ⟨m', rfl⟩ : ∃ m', m = m' + 2 := ⟨m - 2, by omega⟩
      cases right
      · rw [stripLoop_left hlt, triSum, List.map_cons, List.sum_cons, ← triSum,
          show i + (m' + 2) - 1 = i + (m' + 1) from rfl,
          ih (m' + 1) i true (Nat.le_of_succ_le_succ h)]
        show _ = pathSum q i (m' + 1) + crossF (q (i + (m' + 1))) (q (i + (m' + 1) + 1)) + _
        rw [orient_eq_crossF, crossF_swap (q i) (q (i + (m' + 1))),
          show i + (m' + 2) = i + (m' + 1) + 1 from rfl]
        ring
      · rw [stripLoop_right hlt, triSum, List.map_cons, List.sum_cons, ← triSum, pathSum_front q (m' + 1) i,
          show i + (m' + 2) = (i + 1) + (m' + 1) by omega, ih (m' + 1) (i + 1) false (Nat.le_of_succ_le_succ h),
          orient_eq_crossF, crossF_swap (q (i + 1)) (q (i + 1 + (m' + 1)))]
        ring
    · rw [stripLoop_stop hlt]
      have hm : m = 0 ∨ m = 1 := by omega
      rcases hm with rfl | rfl
      · simp [triSum, pathSum, crossF]; ring
      · simp [triSum, pathSum, crossF]; ring

/-- **convex_strip_area**: for EVERY ring (convex or not, any `n >= 1`) the doubled signed areas of the
triangles emitted by `TriangulateConvex` telescope to the shoelace sum of the ring: the strip covers the
polygon's signed area exactly -/
theorem convex_strip_area (q : Nat → V2 F) (n : Nat) (hn : 1 ≤ n) :
    triSum q (stripFn n) = shoelace q n := by
  unfold stripFn shoelace
  have := stripLoop_area q n (n - 1) 0 true (by omega)
  simpa using this

/-- the ring is in convex position, counter-clockwise -/
def ConvexPos (q : Nat → V2 F) (n : Nat) : Prop :=
  ∀ a b c, a < b → b < c → c < n → 0 ≤ orient (q a) (q b) (q c)

/-- **convex_strip_ccw_partial**: on a ring in convex position every strip triangle is counter-clockwise or
degenerate.  PARTIAL: the full statement is "`isConvexFn` accepts a SIMPLE ring => every strip triangle is
CCW-or-degenerate"; `isConvex_sound` gives that every corner turns strictly left, but the step from
locally convex + simple to `ConvexPos` (a turning-number argument; `IsConvex` "does not check for
overlaps", a pentagram is locally convex) is not proved here.  It is checked per run on the real outputs by
oracle (b) of harness/c10_polygeom.cpp and by the geometric oracle of harness/c10_earclip.cpp. -/
theorem convex_strip_ccw_partial (q : Nat → V2 F) (n : Nat) (hn : 1 ≤ n) (hc : ConvexPos q n) :
    ∀ t, t ∈ stripFn n → 0 ≤ orient (q t.1) (q t.2.1) (q t.2.2) := by
  intro t ht
  obtain ⟨h1, h2, h3⟩ := strip_increasing n t ht hn
  exact hc _ _ _ h1 h2 h3

example : stripFn 6 = [(0, 1, 5), (1, 4, 5), (1, 2, 4), (2, 3, 4)] := by decide
example : ConvexPos exSquare 4 := by
  have h : ∀ c < 4, ∀ b < c, ∀ a < b, 0 ≤ orient (exSquare a) (exSquare b) (exSquare c) := by
    decide +kernel
  exact fun a b c h1 h2 h3 => h c h3 b h2 a h1
example : triSum exSquare (stripFn 4) = 2 := by
  rw [convex_strip_area _ _ (by omega)]; decide +kernel

/-! ## CCW (utils.h) at exact arithmetic, any tolerance -/

/-- `CCW` in exact arithmetic: 0 iff `4 * orient^2 <= max(|p1-p0|^2, |p2-p0|^2) * tol^2`, else the sign of `orient` -/
theorem ccw_eq (p0 p1 p2 : V2 F) (tol : F) :
    ccw p0 p1 p2 tol =
      if orient p0 p1 p2 * orient p0 p1 p2 * 4 ≤
          max ((p1.x - p0.x) * (p1.x - p0.x) + (p1.y - p0.y) * (p1.y - p0.y))
              ((p2.x - p0.x) * (p2.x - p0.x) + (p2.y - p0.y) * (p2.y - p0.y)) * tol * tol
      then 0 else if 0 < orient p0 p1 p2 then 1 else -1 := by
  rw [ccw_eq_ccwOf]
  simp only [dot_eq, V2.sub_x, V2.sub_y]
  rfl

theorem ccw_base_nonneg (p0 p1 p2 : V2 F) (tol : F) :
    0 ≤ max ((p1.x - p0.x) * (p1.x - p0.x) + (p1.y - p0.y) * (p1.y - p0.y))
            ((p2.x - p0.x) * (p2.x - p0.x) + (p2.y - p0.y) * (p2.y - p0.y)) * tol * tol := by
  simpa only [dot_eq, V2.sub_x, V2.sub_y] using CrossOps.ccw_base_nonneg p0 p1 p2 tol

omit [IsStrictOrderedRing F] in
theorem orient_swap (p0 p1 p2 : V2 F) : orient p0 p2 p1 = - orient p0 p1 p2 :=
  CrossOps.orient_swap p0 p1 p2
omit [IsStrictOrderedRing F] in
theorem orient_cyclic (p0 p1 p2 : V2 F) : orient p1 p2 p0 = orient p0 p1 p2 :=
  CrossOps.orient_cyclic p0 p1 p2

/-- **ccw_antisymm**: swapping the last two points negates the verdict, at every tolerance -/
theorem ccw_antisymm (p0 p1 p2 : V2 F) (tol : F) : ccw p0 p2 p1 tol = - ccw p0 p1 p2 tol := by
  rw [ccw_eq_ccwOf, ccw_eq_ccwOf, orient_swap, max_comm]
  exact ccwOf_neg _ _ (CrossOps.ccw_base_nonneg p0 p1 p2 tol)

/-- **ccw_sign**: a non-zero verdict is the sign of the exact orientation -/
theorem ccw_sign (p0 p1 p2 : V2 F) (tol : F) :
    (ccw p0 p1 p2 tol = 1 → 0 < orient p0 p1 p2) ∧ (ccw p0 p1 p2 tol = -1 → orient p0 p1 p2 ≤ 0) := by
  rw [ccw_eq_ccwOf]
  exact ccwOf_sign _ _

/-- **ccw_cyclic_zero**: at tolerance 0 the verdict is invariant under cyclic rotation of the points -/
theorem ccw_cyclic_zero (p0 p1 p2 : V2 F) : ccw p1 p2 p0 (0 : F) = ccw p0 p1 p2 (0 : F) := by
  rw [ccw_zero, ccw_zero, orient_cyclic]

/-- **ccw_cyclic_nonopposite**: at a positive tolerance the verdict is NOT cyclic (the base length is
measured from `p0`, see `ccw_not_cyclic`), but two rotations never give opposite non-zero verdicts -/
theorem ccw_cyclic_nonopposite (p0 p1 p2 : V2 F) (tol : F) (h : ccw p0 p1 p2 tol = 1) :
    ccw p1 p2 p0 tol ≠ -1 := by
  intro h2
  have a := (ccw_sign p0 p1 p2 tol).1 h
  have b := (ccw_sign p1 p2 p0 tol).2 h2
  rw [orient_cyclic] at b
  exact absurd a (not_lt.2 b)

/-- `CCW` with a tolerance is not invariant under rotation of its arguments -/
theorem ccw_not_cyclic :
    ccw (⟨0, 0⟩ : V2 ℚ) ⟨10, 0⟩ ⟨10, 1⟩ (399 / 200) = 0 ∧ ccw (⟨10, 0⟩ : V2 ℚ) ⟨10, 1⟩ ⟨0, 0⟩ (399 / 200) = 1 := by
  decide +kernel

example : ccw (⟨0, 0⟩ : V2 ℚ) ⟨0, 1⟩ ⟨1, 0⟩ (1 / 10) = - ccw (⟨0, 0⟩ : V2 ℚ) ⟨1, 0⟩ ⟨0, 1⟩ (1 / 10) := ccw_antisymm _ _ _ _
example : ccw (⟨0, 0⟩ : V2 ℚ) ⟨1, 0⟩ ⟨0, 1⟩ (1 / 10) = 1 := by decide +kernel

end Convex2

section Ear
variable {F : Type} [Field F] [LinearOrder F] [IsStrictOrderedRing F] [HasSqrt F]

/-- the exact instance with a square root, for the ear predicates -/
instance fieldScalarSqrt : ScalarSqrt F := { fieldScalar F with sqrt := HasSqrt.sqrt }

/-- **delaunayCost_le**: with a non-negative `scale` (`4 / |openSide|^2`) the Delaunay cost is at most
`-epsilon`: it can reorder ears but never makes a valid ear look invalid (`cost > epsilon`) -/
theorem delaunayCost_le (diff : V2 F) (scale eps : F) (hs : 0 ≤ scale) :
    delaunayCost diff scale eps ≤ -eps := by
  have : delaunayCost diff scale eps = -eps - scale * len2F diff := by
    simp [delaunayCost, len2F]
  rw [this]
  exact sub_le_self _ (mul_nonneg hs (len2F_nonneg diff))

/-- **isShort_iff**: `IsShort` holds exactly when the edge to the right neighbour is shorter than `eps / 2` -/
theorem isShort_iff (vs : Verts F) (i : Nat) (eps : F) :
    isShort vs i eps = true ↔
      (((vs.pos (vs.right i)).x - (vs.pos i).x) * ((vs.pos (vs.right i)).x - (vs.pos i).x)
        + ((vs.pos (vs.right i)).y - (vs.pos i).y) * ((vs.pos (vs.right i)).y - (vs.pos i).y)) * 4 < eps * eps := by
  simp [isShort, V2.sub]

theorem foldl_ge {β : Type} (step : F → β → F) (h : ∀ x t, x ≤ step x t) :
    ∀ (l : List β) (init : F), init ≤ l.foldl step init := by
  intro l
  induction l with
  | nil => intro init; exact le_refl _
  | cons t l ih => intro init; exact le_trans (h init t) (ih _)

/-- a running maximum over the admitted candidates never drops below its start -/
theorem foldl_max_ge {β : Type} (g : β → Bool) (c : β → F) : ∀ (l : List β) (init : F),
    init ≤ l.foldl (fun total t =>
      if g t = true then (if Scalar.lt total (c t) = true then c t else total) else total) init :=
  foldl_ge _ fun x t => by
    split
    · split
      · exact le_of_lt (of_decide_eq_true ‹_›)
      · exact le_refl _
    · exact le_refl _

theorem le_ite_self {p : Prop} [Decidable p] {a b : F} (h : a ≤ b) : a ≤ if p then a else b := by
  split
  · exact le_refl a
  · exact h

/-- **earCost_ge_base**: the cost of an ear is never below its own sharpness term
`dot(left.rightDir, rightDir) - 1 - epsilon`; candidates can only raise it -/
theorem earCost_ge_base (vs : Verts F) (i : Nat) (eps : F) (cands : List Nat) :
    dotF (vs.rightDir (vs.left i)) (vs.rightDir i) - 1 - eps ≤ earCost vs i eps cands := by
  have e : dotF (vs.rightDir (vs.left i)) (vs.rightDir i) - 1 - eps
      = Scalar.sub (Scalar.sub (dot (vs.rightDir (vs.left i)) (vs.rightDir i)) Scalar.one) eps := by
    rw [dot_eq]; rfl
  rw [e]
  -- `earCost` is `if flat then base else` a running maximum over `cands` started at `base`
  unfold earCost
  exact le_ite_self (foldl_max_ge _ _ cands _)

end Ear

example : delaunayCost (⟨3, 4⟩ : V2 ℚ) 2 (1 / 10) ≤ -(1 / 10) := delaunayCost_le _ _ _ (by norm_num)

end MV.PolyGeom
