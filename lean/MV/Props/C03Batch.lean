import MV.Proof.CsgBatchUnion
import MV.Proof.CsgBatchHeapPerm
/-!
# C03 (deepening) — `BatchUnion` and `BatchBoolean` themselves

`MV/Props/C03.lean` treats `BatchUnion` / `BatchBoolean` as black boxes that return a fresh leaf
whose value is postulated (`Respects`) to be the n-ary operation on the operands.  Here the two
functions are modelled line by line (`MV/Model/CsgBatch.lean`: the chunking `start`, the `boxes`
of the chunk, the greedy partition, singleton vs `Compose`, `erase`, `push_back`, the swap, the
heap with `MeshCompare`, the groups of four) and the `Add` case of the postulate is derived from
assumptions on the mesh operations (`Boolean` of two is their union, `Compose` of pairwise disjoint
solids is their union, leaves whose boxes do not overlap are disjoint: `batchUnion_discharges_evSem`), for

* every chunk size `K ≥ 2` (1000 in the code) and group width `grp ≥ 1` (4 in the code),
* every overlap oracle `ov` and size oracle `size` (arbitrary functions of a leaf's identity and
  value — they depend on geometry),
* every interpretation of the mesh operations in a commutative monoid (`CsgAlg.lean`): with
  multisets of original operands this is "each child is used exactly once", with a `SolidAlg`
  it is "the result denotes the union of the children".
-/
set_option autoImplicit false
namespace MV.CsgBatch.C03b
open MV.CsgBatch MV.Csg CMon

variable {α : Type}

/-! ## termination -/

/-- **batchUnion_terminates.**  For every chunk size `K ≥ 2`, group width `grp ≥ 1`, operations
and oracles, and every non-empty `children`: the `while` loop ends within the fuel
`children.size()` the model gives it (each round replaces `min(size, K) ≥ 2` children by one),
more fuel changes nothing, it makes at most `children.size() - 1` rounds, never indexes outside
`children` (`ub = false`) and leaves exactly one child, which is what is returned. -/
theorem batchUnion_terminates (ops : Ops α) (orc : Orc α) (K grp : Nat) (hK : 2 ≤ K)
    (hg : 1 ≤ grp) (children : List (BLeaf α)) (hne : children ≠ []) (next : Nat) :
    (∃ r, (batchUnion ops orc K grp children next).ret = some r ∧
      (batchUnion ops orc K grp children next).children = [r]) ∧
    (batchUnion ops orc K grp children next).ub = false ∧
    (batchUnion ops orc K grp children next).rounds.length + 1 ≤ children.length ∧
    ∀ fuel, children.length ≤ fuel →
      unionLoop ops orc K grp fuel { children := children, next := next } =
        unionLoop ops orc K grp children.length { children := children, next := next } := by
  obtain ⟨r, hr, hch, hub, _⟩ := batchUnion_msum ops orc (fun _ => ()) (fun _ _ => rfl) rfl
    (fun _ _ => rfl) K grp hK hg children hne next
  have hr' := unionLoop_rounds ops orc K grp hK hg children.length
    { children := children, next := next } (by simp) (List.length_pos_iff.2 hne)
  refine ⟨⟨r, hr, hch⟩, hub, ?_, fun fuel hf => hr'.2 fuel hf⟩
  simpa [batchUnion] using hr'.1

/-- **batchUnion_rounds_partition** (the statement about the recorded trace, which is what the
hooks report from the real run).  Every round of the run has `start = size > K ? size - K : 0`;
its disjoint sets, concatenated, are a rearrangement of the chunk's indices `0 … size-start-1`
(every child of the chunk is sent to `Compose`/`BatchBoolean` exactly once per round), no set is
empty, and `impls` receives exactly one leaf per set. -/
theorem batchUnion_rounds_partition (ops : Ops α) (orc : Orc α) (K grp : Nat) (hg : 1 ≤ grp)
    (children : List (BLeaf α)) (next : Nat) :
    ∀ r ∈ (batchUnion ops orc K grp children next).rounds,
      r.start = (if K < r.children.length then r.children.length - K else 0) ∧
      r.sets.flatten.Perm (List.range (r.children.length - r.start)) ∧
      (∀ s ∈ r.sets, s ≠ []) ∧ r.impls.length = r.sets.length := by
  intro r hr
  exact unionLoop_trace ops orc K grp hg children.length { children := children, next := next }
    (by simp) r hr

/-- K = 1 would loop for ever and K = 0 would grow the vector: with `kMaxUnionSize = 1` a round
on two children takes a chunk of one and puts one back -/
example : ((unionRound (α := Unit) ⟨fun _ => (), fun _ _ => (), ()⟩ ⟨fun _ _ => false, fun _ => 0⟩
    1 4 { children := [⟨0, ()⟩, ⟨1, ()⟩], next := 2 }).children.map (·.id)) = [1, 0] := by decide +kernel

/-! ## nothing dropped, nothing duplicated -/

/-- operations on provenance lists: `Compose` concatenates, `SimpleBoolean` appends, the empty
mesh comes from nothing -/
def provOps (β : Type) : Ops (List β) := ⟨List.flatten, (· ++ ·), []⟩

/-- multisets over `β` as count functions -/
instance instCMonCount (β : Type) : CMon (β → Nat) where
  add f g := fun b => f b + g b
  zero := fun _ => 0
  add_assoc _ _ _ := funext fun _ => Nat.add_assoc _ _ _
  add_comm _ _ := funext fun _ => Nat.add_comm _ _
  add_zero _ := funext fun _ => rfl

theorem msum_count {β : Type} [DecidableEq β] (ls : List (List β)) :
    msum (ls.map fun l => fun b => l.count b) = fun b => ls.flatten.count b := by
  induction ls with
  | nil => rfl
  | cons l ls ih =>
    simp only [List.map_cons, msum_cons, ih, List.flatten_cons]
    funext b
    simp [CMon.add, List.count_append]

/-- **batchUnion_uses_each_child_once.**  Let every leaf carry the list of original operands it
was built from (`Compose` concatenates, `SimpleBoolean` appends).  For every chunk size `K ≥ 2`,
every overlap and size oracle and every non-empty `children`, the leaf returned by `BatchUnion`
carries a REARRANGEMENT of the concatenation of the children's lists: every operand reaches the
result exactly once — none dropped, none duplicated. -/
theorem batchUnion_uses_each_child_once {β : Type} [DecidableEq β] (orc : Orc (List β))
    (K grp : Nat) (hK : 2 ≤ K) (hg : 1 ≤ grp) (children : List (BLeaf (List β)))
    (hne : children ≠ []) (next : Nat) :
    ∃ r, (batchUnion (provOps β) orc K grp children next).ret = some r ∧
      r.val.Perm (children.map (·.val)).flatten := by
  obtain ⟨r, hr, _, _, h⟩ := batchUnion_msum (provOps β) orc (N := β → Nat)
    (fun l => fun b => l.count b)
    (fun a b => by funext x; simp [provOps, CMon.add, List.count_append]) rfl
    (fun l _ => by
      have := msum_count (l.map (·.val))
      simp only [List.map_map] at this
      exact this.symm ▸ rfl)
    K grp hK hg children hne next
  refine ⟨r, hr, ?_⟩
  have h2 := msum_count (children.map (·.val))
  simp only [List.map_map] at h2
  rw [List.perm_iff_count]
  intro b
  have := congrFun (h.trans h2) b
  simpa using this

/-- non-vacuity with chunk size 4 (the harness runs the `kMaxUnionSize = 1000` of the source), ten
operands: operand 9 overlaps everything (a plate), the others are pairwise disjoint (pegs).
Three rounds; the result carries all ten operands. -/
def plateOrc : Orc (List Nat) :=
  ⟨fun x y => x.val.contains 9 || y.val.contains 9, fun x => 8 * x.val.length⟩

example : ((batchUnion (provOps Nat) plateOrc 4 4
    ((List.range 10).map fun i => ⟨i, [i]⟩) 10).ret.map (·.val)) =
      some [3, 4, 5, 0, 1, 2, 6, 7, 8, 9] := by decide +kernel

example : ((batchUnion (provOps Nat) plateOrc 4 4
    ((List.range 10).map fun i => ⟨i, [i]⟩) 10).rounds.map fun r =>
      (r.children, r.start, r.sets, r.impls)) =
      [([0, 1, 2, 3, 4, 5, 6, 7, 8, 9], 6, [[0, 1, 2], [3]], [10, 9]),
       ([11, 1, 2, 3, 4, 5, 0], 3, [[0, 1, 2, 3]], [12]),
       ([12, 1, 2, 11], 0, [[0, 1, 2], [3]], [13, 11])] := by decide +kernel

/-! ## the partition -/

/-- **partition_sets_pairwise_disjoint.**  For every overlap oracle and every chunk `boxes`:
the greedy partition puts every index `0 … n-1` in exactly one set, no set is empty, and inside
a set no member's box overlaps the box of an earlier member — `Compose`'s precondition, given
that bounding-box-disjoint leaves are disjoint.  If the oracle is symmetric (as
`Box::DoesOverlap` is) the members are pairwise non-overlapping in both directions. -/
theorem partition_sets_pairwise_disjoint (orc : Orc α) (boxes : Array (BLeaf α)) :
    (partition orc boxes).flatten.Perm (List.range boxes.size) ∧
    (∀ s ∈ partition orc boxes, s ≠ [] ∧ s.Pairwise fun j i => ovAt orc boxes i j = false) ∧
    ((∀ x y, orc.ov x y = orc.ov y x) → ∀ s ∈ partition orc boxes,
      s.Pairwise fun j i => ovAt orc boxes i j = false ∧ ovAt orc boxes j i = false) := by
  refine ⟨partition_perm orc boxes, fun s hs => ⟨(partition_sep orc boxes s hs).2,
    (partition_sep orc boxes s hs).1⟩, fun hsym s hs => ?_⟩
  refine List.Pairwise.imp ?_ (partition_sep orc boxes s hs).1
  intro j i h
  refine ⟨h, ?_⟩
  simp only [ovAt] at h ⊢
  generalize boxes[i]? = oi at h ⊢
  generalize boxes[j]? = oj at h ⊢
  cases oi with
  | none => cases oj <;> rfl
  | some a =>
    cases oj with
    | none => rfl
    | some b => exact (hsym b a).trans h

/-- the partition is first-fit: with boxes 0,1,2 mutually disjoint and box 3 overlapping box 0
only, 3 goes to a new set; box 4 overlapping 3 only joins the FIRST set -/
example : partition (α := Unit) ⟨fun x y => (x.id, y.id) ∈ [(3, 0), (4, 3)], fun _ => 0⟩
    #[⟨0, ()⟩, ⟨1, ()⟩, ⟨2, ()⟩, ⟨3, ()⟩, ⟨4, ()⟩] = [[0, 1, 2, 4], [3]] := by decide +kernel

/-! ## denotation -/

theorem msum_eq_bigU {S : Type} [SolidAlg S] (l : List S) : msum l = bigU l := rfl

/-- **batchUnion_denotes.**  In every algebra of solids `S`: if `SimpleBoolean(·,·,Add)` is the
union, the default leaf is empty, `Compose` is the union on lists of pairwise disjoint solids,
and leaves whose boxes do not overlap are disjoint (the geometric hypothesis "bounding-box
disjoint ⇒ disjoint", stated for the oracle), then for every `K ≥ 2`, every size oracle and every
non-empty `children`, `BatchUnion` returns a leaf denoting the union of all the children. -/
theorem batchUnion_denotes {S : Type} [SolidAlg S] (ops : Ops S) (orc : Orc S)
    (hbool : ∀ a b, ops.bool a b = SolidAlg.union a b) (hempty : ops.empty = SolidAlg.empty)
    (hcompose : ∀ l : List S, (l.Pairwise fun a b => SolidAlg.inter a b = SolidAlg.empty) →
      ops.compose l = bigU l)
    (hdis : ∀ x y : BLeaf S, orc.ov y x = false → SolidAlg.inter x.val y.val = SolidAlg.empty)
    (K grp : Nat) (hK : 2 ≤ K) (hg : 1 ≤ grp) (children : List (BLeaf S))
    (hne : children ≠ []) (next : Nat) :
    ∃ r, (batchUnion ops orc K grp children next).ret = some r ∧
      r.val = bigU (children.map (·.val)) := by
  obtain ⟨r, hr, _, _, h⟩ := batchUnion_msum ops orc (N := S) (fun s => s) hbool hempty
    (fun l hl => by
      rw [hcompose _ (List.pairwise_map.2 (hl.imp fun {x y} h => hdis x y h))]
      rfl)
    K grp hK hg children hne next
  exact ⟨r, hr, h⟩

/-- the two-point algebra (does the solid contain a fixed point?) -/
instance instSolidBool : SolidAlg Bool where
  union := or
  inter := and
  diff a b := a && !b
  empty := false
  union_assoc := by decide
  union_comm := by decide
  union_empty := by decide
  inter_assoc := by decide
  inter_comm := by decide
  diff_empty := by decide
  diff_diff := by decide

theorem xor_eq_bigU_of_disjoint (l : List Bool)
    (hl : l.Pairwise fun a b => SolidAlg.inter a b = SolidAlg.empty) :
    l.foldr xor false = bigU l := by
  induction l with
  | nil => rfl
  | cons a l ih =>
    have hl' := List.pairwise_cons.1 hl
    rw [List.foldr_cons, bigU_cons, ih hl'.2]
    cases a with
    | false => cases bigU l <;> rfl
    | true =>
      -- every other part is disjoint from `true`, i.e. false
      have hall : ∀ b ∈ l, b = false := fun b hb => by
        have := hl'.1 b hb
        cases b with
        | false => rfl
        | true => exact absurd this (by decide)
      have h0 : ∀ l : List Bool, (∀ b ∈ l, b = false) → bigU l = false := by
        intro l
        induction l with
        | nil => intro _; rfl
        | cons b l ih2 =>
          intro h
          rw [bigU_cons, ih2 (fun c hc => h c (by simp [hc])), h b (by simp)]
          rfl
      rw [h0 l hall]
      rfl

/-- non-vacuity of `batchUnion_denotes`: in the two-point algebra take `Compose` = XOR of the
parts (the union on disjoint parts ONLY) and "overlap" = both contain the point; all hypotheses
hold -/
example (children : List (BLeaf Bool)) (hne : children ≠ []) (size : BLeaf Bool → Nat) :
    ∃ r, (batchUnion ⟨fun l => l.foldr xor false, or, false⟩ ⟨fun x y => x.val && y.val, size⟩
      1000 4 children 0).ret = some r ∧ r.val = bigU (children.map (·.val)) := by
  apply batchUnion_denotes _ _ (fun _ _ => rfl) rfl _ _ 1000 4 (by omega) (by omega) children hne
  · exact xor_eq_bigU_of_disjoint
  · intro x y h
    have h' : (y.val && x.val) = false := h
    show (x.val && y.val) = false
    rw [Bool.and_comm]; exact h'

theorem optCMon_msum (f : α → α → α) [ha : Std.Associative f] [hc : Std.Commutative f]
    (l : List α) (x : α) : @msum _ (optCMon f) ((x :: l).map some) = some (l.foldl f x) :=
  CsgBatch.optCMon_msum f l x

/-- **batchBoolean_denotes.**  For every associative commutative `f` (= `SimpleBoolean` with
`Add` or `Intersect`), every size oracle, every group width `grp ≥ 1`: `BatchBoolean` of the
operands `x :: l` terminates and returns their fold, whatever order the heap pops them in. -/
theorem batchBoolean_denotes (f : α → α → α) [ha : Std.Associative f] [hc : Std.Commutative f]
    (ops : Ops α) (hf : ∀ a b, ops.bool a b = f a b) (orc : Orc α) (grp : Nat) (hg : 1 ≤ grp)
    (x : BLeaf α) (l : List (BLeaf α)) (next : Nat) :
    ∃ r, (batchBoolean ops orc grp (x :: l) next).ret = some r ∧
      r.val = (l.map (·.val)).foldl f x.val := by
  obtain ⟨r, hr, hv⟩ := @batchBoolean_msum _ (Option α) (optCMon f) ops orc some grp hg
    (fun a b => by rw [hf]; rfl) (x :: l) (fun h => by cases h) next
  refine ⟨r, hr, ?_⟩
  have h2 := optCMon_msum f (l.map (·.val)) x.val
  simp only [List.map_cons, List.map_map, Function.comp_def] at h2 hv
  rw [h2] at hv
  exact Option.some.inj hv

/-- `BatchBoolean(Add)` denotes `⋃`, `BatchBoolean(Intersect)` denotes `⋂` -/
theorem batchBoolean_union_inter {S : Type} [SolidAlg S] (orc : Orc S) (grp : Nat) (hg : 1 ≤ grp)
    (cmp : List S → S) (e : S) (x : BLeaf S) (l : List (BLeaf S)) (next : Nat) :
    (∃ r, (batchBoolean ⟨cmp, SolidAlg.union, e⟩ orc grp (x :: l) next).ret = some r ∧
      r.val = bigU ((x :: l).map (·.val))) ∧
    (∃ r, (batchBoolean ⟨cmp, SolidAlg.inter, e⟩ orc grp (x :: l) next).ret = some r ∧
      r.val = bigI ((x :: l).map (·.val))) := by
  constructor
  · obtain ⟨r, h1, h2⟩ := batchBoolean_denotes SolidAlg.union ⟨cmp, SolidAlg.union, e⟩
      (fun _ _ => rfl) orc grp hg x l next
    exact ⟨r, h1, by rw [h2, foldl_union_eq]; rfl⟩
  · obtain ⟨r, h1, h2⟩ := batchBoolean_denotes SolidAlg.inter ⟨cmp, SolidAlg.inter, e⟩
      (fun _ _ => rfl) orc grp hg x l next
    exact ⟨r, h1, by rw [h2, foldl_inter_eq]; rfl⟩

/-- non-vacuity: five operands with sizes 8,8,20,8,12 — the pops (largest NumVert first, ties
by LARGER serial) and the result's provenance -/
example : (batchBoolean (provOps Nat) ⟨fun _ _ => false, fun x => [8, 8, 20, 8, 12, 30, 14, 40].getD x.id 0⟩ 4
    ((List.range 5).map fun i => ⟨i, [i]⟩) 5).evs =
    [.start [0, 1, 2, 3, 4], .pop 2 2 4 4, .pop 3 3 1 1, .push 5 5, .push 6 6,
     .pop 5 5 6 6, .push 7 7, .pop 7 7 0 0, .push 8 8] := by decide +kernel

/-! ## the pop order -/

/-- **batchBoolean_pops_max.**  `std::pop_heap` with `MeshCompare` hands out the entry with the
LARGEST `NumVert`, and among those the LARGEST serial number (std heaps are max-heaps with
respect to the comparator; the comment "starting from smaller meshes" in the source does not
describe what the code does).  For every size oracle and every heap: the popped entry is a member,
the rest is the heap without it, and every entry is below or equal to it in `(NumVert, serial)`. -/
theorem batchBoolean_pops_max (orc : Orc α) {heap : List (Entry α)} {m : Entry α}
    {rest : List (Entry α)} (h : popMax (meshCompare orc) heap = some (m, rest)) :
    heap.Perm (m :: rest) ∧
    ∀ e ∈ heap, orc.size e.1 < orc.size m.1 ∨ (orc.size e.1 = orc.size m.1 ∧ e.2 ≤ m.2) := by
  refine ⟨popMax_perm _ h, fun e he => ?_⟩
  have hmem := (popMax_perm _ h).mem_iff.1 he
  have hle : meshCompare orc m e = false := by
    rcases List.mem_cons.1 hmem with rfl | hr
    · exact keyLt_irrefl _
    · exact popMax_max orc h e hr
  have hk : keyLt (orc.key m) (orc.key e) = false := hle
  by_cases h1 : orc.size m.1 = orc.size e.1
  · simp [keyLt, Orc.key, h1] at hk; omega
  · simp only [keyLt, Orc.key, bne_iff_ne, ne_eq, h1, not_false_eq_true, if_true] at hk
    have hk' : ¬ orc.size m.1 < orc.size e.1 := of_decide_eq_false hk
    omega

/-- **the initial arrangement of the heap is irrelevant.**  Serial numbers are pairwise distinct,
so `(NumVert, serial)` is a strict total order on the entries: for at least three operands, the
loop started from any arrangement `h0` of the initial entries (whatever `std::make_heap` leaves)
returns the same result as the model, which starts from `withSerials results 0`.  Both sides keep
the later heaps as lists: the arrangements `push_heap` / `pop_heap` leave are NOT quantified over. -/
theorem batchBoolean_heap_arrangement_irrelevant (ops : Ops α) (orc : Orc α) (grp : Nat)
    (results : List (BLeaf α)) (next : Nat) (h3 : 3 ≤ results.length) (h0 : List (Entry α))
    (hp : h0.Perm (withSerials results 0)) :
    batchBooleanFrom ops orc grp results next h0 = batchBoolean ops orc grp results next := by
  rw [batchBoolean_eq_from ops orc grp results next h3]
  have hs : SerOK (α := α) ⟨withSerials results 0, [], next, results.length,
      [.start (results.map (·.id))]⟩ := by
    show SerL (withSerials results 0 ++ []) results.length
    rw [List.append_nil]
    exact withSerials_serL results
  -- the two runs agree on everything but the arrangement of the final heap
  obtain ⟨q, _, e2, _, e4⟩ := heapLoop_perm_inv ops orc grp results.length
    ⟨withSerials results 0, [], next, results.length, [.start (results.map (·.id))]⟩
    ⟨h0, [], next, results.length, [.start (results.map (·.id))]⟩ ⟨hp.symm, rfl, rfl, rfl, rfl⟩ hs
  replace q := q.symm
  simp only [batchBooleanFrom]
  rw [← e2, ← e4]
  generalize (heapLoop ops orc grp results.length
    { heap := withSerials results 0, next := next, nextSerial := results.length,
      evs := [.start (results.map (·.id))] }).heap = H at q
  generalize (heapLoop ops orc grp results.length
    { heap := h0, next := next, nextSerial := results.length,
      evs := [.start (results.map (·.id))] }).heap = H' at q
  match H, q with
  | [], q => rw [q.eq_nil]
  | [e], q => rw [q.eq_singleton]
  | x :: y :: t, q =>
    match H', q with
    | [], q => exact absurd q.symm.eq_nil (by simp)
    | [e], q => exact absurd q.symm.eq_singleton (by simp)
    | x' :: y' :: t', _ => rfl

example (ops : Ops Nat) (orc : Orc Nat) (a b c : BLeaf Nat) :
    batchBooleanFrom ops orc 4 [a, b, c] 3 [(c, 2), (a, 0), (b, 1)] =
      batchBoolean ops orc 4 [a, b, c] 3 :=
  batchBoolean_heap_arrangement_irrelevant ops orc 4 [a, b, c] 3 (by simp) _ (by
    simp only [withSerials]
    exact (List.perm_append_comm (l₁ := [(c, 2)]) (l₂ := [(a, 0), (b, 1)])))

/-! ## discharge of the postulate of `MV/Props/C03.lean` -/

variable {M S : Type} [One M] [Mul M] [SolidAlg S] [XfAct M S]

/-- The leaves `pos` of a finalize, as `BatchUnion` sees them -/
def asChildren (L : Val S) (pos : List (Leaf M)) : List (BLeaf S) :=
  (pos.zipIdx).map fun p => ⟨p.2, L.leaf p.1⟩

theorem asChildren_vals (L : Val S) (pos : List (Leaf M)) :
    (asChildren L pos).map (·.val) = L.leaves pos := by
  simp only [asChildren, List.map_map, Val.leaves]
  have : ((fun x : BLeaf S => x.val) ∘ fun p : Leaf M × Nat => (⟨p.2, L.leaf p.1⟩ : BLeaf S)) =
      L.leaf ∘ Prod.fst := rfl
  rw [this, ← List.map_map, List.zipIdx_map_fst]

/-- **the `Add` case of `Respects`, from assumptions on the mesh operations.**  `MV/Props/C03.lean`
assumes that the mesh created by `fin add pos []` has the value `evSem L .add pos []`.  That is what
`BatchUnion(pos)` returns IF `bool` is the union (`hbool`), `compose` is the union of pairwise
disjoint solids (`hcompose`) and leaves the oracle calls non-overlapping are disjoint (`hdis`). -/
theorem batchUnion_discharges_evSem (L : Val S) (ops : Ops S) (orc : Orc S)
    (hbool : ∀ a b, ops.bool a b = SolidAlg.union a b) (hempty : ops.empty = SolidAlg.empty)
    (hcompose : ∀ l : List S, (l.Pairwise fun a b => SolidAlg.inter a b = SolidAlg.empty) →
      ops.compose l = bigU l)
    (hdis : ∀ x y : BLeaf S, orc.ov y x = false → SolidAlg.inter x.val y.val = SolidAlg.empty)
    (K grp : Nat) (hK : 2 ≤ K) (hg : 1 ≤ grp) (pos : List (Leaf M)) (hne : pos ≠ []) :
    ∃ r, (batchUnion ops orc K grp (asChildren L pos) pos.length).ret = some r ∧
      r.val = evSem L .add pos [] := by
  have hne' : asChildren L pos ≠ [] := by
    cases pos with
    | nil => exact absurd rfl hne
    | cons p ps => simp [asChildren, List.zipIdx_cons]
  obtain ⟨r, h1, h2⟩ := batchUnion_denotes ops orc hbool hempty hcompose hdis K grp hK hg
    (asChildren L pos) hne' pos.length
  exact ⟨r, h1, by rw [h2, asChildren_vals]; rfl⟩

end MV.CsgBatch.C03b
