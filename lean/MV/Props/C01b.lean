import MV.Proof.EdgeOpLocal
import MV.Proof.EdgeOpOrbit
import MV.Proof.EdgeOpFormLoop
import MV.Proof.EdgeOpCollapse
/-!
# C01 (part b): the topological editing primitives of `src/edge_op.cpp` keep the halfedge
structure paired

Model: `MV/Model/EdgeOp.lean` (line-by-line transliteration of `PairUp`, `UpdateVert`,
`CollapseTri`, `RemoveIfFolded`, `FormLoop`, `CollapseEdge`/`CollapseEdge2`, `SwapEdge`,
`DedupeEdge`, `SplitPinchedVerts` over the three `int` arrays of `Halfedges`), tied to the C++ by
op-level replay (hook `onTopoOp`, harness `c01_topo.cpp`).

Vocabulary (`MV/Proof/EdgeOpBasic.lean`): `Good s e` is `CheckHalfedges::operator()(e)` of
`properties.cpp`, `PairInv s` is `Impl::IsManifold()`; `PairInvExcept s X` says every halfedge
outside the finite list `X` is `Good` (`PairInv s ↔ PairInvExcept s []`): the theorems on `PairUp`
and `CollapseTri` are stated for such states, in which a few halfedges are dangling or carry a label
that is about to be rewritten.  (The proof for `FormLoop` carries `PairInvExcept` with the four
halfedges of the doubled edge as the list through its two relabellings; the one for `CollapseEdge`
describes the state reached pointwise.)
`s.walk c0 i` is `i` steps of `current ↦ Pair(NextHalfedge(current))`.

All theorems quantify over every state (all array sizes); hypotheses are explicit and decidable;
every section has an `example` on a concrete state meeting them.
-/
namespace MV.C01b
open MV.EdgeOp MV.Halfedge

/-! ## the checkers -/

/-- the executable `checkPairInv` (the property gate of the replay) decides the library's
`IsManifold()` predicate -/
theorem checkPairInv_iff (start paired : Array Int) :
    checkPairInv start paired = true ↔ MV.Halfedge.PairInv start paired :=
  MV.EdgeOp.checkPairInv_iff start paired

/-- `checkVertOrbit` decides "any two live halfedges with the same start vertex lie on one
`ForVert` cycle" (no pinched vertex) -/
theorem checkVertOrbit_iff (start paired : Array Int) :
    checkVertOrbit start paired = true ↔ VertOrbitOk start paired := by
  unfold checkVertOrbit VertOrbitOk
  simp only [List.all_eq_true, List.mem_range, Bool.or_eq_true, decide_eq_true_eq, bne_iff_ne, ne_eq]
  constructor
  · intro h e he hp e' he' hp' hs
    rcases h e he with h | h
    · omega
    · rcases h e' he' with h | h
      · rcases h with h | h
        · omega
        · exact absurd hs h
      · exact h
  · intro h e he
    by_cases hp : paired[e]! < 0
    · exact Or.inl hp
    · right
      intro e' he'
      by_cases hp' : paired[e']! < 0
      · exact Or.inl (Or.inl hp')
      · by_cases hs : start[e]! = start[e']!
        · exact Or.inr (h e he (by omega) e' he' (by omega) hs)
        · exact Or.inl (Or.inr hs)

example : checkPairInv tetra.start tetra.paired = true ∧ checkVertOrbit tetra.start tetra.paired = true :=
  tetra_checks
example : PairInv tetra := tetra_inv
/-- a state that is rejected: the tetrahedron with one pairing cleared -/
example : checkPairInv tetraCut.start tetraCut.paired = false := by decide +kernel

/-! ## `PairUp` (edge_op.cpp:743) -/

/-- If whoever still points at `e0` / `e1` is in the exception list (or is the new partner), both
triangles are live and the two halfedges are opposite, non-degenerate directed edges, then after
`PairUp(e0, e1)` both are `Good` and leave the list; nothing else changes. -/
theorem pairUp_preserves (s : HE) (X : List Nat) (e0 e1 : Nat)
    (h : PairInvExcept s X) (h0 : e0 < s.start.size) (h1 : e1 < s.start.size) (hne : e0 ≠ e1)
    (hp0 : ∀ e, e < s.start.size → e ∉ X → s.P e = (e0 : Int) → e = e1)
    (hp1 : ∀ e, e < s.start.size → e ∉ X → s.P e = (e1 : Int) → e = e0)
    (hl0 : s.S (nx e0) ≠ -1 ∧ s.S (nx (nx e0)) ≠ -1) (hl1 : s.S (nx e1) ≠ -1 ∧ s.S (nx (nx e1)) ≠ -1)
    (hv : s.S e0 = s.S (nx e1) ∧ s.S (nx e0) = s.S e1 ∧ s.S e0 ≠ s.S (nx e0)) :
    ∃ s', pairUp s (e0 : Int) (e1 : Int) = .ok s' ∧ s'.start = s.start ∧ s'.prop = s.prop ∧
      s'.nVert = s.nVert ∧ PairInvExcept s' (X.filter fun e => e ≠ e0 ∧ e ≠ e1) := by
  have hw := h.1
  have h0' : e0 < s.paired.size := hw.1 ▸ h0
  have h1' : e1 < s.paired.size := hw.1 ▸ h1
  refine ⟨pairS s e0 e1, pairUp_ok' s e0 e1 h0' h1', start_pairS .., prop_pairS .., nVert_pairS ..,
    WF_pairS s e0 e1 hw, ?_⟩
  intro e he hx
  have hPe0 : (pairS s e0 e1).P e0 = (e1 : Int) := by
    rw [P_pairS s e0 e1 e0 h0' h1', if_neg hne, if_pos rfl]
  have hPe1 : (pairS s e0 e1).P e1 = (e0 : Int) := by
    rw [P_pairS s e0 e1 e1 h0' h1', if_pos rfl]
  have hsz : (pairS s e0 e1).start.size = s.start.size := by rw [start_pairS]
  have hSS : ∀ j, (pairS s e0 e1).S j = s.S j := fun j => S_pairS ..
  by_cases a0 : e = e0
  · subst a0
    exact good_of_pair_frame hsz (fun j _ => hSS j) (fun j _ => hSS j) h1 hPe0 hPe1 hl0.1 hl0.2
      hv.2.2 hv.1 hv.2.1
  by_cases a1 : e = e1
  · subst a1
    exact good_of_pair_frame hsz (fun j _ => hSS j) (fun j _ => hSS j) h0 hPe1 hPe0 hl1.1 hl1.2
      (fun hc => hv.2.2 (hv.1.trans (hc.symm.trans hv.2.1.symm))) hv.2.1.symm hv.1.symm
  have hx' : e ∉ X := by
    intro hc; apply hx; simp only [List.mem_filter, decide_eq_true_eq, ne_eq]; exact ⟨hc, a0, a1⟩
  have he' : e < s.start.size := hsz ▸ he
  have hg : Good s e := h.good he' hx'
  have hP : ∀ j, j ≠ e0 → j ≠ e1 → (pairS s e0 e1).P j = s.P j := by
    intro j a b; rw [P_pairS s e0 e1 j h0' h1', if_neg b, if_neg a]
  refine good_frame (s := s) hsz (hSS _) (hSS _) (hSS _)
    (hP e a0 a1) (fun hl => ⟨?_, S_pairS .., S_pairS ..⟩) hg
  obtain ⟨_, _, _, hlt, hinv, _⟩ := hg.live (live_of_nonneg hl)
  have hPe : s.P e = ((s.Pn e : Nat) : Int) := P_eq_Pn hl
  apply hP
  · intro hc; rw [hc] at hPe; exact a1 (hp0 e he' hx' hPe)
  · intro hc; rw [hc] at hPe; exact a0 (hp1 e he' hx' hPe)

/-- the frame part alone (no label hypothesis): only `e0`, `e1` and their old partners can stop
being `Good` -/
theorem pairUp_frame (s : HE) (X : List Nat) (e0 e1 : Nat)
    (h : PairInvExcept s X) (h0 : e0 < s.start.size) (h1 : e1 < s.start.size) :
    ∃ s', pairUp s (e0 : Int) (e1 : Int) = .ok s' ∧ s'.start = s.start ∧ s'.prop = s.prop ∧
      s'.nVert = s.nVert ∧ PairInvExcept s' (X ++ [e0, e1, s.Pn e0, s.Pn e1]) := by
  have hw := h.1
  have h0' : e0 < s.paired.size := hw.1 ▸ h0
  have h1' : e1 < s.paired.size := hw.1 ▸ h1
  refine ⟨pairS s e0 e1, pairUp_ok' s e0 e1 h0' h1', start_pairS .., prop_pairS .., nVert_pairS ..,
    WF_pairS s e0 e1 hw, ?_⟩
  intro e he hx
  simp only [List.mem_append, List.mem_cons, List.not_mem_nil, or_false, not_or] at hx
  obtain ⟨hx, hne0, hne1, hq0, hq1⟩ := hx
  have hg : Good s e := h.good he hx
  have hP : ∀ j, j ≠ e0 → j ≠ e1 → (pairS s e0 e1).P j = s.P j := by
    intro j a b; rw [P_pairS s e0 e1 j h0' h1', if_neg b, if_neg a]
  refine good_frame (s := s) (by rw [start_pairS]) (S_pairS ..) (S_pairS ..) (S_pairS ..)
    (hP e hne0 hne1) (fun hl => ⟨?_, S_pairS .., S_pairS ..⟩) hg
  obtain ⟨_, _, _, _, hinv, _⟩ := hg.live (live_of_nonneg hl)
  apply hP
  · intro hc; rw [hc] at hinv; exact hq0 (Pn_eq_of_P hinv).symm
  · intro hc; rw [hc] at hinv; exact hq1 (Pn_eq_of_P hinv).symm

/-- the tetrahedron with the edge 0-9 un-paired: `PairUp 0 9` restores `PairInv` -/
example : ∃ s', pairUp tetraCut ((0 : Nat) : Int) ((9 : Nat) : Int) = .ok s' ∧ PairInvExcept s' [] := by
  obtain ⟨h, h0, h1, hp0, hp1, hl0, hl1, hv⟩ := tetraCut_ok
  obtain ⟨s', a, _, _, _, b⟩ :=
    pairUp_preserves tetraCut [0, 9] 0 9 h h0 h1 (by decide) hp0 hp1 hl0 hl1 hv
  exact ⟨s', a, b⟩

/-! ## `CollapseTri` (edge_op.cpp:796) -/

/-- FRAME FORM, needing only that the two outer halfedges `e1 = nx e0`, `e2 = nx e1` are paired
with something that points back: the triangle becomes three tombstones and leaves the list, the
old partner of `e0` is left dangling, the outer partners `p1`, `p2` are paired with each other and
stay in the list until their labels are known to match.  This fits the first `CollapseTri` of
`CollapseEdge`, which runs BEFORE the vertex relabelling; the proof of
`collapseEdge_preserves_partial` does not use it (it evaluates both `CollapseTri` pointwise,
`collapseTri_eval`). -/
theorem collapseTri_frame (s : HE) (X : List Nat) (e0 : Nat) (h : PairInvExcept s X)
    (h0 : e0 < s.start.size)
    (hq1 : 0 ≤ s.P (nx e0) ∧ s.Pn (nx e0) < s.start.size ∧ s.P (s.Pn (nx e0)) = ((nx e0 : Nat) : Int))
    (hq2 : 0 ≤ s.P (nx (nx e0)) ∧ s.Pn (nx (nx e0)) < s.start.size ∧
      s.P (s.Pn (nx (nx e0))) = ((nx (nx e0) : Nat) : Int)) :
    ∃ s', collapseTri s (triOf (e0 : Int)) = .ok s' ∧ s'.prop = s.prop ∧ s'.nVert = s.nVert ∧
      s'.start.size = s.start.size ∧
      (∀ j, j / 3 ≠ e0 / 3 → s'.S j = s.S j) ∧
      (∀ j, j / 3 = e0 / 3 → j < s.start.size → s'.S j = -1 ∧ s'.P j = -1) ∧
      PairInvExcept s' ((X.filter fun e => e / 3 ≠ e0 / 3) ++
        [s.Pn e0, s.Pn (nx e0), s.Pn (nx (nx e0))]) := by
  obtain ⟨s', heq, hw', hprop, hnv, _, hsz, hS, hT, hP⟩ :=
    collapseTri_eval s e0 h.1 h0 ⟨hq1.1, hq1.2.1⟩ ⟨hq2.1, hq2.2.1⟩
  exact ⟨s', heq, hprop, hnv, hsz, hS, hT, collapseTri_inv h hq1.2.2 hq2.2.2 hw' hsz hS hT
    (fun j hj a b => by rw [hP j hj, if_neg b, if_neg a])⟩

/-- "Removing a triangle whose two outer neighbours get paired keeps `PairInv`": if the outer
partners `p1`, `p2` lie outside the triangle, their triangles are live and their labels are
opposite (what the relabelling of `UpdateVert` establishes), then after `CollapseTri` only the old
partner of `e0` is left in the list. -/
theorem collapseTri_preserves (s : HE) (X : List Nat) (e0 : Nat) (h : PairInvExcept s X)
    (h0 : e0 < s.start.size)
    (hq1 : 0 ≤ s.P (nx e0) ∧ s.Pn (nx e0) < s.start.size ∧ s.P (s.Pn (nx e0)) = ((nx e0 : Nat) : Int))
    (hq2 : 0 ≤ s.P (nx (nx e0)) ∧ s.Pn (nx (nx e0)) < s.start.size ∧
      s.P (s.Pn (nx (nx e0))) = ((nx (nx e0) : Nat) : Int))
    (ho1 : s.Pn (nx e0) / 3 ≠ e0 / 3) (ho2 : s.Pn (nx (nx e0)) / 3 ≠ e0 / 3)
    (hl1 : s.S (nx (s.Pn (nx e0))) ≠ -1 ∧ s.S (nx (nx (s.Pn (nx e0)))) ≠ -1)
    (hl2 : s.S (nx (s.Pn (nx (nx e0)))) ≠ -1 ∧ s.S (nx (nx (s.Pn (nx (nx e0))))) ≠ -1)
    (hv : s.S (s.Pn (nx e0)) = s.S (nx (s.Pn (nx (nx e0)))) ∧
      s.S (nx (s.Pn (nx e0))) = s.S (s.Pn (nx (nx e0))) ∧
      s.S (s.Pn (nx e0)) ≠ s.S (nx (s.Pn (nx e0)))) :
    ∃ s', collapseTri s (triOf (e0 : Int)) = .ok s' ∧
      PairInvExcept s' ((X.filter fun e => e / 3 ≠ e0 / 3 ∧ e ≠ s.Pn (nx e0) ∧ e ≠ s.Pn (nx (nx e0))) ++
        [s.Pn e0]) := by
  obtain ⟨s', heq, hw', _, _, _, hsz, hS, hT, hP⟩ :=
    collapseTri_eval s e0 h.1 h0 ⟨hq1.1, hq1.2.1⟩ ⟨hq2.1, hq2.2.1⟩
  obtain ⟨hP1, hP2⟩ := collapseTri_pairs hP ho1 ho2
  have hinv := collapseTri_inv h hq1.2.2 hq2.2.2 hw' hsz hS hT
    (fun j hj a b => by rw [hP j hj, if_neg b, if_neg a])
  refine ⟨s', heq, hinv.mono ?_⟩
  intro e _ hin hout
  have hS1 : ∀ j, j / 3 = s.Pn (nx e0) / 3 → s'.S j = s.S j := fun j hj => hS j (hj ▸ ho1)
  have hS2 : ∀ j, j / 3 = s.Pn (nx (nx e0)) / 3 → s'.S j = s.S j := fun j hj => hS j (hj ▸ ho2)
  have hcase : e = s.Pn (nx e0) ∨ e = s.Pn (nx (nx e0)) := by
    simp only [List.mem_append, List.mem_filter, decide_eq_true_eq, List.mem_cons,
      List.not_mem_nil, or_false, not_or, not_and, ne_eq] at hin hout
    obtain ⟨hout, hne0⟩ := hout
    rcases hin with ⟨hx, hd⟩ | hin | hin | hin
    · by_cases a : e = s.Pn (nx e0)
      · exact Or.inl a
      · by_cases b : e = s.Pn (nx (nx e0))
        · exact Or.inr b
        · exact absurd b (hout hx hd a)
    · exact absurd hin hne0
    · exact Or.inl hin
    · exact Or.inr hin
  rcases hcase with hc | hc <;> subst hc
  · exact good_of_pair_frame hsz hS1 hS2 hq2.2.1 hP1 hP2 hl1.1 hl1.2 hv.2.2 hv.1 hv.2.1
  · exact good_of_pair_frame hsz hS2 hS1 hq1.2.1 hP2 hP1 hl2.1 hl2.2
      (fun q => hv.2.2 (hv.1.trans (q.symm.trans hv.2.1.symm))) hv.2.1.symm hv.1.symm

/-- the same from `Good`-ness of the neighbourhood and "the collapsed edge `e0` has equal ends";
also covers the folded triangle whose two outer edges are paired with each other -/
theorem collapseTri_preserves_of_good (s : HE) (X : List Nat) (e0 : Nat) (h : PairInvExcept s X)
    (h0 : e0 < s.start.size) (hl : s.P (nx e0) ≠ -1) (hX1 : nx e0 ∉ X) (hX2 : nx (nx e0) ∉ X)
    (hdeg : s.S e0 = s.S (nx e0))
    (hXp1 : s.Pn (nx e0) ∉ X) (hXp2 : s.Pn (nx (nx e0)) ∉ X) :
    ∃ s', collapseTri s (triOf (e0 : Int)) = .ok s' ∧
      PairInvExcept s' ((X.filter fun e => e / 3 ≠ e0 / 3) ++ [s.Pn e0]) := by
  obtain ⟨hq1, hq2, hcase⟩ := tri_partners s X e0 h h0 hl hX1 hX2
  have hw := h.1
  have h1 := nx_lt hw.2.2 h0
  have h2 := nx_lt hw.2.2 h1
  rcases hcase with ⟨ho1, ho2⟩ | ⟨hc1, hc2⟩
  · -- both partners outside: they get correctly paired
    have Lp1 := (h.good hq1.2.1 hXp1).live (by rw [hq1.2.2]; omega)
    have Lp2 := (h.good hq2.2.1 hXp2).live (by rw [hq2.2.2]; omega)
    have g1 := h.good h1 hX1
    have g2 := h.good h2 hX2
    obtain ⟨_, _, _, _, _, a6, a7, a8⟩ := g1.live hl
    obtain ⟨_, _, _, _, _, _, b7, b8⟩ := g2.live (live_next g1 hl g2)
    rw [nx_nx_nx] at b8
    obtain ⟨s', heq, hinv⟩ := collapseTri_preserves s X e0 h h0 hq1 hq2 ho1 ho2
      ⟨Lp1.1, Lp1.2.1⟩ ⟨Lp2.1, Lp2.2.1⟩
      ⟨a8.symm.trans b7, a7.symm.trans (hdeg.symm.trans b8),
        fun e => a6 (a7.trans (e.symm.trans a8.symm))⟩
    refine ⟨s', heq, hinv.mono ?_⟩
    intro e _ hin hout
    exfalso; apply hout
    simp only [List.mem_append, List.mem_filter, decide_eq_true_eq, List.mem_cons,
      List.not_mem_nil, or_false] at hin ⊢
    rcases hin with ⟨hx, hd, _⟩ | hin
    · exact Or.inl ⟨hx, hd⟩
    · exact Or.inr hin
  · -- the two outer edges are paired with each other: everything dies
    obtain ⟨s', heq, _, _, hsz, _, hT, hinv⟩ := collapseTri_frame s X e0 h h0 hq1 hq2
    refine ⟨s', heq, hinv.mono ?_⟩
    intro e he hin hout
    have hD : e / 3 = e0 / 3 := by
      simp only [List.mem_append, List.mem_filter, decide_eq_true_eq, List.mem_cons,
        List.not_mem_nil, or_false, not_or] at hin hout
      rcases hin with hin | hin | hin | hin
      · exact absurd hin hout.1
      · exact absurd hin hout.2
      · rw [hin, hc1]; exact (nx_div _).trans (nx_div e0)
      · rw [hin, hc2]; exact nx_div e0
    exact good_dead (fun j => j / 3 = e0 / 3) hw (tri_closed e0) hT (hsz ▸ he) hD

/-- the octahedron with vertex 2 merged into its neighbour 3 (the two halfedges 1, 13 of the edge
2-3 are degenerate = the exception list): collapsing the triangle of halfedge 1 leaves only 13 -/
example : ∃ s', collapseTri octaDeg (triOf ((1 : Nat) : Int)) = .ok s' ∧
    PairInvExcept s' (([1, 13].filter fun e => e / 3 ≠ 1 / 3) ++ [octaDeg.Pn 1]) :=
  have ⟨h0, hl, hX1, hX2, hdeg, hXp1, hXp2⟩ := octaDeg_ok
  collapseTri_preserves_of_good octaDeg [1, 13] 1 octaDeg_inv h0 hl hX1 hX2 hdeg hXp1 hXp2

/-- non-vacuity of `collapseTri_frame` (pairing-only hypotheses): collapse the triangle of
halfedge 0 of the tetrahedron -/
example : ∃ s', collapseTri tetra (triOf ((0 : Nat) : Int)) = .ok s' ∧
    PairInvExcept s' (([].filter fun e => e / 3 ≠ 0 / 3) ++
      [tetra.Pn 0, tetra.Pn (nx 0), tetra.Pn (nx (nx 0))]) := by
  obtain ⟨s', h1, _, _, _, _, _, h2⟩ :=
    collapseTri_frame tetra [] 0 ((pairInv_iff _).1 tetra_inv) (by decide +kernel) (by decide +kernel)
      (by decide +kernel)
  exact ⟨s', h1, h2⟩
/-- non-vacuity of `collapseTri_preserves` / `collapseTri_preserves_of_good`: in `octaDeg`
(exception list = the two degenerate halfedges 1, 13) collapse the triangle of the degenerate
halfedge 1; only 13 (the old partner of 1) stays in the list -/
example : ∃ s', collapseTri octaDeg (triOf ((1 : Nat) : Int)) = .ok s' ∧
    PairInvExcept s' (([1, 13].filter fun e => e / 3 ≠ 1 / 3 ∧ e ≠ octaDeg.Pn (nx 1) ∧
      e ≠ octaDeg.Pn (nx (nx 1))) ++ [octaDeg.Pn 1]) :=
  collapseTri_preserves octaDeg [1, 13] 1 octaDeg_inv (by decide +kernel)
    (by decide +kernel) (by decide +kernel) (by decide +kernel) (by decide +kernel)
    (by decide +kernel) (by decide +kernel) (by decide +kernel)
example : ∃ s', collapseTri octaDeg (triOf ((1 : Nat) : Int)) = .ok s' ∧
    PairInvExcept s' (([1, 13].filter fun e => e / 3 ≠ 1 / 3) ++ [octaDeg.Pn 1]) :=
  have ⟨h0, hl, hX1, hX2, hdeg, hXp1, hXp2⟩ := octaDeg_ok
  collapseTri_preserves_of_good octaDeg [1, 13] 1 octaDeg_inv h0 hl hX1 hX2 hdeg hXp1 hXp2
/-- … and the case where the outer edges are paired with each other -/
example : ∃ s', collapseTri pillow (triOf ((0 : Nat) : Int)) = .ok s' ∧
    PairInvExcept s' (([0, 3].filter fun e => e / 3 ≠ 0 / 3) ++ [pillow.Pn 0]) :=
  collapseTri_preserves_of_good pillow [0, 3] 0 (by decide +kernel) (by decide +kernel)
    (by decide +kernel) (by decide +kernel) (by decide +kernel) (by decide +kernel)
    (by decide +kernel) (by decide +kernel)

/-! ## `RemoveIfFolded` (edge_op.cpp:811) -/

/-- For EVERY `PairInv` state and every halfedge: `RemoveIfFolded` performs no out-of-range
access and returns a `PairInv` state (dead halfedge or different apexes: unchanged; folded pair:
the four outer partners are re-paired two by two - or are inside the pair - and both triangles
become tombstones). -/
theorem removeIfFolded_preserves (s : HE) (e : Nat) (h : PairInv s) (he : e < s.start.size) :
    ∃ s', removeIfFolded s (e : Int) = .ok s' ∧ PairInv s' ∧ s'.nVert = s.nVert ∧
      s'.prop.size = s.prop.size :=
  MV.EdgeOp.removeIfFolded_preserves s e h he

/-- a fold whose four outer partners 3, 0, 5, 1 are OUTSIDE (doubled edges): they get paired
3-0 and 5-1 -/
example : PairInv foldEx ∧ removeIfFolded foldEx ((6 : Nat) : Int) = .ok
    { start := #[1,2,0, 2,1,0, -1,-1,-1, -1,-1,-1], paired := #[3,5,4, 0,2,1, -1,-1,-1, -1,-1,-1],
      prop := #[1,2,0, 2,1,0, -1,-1,-1, -1,-1,-1], nVert := 3, nPropVert := 3 } :=
  foldEx_ok

/-! ## `UpdateVert` (edge_op.cpp:755) -/

/-- If the walk `c ↦ Pair(Next(c))` from `startEdge = c0` reaches `endEdge` after `k ≤ size`
steps (first time) through in-range halfedges, `UpdateVert(vert, c0, endEdge)` terminates within
the fuel, never writes `paired`/`prop`, and rewrites exactly the cells `start[Next(c_i)]`, `i < k`. -/
theorem updateVert_spec (s : HE) (vert : Int) (c0 k : Nat) (endEdge : Int)
    (hw : WF s) (hk : k ≤ s.start.size)
    (hr : ∀ i, i ≤ k → s.walk c0 i < s.start.size)
    (hp : ∀ i, i < k → 0 ≤ s.P (nx (s.walk c0 i)))
    (hend : ((s.walk c0 k : Nat) : Int) = endEdge)
    (hmin : ∀ i, i < k → ((s.walk c0 i : Nat) : Int) ≠ endEdge) :
    ∃ s', updateVert s vert (c0 : Int) endEdge = .ok s' ∧ s'.paired = s.paired ∧ s'.prop = s.prop ∧
      s'.nVert = s.nVert ∧ s'.nPropVert = s.nPropVert ∧ s'.start.size = s.start.size ∧
      (∀ i, i < k → s'.S (nx (s.walk c0 i)) = vert) ∧
      (∀ j, (∀ i, i < k → j ≠ nx (s.walk c0 i)) → s'.S j = s.S j) :=
  updateVert_trail s vert (s.walk c0) k endEdge hw hk (Trail.of_walk hr hp hend hmin)

/-- THE FUEL BOUND for the walk `c ↦ Pair(Next(c))` over a FIXED pairing: in a `PairInv` state a
walk from a live halfedge that reaches its target for the first time after `k` steps visits `k+1`
distinct halfedges, so `k < size`, below the fuel `size + 1` the model gives its orbit loops.  It
covers the loops that leave `paired` alone while they walk (`UpdateVert` rewrites `start` only),
not a loop that re-pairs on the way. -/
theorem walk_simple (s : HE) (c0 k t : Nat) (h : PairInv s) (hc0 : c0 < s.start.size)
    (hl0 : s.P c0 ≠ -1) (hk : s.walk c0 k = t) (hmin : ∀ i, i < k → s.walk c0 i ≠ t) :
    (∀ i j, i < j → j ≤ k → s.walk c0 i ≠ s.walk c0 j) ∧ k < s.start.size :=
  MV.EdgeOp.walk_simple s c0 k t h hc0 hl0 hk hmin

example : PairInv tetraHE ∧ 2 < tetraHE.start.size ∧ tetraHE.P 2 ≠ -1 ∧ tetraHE.walk 2 2 = 5 ∧
    (∀ i, i < 2 → tetraHE.walk 2 i ≠ 5) := tetraHE_walk

/-! ## `FormLoop` (edge_op.cpp:774) -/

/-- `formLoop` is `formLoopCore` followed by `RemoveIfFolded(end)` -/
theorem formLoop_eq (s : HE) (c e : Int) :
    formLoop s c e = formLoopCore s c e >>= fun s' => removeIfFolded s' e := by
  unfold formLoop formLoopCore
  simp only [bind_assoc]

/-- `FormLoop(current, end)` on two DISTINCT live halfedges carrying the same directed edge
`u → v` (a doubled edge; `SwapEdge`, edge_op.cpp:326), when `Pair(end)` is on the fan of `u` walked from
`Pair(current)` and `current` is on the fan of `v` walked from `end` (without this the C++ loops
for ever: "infinite loop in decimator"): it terminates, creates the vertices `nVert`, `nVert+1`,
and the result - including the final `RemoveIfFolded` - satisfies `PairInv`. -/
theorem formLoop_preserves (s : HE) (cur en k m : Nat) (h : PairInv s)
    (hc : cur < s.start.size) (he : en < s.start.size) (hne : cur ≠ en)
    (hlc : s.P cur ≠ -1) (hle : s.P en ≠ -1)
    (hS : s.S cur = s.S en) (hE : s.S (nx cur) = s.S (nx en))
    (hfresh : ∀ e, e < s.start.size → s.S e < (s.nVert : Int))
    (hk : s.walk (s.Pn cur) k = s.Pn en) (hkmin : ∀ i, i < k → s.walk (s.Pn cur) i ≠ s.Pn en)
    (hm : s.walk en m = cur) (hmmin : ∀ i, i < m → s.walk en i ≠ cur) :
    ∃ s', formLoop s (cur : Int) (en : Int) = .ok s' ∧ PairInv s' ∧ s'.nVert = s.nVert + 2 ∧
      s'.prop.size = s.prop.size := by
  obtain ⟨s1, e1, i1, n1, z1, r1, _⟩ :=
    formLoopCore_preserves s cur en k m h hc he hne hlc hle hS hE hfresh hk hkmin hm hmmin
  obtain ⟨s2, e2, i2, n2, r2⟩ := removeIfFolded_preserves s1 en i1 (by rw [z1]; exact he)
  refine ⟨s2, ?_, i2, by rw [n2, n1], by rw [r2, r1]⟩
  rw [formLoop_eq, e1]; exact e2

/-- ... and before the final `RemoveIfFolded` the two new vertices carry exactly one fan each,
and each fan is ONE `ForVert` cycle of the new pairing ("two valid orbits"). -/
theorem formLoop_orbits (s : HE) (cur en k m : Nat) (h : PairInv s)
    (hc : cur < s.start.size) (he : en < s.start.size) (hne : cur ≠ en)
    (hlc : s.P cur ≠ -1) (hle : s.P en ≠ -1)
    (hS : s.S cur = s.S en) (hE : s.S (nx cur) = s.S (nx en))
    (hfresh : ∀ e, e < s.start.size → s.S e < (s.nVert : Int))
    (hk : s.walk (s.Pn cur) k = s.Pn en) (hkmin : ∀ i, i < k → s.walk (s.Pn cur) i ≠ s.Pn en)
    (hm : s.walk en m = cur) (hmmin : ∀ i, i < m → s.walk en i ≠ cur) :
    ∃ s', formLoopCore s (cur : Int) (en : Int) = .ok s' ∧ PairInv s' ∧
      (∀ e e', e < s'.start.size → e' < s'.start.size → s'.S e = (s.nVert : Int) →
        s'.S e' = (s.nVert : Int) → reaches s'.paired s'.start.size e e' = true) ∧
      (∀ e e', e < s'.start.size → e' < s'.start.size → s'.S e = (s.nVert : Int) + 1 →
        s'.S e' = (s.nVert : Int) + 1 → reaches s'.paired s'.start.size e e' = true) := by
  obtain ⟨s', e1, i1, _, z1, _, _, fA, fB, _, p1, p2, p3, p4, p0⟩ :=
    formLoopCore_preserves s cur en k m h hc he hne hlc hle hS hE hfresh hk hkmin hm hmmin
  obtain ⟨dO, _, _, _, _, _, _, _, _, _, _, _, x5⟩ := relabel_four h hc he hne hlc hle hS hE
  have LC := liveF h hc hlc
  have LE := liveF h he hle
  refine ⟨s', e1, i1, fun e e' he1 he2 a a' => ?_, fun e e' he1 he2 a a' => ?_⟩ <;> rw [z1] at he1 he2 ⊢
  · refine fan_closes h dO LC.ppl hk hkmin (walk_pos hk x5) s'.paired
      (fun x n1 n2 n3 n4 => p0 x (LC.pn ▸ n3) n2 (LE.pn ▸ n4) n1) ?_ ((fA e he1).1 a) ((fA e' he2).1 a')
    rw [LE.pn]; exact p3
  · exact fan_closes h he hle hm hmmin (walk_pos hm hne.symm) s'.paired
      (fun x n1 n2 n3 n4 => p0 x n2 n3 n1 n4) p4 ((fB e he1).1 a) ((fB e' he2).1 a')

/-- two tetrahedra sharing the edge 0-1 BY INDEX with the pairing crossing the sheets
(halfedges 0 and 12 are both 0→1): `FormLoop 0 12` separates them -/
example : ∃ s', formLoop twoTetraCross ((0 : Nat) : Int) ((12 : Nat) : Int) = .ok s' ∧ PairInv s' ∧
    s'.nVert = 8 := by
  obtain ⟨h, hc, he, hne, hlc, hle, hS, hE, hfresh, hk, hkmin, hm, hmmin⟩ := twoTetraCross_ok
  obtain ⟨s', a, b, c, _⟩ :=
    formLoop_preserves twoTetraCross 0 12 3 3 h hc he hne hlc hle hS hE hfresh hk hkmin hm hmmin
  exact ⟨s', a, b, c⟩

/-! ## `CollapseEdge` / `CollapseEdge2` (edge_op.cpp:846, 988) -/

/--
FULL STATEMENT (NOT proved):

  for every state `s` with `PairInv s`, `VertOrbitOk s.start s.paired` and `NoDupEdge s.start s.paired`
  (a 2-manifold without pinched vertices: what `CleanupTopology` establishes before the collapse
  passes run), every live halfedge `edge`, every `edges0 = #[]`, `hasProp` and every outcome
  `allowed` of the geometric guards:
  `∃ s' r, collapseEdge s edge #[] allowed hasProp = .ok (s', r) ∧ r = allowed ∧ PairInv s'`
  (no out-of-range access, every loop closes within the fuel, and the result passes
  `CheckHalfedges`), and `¬ allowed → s' = s`.

What is missing for it: the branch of the "Orbit startVert" loop that calls `FormLoop` when the two
fans share an outer vertex (edge_op.cpp:965-972).  There `FormLoop` runs on the label-inconsistent
intermediate state after the first `CollapseTri` (the fan of `startVert` is already spliced into the
fan of `endVert` but not yet relabelled), so `formLoop_preserves` (stated for label-consistent
states) does not apply directly; an invariant for that intermediate state is not written.  That
branch is covered by the op-level replay (thousands of `formloop` cases inside `collapseedge`
per run, each exit state through `checkPairInv`).

PROVED (the straight-line case, no `FormLoop`): if the link condition holds - the fan of
`startVert` walked from `Pair(tri1edge[1])` to `tri0edge[2]` and the fan of `endVert` walked from
`Pair(tri0edge[1])` to `tri1edge[2]` have no common outer vertex, and there is no second edge
`startVert`-`endVert` - then `CollapseEdge` (all guards passed) performs no out-of-range access,
closes every loop within the fuel, returns `true`, creates no vertex, and the result satisfies
`PairInv`, for either value of `hasProp` (the re-indexing of `propVert_` runs).  Vertices of
valence 2 (`k = 0` or `m = 0`) and the final `RemoveIfFolded` are included; `NoDupEdge` /
`VertOrbitOk` are not needed as hypotheses (the walk hypotheses say what is used of them). -/
theorem collapseEdge_preserves_partial (s : HE) (edge k m : Nat) (hasProp : Bool)
    (h : PairInv s) (he : edge < s.start.size) (hl : s.P edge ≠ -1)
    (hk : s.walk (s.Pn (nx (s.Pn edge))) k = nx (nx edge))
    (hkmin : ∀ i, i < k → s.walk (s.Pn (nx (s.Pn edge))) i ≠ nx (nx edge))
    (hm : s.walk (s.Pn (nx edge)) m = nx (nx (s.Pn edge)))
    (hmmin : ∀ j, j < m → s.walk (s.Pn (nx edge)) j ≠ nx (nx (s.Pn edge)))
    (hlink : ∀ i, i < k → ∀ j, j < m →
      s.S (nx (nx (s.walk (s.Pn (nx (s.Pn edge))) i))) ≠ s.S (nx (nx (s.walk (s.Pn (nx edge)) j))))
    (hdup : ∀ i, i < k → s.S (nx (nx (s.walk (s.Pn (nx (s.Pn edge))) i))) ≠ s.S (nx edge)) :
    ∃ s', collapseEdge s (edge : Int) #[] true hasProp = .ok (s', true) ∧ PairInv s' ∧
      s'.nVert = s.nVert :=
  MV.EdgeOp.collapseEdge_straight hasProp ⟨h, he, hl, hk, hkmin, hm, hmmin, hlink, hdup⟩

/-- `CollapseEdge2` runs the same statements (its geometric part differs) -/
theorem collapseEdge2_preserves_partial (s : HE) (edge k m : Nat) (hasProp : Bool)
    (h : PairInv s) (he : edge < s.start.size) (hl : s.P edge ≠ -1)
    (hk : s.walk (s.Pn (nx (s.Pn edge))) k = nx (nx edge))
    (hkmin : ∀ i, i < k → s.walk (s.Pn (nx (s.Pn edge))) i ≠ nx (nx edge))
    (hm : s.walk (s.Pn (nx edge)) m = nx (nx (s.Pn edge)))
    (hmmin : ∀ j, j < m → s.walk (s.Pn (nx edge)) j ≠ nx (nx (s.Pn edge)))
    (hlink : ∀ i, i < k → ∀ j, j < m →
      s.S (nx (nx (s.walk (s.Pn (nx (s.Pn edge))) i))) ≠ s.S (nx (nx (s.walk (s.Pn (nx edge)) j))))
    (hdup : ∀ i, i < k → s.S (nx (nx (s.walk (s.Pn (nx (s.Pn edge))) i))) ≠ s.S (nx edge)) :
    ∃ s', collapseEdge2 s (edge : Int) true hasProp = .ok (s', true) ∧ PairInv s' ∧
      s'.nVert = s.nVert :=
  MV.EdgeOp.collapseEdge_straight hasProp ⟨h, he, hl, hk, hkmin, hm, hmmin, hlink, hdup⟩

/-- a guard that refuses leaves the state untouched -/
theorem collapseEdge_refused (s : HE) (edge : Nat) (edges0 : Array Int) (hasProp : Bool)
    (h : PairInv s) (he : edge < s.start.size) (hl : s.P edge ≠ -1) :
    collapseEdge s (edge : Int) edges0 false hasProp = .ok (s, false) := by
  have hg := PairInv.good h he
  obtain ⟨_, _, h0, hlt, _⟩ := hg.live hl
  have hw := h.1
  have hsz : edge < s.paired.size := hw.1 ▸ he
  have hn1 : nx edge < s.start.size := nx_lt hw.2.2 he
  have hp1 : nx (s.Pn edge) < s.start.size := nx_lt hw.2.2 hlt
  simp only [collapseEdge, triOf_cast, getPair_ok, getStart_ok, ok_bind, P_eq_Pn h0, cast_lt_zero,
    if_false, hsz, he, hn1, hw.1 ▸ hp1]
  rfl

/-- an octahedron, equator edge 0→1 (`k = m = 2`): the common neighbours of its ends are exactly
the two apexes -/
example : ∃ s', collapseEdge octaCE ((0 : Nat) : Int) #[] true true = .ok (s', true) ∧ PairInv s' ∧
    s'.nVert = octaCE.nVert :=
  have C := octaCE_cfg
  collapseEdge_preserves_partial octaCE 0 2 2 true C.h C.he C.hl C.hk C.hkmin C.hm C.hmmin C.hlink C.hdup
/-- a vertex of valence 2 (`k = 0`) -/
example : ∃ s', collapseEdge val2CE ((0 : Nat) : Int) #[] true true = .ok (s', true) ∧ PairInv s' ∧
    s'.nVert = val2CE.nVert :=
  have C := val2CE_cfg
  collapseEdge_preserves_partial val2CE 0 0 2 true C.h C.he C.hl C.hk C.hkmin C.hm C.hmmin C.hlink C.hdup
/-- a refused collapse on the same octahedron -/
example : collapseEdge octaCE ((0 : Nat) : Int) #[] false true = .ok (octaCE, false) :=
  have C := octaCE_cfg
  collapseEdge_refused octaCE 0 #[] true C.h C.he C.hl

end MV.C01b
