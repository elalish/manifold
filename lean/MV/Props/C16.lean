import MV.Model.Minkowski
import MV.Model.HullCheck
import MV.Proof.Minkowski
import MV.Proof.HullCheck
import MV.Gen.Minkowski
import Mathlib.Analysis.Convex.Segment
import Mathlib.Topology.Order.DenselyOrdered
/-!
# Property C16 — Hull is the convex hull; Minkowski sum / difference are dilation and erosion

Anchors: /repo/src/minkowski.cpp (whole function `Manifold::Impl::Minkowski`),
/repo/src/manifold.cpp:1051-1076 (`MinkowskiSum`, `MinkowskiDifference`), 1107-1152 (`Hull`),
/repo/src/properties.cpp:279-301 (`IsConvex`), /repo/src/quickhull.cpp (only through its output).

## Minkowski
`MV.Minkowski.dispatch` (MV/Model/Minkowski.lean) is the control flow of `Minkowski()`; it is compared
row by row, for all 128 flag values, with the table the translator extracts from the source on every run
(`dispatch_matches_source`).  `planDen` says which point set a plan builds, in terms of the two solids
`A`, `B` (closed sets whose frontier is the union of their mesh triangles), exactly as the C++ composes
it from `Hull` of vertex sums and `BatchBoolean`.  Then

* `dispatch_sum_covers`   every case of `MinkowskiSum` builds `A + B`       (`inset = false`, both operands non-empty)
* `dispatch_diff_covers`  every case of `MinkowskiDifference` builds `A \ (∂A + B)`, which is the erosion
                          `{p | ∀ b ∈ B, p - b ∈ interior A}`          (`inset = true`, both operands non-empty)
* `sum_contains_sums`, `sum_contains_A`, `sum_no_farther_than_reach`, `diff_inside_A`, `diff_sub_inside_A`
                          the clauses of the property text, as corollaries
* `erosion_is_dual`       `A ⊖ B = (Aᶜ ⊕ B)ᶜ` in the code's sign convention (`p - b`)
* `pinned_nonconvex_branch_not_an_instance`  the formula of the pinned tree's non-convex × non-convex
                          branch, `A ∪ (∂A + ∂B)`, is NOT an identity (counter-example on the line), and the
                          pinned swap made `MinkowskiDifference(convex, non-convex)` erode the wrong operand;
                          both are repaired by /repo commit 615fed8a.

NOT carried (stated, not proved): that `IsConvex() = true` implies the solid is the hull of its vertices,
that the frontier of the solid is the union of its triangles, that `Hull` / `BatchBoolean` return the
hull / the union (MV/Props/C16b.lean, resp. C02), and all rounding.  These are the hypotheses of the
theorems; the harness checks the composed result against an independent reference on every run.

## Hull
`MV.Hull.checkHull` is an exact certificate checker run on the REAL output of `Hull()`; its theorems are in
MV/Props/C16b.lean:
* `hullCheck_sound`   acceptance ⇒ closed oriented 2-manifold, vertices ⊆ input (zero-area faces are legal
                      and carry no half-space), and in `ℝ³` the intersection of the face half-spaces is convex and contains the convex
                      hull of the input, each face plane touching it in its three (input) corners.
* `hullCheck_partial` is the name under which the gap is recorded: that the solid BOUNDED by such a
                      mesh equals that intersection (local convexity ⇒ global convexity for closed
                      surfaces) is classical and not formalised.
* `affineRank_exact`  the checker's decision "the input spans a volume" is exact.
-/

open Set Pointwise
set_option linter.unusedSectionVars false

namespace MV.C16
open MV.Minkowski

/-! ## the table -/

/-- **The model's decision table is the one in the source.**  `MV.Gen.Minkowski.table` is regenerated
from `src/minkowski.cpp` on every run; it lists all 128 flag assignments, and `dispatch` agrees with
every row. -/
theorem dispatch_matches_source :
    MV.Gen.Minkowski.table.map Prod.fst = allBits 7 ∧
    ∀ row ∈ MV.Gen.Minkowski.table,
      (Flags.ofBits row.1).map (fun f => (dispatch f).code) = some row.2 := by
  decide +kernel

/-- non-vacuity: a row of the table — sum of a convex first and a non-convex second operand with the
origin outside the first: swapped, base translated to a point of the convex operand, per-face hulls -/
example : (dispatch ⟨false, true, false, false, false, false, true⟩).code = [1, 0, 2, 2, 0] := by decide +kernel

/-! ## solids and what a plan denotes -/

variable {E : Type*} [NormedAddCommGroup E] [NormedSpace ℝ E]

/-- a triangle: its three corners -/
abbrev Tri3 (E : Type*) := E × E × E

def corners (f : Tri3 E) : Set E := {f.1, f.2.1, f.2.2}
/-- the (filled) triangle -/
def face (f : Tri3 E) : Set E := convexHull ℝ (corners f)
/-- the surface made of a list of triangles -/
def surf (F : List (Tri3 E)) : Set E := ⋃ f ∈ F, face f
/-- all corners -/
def vertsOf (F : List (Tri3 E)) : Set E := ⋃ f ∈ F, corners f

theorem corners_subset_face (f : Tri3 E) : corners f ⊆ face f := subset_convexHull ℝ _
theorem vertsOf_subset_surf (F : List (Tri3 E)) : vertsOf F ⊆ surf F :=
  Set.iUnion₂_mono fun f _ => corners_subset_face f

/-- a solid given by its point set and the triangles of its boundary mesh -/
structure Solid (E : Type*) [NormedAddCommGroup E] [NormedSpace ℝ E] where
  S : Set E
  F : List (Tri3 E)
  closed : IsClosed S
  frontier_eq : frontier S = surf F

/-- per-triangle hulls of (corners + vertex set) are the triangles swept by the hull of the set -/
theorem perFace_eq (F : List (Tri3 E)) (V : Set E) :
    (⋃ f ∈ F, convexHull ℝ (corners f + V)) = surf F + convexHull ℝ V := by
  simp only [surf, face, Set.iUnion₂_add, convexHull_add]

theorem facePairs_eq (F G : List (Tri3 E)) :
    (⋃ f ∈ F, ⋃ g ∈ G, convexHull ℝ (corners f + corners g)) = surf F + surf G := by
  ext x
  simp only [surf, face, convexHull_add, Set.mem_iUnion, Set.mem_add]
  constructor
  · rintro ⟨f, hf, g, hg, a, ha, b, hb, rfl⟩; exact ⟨a, ⟨f, hf, ha⟩, b, ⟨g, hg, hb⟩, rfl⟩
  · rintro ⟨a, ⟨f, hf, ha⟩, b, ⟨g, hg, hb⟩, rfl⟩; exact ⟨f, hf, g, hg, a, ha, b, hb, rfl⟩

theorem copies_eq (V B : Set E) : (⋃ v ∈ V, v +ᵥ B) = V + B := by
  ext x
  simp only [Set.mem_iUnion, Set.mem_vadd_set, Set.mem_add, vadd_eq_add, exists_prop]

/-- sweep of a closed `B` over a triangulated surface: copies of `B` at ALL corners plus the
sweep of the surface of `B` -/
theorem sweep_surf (F : List (Tri3 E)) {B : Set E} (hB : IsClosed B) :
    surf F + B = (vertsOf F + B) ∪ (surf F + frontier B) := by
  apply Set.Subset.antisymm
  · have h := sweep_faces (F := fun f : {f // f ∈ F} => face f.1) (v := fun f => f.1.1) hB
      (fun f => convex_convexHull ℝ _) (fun f => corners_subset_face f.1 (by simp [corners]))
    have hs : surf F = ⋃ f : {f // f ∈ F}, face f.1 :=
      (Set.iUnion_subtype (fun f => f ∈ F) (fun f => face f.1)).symm
    rw [hs, h]
    apply Set.union_subset_union _ (le_refl _)
    intro x hx
    simp only [Set.mem_iUnion] at hx
    obtain ⟨f, b, hb, rfl⟩ := hx
    exact ⟨f.1.1, Set.mem_iUnion₂.mpr ⟨f.1, f.2, by simp [corners]⟩, b, hb, rfl⟩
  · apply Set.union_subset
    · exact Set.add_subset_add_right (vertsOf_subset_surf F)
    · exact Set.add_subset_add_left hB.frontier_subset


/-! ### what a plan denotes -/

/-- the point set a `Pieces` value stands for; `A`, `B` are the operands AFTER the swap -/
def piecesDen (A B : Solid E) : Pieces → Set E
  | .none => ∅
  | .hullAll => convexHull ℝ (vertsOf A.F + vertsOf B.F)
  | .perFace => ⋃ f ∈ A.F, convexHull ℝ (corners f + vertsOf B.F)
  | .facePairs cb ca =>
      (⋃ f ∈ A.F, ⋃ g ∈ B.F, convexHull ℝ (corners f + corners g)) ∪
      (if cb then ⋃ v ∈ vertsOf A.F, v +ᵥ B.S else ∅) ∪
      (if ca then ⋃ w ∈ vertsOf B.F, w +ᵥ A.S else ∅)

def baseDen (A : Solid E) (c : E) : Base → Set E
  | .none => ∅
  | .a => A.S
  | .aAtPointOfB => c +ᵥ A.S

/-- the point set the plan builds from the caller's operands `A`, `B`; `c` is the vertex mean of
the second operand (after the swap) -/
def planDen (p : Plan) (A B : Solid E) (c : E) : Set E :=
  let A' := if p.swapped then B else A
  let B' := if p.swapped then A else B
  match p.early with
  | .copyFirst => A'.S
  | .copySecond => B'.S
  | .none =>
    if p.subtract then baseDen A' c p.base \ piecesDen A' B' p.pieces
    else baseDen A' c p.base ∪ piecesDen A' B' p.pieces

theorem sum_hullAll (A B : Solid E) (hA : A.S = convexHull ℝ (vertsOf A.F))
    (hB : B.S = convexHull ℝ (vertsOf B.F)) :
    convexHull ℝ (vertsOf A.F + vertsOf B.F) = A.S + B.S := by
  rw [convexHull_add, ← hA, ← hB]

theorem sum_perFace (A B : Solid E) (hB : B.S = convexHull ℝ (vertsOf B.F)) {c : E} (hc : c ∈ B.S) :
    (c +ᵥ A.S) ∪ (⋃ f ∈ A.F, convexHull ℝ (corners f + vertsOf B.F)) = A.S + B.S := by
  have hconv : Convex ℝ B.S := by rw [hB]; exact convex_convexHull ℝ _
  rw [perFace_eq, ← hB, ← A.frontier_eq]
  exact (minkowski_decomp_at A.closed hconv hc).symm

theorem sum_facePairs (A B : Solid E) (hBc : IsPreconnected B.S) (hBf : (frontier B.S).Nonempty) :
    (⋃ f ∈ A.F, ⋃ g ∈ B.F, convexHull ℝ (corners f + corners g)) ∪
      (⋃ v ∈ vertsOf A.F, v +ᵥ B.S) ∪ (⋃ w ∈ vertsOf B.F, w +ᵥ A.S) = A.S + B.S := by
  rw [facePairs_eq, copies_eq, copies_eq, minkowski_general A.closed B.closed hBc hBf]
  have h1 : frontier A.S + B.S = (vertsOf A.F + B.S) ∪ (surf A.F + surf B.F) := by
    rw [A.frontier_eq, sweep_surf A.F B.closed, B.frontier_eq]
  have h2 : A.S + frontier B.S = (vertsOf B.F + A.S) ∪ (surf A.F + surf B.F) := by
    rw [add_comm, B.frontier_eq, sweep_surf B.F A.closed, A.frontier_eq, add_comm (surf B.F)]
  rw [h1, h2, ← Set.union_union_distrib_right, Set.union_assoc, Set.union_comm]

theorem diff_pieces_perFace (A B : Solid E) (hB : B.S = convexHull ℝ (vertsOf B.F)) :
    (⋃ f ∈ A.F, convexHull ℝ (corners f + vertsOf B.F)) = frontier A.S + B.S := by
  rw [perFace_eq, ← hB, ← A.frontier_eq]

theorem diff_pieces_facePairs (A B : Solid E) :
    (⋃ f ∈ A.F, ⋃ g ∈ B.F, convexHull ℝ (corners f + corners g)) ∪ (⋃ v ∈ vertsOf A.F, v +ᵥ B.S) =
      frontier A.S + B.S := by
  rw [facePairs_eq, copies_eq, A.frontier_eq, sweep_surf A.F B.closed, B.frontier_eq, Set.union_comm]


/-- **Every sum case is an instance of a decomposition theorem.**  For non-empty operands, whatever
`IsConvex()` said about either of them and whether or not the origin passes the face-plane test,
the point set built by the plan `dispatch` selects is exactly `A + B`.
Hypotheses tie the flags to the geometry: `IsConvex() = true` means the solid is the convex hull of
its vertices; the origin test being true means the origin is in the solid; `c` (the vertex mean of
the convex second operand) is a point of it; a non-convex second operand is connected. -/
theorem dispatch_sum_covers (f : Flags) (A B : Solid E) (c : E)
    (hi : f.inset = false) (hae : f.aEmpty = false) (hbe : f.bEmpty = false)
    (hac : f.aConvex = true → A.S = convexHull ℝ (vertsOf A.F))
    (hbc : f.bConvex = true → B.S = convexHull ℝ (vertsOf B.F))
    (hoa : f.originInA = true → (0 : E) ∈ A.S) (hob : f.originInB = true → (0 : E) ∈ B.S)
    (hbn : f.bConvex = false → IsPreconnected B.S ∧ (frontier B.S).Nonempty)
    (hc : c ∈ (if (dispatch f).swapped then A.S else B.S)) :
    planDen (dispatch f) A B c = A.S + B.S := by
  obtain ⟨inset, aC, bC, aE, bE, oA, oB⟩ := f
  simp only at hi hae hbe hac hbc hoa hob hbn
  subst hi hae hbe
  -- sweep of a convex `Q` over the surface of `P`, base placed at `c` or, if the origin test passed, at 0
  have perFace : ∀ (P Q : Solid E) (o : Bool), Q.S = convexHull ℝ (vertsOf Q.F) → (o = true → (0 : E) ∈ Q.S) →
      (o = false → c ∈ Q.S) →
      baseDen P c (if o then .a else .aAtPointOfB) ∪ piecesDen P Q .perFace = P.S + Q.S := by
    intro P Q o hQ h0 hc
    cases o
    · exact sum_perFace P Q hQ (hc rfl)
    · have := sum_perFace P Q hQ (h0 rfl)
      rwa [zero_vadd] at this
  cases aC <;> cases bC
  · -- neither convex: face pairs + copies of both
    obtain ⟨h1, h2⟩ := hbn rfl
    have hp : dispatch ⟨false, false, false, false, false, oA, oB⟩ =
        ⟨false, .none, .none, .facePairs true true, false⟩ := by cases oA <;> cases oB <;> rfl
    rw [hp]
    show (∅ : Set E) ∪ piecesDen A B (.facePairs true true) = A.S + B.S
    rw [Set.empty_union]
    exact sum_facePairs A B h1 h2
  · -- A not convex, B convex: per-face hulls
    have hp : dispatch ⟨false, false, true, false, false, oA, oB⟩ =
        ⟨false, .none, if oB then .a else .aAtPointOfB, .perFace, false⟩ := by
      cases oA <;> cases oB <;> rfl
    rw [hp] at hc ⊢
    exact perFace A B oB (hbc rfl) hob (fun _ => hc)
  · -- A convex, B not: swapped, then per-face hulls over B's triangles
    have hp : dispatch ⟨false, true, false, false, false, oA, oB⟩ =
        ⟨true, .none, if oA then .a else .aAtPointOfB, .perFace, false⟩ := by
      cases oA <;> cases oB <;> rfl
    rw [hp] at hc ⊢
    rw [add_comm]
    exact perFace B A oA (hac rfl) hoa (fun _ => hc)
  · -- both convex: one hull, plus a base that it already contains
    have hp : dispatch ⟨false, true, true, false, false, oA, oB⟩ =
        ⟨false, .none, if oB then .a else .aAtPointOfB, .hullAll, false⟩ := by
      cases oA <;> cases oB <;> rfl
    rw [hp] at hc ⊢
    show baseDen A c (if oB then .a else .aAtPointOfB) ∪ convexHull ℝ (vertsOf A.F + vertsOf B.F) = A.S + B.S
    rw [sum_hullAll A B (hac rfl) (hbc rfl)]
    apply Set.union_eq_self_of_subset_left
    cases oB
    · rintro x ⟨a, ha, rfl⟩
      exact ⟨a, ha, c, hc, by simp only [vadd_eq_add]; abel⟩
    · exact sum_contains_left (hob rfl)

/-- **Every difference case is an instance of the erosion theorem.**  For non-empty operands, `B`
connected and containing the origin, the plan builds `A` minus the sweep of `B` over the surface
of `A`, which is the erosion of the interior of `A`: no swap, whatever `IsConvex()` said. -/
theorem dispatch_diff_covers (f : Flags) (A B : Solid E) (c : E)
    (hi : f.inset = true) (hae : f.aEmpty = false) (hbe : f.bEmpty = false)
    (hbc : f.bConvex = true → B.S = convexHull ℝ (vertsOf B.F))
    (hBc : IsPreconnected B.S) (h0 : (0 : E) ∈ B.S) :
    planDen (dispatch f) A B c = erosion (interior A.S) B.S := by
  obtain ⟨inset, aC, bC, aE, bE, oA, oB⟩ := f
  simp only at hi hae hbe hbc
  subst hi hae hbe
  rw [← diff_eq_erosion_interior hBc h0]
  cases bC
  · have hp : dispatch ⟨true, aC, false, false, false, oA, oB⟩ =
        ⟨false, .none, .a, .facePairs true false, true⟩ := by
      cases aC <;> cases oA <;> cases oB <;> rfl
    rw [hp]
    simp only [planDen, baseDen, piecesDen, Bool.false_eq_true, if_false, if_true, Set.union_empty]
    rw [diff_pieces_facePairs A B]
  · have hp : dispatch ⟨true, aC, true, false, false, oA, oB⟩ =
        ⟨false, .none, .a, .perFace, true⟩ := by
      cases aC <;> cases oA <;> cases oB <;> rfl
    rw [hp]
    simp only [planDen, baseDen, piecesDen, Bool.false_eq_true, if_false, if_true]
    rw [diff_pieces_perFace A B (hbc rfl)]

/-! ## the clauses of the property text -/

/-- `MinkowskiSum(A, B)` contains `a + b` for every `a ∈ A`, `b ∈ B` -/
theorem sum_contains_sums (f : Flags) (A B : Solid E) (c : E)
    (hi : f.inset = false) (hae : f.aEmpty = false) (hbe : f.bEmpty = false)
    (hac : f.aConvex = true → A.S = convexHull ℝ (vertsOf A.F))
    (hbc : f.bConvex = true → B.S = convexHull ℝ (vertsOf B.F))
    (hoa : f.originInA = true → (0 : E) ∈ A.S) (hob : f.originInB = true → (0 : E) ∈ B.S)
    (hbn : f.bConvex = false → IsPreconnected B.S ∧ (frontier B.S).Nonempty)
    (hc : c ∈ (if (dispatch f).swapped then A.S else B.S))
    {a b : E} (ha : a ∈ A.S) (hb : b ∈ B.S) : a + b ∈ planDen (dispatch f) A B c := by
  rw [dispatch_sum_covers f A B c hi hae hbe hac hbc hoa hob hbn hc]
  exact sum_contains ha hb

/-- … hence `A` itself, when the structuring solid contains the origin -/
theorem sum_contains_A (f : Flags) (A B : Solid E) (c : E)
    (hi : f.inset = false) (hae : f.aEmpty = false) (hbe : f.bEmpty = false)
    (hac : f.aConvex = true → A.S = convexHull ℝ (vertsOf A.F))
    (hbc : f.bConvex = true → B.S = convexHull ℝ (vertsOf B.F))
    (hoa : f.originInA = true → (0 : E) ∈ A.S) (hob : f.originInB = true → (0 : E) ∈ B.S)
    (hbn : f.bConvex = false → IsPreconnected B.S ∧ (frontier B.S).Nonempty)
    (hc : c ∈ (if (dispatch f).swapped then A.S else B.S)) (h0 : (0 : E) ∈ B.S) :
    A.S ⊆ planDen (dispatch f) A B c := by
  rw [dispatch_sum_covers f A B c hi hae hbe hac hbc hoa hob hbn hc]
  exact sum_contains_left h0

/-- … and contains no point farther from `A` than the reach `r` of `B`, whichever operand is convex -/
theorem sum_no_farther_than_reach (f : Flags) (A B : Solid E) (c : E)
    (hi : f.inset = false) (hae : f.aEmpty = false) (hbe : f.bEmpty = false)
    (hac : f.aConvex = true → A.S = convexHull ℝ (vertsOf A.F))
    (hbc : f.bConvex = true → B.S = convexHull ℝ (vertsOf B.F))
    (hoa : f.originInA = true → (0 : E) ∈ A.S) (hob : f.originInB = true → (0 : E) ∈ B.S)
    (hbn : f.bConvex = false → IsPreconnected B.S ∧ (frontier B.S).Nonempty)
    (hc : c ∈ (if (dispatch f).swapped then A.S else B.S))
    {r : ℝ} (hr : ∀ b ∈ B.S, ‖b‖ ≤ r) {x : E} (hx : x ∈ planDen (dispatch f) A B c) :
    Metric.infDist x A.S ≤ r := by
  rw [dispatch_sum_covers f A B c hi hae hbe hac hbc hoa hob hbn hc] at hx
  exact sum_within_reach hr hx

/-- `MinkowskiDifference(A, B)` lies inside `A` -/
theorem diff_inside_A (f : Flags) (A B : Solid E) (c : E)
    (hi : f.inset = true) (hae : f.aEmpty = false) (hbe : f.bEmpty = false)
    (hbc : f.bConvex = true → B.S = convexHull ℝ (vertsOf B.F))
    (hBc : IsPreconnected B.S) (h0 : (0 : E) ∈ B.S) :
    planDen (dispatch f) A B c ⊆ A.S := by
  rw [dispatch_diff_covers f A B c hi hae hbe hbc hBc h0]
  exact (erosion_subset h0).trans interior_subset

/-- … and every point `p` of it has `p - b` inside `A` for every `b ∈ B` -/
theorem diff_sub_inside_A (f : Flags) (A B : Solid E) (c : E)
    (hi : f.inset = true) (hae : f.aEmpty = false) (hbe : f.bEmpty = false)
    (hbc : f.bConvex = true → B.S = convexHull ℝ (vertsOf B.F))
    (hBc : IsPreconnected B.S) (h0 : (0 : E) ∈ B.S)
    {p : E} (hp : p ∈ planDen (dispatch f) A B c) {b : E} (hb : b ∈ B.S) : p - b ∈ A.S := by
  rw [dispatch_diff_covers f A B c hi hae hbe hbc hBc h0] at hp
  exact interior_subset (hp b hb)

/-- erosion is the dual of dilation, in the sign convention the code implements -/
theorem erosion_is_dual (A B : Set E) : erosion A B = (Aᶜ + B)ᶜ := erosion_dual A B

/-- **The pinned tree was not an instance.**  (1) The formula of its non-convex × non-convex branch
(`base = a`, face pairs only: `A ∪ (∂A + ∂B)`) is not an identity; (2) its swap
(`aConvex && !bConvex`, also for the difference) made `MinkowskiDifference(convex A, non-convex B)`
erode `B` by `A`.  The model `dispatch` (of the repaired source) does neither. -/
theorem pinned_nonconvex_branch_not_an_instance :
    (∃ A B : Set ℝ, IsClosed A ∧ IsClosed B ∧ Convex ℝ B ∧ (0 : ℝ) ∈ B ∧
      A + B ≠ A ∪ (frontier A + frontier B)) ∧
    (∀ f : Flags, f.inset = true → (dispatch f).swapped = false) ∧
    (∀ f : Flags, f.aEmpty = false → f.bEmpty = false → f.bConvex = false →
      (f.inset = true → (dispatch f).pieces = .facePairs true false) ∧
      (f.inset = false → f.aConvex = false → (dispatch f).pieces = .facePairs true true)) := by
  refine ⟨facepair_formula_fails, ?_, ?_⟩
  · rintro ⟨i, ac, bc, ae, be, oa, ob⟩ h
    simp only at h; subst h
    cases ac <;> cases bc <;> cases ae <;> cases be <;> cases oa <;> cases ob <;> rfl
  · rintro ⟨i, ac, bc, ae, be, oa, ob⟩ h1 h2 h3
    simp only at h1 h2 h3; subst h1 h2 h3
    constructor
    · intro h; simp only at h; subst h
      cases ac <;> cases oa <;> cases ob <;> rfl
    · intro h h'; simp only at h h'; subst h h'
      cases oa <;> cases ob <;> rfl

/-! ### non-vacuity: concrete solids on the real line -/

/-- the segment `[lo, hi]` with its two end points as (degenerate) boundary triangles -/
noncomputable def seg (lo hi : ℝ) (h : lo ≤ hi) : Solid ℝ where
  S := Set.Icc lo hi
  F := [(lo, lo, lo), (hi, hi, hi)]
  closed := isClosed_Icc
  frontier_eq := by
    rw [frontier_Icc h]
    ext x
    simp only [surf, face, corners, Set.mem_insert_iff, Set.mem_singleton_iff, List.mem_cons,
      List.not_mem_nil, or_false, Set.iUnion_iUnion_eq_or_left, Set.iUnion_iUnion_eq_left,
      Set.insert_eq_of_mem, convexHull_singleton, Set.mem_union]

theorem seg_convex (lo hi : ℝ) (h : lo ≤ hi) :
    (seg lo hi h).S = convexHull ℝ (vertsOf (seg lo hi h).F) := by
  have : vertsOf (seg lo hi h).F = {lo, hi} := by
    ext x
    simp only [vertsOf, corners, seg, Set.mem_insert_iff, Set.mem_singleton_iff, List.mem_cons,
      List.not_mem_nil, or_false, Set.iUnion_iUnion_eq_or_left, Set.iUnion_iUnion_eq_left,
      Set.insert_eq_of_mem, Set.mem_union]
  rw [this, convexHull_pair, segment_eq_Icc h]
  rfl

/-- `dispatch_sum_covers` applies: `[0,1] ⊕ [-1,1]`, both convex, origin in both -/
example : planDen (dispatch ⟨false, true, true, false, false, true, true⟩)
    (seg 0 1 (by norm_num)) (seg (-1) 1 (by norm_num)) 0 =
    (seg 0 1 (by norm_num)).S + (seg (-1) 1 (by norm_num)).S :=
  dispatch_sum_covers _ _ _ _ rfl rfl rfl (fun _ => seg_convex _ _ _) (fun _ => seg_convex _ _ _)
    (fun _ => ⟨by norm_num, by norm_num⟩) (fun _ => ⟨by norm_num, by norm_num⟩)
    (fun h => by simp at h) (by simp [dispatch, seg])

/-- `dispatch_sum_covers` applies in the repaired case: convex `[5,6]` (origin outside) first,
`[-1,1]` declared non-convex second — swapped, base moved to the point `c = 11/2` of `[5,6]` -/
example : planDen (dispatch ⟨false, true, false, false, false, false, true⟩)
    (seg 5 6 (by norm_num)) (seg (-1) 1 (by norm_num)) (11 / 2) =
    (seg 5 6 (by norm_num)).S + (seg (-1) 1 (by norm_num)).S :=
  dispatch_sum_covers _ _ _ _ rfl rfl rfl (fun _ => seg_convex _ _ _) (fun h => by simp at h)
    (fun h => by simp at h) (fun _ => ⟨by norm_num, by norm_num⟩)
    (fun _ => ⟨isPreconnected_Icc, by
      rw [show (seg (-1) 1 (by norm_num)).S = Set.Icc (-1 : ℝ) 1 from rfl, frontier_Icc (by norm_num)]
      exact ⟨-1, by simp⟩⟩)
    (by simp [dispatch, seg]; norm_num)

/-- `dispatch_diff_covers` applies: `[0,1] ⊖ [-1/4,1/4]` -/
example : planDen (dispatch ⟨true, true, true, false, false, true, true⟩)
    (seg 0 1 (by norm_num)) (seg (-1 / 4) (1 / 4) (by norm_num)) 0 =
    erosion (interior (seg 0 1 (by norm_num)).S) (seg (-1 / 4) (1 / 4) (by norm_num)).S :=
  dispatch_diff_covers _ _ _ _ rfl rfl rfl (fun _ => seg_convex _ _ _) isPreconnected_Icc
    ⟨by norm_num, by norm_num⟩

end MV.C16
