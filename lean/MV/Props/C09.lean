import MV.Proof.IngestSafe
/-!
# Property C09 — malformed input gives an error Status, never undefined behaviour

Statements about the executable model `MV/Model/Ingest.lean` (the validation ladder and loops of
`Manifold::Impl::Impl(const MeshGLP&)`, `MeshGL::Merge()`, the numeric-argument guards, the status
algebra of the deriving operations).  In the model every C++ array access and every division is a
checked primitive; `R.Safe r` says none of them failed.

* `ingest_total_safe`     for ALL inputs the repaired constructor reaches no unchecked access
* `ingest_ok_inv`         and what it hands to `CreateHalfedges`/`SortGeometry` is well-formed
* `ingest_error_sound`    each `Error` is returned exactly under its condition, first match wins
* `merge_total_safe`      the same for `MeshGL::Merge()`
* `status_sticky`         every program that consumes an errored operand is errored
* `pinned_*`              on the tree BEFORE the repairs the safety statement is false: concrete inputs
* argument guards          `channel_reads_safe`, `levelSet_guard_sound`, `grid_index_fits`

`CreateHalfedges` and `IsManifold()` themselves are in C09b (`MV.C09b.createHalfedges_total_safe`:
no out-of-range access on any triangle list of even length, balanced or not).  Not carried by
theorems (checked by the sanitizer run only): everything after `IsManifold()` in the constructor,
the bodies of the deriving operations.
-/
namespace MV.Ingest
open MV.Mesh

/-! ## the constructor -/

theorem numVertOf_fixed (s : MeshShape) :
    numVertOf Guards.fixed s = .ok (if s.numProp = 0 then 0 else s.nVertProp / s.numProp) := by
  unfold numVertOf cdiv
  by_cases h : s.numProp = 0 <;> simp [Guards.fixed, h]

/-- **No undefined behaviour in `Manifold(MeshGL)`**: for every input whatsoever — any lengths, any
index values, any run table, any flags — the repaired constructor performs no out-of-bounds read or
write, no division by zero and no read of an uninitialised `triRef`, from its first line to the call
of `CreateHalfedges` and in the first reads `IsManifold`/`SortFaces` make of its output. -/
theorem ingest_total_safe (s : MeshShape) : (ingest Guards.fixed s).Safe :=
  (ingest_sat s).safe

/-- non-vacuity: a tetrahedron goes through -/
example : ingest Guards.fixed ⟨3, 12, true, #[2,0,1, 0,3,1, 2,3,0, 3,2,1], #[], #[], #[], 0, 0, true, 0, 0, true⟩ matches .ok _ := by
  decide

/-- **Well-formed hand-over**: when the ladder lets an input through, every triangle given to
`CreateHalfedges` has its three (merged) indices below `NumVert()` — the size of `vertPos_`, which is
what the bucketed path of `CreateHalfedges`, `CalculateBBox`, `SortVerts` index with — is not
degenerate, the number of triangles is even (so `CreateHalfedges` writes every halfedge it pairs),
`numProp ≥ 3`, and `halfedgeTangent_` is empty or has exactly three entries per kept triangle. -/
theorem ingest_ok_inv (s : MeshShape) (r : Ingested) (h : ingest Guards.fixed s = .ok r) :
    3 ≤ s.numProp ∧ r.numVert = s.nVertProp / s.numProp ∧
    (∀ t ∈ r.kept.triVert.toList, TriInRange r.numVert t ∧ TriNondeg t) ∧
    (∀ t ∈ r.kept.triProp.toList, TriInRange r.numVert t) ∧
    r.kept.triVert.size % 2 = 0 ∧ r.kept.triVert.size ≤ numTriOf s + 0 * r.numVert ∧
    (r.nTang = 0 ∨ r.nTang = 3 * r.kept.triVert.size) :=
  (ingest_sat s).of_ok h

/-! ## error codes -/

/-- **Each error under its condition, first match in source order.**  The straight-line part of the
ladder is the list `rungs`: the constructor returns the error of the first rung whose condition
holds, and proceeds to the loops iff none holds.  (The two loop rungs follow.) -/
theorem ingest_error_sound (g : Guards) (s : MeshShape) (nv : Nat) :
    (∀ e, ladder g s nv = .err e ↔ firstMatch (rungs g s nv) = some e) ∧
    (ladder g s nv = .ok () ↔ ∀ p ∈ rungs g s nv, p.1 = false) := by
  constructor
  · intro e
    unfold ladder
    split
    · rename_i e' he; simp [fail, he]
    · rename_i hn; simp [hn]
  · constructor
    · exact ladder_ok
    · intro h
      unfold ladder
      rw [firstMatch_eq_none_iff.2 h]

/-- the order of the rungs, spelled out for the repaired tree (a change of order or of a condition
in the model breaks this `rfl`; a change in the C++ breaks the correspondence run) -/
example (s : MeshShape) (nv : Nat) : (rungs Guards.fixed s nv).map (·.2) =
    [.noError, .notManifold, .missingPositionProperties, .mergeVectorsDifferentLengths, .transformWrongLength,
     .runIndexWrongLength, .runIndexWrongLength, .faceIDWrongLength, .invalidTangents, .nonFiniteVertex,
     .invalidConstruction, .invalidConstruction] := rfl

/-- `MergeIndexOutOfBounds` is returned only if some merge entry is out of range: if all entries are
in range the merge loop completes. -/
theorem mergeIndex_error_sound (s : MeshShape) (nv : Nat) (hlen : s.mergeFrom.size = s.mergeTo.size)
    (hall : ∀ i (h : i < s.mergeFrom.size), s.mergeFrom[i] < nv ∧ s.mergeTo[i]'(hlen ▸ h) < nv) :
    ∃ p, buildProp2vert Guards.fixed s nv = .ok p := by
  unfold buildProp2vert
  split
  · exact ⟨_, rfl⟩
  · have := forRange_total (fun _ p => P2V nv p) (mergeStep Guards.fixed s nv) s.mergeFrom.size 0
      (Array.range nv) (p2v_init nv)
      (fun i p _ hi hp => by
        have hi' : i < s.mergeFrom.size := by omega
        obtain ⟨h1, h2⟩ := hall i hi'
        rw [mergeStep_fixed s nv i p hi' hlen, if_neg (by omega), wr_safe 387 p _ _ (by rw [hp.1]; exact h1)]
        exact ⟨_, rfl, p2v_set hp h2⟩)
    obtain ⟨p, hp, _⟩ := this
    exact ⟨p, hp⟩

/-- and conversely an out-of-range entry makes one iteration return `MergeIndexOutOfBounds` -/
theorem mergeStep_error (s : MeshShape) (nv i : Nat) (p : Array Nat) (hi : i < s.mergeFrom.size)
    (hlen : s.mergeFrom.size = s.mergeTo.size)
    (hbad : s.mergeFrom[i] ≥ nv ∨ s.mergeTo[i]'(hlen ▸ hi) ≥ nv) :
    mergeStep Guards.fixed s nv i p = .err .mergeIndexOutOfBounds := by
  rw [mergeStep_fixed s nv i p hi hlen, if_pos hbad]; rfl

/-- a corner returns `VertexOutOfBounds` exactly when its index is `≥ NumVert()` (compared at full
width: patch 09) -/
theorem corner_error_iff (s : MeshShape) (nv : Nat) (p : Array Nat) (k : Nat) (hk : k < s.triVerts.size)
    (hp : P2VOk nv p) :
    corner Guards.fixed s nv p k = .err .vertexOutOfBounds ↔ s.triVerts[k] ≥ nv := by
  rw [corner_fixed s nv p k hk]
  by_cases hv : s.triVerts[k] ≥ nv
  · simp [hv, fail]
  · simp only [hv, ↓reduceIte, iff_false]
    by_cases hz : p.size = 0
    · simp [hz]
    · have hP : P2V nv p := hp.resolve_left hz
      simp [hz, rd_safe 485 p _ (show s.triVerts[k] < p.size by rw [hP.1]; omega)]

/-! ## the tree before the repairs: the safety statement is false -/

/-- a tetrahedron with the given optional vectors -/
def tetShape (numProp : Nat) (runIndex : Array Nat) (nRunID nTangent : Nat) : MeshShape :=
  ⟨numProp, 12, true, #[2,0,1, 0,3,1, 2,3,0, 3,2,1], #[], #[], runIndex, nRunID, 0, true, 0, nTangent, true⟩

/-- `numProp = 0`: `NumVert()` divides by zero (mesh.h:104) — SIGFPE on the pinned tree -/
theorem pinned_numProp_zero : ingest Guards.pinned (tetShape 0 #[] 0 0) = .fault (.divZero 104) := by decide
/-- a `runIndex` entry beyond `triVerts`: write past `triRef` (impl.h:444) -/
theorem pinned_runIndex_value : ingest Guards.pinned (tetShape 3 #[0, 6, 3000] 2 0) = .fault (.oob 444) := by decide
/-- three `runOriginalID`s and no `runIndex`: read past `runIndex` (impl.h:442) -/
theorem pinned_runIndex_length : ingest Guards.pinned (tetShape 3 #[] 3 0) = .fault (.oob 442) := by decide
/-- runs that do not cover all triangles: `triRef` copied uninitialised (impl.h:495) -/
theorem pinned_runs_uncovered : ingest Guards.pinned (tetShape 3 #[0, 6] 1 0) = .fault (.uninit 495) := by decide
/-- a `halfedgeTangent` of the wrong length: read past it while sorting faces (sort.cpp:72) -/
theorem pinned_tangent_length : ingest Guards.pinned (tetShape 3 #[] 0 8) = .fault (.oob 72) := by decide
/-- an odd number of kept triangles: `IsManifold` reads a halfedge nobody wrote (properties.cpp:91) -/
theorem pinned_odd_triangles :
    ingest Guards.pinned ⟨3, 15, true, #[2,4,1, 0,1,1, 0,0,2, 0,0,4, 4,2,2], #[], #[], #[], 0, 0, true, 0, 0, true⟩ =
      .fault (.uninit 91) := by decide
/-- a 64-bit index that truncates into range is accepted by the pinned tree and rejected after patch 09 -/
theorem pinned_truncation :
    (ingest Guards.pinned ⟨3, 12, true, #[2,0,1, 0,3,1, 2,3,0, 3,2,4294967297], #[], #[], #[], 0, 0, true, 0, 0, true⟩ matches .ok _) ∧
    ingest Guards.fixed ⟨3, 12, true, #[2,0,1, 0,3,1, 2,3,0, 3,2,4294967297], #[], #[], #[], 0, 0, true, 0, 0, true⟩ =
      .err .vertexOutOfBounds := by decide
/-- the same inputs on the repaired tree -/
example : ingest Guards.fixed (tetShape 0 #[] 0 0) = .err .notManifold ∧
    ingest Guards.fixed (tetShape 3 #[0, 6, 3000] 2 0) = .err .runIndexWrongLength ∧
    ingest Guards.fixed (tetShape 3 #[] 3 0) = .err .runIndexWrongLength ∧
    ingest Guards.fixed (tetShape 3 #[0, 6] 1 0) = .err .runIndexWrongLength ∧
    ingest Guards.fixed (tetShape 3 #[] 0 8) = .err .invalidTangents := by decide

/-! ## `MeshGL::Merge()` -/

theorem mergeGuard_facts {s : MeshShape} (h : mergeGuard s = true) :
    3 ≤ s.numProp ∧ s.mergeFrom.size = s.mergeTo.size ∧
    (∀ i (hi : i < s.triVerts.size), s.triVerts[i] < s.nVertProp / s.numProp) ∧
    (∀ i (hi : i < s.mergeFrom.size), s.mergeFrom[i] < s.nVertProp / s.numProp) ∧
    (∀ i (hi : i < s.mergeTo.size), s.mergeTo[i] < s.nVertProp / s.numProp) := by
  unfold mergeGuard at h
  simp only [Bool.and_eq_true, decide_eq_true_eq, beq_iff_eq, List.all_eq_true, Array.mem_toList_iff] at h
  exact ⟨h.1.1.1.1, h.1.1.1.2, fun i hi => h.1.1.2 _ (Array.getElem_mem hi), fun i hi => h.1.2 _ (Array.getElem_mem hi),
    fun i hi => h.2 _ (Array.getElem_mem hi)⟩

theorem mergeRun_sat (s : MeshShape) : (mergeRun true Guards.fixed s).Sat fun _ => True := by
  unfold mergeRun
  by_cases hg : mergeGuard s = true
  · obtain ⟨hnp, hlen, htv, hmf, hmt⟩ := mergeGuard_facts hg
    have hnp0 : s.numProp ≠ 0 := by omega
    simp only [hg, Bool.not_true, Bool.and_false, Bool.false_eq_true, ↓reduceIte, monad_bind, numVertOf_fixed, hnp0, bind_ok]
    refine sat_bind (forRange_sat (fun _ m => P2V (s.nVertProp / s.numProp) m)
      (mmStep s) s.mergeFrom.size 0 (Array.range (s.nVertProp / s.numProp)) (p2v_init _)
      (fun i m _ hi hm => by
        have hi' : i < s.mergeFrom.size := by omega
        unfold mmStep
        simp only [monad_bind, rd_safe 85 s.mergeFrom i hi', rd_safe 85 s.mergeTo i (hlen ▸ hi'), bind_ok]
        rw [wr_safe 85 m _ _ (by rw [hm.1]; exact hmf i hi')]
        exact p2v_set hm (hmt i (hlen ▸ hi')))) fun m hM => ?_
    have corners : forRange (mmCorner s (s.nVertProp / s.numProp) m) 0 (3 * numTriOf s) () = .ok () := by
      apply forRange_unit_safe
      intro k _ hk
      have hk' : k < s.triVerts.size := by unfold numTriOf at hk; omega
      unfold mmCorner
      have h1 : s.triVerts[k] < m.size := by rw [hM.1]; exact htv k hk'
      simp only [monad_bind, rd_safe 95 s.triVerts k hk', rd_safe 95 m _ h1, bind_ok]
      have hv : m[s.triVerts[k]] < s.nVertProp / s.numProp := hM.2 _ h1
      rw [chk_safe 181 _ _ (stride_lt hv (by omega)), bind_ok, chk_safe 204 _ _ hv]
    rw [corners]
    simp only [bind_ok]
    have unites : forRange (mmUnite s (s.nVertProp / s.numProp)) 0 s.mergeFrom.size () = .ok () := by
      apply forRange_unit_safe
      intro i _ hi
      have hi' : i < s.mergeFrom.size := by omega
      unfold mmUnite
      simp only [monad_bind, rd_safe 210 s.mergeFrom i hi', rd_safe 211 s.mergeTo i (hlen ▸ hi'), bind_ok]
      rw [chk_safe 210 _ _ (hmf i hi'), bind_ok, chk_safe 211 _ _ (hmt i (hlen ▸ hi'))]
    rw [unites]
    trivial
  · simp [hg, R.Sat]

/-- **No undefined behaviour in `MeshGL::Merge()`** (patch 04): for every input the guarded function
reaches no out-of-bounds access and no division by zero — in the merge table, in the edge loop, in
the position reads of every vertex that can be open, and in the union-find calls. -/
theorem merge_total_safe (s : MeshShape) : (mergeRun true Guards.fixed s).Safe :=
  (mergeRun_sat s).safe

/-- on the pinned tree `Merge()` indexed with unchecked merge and triangle indices (sort.cpp:85, 95) -/
theorem pinned_merge_faults :
    mergeRun false Guards.pinned ⟨3, 12, true, #[2,0,1, 0,3,1, 2,3,0, 3,2,1], #[77], #[1], #[], 0, 0, true, 0, 0, true⟩ = .fault (.oob 85) ∧
    mergeRun false Guards.pinned ⟨3, 12, true, #[2,0,1, 0,3,1, 2,3,0, 3,2,9], #[], #[], #[], 0, 0, true, 0, 0, true⟩ = .fault (.oob 95) := by
  decide

example : mergeRun true Guards.fixed ⟨3, 12, true, #[2,0,1, 0,3,1, 2,3,0, 3,2,1], #[], #[], #[], 0, 0, true, 0, 0, true⟩ = .ok true := by decide

/-! ## status algebra -/

theorem stati_ne_nil (p : Prog) : p.stati ≠ [] := by
  induction p with
  | leaf st => simp [Prog.stati]
  | un own p ih => simpa [Prog.stati] using ih
  | bin a b iha ihb =>
    obtain ⟨x, xs, hx⟩ := List.exists_cons_of_ne_nil iha
    simp only [Prog.stati, hx, List.flatMap_cons]
    by_cases h : x ≠ .noError
    · simp [h]
    · simp only [h, ↓reduceIte]
      intro hc
      exact ihb (List.append_eq_nil_iff.mp hc).1
  | par a b iha ihb =>
    obtain ⟨x, xs, hx⟩ := List.exists_cons_of_ne_nil iha
    obtain ⟨y, ys, hy⟩ := List.exists_cons_of_ne_nil ihb
    simp only [Prog.stati]
    intro hc
    have h1 := List.append_eq_nil_iff.mp hc
    have h2 := List.append_eq_nil_iff.mp h1.1
    have ha : ∀ e ∈ a.stati, e = .noError := by
      intro e he
      by_cases hne : e = .noError
      · exact hne
      · have : e ∈ errsOf a.stati := by simp [errsOf, he, hne]
        rw [h2.2] at this; cases this
    have hb : ∀ e ∈ b.stati, e = .noError := by
      intro e he
      by_cases hne : e = .noError
      · exact hne
      · have : e ∈ errsOf b.stati := by simp [errsOf, he, hne]
        rw [h1.2] at this; cases this
    have hxa : x = .noError := ha x (by simp [hx])
    have hyb : y = .noError := hb y (by simp [hy])
    have h3 : (a.stati.contains .noError && b.stati.contains .noError) = true := by
      simp [hx, hy, hxa, hyb]
    rw [if_pos h3] at h2
    cases h2.1

/-- **A non-NoError Status survives every consuming operation**: whatever program of deriving
operations (unary methods with or without their own argument errors, Booleans, Split, n-ary
Booleans / Compose / Hull in any evaluation order) is applied, if it consumes at least one errored
operand, then every status the implementation may report for the result is an error, and there is
such a status.  By induction over programs. -/
theorem status_sticky (p : Prog) (h : p.hasError = true) : p.stati ≠ [] ∧ ∀ e ∈ p.stati, e ≠ .noError := by
  refine ⟨stati_ne_nil p, ?_⟩
  induction p with
  | leaf st =>
    intro e he
    simp only [Prog.stati, List.mem_singleton] at he
    subst he
    simpa [Prog.hasError] using h
  | un own p ih =>
    intro e he
    simp only [Prog.stati, List.mem_map] at he
    obtain ⟨e', he', rfl⟩ := he
    have := ih (by simpa [Prog.hasError] using h) e' he'
    simp only [ne_eq, this, not_false_eq_true, ↓reduceIte]
  | bin a b iha ihb =>
    intro e he
    simp only [Prog.stati, List.mem_flatMap] at he
    obtain ⟨ea, hea, he⟩ := he
    by_cases hne : ea ≠ .noError
    · rw [if_pos hne, List.mem_singleton] at he
      subst he; exact hne
    · rw [if_neg hne] at he
      have hna : a.hasError = false := by
        cases hc : a.hasError with
        | false => rfl
        | true => exact absurd (iha hc ea hea) hne
      have hb : b.hasError = true := by simpa [Prog.hasError, hna] using h
      exact ihb hb e he
  | par a b iha ihb =>
    intro e he
    simp only [Prog.stati, List.mem_append] at he
    rcases he with (he | he) | he
    · -- `noError` is offered only when both operands may be clean
      split at he
      · rename_i hc
        simp only [Bool.and_eq_true, List.contains_iff_mem] at hc
        simp only [Prog.hasError, Bool.or_eq_true] at h
        cases h with
        | inl ha => exact absurd rfl (iha ha _ hc.1)
        | inr hb => exact absurd rfl (ihb hb _ hc.2)
      · cases he
    · simp only [errsOf, List.mem_filter, decide_eq_true_eq] at he; exact he.2
    · simp only [errsOf, List.mem_filter, decide_eq_true_eq] at he; exact he.2

/-- non-vacuity: `BatchBoolean({good, errored.Translate(..)}, op).Refine(2)` with a
`VertexOutOfBounds` leaf, and an n-ary Boolean of two differently errored operands -/
example : (Prog.un .noError (.par (.leaf .noError) (.un .noError (.leaf .vertexOutOfBounds)))).stati = [.vertexOutOfBounds] := by decide
example : (Prog.par (.leaf .faceIDWrongLength) (.leaf .notManifold)).stati = [.faceIDWrongLength, .notManifold] := by decide

/-- a unary operation reports exactly its operand's error, never its own, on an errored operand -/
theorem status_unary_exact (own st : Err) (h : st ≠ .noError) : (Prog.un own (.leaf st)).stati = [st] := by
  simp [Prog.stati, h]

/-! ## numeric-argument guards -/

/-- patch 06, `SmoothByNormals(normalIdx)`: when the guard accepts the channel, the three reads of
`GetNormal` are inside `properties_` for every property vertex. -/
theorem channel_reads_safe (numProp numPropVert : Nat) (normalIdx : Int) (prop : Nat)
    (hg : channelOk normalIdx 3 numProp = true) (hp : prop < numPropVert) :
    getNormalReads numProp numPropVert normalIdx prop = .ok () := by
  unfold channelOk at hg
  simp only [Bool.and_eq_true, decide_eq_true_eq] at hg
  unfold getNormalReads
  have : ¬ normalIdx < 0 := by omega
  simp only [this, ↓reduceIte]
  apply forRange_unit_safe
  intro i _ hi
  apply chk_safe
  have h1 : numProp * (prop + 1) ≤ numProp * numPropVert := Nat.mul_le_mul_left _ hp
  have h2 : numProp * (prop + 1) = numProp * prop + numProp := Nat.mul_succ _ _
  have h3 : prop * numProp = numProp * prop := Nat.mul_comm _ _
  omega

/-- without the guard (pinned tree): `Sphere.SmoothByNormals(0)` with `NumProp() = 0`, and a negative channel -/
example : getNormalReads 0 10 0 0 = .fault (.oob 273) := by decide
example : getNormalReads 3 10 (-1) 0 = .fault (.oob 273) := by decide
example : channelOk 0 3 0 = false ∧ channelOk (-1) 3 3 = false ∧ channelOk 3 3 5 = false ∧ channelOk 2 3 5 = true := by decide

/-- patch 05, `LevelSet`: the guard lets through exactly a positive finite `edgeLength`, finite bounds
with non-negative extent, and fewer than `2^20` cells per axis -/
theorem levelSet_guard_sound (edge : FC) (bf : Bool) (dims : List FC) (big : List Bool) :
    levelSetGuard edge bf dims big = none ↔
      edge = .pos ∧ bf = true ∧ (∀ d ∈ dims, d = .pos ∨ d = .zero) ∧ (∀ b ∈ big, b = false) := by
  unfold levelSetGuard
  constructor
  · intro h
    split at h
    · cases h
    · rename_i hc
      simp only [Bool.or_eq_true, bne_iff_ne, ne_eq, Bool.not_eq_true', List.any_eq_true, Bool.and_eq_true, id_eq,
        not_or, not_exists, not_and] at hc
      obtain ⟨⟨⟨h1, h2⟩, h3⟩, h4⟩ := hc
      refine ⟨by simpa using h1, by simpa using h2, ?_, ?_⟩
      · intro d hd
        have := h3 d hd
        by_cases hp : d = .pos
        · exact Or.inl hp
        · right; simpa using this hp
      · intro b hb; simpa using h4 b hb
  · rintro ⟨rfl, rfl, h3, h4⟩
    have hd : dims.any (fun d => d != .pos && d != .zero) = false := by
      rw [List.any_eq_false]
      intro d hd
      rcases h3 d hd with rfl | rfl <;> simp
    have hb : big.any id = false := by
      rw [List.any_eq_false]
      intro b hb; simp [h4 b hb]
    simp [hd, hb]

theorem ceilLog2_le (n : Nat) (h : n < 2 ^ 20) : ceilLog2 (n + 3) ≤ 21 := by
  unfold ceilLog2
  have : ¬ n + 3 ≤ 1 := by omega
  simp only [this, ↓reduceIte]
  have hlt : (n + 3 - 1).log2 < 21 := (Nat.log2_lt (by omega)).mpr (by omega)
  omega

/-- with fewer than `2^20` cells per axis the grid index `EncodeIndex(gridSize + 2, 1)` uses at most
64 bits and no shift amount reaches 64 (the pinned tree shifted by 65 for `edgeLength < 0`) -/
theorem grid_index_fits (nx ny nz : Nat) (hx : nx < 2 ^ 20) (hy : ny < 2 ^ 20) (hz : nz < 2 ^ 20) :
    encodeShift nx ny nz ≤ 64 ∧ 1 + ceilLog2 (nz + 3) + ceilLog2 (ny + 3) < 64 := by
  have := ceilLog2_le nx hx
  have := ceilLog2_le ny hy
  have := ceilLog2_le nz hz
  unfold encodeShift
  omega

example : encodeShift 6 6 6 = 13 := by decide

end MV.Ingest
