import MV.Props.C01a
import MV.Props.C10
import MV.Gen.Shapes
import MV.Model.Tet
import MV.Proof.Extrude
import MV.Proof.Ctor
import MV.Proof.Affine
import MV.Proof.EarClipMesh
/-!
# C17 — constructors and transforms produce the solid their parameters define

What is PROVED here (for all parameters) and what is left to the run-time oracles:

* topology of every constructor
  - `shapes_closed2manifold`  the `Impl(Shape)` tables (regenerated from src/impl.cpp on every run)
    pass the verified checker `checkMesh`, i.e. are closed oriented 2-manifolds;
  - `extrude_closed`, `revolve_closed`  the index arithmetic of `Extrude` / `Revolve`
    (MV/Model/Extrude.lean) emits, for ALL polygon sizes, division counts, cone flag, axis-vertex
    patterns, full and partial revolution, and for EVERY cap triangulation with the C10 property
    `net top = contours`, a triangle list whose net is 0 on every edge, with every index in range and
    every vertex referenced;
  - `tet_table_consistent` (+ `tet_faces_cancel_around_axis`, `buildTris_edges_geometric`,
    `tet_orientation_uniform`, `neighbors_opposite`)  marching tetrahedra tables of src/sdf.cpp;
  - `grid_index_roundtrip`  `DecodeIndex ∘ EncodeIndex = id` on every index the grid uses.
* transforms: `transform_chain_product`, `signed_volume_scales_by_det`, `flip_restores_outward`,
  `rotate_orthogonal`, `sind_cosd_exact_at_quarter_turns`.
* `segments_table`, `invalid_args_table`.

NOT proved (checked by the harness oracles on the real code, see checks/c17.py): vertex POSITIONS
(the analytic inside/outside predicate, faceting band, LevelSet root finding and snapping),
floating-point rounding of the matrices, and that the real code runs the modelled arithmetic
(tie: the model's triangle list is compared with the real export on every run).
-/
namespace MV.C17
open MV.EarClip MV.Extrude MV.Ctor MV.Tet MV.Gen.Tet MV.Gen.Shapes
open MV.Mesh (checkMesh Closed2Manifold eulerGenus)

/-! ## constant tables -/

/-- each `Impl(Shape)` table passes the VERIFIED checker (`MV.C01a.checkMesh_iff`), so it is a
    closed oriented 2-manifold over exactly its vertex table -/
theorem shapes_closed2manifold :
    checkMesh tetrahedronVerts.length tetrahedronTris = .ok () ∧
    checkMesh cubeVerts.length cubeTris = .ok () ∧
    checkMesh octahedronVerts.length octahedronTris = .ok () :=
  ⟨(MV.C01a.checkMesh_iff _ _).2 (by decide +kernel), (MV.C01a.checkMesh_iff _ _).2 (by decide +kernel),
   (MV.C01a.checkMesh_iff _ _).2 (by decide +kernel)⟩

example : Closed2Manifold 8 cubeTris := (MV.C01a.checkMesh_iff _ _).1 shapes_closed2manifold.2.1
example : eulerGenus 4 tetrahedronTris = 0 ∧ eulerGenus 8 cubeTris = 0 ∧ eulerGenus 6 octahedronTris = 0 := by decide

/-- **tet_table_consistent.**  For each of the 16 sign patterns `i` (bit k = corner k inside):
(1) every tet-edge id the tables name is in `0..5` and that edge really crosses the surface under
    pattern `i` (so `edges[tri[k]]` is a created vertex, never `kNone`);
(2) the net boundary of the emitted triangles, as a chain on pairs of tet edges, is EXACTLY the sum
    over the four faces of `faceRule`, which looks only at that face's corners, its induced
    orientation and its three corner signs; in particular the internal diagonal of a quad cancels
    and no side joins two opposite tet edges.
`faceRule_reverses` below says the rule flips sign with the face's orientation, so two tetrahedra
with the same handedness (`tet_orientation_uniform`) that share a face contribute opposite
boundaries on it: the marching output is closed.  (`CreateTri` drops a triangle with two equal
vertex ids; such a triangle has zero boundary, so the chain is unchanged.) -/
theorem tet_table_consistent :
    ∀ i, i < 16 →
      (∀ t ∈ patternTris i, ∀ e ∈ [t.1, t.2.1, t.2.2], 0 ≤ e ∧ e < 6 ∧ crossing i e.toNat = true) ∧
      (∀ e1, e1 < 6 → ∀ e2, e2 < 6 → patternNet i e1 e2 = expectedNet i e1 e2) := by decide +kernel

example : patternTris 3 = [(1, 5, 3), (3, 4, 1)] ∧ patternNet 3 1 5 = 1 ∧ patternNet 3 3 1 = 0 := by decide
example : patternTris 0 = [] ∧ patternTris 15 = [] := by decide

/-- the face rule is antisymmetric in the orientation of the face, for every placement of the
    face's corners among four labels and all eight sign patterns -/
theorem faceRule_reverses :
    ∀ p, p < 4 → ∀ q, q < 4 → ∀ r, r < 4 → p ≠ q → q ≠ r → r ≠ p → ∀ sp sq sr : Bool,
      faceRule p r q sp sr sq = (faceRule p q r sp sq sr).map fun s => (s.2, s.1) := by
  have h : ∀ p ∈ [0, 1, 2, 3], ∀ q ∈ [0, 1, 2, 3], ∀ r ∈ [0, 1, 2, 3],
      ∀ sp ∈ [true, false], ∀ sq ∈ [true, false], ∀ sr ∈ [true, false],
      (faceRule p r q sp sr sq = (faceRule p q r sp sq sr).map fun s => (s.2, s.1)) ∨ p = q ∨ q = r ∨ r = p := by
    decide +kernel
  intro p hp q hq r hr h1 h2 h3 sp sq sr
  have := h p (by simp; omega) q (by simp; omega) r (by simp; omega) sp (by cases sp <;> simp)
    sq (by cases sq <;> simp) sr (by cases sr <;> simp)
  rcases this with h | h | h | h
  · exact h
  · exact absurd h h1
  · exact absurd h h2
  · exact absurd h h3

/-- how sdf.cpp walks round the (1,1,1) edge: consecutive tetrahedra `(lead, base, X, Y)`,
`(lead, base, Y, Z)` share the face `{lead, base, Y}`; `edges2` reuses `edges1[5]` as its edge 1
and `edges1[3]` as its edge 4 (edge 0 is common).  On that face the two boundaries cancel, for
all 32 sign choices of the five corners. -/
theorem tet_faces_cancel_around_axis :
    ∀ s0 ∈ [0, 1], ∀ s1 ∈ [0, 1], ∀ x ∈ [0, 1], ∀ y ∈ [0, 1], ∀ z ∈ [0, 1],
      ∀ e ∈ [(0, 0), (5, 1), (3, 4)], ∀ f ∈ [(0, 0), (5, 1), (3, 4)],
        patternNet (s0 + 2 * s1 + 4 * x + 8 * y) e.1 f.1 + patternNet (s0 + 2 * s1 + 4 * y + 8 * z) e.2 f.2 = 0 := by
  decide +kernel

/-- `edges2[1] = edges1[5]`, `edges2[4] = edges1[3]`, `edges2[0] = edges1[0]` in the source -/
example : (edges2.map (·.1)) = [.base, .reuse, .thisVert, .nextVert, .reuse, .base] ∧
    (edges2.getD 1 (.base, id)).2 0 = 5 ∧ (edges2.getD 4 (.base, id)).2 0 = 3 := by decide

/-- the 14 neighbour offsets are 7 owned edges and their 7 opposites -/
theorem neighbors_opposite : ∀ i, i < 7 → nbrOff (i + 7) = P3.neg (nbrOff i) := by decide +kernel

/-- every entry of `edges1` / `edges2` is read from the GridVert and neighbour slot that span
    exactly the segment between the two corners `edgeEnds` assigns to that tet edge, for all six
    tetrahedra; slots are owned ones (`< 7`) -/
theorem buildTris_edges_geometric : ∀ g ∈ buildTets, ∀ e, e < 6 → edgeOk g e = true := by decide +kernel

/-- all six tetrahedra have the same handedness in their corner order -/
theorem tet_orientation_uniform : ∀ g ∈ buildTets, tetDet g = -4 := by decide +kernel

example : buildTets.length = 6 := by decide

/-! ## Extrude / Revolve -/

/-- **extrude_closed.**  For all polygon sizes, all `nDivisions`, cone or not, and every cap
triangulation `top` over the indices `0 … nC-1` with the C10 property `net top = contours`:
the net of ALL emitted triangles is 0 on every edge, every index is `< vertPos.size()`, and every
vertex is a corner of some triangle (cone: polygons non-empty — the apex duplicate of an empty
polygon would never be referenced). -/
theorem extrude_closed (polySizes : List Nat) (nDivisions : Nat) (isCone : Bool) (top : List Tri)
    (hnet : ∀ a b, net (triEdges top) a b = bdContours (contours polySizes) a b)
    (hrange : ∀ t ∈ top, TriLt polySizes.sum t)
    (hpos : isCone = true → ∀ s ∈ polySizes, 0 < s) :
    (∀ a b, net (triEdges (extrudeTris polySizes nDivisions isCone top)) a b = 0) ∧
    (∀ t ∈ extrudeTris polySizes nDivisions isCone top, TriLt (extrudeNumVert polySizes nDivisions isCone) t) ∧
    (∀ v, v < extrudeNumVert polySizes nDivisions isCone →
      ∃ t ∈ extrudeTris polySizes nDivisions isCone top, TriHas v t) :=
  ⟨fun a b => extrude_net_zero polySizes nDivisions isCone top hnet a b,
   extrude_in_range polySizes nDivisions isCone top hrange,
   extrude_all_used polySizes nDivisions isCone top hpos⟩

/-- non-vacuity: a square with a triangular hole, keyholed exactly as in `MV.EarClip.exOps`
    (the cap is the C10 model's own output for that op sequence), 2 extra divisions, prism and cone -/
def exTop : List Tri := [(0, 1, 4), (0, 4, 5), (3, 0, 5), (6, 4, 1), (6, 1, 2), (5, 6, 2), (5, 2, 3)]
theorem exTop_eq : (run (initState exPolys) exOps).tris = exTop := by decide +kernel
theorem exTop_net : ∀ a b, net (triEdges exTop) a b = bdContours (contours [4, 3]) a b := by
  have h := earclip_exit exPolys exOps exOps_ok.toLive (by decide +kernel)
  intro a b; rw [show contours [4, 3] = exPolys by decide, ← exTop_eq]; exact h a b
example : (∀ a b, net (triEdges (extrudeTris [4, 3] 2 false exTop)) a b = 0) :=
  (extrude_closed [4, 3] 2 false exTop exTop_net (by decide) (by decide)).1
set_option maxRecDepth 100000 in
example : checkMesh (extrudeNumVert [4, 3] 2 false) (extrudeTris [4, 3] 2 false exTop) = .ok () :=
  have h := extrude_closed [4, 3] 2 false exTop exTop_net (by decide) (by decide)
  checkMesh_of_net_zero _ _ h.2.1 (by decide +kernel) (by decide +kernel) h.1 h.2.2
set_option maxRecDepth 100000 in
example : checkMesh (extrudeNumVert [4, 3] 2 true) (extrudeTris [4, 3] 2 true exTop) = .ok () :=
  have h := extrude_closed [4, 3] 2 true exTop exTop_net (by decide) (by decide)
  checkMesh_of_net_zero _ _ h.2.1 (by decide +kernel) (by decide +kernel) h.1 h.2.2

/-- **revolve_closed.**  Input: the clipped polygons as they reach the index arithmetic (per vertex:
off the axis / on the axis), `nDivisions ≥ 1`, full or partial revolution, and any cap triangulation
`front` of the polygons with `net front = contours`.  The net of all emitted triangles (side
bands, axis fans, seam, and for a partial revolve the two end caps read through `startPoses` /
`endPoses`) is 0 on every edge; every index is in range; and if every axis vertex has a
neighbour off the axis (`AxisOk`) every vertex is referenced.
Without `AxisOk` the last clause is FALSE for the real code too: the middle one of three
consecutive axis vertices is pushed to `vertPos` and never referenced (see the example below). -/
theorem revolve_closed (polys : List (List Bool)) (nDivisions : Nat) (isFull : Bool) (front : List Tri)
    (hd : 1 ≤ nDivisions)
    (hnet : ∀ a b, net (triEdges front) a b = bdContours (revolveContours polys) a b)
    (hrange : ∀ t ∈ front, TriLt (polys.map List.length).sum t) :
    (∀ a b, net (triEdges (revolveTris polys nDivisions isFull front)) a b = 0) ∧
    (∀ t ∈ revolveTris polys nDivisions isFull front, TriLt (revolveNumVert polys nDivisions isFull) t) ∧
    ((∀ poly ∈ polys, AxisOk poly) → ∀ v, v < revolveNumVert polys nDivisions isFull →
      ∃ t ∈ revolveTris polys nDivisions isFull front, TriHas v t) :=
  ⟨fun a b => revolve_net_zero polys nDivisions isFull front hnet a b,
   revolve_in_range polys nDivisions isFull front hd hrange,
   fun hH => revolve_all_used polys nDivisions isFull front hd hH⟩

/-- non-vacuity: a quadrilateral with two vertices on the axis, cap = fan `(0,1,2),(0,2,3)` -/
theorem exFront_net : ∀ a b, net (triEdges [(0, 1, 2), (0, 2, 3)]) a b
    = bdContours (revolveContours [[true, true, false, false]]) a b := by
  intro a b
  have h : contourEdges (revolveContours [[true, true, false, false]]) = [(0, 1), (1, 2), (2, 3), (3, 0)] := by decide
  unfold bdContours; rw [h]
  simp only [triEdges, List.flatMap_cons, List.flatMap_nil, triEdgesOf, List.append_nil, List.cons_append,
    List.nil_append, net_cons, net_nil]
  have := ind_swap 2 0 a b; omega
set_option maxRecDepth 100000 in
example : checkMesh (revolveNumVert [[true, true, false, false]] 5 true)
    (revolveTris [[true, true, false, false]] 5 true [(0, 1, 2), (0, 2, 3)]) = .ok () :=
  have h := revolve_closed [[true, true, false, false]] 5 true [(0, 1, 2), (0, 2, 3)] (by decide) exFront_net
    (by decide)
  checkMesh_of_net_zero _ _ h.2.1 (by decide +kernel) (by decide +kernel) h.1
    (h.2.2 (by simp only [List.mem_singleton, forall_eq, AxisOk]; decide))
set_option maxRecDepth 100000 in
example : checkMesh (revolveNumVert [[true, true, false, false]] 3 false)
    (revolveTris [[true, true, false, false]] 3 false [(0, 1, 2), (0, 2, 3)]) = .ok () :=
  have h := revolve_closed [[true, true, false, false]] 3 false [(0, 1, 2), (0, 2, 3)] (by decide) exFront_net
    (by decide)
  checkMesh_of_net_zero _ _ h.2.1 (by decide +kernel) (by decide +kernel) h.1
    (h.2.2 (by simp only [List.mem_singleton, forall_eq, AxisOk]; decide))
/-- three consecutive axis vertices: vertex 17 (the middle one) is referenced by no triangle of
    the full revolve, whatever the cap — the unreferenced vertex the real `Revolve` exports -/
example : ¬ ∃ t ∈ revolveTris [[true, true, false, false, false]] 8 true [], TriHas 17 t := by
  decide +kernel

/-- **grid_index_roundtrip.**  `DecodeIndex(EncodeIndex(p, pow), pow) = p` whenever every
component fits its field, and the code fits `1 + pz + py + px` bits; `grid_pow_fits`: with
`pow = ComputeGridPow(gridSize)` every index `0 … gridSize + 2` (the voxel array's range after
`kVoxelOffset`) fits. -/
theorem grid_index_roundtrip (x y z w px py pz : Nat) (hw : w < 2) (hz : z < 2 ^ pz) (hy : y < 2 ^ py)
    (hx : x < 2 ^ px) :
    decodeIndex (encodeIndex x y z w py pz) px py pz = (x, y, z, w) ∧
    encodeIndex x y z w py pz < 2 ^ (1 + pz + py + px) := by
  rw [encode_arith x y z w py pz hw hz hy, decode_arith]
  obtain ⟨d1, m1⟩ := div_mod_pack (z + 2 ^ pz * (y + 2 ^ py * x)) hw
  obtain ⟨d2, m2⟩ := div_mod_pack (y + 2 ^ py * x) hz
  obtain ⟨d3, m3⟩ := div_mod_pack x hy
  rw [d1, m1, d2, m2, d3, m3, Nat.mod_eq_of_lt hx]
  refine ⟨rfl, ?_⟩
  have e : 2 ^ (1 + pz + py + px) = 2 * (2 ^ pz * (2 ^ py * 2 ^ px)) := by
    simp only [Nat.pow_add, Nat.pow_one, Nat.mul_assoc]
  rw [e]
  exact layer_lt hw (layer_lt hz (layer_lt hy hx))

theorem grid_pow_fits (n : Nat) : n + 2 < 2 ^ gridPow n := by
  have := le_two_pow_ceilLog2 (n + 2 + 1); unfold gridPow; omega

example : decodeIndex (encodeIndex 9 4 7 1 (gridPow 5) (gridPow 5)) (gridPow 7) (gridPow 5) (gridPow 5) = (9, 4, 7, 1) := by decide
example : gridPow 5 = 3 ∧ gridPow 6 = 4 ∧ gridPow 13 = 4 ∧ gridPow 14 = 5 := by decide

/-! ## transforms -/
section transforms
open MV.Affine
variable {R : Type} [CommRing R]

/-- **transform_chain_product.**  `m * Mat4(n)` acts as the composition of the point maps (first
`n`, then `m`) and the composition is associative with the identity as unit: a chain of lazily
combined transforms is the map obtained by applying them one after the other. -/
theorem transform_chain_product (m n k : Aff R) (p : V3 R) :
    (m.comp n).apply p = m.apply (n.apply p) ∧ (m.comp n).comp k = m.comp (n.comp k) ∧
    m.comp Aff.id = m ∧ Aff.id.comp m = m ∧ (m.comp n).det = m.det * n.det :=
  ⟨apply_comp m n p, comp_assoc m n k, (comp_id m).1, (comp_id m).2, det_comp m n⟩

/-- `Rotate(x, y, z)` is documented as: about global X first, then Y, then Z -/
example (sx cx sy cy sz cz : R) (p : V3 R) :
    (rotate sx cx sy cy sz cz).apply p = (rotZ sz cz).apply ((rotY sy cy).apply ((rotX sx cx).apply p)) := by
  unfold rotate; rw [apply_comp, apply_comp]

/-- **signed_volume_scales_by_det.**  The signed volume of a tetrahedron scales by `det` of the
linear part; a closed mesh's volume is the sum of `tetVol o v0 v1 v2` over its triangles, so it
scales by the same factor. -/
theorem signed_volume_scales_by_det (m : Aff R) (a b c d : V3 R) :
    tetVol (m.apply a) (m.apply b) (m.apply c) (m.apply d) = m.det * tetVol a b c d := by
  simp only [tetVol, apply_sub, det3_lin]

/-- **flip_restores_outward.**  `FlipTris` turns `(v0, v1, v2)` into `(v0, v2, v1)`, which negates
the signed volume; after a transform the flipped triangle's volume is `(-det) ·` the original. -/
theorem flip_restores_outward (m : Aff R) (o v0 v1 v2 : V3 R) :
    tetVol o v0 v2 v1 = - tetVol o v0 v1 v2 ∧
    tetVol (m.apply o) (m.apply v0) (m.apply v2) (m.apply v1) = (- m.det) * tetVol o v0 v1 v2 := by
  refine ⟨tetVol_swap o v0 v1 v2, ?_⟩
  rw [tetVol_swap, signed_volume_scales_by_det]; ring

/-- over ℤ (an ordered instance): with `det < 0` the flipped triangle keeps a positive volume -/
theorem flip_restores_outward_int (m : Aff Int) (o v0 v1 v2 : V3 Int) (hdet : m.det < 0)
    (hvol : 0 < tetVol o v0 v1 v2) :
    0 < tetVol (m.apply o) (m.apply v0) (m.apply v2) (m.apply v1) := by
  rw [(flip_restores_outward m o v0 v1 v2).2]
  exact Int.mul_pos (Int.neg_pos_of_neg hdet) hvol

example : (mirror (⟨0, 0, 1⟩ : V3 Int)).det = -1 := by decide
example : 0 < tetVol (⟨0, 0, 0⟩ : V3 Int) ⟨1, 0, 0⟩ ⟨0, 1, 0⟩ ⟨0, 0, 1⟩ := by decide

/-- **rotate_orthogonal.**  Given `s² + c² = 1` for each of the three angles, the matrix
`rZ * rY * rX` of `CsgNode::Rotate` has orthonormal columns and determinant 1 (so it preserves
dot products: lengths, angles, volume and orientation). -/
theorem rotate_orthogonal (sx cx sy cy sz cz : R) (hx : sx * sx + cx * cx = 1) (hy : sy * sy + cy * cy = 1)
    (hz : sz * sz + cz * cz = 1) :
    (rotate sx cx sy cy sz cz).Orthogonal ∧ (rotate sx cx sy cy sz cz).det = 1 ∧
    ∀ u v, dot ((rotate sx cx sy cy sz cz).lin u) ((rotate sx cx sy cy sz cz).lin v) = dot u v := by
  have hX := rotX_orth sx cx hx; have hY := rotY_orth sy cy hy; have hZ := rotZ_orth sz cz hz
  have ho : (rotate sx cx sy cy sz cz).Orthogonal := orth_comp _ _ (orth_comp _ _ hZ.1 hY.1) hX.1
  refine ⟨ho, ?_, fun u v => orth_preserves_dot _ ho u v⟩
  unfold rotate; rw [det_comp, det_comp, hX.2, hY.2, hZ.2]; ring

/-- the integer quarter-turn rotation the driver runs against the real `Rotate(90a, 90b, 90c)` IS
    the `rotate` matrix of this section at the exact sine / cosine values -/
theorem rotQuarter_eq_rotate (ka kb kc x y z : Int) :
    rotQuarter ka kb kc (x, y, z) =
      (let q := (rotate (sinQuarter ka) (cosQuarter ka) (sinQuarter kb) (cosQuarter kb) (sinQuarter kc)
          (cosQuarter kc)).apply ⟨x, y, z⟩
       (q.x, q.y, q.z)) := by
  simp only [rotQuarter, rotate, rotX, rotY, rotZ, Aff.comp, Aff.apply, Aff.lin, V3.add]
  refine Prod.ext ?_ (Prod.ext ?_ ?_) <;> simp <;> ring

/-- a unit-normal mirror is orthogonal with determinant −1 -/
theorem mirror_reflects (n : V3 R) (h : dot n n = 1) : (mirror n).det = -1 ∧ (mirror n).Orthogonal := by
  simp only [dot] at h
  refine ⟨?_, ?_, ?_, ?_, ?_, ?_, ?_⟩ <;> simp only [mirror, Aff.det, dot]
  · linear_combination (-2 : R) * h
  · linear_combination (4 * n.x * n.x) * h
  · linear_combination (4 * n.y * n.y) * h
  · linear_combination (4 * n.z * n.z) * h
  · linear_combination (4 * n.x * n.y) * h
  · linear_combination (4 * n.x * n.z) * h
  · linear_combination (4 * n.y * n.z) * h

/-- a quarter turn about X followed by one about Z, over ℤ: an exact signed permutation -/
example : (rotate (1 : Int) 0 0 1 1 0).apply ⟨2, 3, 5⟩ = ⟨5, 2, 3⟩ := by decide
example : rotQuarter 1 0 1 (2, 3, 5) = (5, 2, 3) ∧ rotQuarter (-3) 6 0 (2, 3, 5) = (-2, -5, -3) := by decide

end transforms

/-- **sind_cosd_exact_at_quarter_turns.**  For every integer `k` and every `quo` function within
the C standard's contract for `remquo` (`quo ≡ k` modulo 8), the control flow of `sind` / `cosd`
returns exactly `sin 90k°` / `cos 90k°` ∈ {0, ±1}, given `sin(0) = 0` and `cos(0) = 1`; these
values satisfy `s² + c² = 1` exactly, so `rotate_orthogonal` applies with no rounding at all. -/
theorem sind_cosd_exact_at_quarter_turns (quoOf : Nat → Nat) (hq : ∀ m, quoOf m % 8 = m % 8) (k : Int) :
    sindQ 0 1 quoOf k = sinQuarter k ∧ cosdQ 0 1 quoOf k = cosQuarter k ∧
    sinQuarter k * sinQuarter k + cosQuarter k * cosQuarter k = 1 :=
  ⟨sindQ_exact quoOf hq k, by unfold cosdQ; rw [sindQ_exact quoOf hq, cosQuarter_eq], quarter_pythagoras k⟩

example : (List.range 9).map (fun k : Nat => sindQ 0 1 (· % 8) ((k : Int) - 4)) = [0, 1, 0, -1, 0, 1, 0, -1, 0] := by decide
example : (List.range 9).map (fun k : Nat => cosdQ 0 1 (· % 8) ((k : Int) - 4)) = [1, 0, -1, 0, 1, 0, -1, 0, 1] := by decide

/-- **segments_table.**  `GetCircularSegments`: an explicit `SetCircularSegments` value wins;
otherwise the result is a multiple of 4, at least 4, and is `min(nSegA, nSegL)` rounded UP to a
multiple of 4.  `SetCircularSegments` only ever stores 0 or a value ≥ 3. -/
theorem segments_table (circ a l : Nat) :
    (0 < circ → segments circ a l = circ) ∧
    (circ = 0 → segments circ a l % 4 = 0 ∧ 4 ≤ segments circ a l ∧
      min a l ≤ segments circ a l ∧ (1 ≤ min a l → segments circ a l < min a l + 4)) ∧
    (∀ cur number : Int, (cur = 0 ∨ 3 ≤ cur) →
      setCircularSegments cur number = 0 ∨ 3 ≤ setCircularSegments cur number) := by
  refine ⟨?_, ?_, setCircularSegments_range⟩
  · intro h; simp [segments, h]
  · intro h
    unfold segments
    subst h
    simp only [Nat.lt_irrefl, if_false]
    generalize min a l = m
    have h1 : (m + 3 - (m + 3) % 4) % 4 = 0 := by omega
    have h2 : m ≤ m + 3 - (m + 3) % 4 := by omega
    refine ⟨?_, by omega, by omega, by omega⟩
    rcases Nat.le_total (m + 3 - (m + 3) % 4) 4 with h | h
    · rw [Nat.max_eq_right h]
    · rw [Nat.max_eq_left h]; exact h1

example : segments 0 36 12 = 12 ∧ segments 0 36 13 = 16 ∧ segments 0 36 1000 = 36 ∧ segments 0 36 0 = 4 ∧
    segments 7 36 12 = 7 := by decide
example : cylinderNumTri (cylinderSegments 0 0 36 13) false = 60 ∧ sphereNumTri (sphereN 0 0 36 13) = 128 ∧
    sphereN 0 3 36 13 = 1 ∧ sphereN 0 5 36 13 = 2 := by decide

/-- **invalid_args_table.**  The guards of the constructors as a decision table over what the
comparisons can see of each argument (`neg`, `zero`, `pos`, `nan`): the result is `invalid`
exactly on the documented conditions, NaN counting as "not positive / not non-negative"; a
negative `nDivisions` and a `revolveDegrees` that is not positive are invalid too. -/
theorem invalid_args_table :
    (∀ x y z : Sgn, cubeStatus x y z = .invalid ↔
      (x = .neg ∨ x = .nan ∨ y = .neg ∨ y = .nan ∨ z = .neg ∨ z = .nan ∨ (x = .zero ∧ y = .zero ∧ z = .zero))) ∧
    (∀ h lo hi : Sgn, cylinderStatus h lo hi = .invalid ↔
      (h ≠ .pos ∨ lo = .neg ∨ lo = .nan ∨ (lo = .zero ∧ hi ≠ .pos))) ∧
    (∀ r : Sgn, sphereStatus r = .invalid ↔ r ≠ .pos) ∧
    (∀ n (h d : Sgn), extrudeStatus n h d = .invalid ↔ (n = 0 ∨ h ≠ .pos ∨ d = .neg)) ∧
    (∀ (deg : Sgn) (ps : List Bool), revolveStatus deg ps = .invalid ↔ (deg ≠ .pos ∨ ∀ p ∈ ps, p = false)) := by
  refine ⟨?_, ?_, ?_, ?_, ?_⟩
  · intro x y z; cases x <;> cases y <;> cases z <;> decide
  · intro h lo hi; cases h <;> cases lo <;> cases hi <;> decide
  · intro r; cases r <;> decide
  · intro n h d
    cases n <;> cases h <;> cases d <;> simp [extrudeStatus, Sgn.gt0, Sgn.lt0]
  · intro deg ps
    cases deg <;> simp [revolveStatus, Sgn.gt0]

example : sphereStatus .nan = .invalid ∧ cubeStatus .pos .nan .pos = .invalid ∧ extrudeStatus 1 .pos .neg = .invalid ∧
    revolveStatus .zero [true] = .invalid ∧ cylinderStatus .pos .pos .nan = .ok := by decide

end MV.C17
