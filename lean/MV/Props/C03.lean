import MV.Proof.CsgHistory
import MV.Proof.CsgFresh
/-!
# C03 — the solid denoted by a CSG expression does not depend on laziness

Model: `MV/Model/Csg.lean` (`toLeaf` = `CsgOpNode::ToLeafNode`, `force` =
`Manifold::GetCsgLeafNode`, `Store.boolean/batch/transform` = the node constructors).
Everything is proved for an arbitrary transform type `M` with `1`, `*` (the driver uses the
integer 3x4 matrices `Mat`), an arbitrary algebra of solids `S` (`SolidAlg`, `XfAct`: exactly the
laws used), EVERY oracle (the `use_count()` tests of `canCollapse`), EVERY well-formed store
(arbitrary DAG, arbitrary sharing of impls between op nodes that differ in their transform,
arbitrary subset of nodes already evaluated/cached).

Result meshes are abstract: a valuation `L : Val S` names the solid of every mesh and
`Respects L evs` says that each mesh created by a finalize (`fin op pos neg => r`) has the value
of the n-ary operation on its operands (`evSem`; independence from the partition / heap order
inside `BatchUnion` / `BatchBoolean` is `batch_eq_fold`).  Such an `L` always exists and extends
any valuation of the pre-existing meshes (`toLeaf_respects_exists`, `program_independent_exists`).
-/
set_option autoImplicit false
namespace MV.Csg.C03
open MV.Csg SolidAlg XfAct

variable {M S : Type} [One M] [Mul M] [SolidAlg S] [XfAct M S]

/-- The invariant `WF` of the property statement: structural part `WFs` (every impl has ≥ 2
children or is a single LEAF; op children have smaller impl ids = acyclic; nodes sharing an impl
have the same op; a cached node has a leaf cache and an impl that is a single leaf) and
`CacheOK` (the cache denotes its node). -/
def WF (L : Val S) (s : Store M) : Prop := WFs s ∧ CacheOK L s

/-! ## a concrete DAG with a sub-expression shared under two different transforms -/

/-- translate by 5 along x -/
def T1 : Mat := ⟨1, 0, 0, 5, 0, 1, 0, 0, 0, 0, 1, 0⟩
/-- scale by 2 -/
def T2 : Mat := ⟨2, 0, 0, 0, 0, 2, 0, 0, 0, 0, 2, 0⟩

/-- `x = a + b; root = (x.Transform(T1) - c) + x.Transform(T2)`: the op nodes of handles 5 and
6 share the impl of `x` -/
def dagProg : List (Cmd Mat) :=
  [.leaf 1, .leaf 2, .leaf 3, .bool 4 .add 1 2, .xf 5 4 T1, .xf 6 4 T2, .bool 7 .sub 5 3,
   .bool 8 .add 7 6]

def dag : Store Mat := (({} : Sess Mat).run dagProg).st

/-- the root is node 7; nodes 4 and 5 are the two transformed copies sharing impl 0 -/
example : (({} : Sess Mat).run dagProg).handles.lookup 8 = some 7 ∧
    dag.nodes[4]? = some (.op 0 .add T1 none) ∧ dag.nodes[5]? = some (.op 0 .add T2 none) := by
  decide +kernel

theorem dag_wfs : WFs dag := wf_sound (by decide +kernel)
theorem dag_below : StoreBelow dag := storeBelow_of_check (by decide +kernel)
theorem dag_cache {S' : Type} [SolidAlg S'] [XfAct Mat S'] (L : Val S') : CacheOK L dag :=
  cacheOK_of_noCache L (by decide +kernel)

/-- an oracle for the four non-finalize frame visits of `force root`: root, `T2·x` (finalized:
`x`'s impl becomes one result leaf), the Subtract node, `T1·x` (collapses: impl has size 1) -/
def dagOrc : List Bool := [false, false, false, true]

/-! ## toLeaf_denotes -/

/-- **toLeaf_denotes.**  For every well-formed store, every node `n`, every oracle and every
fuel `≥ cost s n` (the fuel bound; `force` passes exactly `cost s n`): the evaluator terminates
within the fuel without undefined behaviour, returns a leaf node, the new store is well formed,
and for every valuation respecting the emitted events the returned leaf denotes `denote s n`
(taken in the store BEFORE the call), the denotation of EVERY node of the store is unchanged,
and the caches stay consistent. -/
theorem toLeaf_denotes (s : Store M) (hwf : WFs s) (n : Nat) (hn : n < s.nodes.length)
    (orc : List Bool) (fuel : Nat) (hfuel : cost s n ≤ fuel) :
    (toLeaf s n orc fuel).ok = true ∧ (toLeaf s n orc fuel).ub = false ∧
    WFs (toLeaf s n orc fuel).st ∧
    (∃ l, (toLeaf s n orc fuel).st.nodes[(toLeaf s n orc fuel).ret]? = some (Node.leaf l)) ∧
    ∀ (L : Val S), CacheOK L s → Respects L (toLeaf s n orc fuel).evs →
      denote L (toLeaf s n orc fuel).st (toLeaf s n orc fuel).ret = denote L s n ∧
      (∀ k, k < s.nodes.length → denote L (toLeaf s n orc fuel).st k = denote L s k) ∧
      WF L (toLeaf s n orc fuel).st := by
  obtain ⟨ok, ub, wf, lf, _, sem⟩ := toLeaf_evald (S := S) s hwf n hn orc fuel hfuel
  refine ⟨ok, ub, wf, lf, fun L hc hL => ?_⟩
  have b := sem L hL hc
  exact ⟨b.val, b.sem, b.wf, b.cache⟩

/-- The hypothesis `Respects` of `toLeaf_denotes` is satisfiable, for every store whose result
meshes were created before `nextRes` (`StoreBelow`) and every valuation `L₀` of the existing
meshes: `L₀.extend evs` respects the events, agrees with `L₀` on all existing meshes, and keeps
the caches consistent. -/
theorem toLeaf_respects_exists (s : Store M) (hs : StoreBelow s) (n : Nat) (orc : List Bool)
    (fuel : Nat) (L₀ : Val S) (hc : CacheOK L₀ s) :
    Respects (L₀.extend (toLeaf s n orc fuel).evs) (toLeaf s n orc fuel).evs ∧
    Agree s.nextRes L₀ (L₀.extend (toLeaf s n orc fuel).evs) ∧
    CacheOK (L₀.extend (toLeaf s n orc fuel).evs) s ∧
    ∀ k, denote (L₀.extend (toLeaf s n orc fuel).evs) s k = denote L₀ s k := by
  have f := toLeaf_fresh s hs n orc fuel
  obtain ⟨a, r⟩ := extend_spec (S := S) _ _ L₀ f.sc
  exact ⟨r, a, cacheOK_congr hs a hc, fun k => (denote_congr hs a k).symm⟩

/-- Non-vacuity of `toLeaf_denotes` on the DAG above: all hypotheses hold, so for EVERY algebra
of solids and every valuation `L₀` of the three user meshes the leaf returned for the root
denotes the eager value of the expression; the shared impl is evaluated once (event 1) and
re-used under the other transform (`r0` appears with `T1` and with `T2`). -/
example {S' : Type} [SolidAlg S'] [XfAct Mat S'] (L₀ : Val S') :
    let r := toLeaf dag 7 dagOrc (cost dag 7)
    let L := L₀.extend r.evs
    r.ok = true ∧ Respects L r.evs ∧ denote L r.st r.ret = denote L₀ dag 7 ∧
    denote L₀ dag 7 =
      union (diff (act T1 (union (L₀.orig 1) (L₀.orig 2))) (L₀.orig 3))
            (act T2 (union (L₀.orig 1) (L₀.orig 2))) := by
  intro r L
  obtain ⟨ok, _, _, _, sem⟩ :=
    toLeaf_denotes (S := S') dag dag_wfs 7 (by decide) dagOrc (cost dag 7) (Nat.le_refl _)
  obtain ⟨hR, _, hC, hD⟩ := toLeaf_respects_exists dag dag_below 7 dagOrc (cost dag 7) L₀
    (dag_cache L₀)
  refine ⟨ok, hR, ?_, ?_⟩
  · rw [(sem L hC hR).1]; exact hD 7
  · have hev : (({} : Sess Mat).run dagProg).evs = [] := by decide +kernel
    have h := (run_inv dagProg ({} : Sess Mat) ({} : Spec S') (sessInv_empty L₀)
      (by rw [hev]; exact Respects_nil L₀)).env 8
    rw [show (({} : Sess Mat).run dagProg).handles.lookup 8 = some 7 by decide +kernel] at h
    -- the eager side is evaluated command by command: unfolding it in one piece re-evaluates
    -- every earlier state at each lookup
    have hs : (({} : Spec S').run L₀ dagProg).env.lookup 8 =
        some (union (diff (act T1 (union (L₀.orig 1) (L₀.orig 2))) (L₀.orig 3))
          (act T2 (union (L₀.orig 1) (L₀.orig 2)))) := by
      simp only [Spec.run, dagProg, List.foldl_cons, List.foldl_nil, Spec.exec, List.lookup, binSem,
        Nat.reduceBEq]
    exact Option.some.inj (h.symm.trans hs)

example :
    (toLeaf dag 7 dagOrc (cost dag 7)).evs =
      [ { op := .add, pos := [⟨.orig 1, 1⟩, ⟨.orig 2, 1⟩], neg := [], res := ⟨.res 0, 1⟩,
          fresh := true },
        { op := .sub, pos := [⟨.res 0, T1⟩], neg := [⟨.orig 3, 1⟩], res := ⟨.res 1, 1⟩,
          fresh := true },
        { op := .add, pos := [⟨.res 0, T2⟩, ⟨.res 1, 1⟩], neg := [], res := ⟨.res 2, 1⟩,
          fresh := true } ] ∧
    (toLeaf dag 7 dagOrc (cost dag 7)).used = 4 := by
  decide +kernel

/-- the same for `Manifold::GetCsgLeafNode` (which supplies the fuel `cost s n` itself) -/
theorem force_denotes (s : Store M) (hwf : WFs s) (n : Nat) (hn : n < s.nodes.length)
    (orc : List Bool) :
    (force s n orc).ok = true ∧ (force s n orc).ub = false ∧ WFs (force s n orc).st ∧
    (∃ l, (force s n orc).st.nodes[(force s n orc).ret]? = some (Node.leaf l)) ∧
    ∀ (L : Val S), CacheOK L s → Respects L (force s n orc).evs →
      denote L (force s n orc).st (force s n orc).ret = denote L s n ∧
      (∀ k, k < s.nodes.length → denote L (force s n orc).st k = denote L s k) ∧
      WF L (force s n orc).st := by
  obtain ⟨ok, ub, wf, lf, _, sem⟩ := force_evald (S := S) s hwf n hn orc
  refine ⟨ok, ub, wf, lf, fun L hc hL => ?_⟩
  have b := sem L hL hc
  exact ⟨b.val, b.sem, b.wf, b.cache⟩

/-! ## history_independent -/

/-- **history_independent.**  For every well-formed initial store and every sequence of forcing
calls `(node, oracle)` on its nodes — any order, any repetition, shared sub-expressions forced
first, later, or through several parents — every call succeeds and returns a leaf that denotes
what its node denotes in the INITIAL store; afterwards all initial nodes still denote what they
denoted initially. -/
theorem history_independent (s : Store M) (hwf : WFs s) (calls : List (Nat × List Bool))
    (hvalid : ∀ c ∈ calls, c.1 < s.nodes.length) :
    (forceSeq s calls).2.2.2 = true ∧ WFs (forceSeq s calls).1 ∧
    ∀ (L : Val S), CacheOK L s → Respects L (forceSeq s calls).2.2.1 →
      (forceSeq s calls).2.1.map (Option.map L.leaf)
        = calls.map (fun c => some (denote L s c.1)) ∧
      (∀ k, k < s.nodes.length → denote L (forceSeq s calls).1 k = denote L s k) ∧
      WF L (forceSeq s calls).1 := by
  obtain ⟨ok, wf, sem⟩ := forceSeq_spec (S := S) s hwf calls hvalid
  refine ⟨ok, wf, fun L hc hL => ?_⟩
  obtain ⟨r, se, c, _⟩ := sem L hL hc
  exact ⟨r, se, wf, c⟩

/-- Non-vacuity of `history_independent`: on the DAG above force the shared sub-expression
first (node 3), then the root, then a transformed copy (node 4), then node 3 again.  For every
algebra and every valuation of the user meshes all four calls return the initial denotation of
their node. -/
example {S' : Type} [SolidAlg S'] [XfAct Mat S'] (L₀ : Val S') :
    let calls : List (Nat × List Bool) :=
      [(3, [false]), (7, [false, true, false, false]), (4, [true]), (3, [])]
    let R := forceSeq dag calls
    let L := L₀.extend R.2.2.1
    R.2.2.2 = true ∧ Respects L R.2.2.1 ∧
    R.2.1.map (Option.map L.leaf) = calls.map (fun c => some (denote L₀ dag c.1)) := by
  intro calls R L
  obtain ⟨ok, _, sem⟩ := history_independent (S := S') dag dag_wfs calls (by decide +kernel)
  have hsc : Scoped 0 R.2.2.1 := by decide +kernel
  obtain ⟨hA, hR⟩ : Agree dag.nextRes L₀ L ∧ Respects L R.2.2.1 := extend_spec _ _ L₀ hsc
  refine ⟨ok, hR, ?_⟩
  rw [(sem L (dag_cache L) hR).1]
  apply List.map_congr_left
  intro c _
  rw [denote_congr dag_below hA]

/-- **program_independent** (history independence at the API level).  Run any program — any
interleaving of `leaf`, `Boolean`, `BatchBoolean`, `Transform`, handle destruction and forcing
with arbitrary oracles — lazily (`Sess.run`) and eagerly (`Spec.run`: every handle gets its
solid at once from `binSem`/`opSem`/`act`).  Then every live handle denotes its eager solid,
and every `force` returned a leaf denoting the eager solid of its handle.  Unbound handles are
unbound on both sides. -/
theorem program_independent (prog : List (Cmd M)) (L : Val S)
    (hL : Respects L ((({} : Sess M).run prog).evs)) :
    (∀ h n, (({} : Sess M).run prog).handles.lookup h = some n →
      (({} : Spec S).run L prog).env.lookup h
        = some (denote L (({} : Sess M).run prog).st n)) ∧
    (∀ h, (({} : Sess M).run prog).handles.lookup h = none →
      (({} : Spec S).run L prog).env.lookup h = none) ∧
    (({} : Sess M).run prog).rets.map L.leaf = (({} : Spec S).run L prog).rets ∧
    WF L (({} : Sess M).run prog).st := by
  have inv := run_inv prog ({} : Sess M) ({} : Spec S) (sessInv_empty L) hL
  exact ⟨fun h n hl => by rw [inv.env, hl]; rfl, fun h hl => by rw [inv.env, hl]; rfl, inv.rets,
    inv.wf, inv.cache⟩

/-- the valuation needed by `program_independent` exists for every valuation `L₀` of the user
meshes: the events of every program are well scoped -/
theorem program_independent_exists (prog : List (Cmd M)) (L₀ : Val S) :
    Respects (L₀.extend (({} : Sess M).run prog).evs) (({} : Sess M).run prog).evs ∧
    (L₀.extend (({} : Sess M).run prog).evs).orig = L₀.orig := by
  have f := run_sess_fresh prog ({} : Sess M) sessFresh_empty
  obtain ⟨a, r⟩ := extend_spec (S := S) _ _ L₀ f.sc
  exact ⟨r, a.1.symm⟩

/-- A program that forces the shared sub-expression late, the root early, re-uses an evaluated
handle under a new transform, drops a handle and re-binds another one. -/
def histProg : List (Cmd Mat) :=
  dagProg ++ [.force 8 [false, false, false, true], .force 4 [], .xf 9 8 T1, .force 9 [],
              .bool 8 .int 9 5, .drop 4, .force 8 [false, true], .force 5 []]

/-- Non-vacuity of `program_independent`: the program runs without failure, makes five forces
and six finalizes, and for every algebra and every valuation of the user meshes the required
valuation exists, so every force returned the eager solid. -/
example {S' : Type} [SolidAlg S'] [XfAct Mat S'] (L₀ : Val S') :
    let σ := ({} : Sess Mat).run histProg
    let L := L₀.extend σ.evs
    σ.ok = true ∧ σ.rets.length = 5 ∧ σ.evs.length = 6 ∧
    σ.rets.map L.leaf = (({} : Spec S').run L histProg).rets ∧ L.orig = L₀.orig := by
  intro σ L
  obtain ⟨hR, hO⟩ := program_independent_exists (S := S') histProg L₀
  exact ⟨by decide, by decide, by decide, (program_independent histProg L hR).2.2.1, hO⟩

/-! ## corollaries: the evaluator's rewrites at the denotation level -/

/-- **sub_sub**: `(a − b) − c = a − (b + c)`, for the nodes built by `Manifold::Boolean` -/
theorem sub_sub (L : Val S) (s : Store M) (hwf : WFs s) (hc : CacheOK L s) (a b c : Nat)
    (ha : a < s.nodes.length) (hb : b < s.nodes.length) (hcl : c < s.nodes.length) :
    let s1 := (s.boolean a b .sub).1
    let x := (s.boolean a b .sub).2
    let s2 := (s1.boolean x c .sub).1
    let y := (s1.boolean x c .sub).2
    let t1 := (s.boolean b c .add).1
    let z := (s.boolean b c .add).2
    let t2 := (t1.boolean a z .sub).1
    let w := (t1.boolean a z .sub).2
    denote L s2 y = denote L t2 w ∧
    denote L s2 y = diff (denote L s a) (union (denote L s b) (denote L s c)) := by
  intro s1 x s2 y t1 z t2 w
  have b1 := boolean_built L s hwf hc a b .sub ha hb
  have b2 := boolean_built L s1 b1.wf b1.cache x c .sub b1.lt (Nat.lt_of_lt_of_le hcl b1.mono)
  have c1 := boolean_built L s hwf hc b c .add hb hcl
  have c2 := boolean_built L t1 c1.wf c1.cache a z .sub (Nat.lt_of_lt_of_le ha c1.mono) c1.lt
  have e1 : denote L s2 y = diff (denote L s a) (union (denote L s b) (denote L s c)) := by
    rw [b2.val, b1.val, b1.sem c hcl]
    exact diff_diff _ _ _
  refine ⟨?_, e1⟩
  rw [e1, c2.val, c1.val, c1.sem a ha]
  rfl

/-- `sub_sub` applies to the three leaves of the DAG above (every algebra, every valuation) -/
example {S' : Type} [SolidAlg S'] [XfAct Mat S'] (L : Val S') :
    diff (diff (L.orig 1) (L.orig 2)) (L.orig 3) = diff (L.orig 1) (union (L.orig 2) (L.orig 3)) := by
  have h := (sub_sub L dag dag_wfs (dag_cache L) 0 1 2 (by decide) (by decide) (by decide)).2
  have e0 : denote L dag 0 = L.orig 1 := by
    rw [denote_leaf L (l := ⟨.orig 1, 1⟩) (by decide)]; simp [Val.leaf, Val.leafId, act_one]
  have e1 : denote L dag 1 = L.orig 2 := by
    rw [denote_leaf L (l := ⟨.orig 2, 1⟩) (by decide)]; simp [Val.leaf, Val.leafId, act_one]
  have e2 : denote L dag 2 = L.orig 3 := by
    rw [denote_leaf L (l := ⟨.orig 3, 1⟩) (by decide)]; simp [Val.leaf, Val.leafId, act_one]
  rw [e0, e1, e2] at h
  exact (diff_diff _ _ _).trans (h.symm.trans h)

/-- **sub_sub as the evaluator performs it**: `(a − b) − c` with the inner node unshared (handle
dropped, oracle bit 1) is collapsed — ONE finalize with `pos = [a]`, `neg = [c, b]`; with the
inner node still shared (oracle bit 0) it is evaluated in two finalizes. -/
example :
    (({} : Sess Mat).run [.leaf 1, .leaf 2, .leaf 3, .bool 4 .sub 1 2, .bool 5 .sub 4 3,
        .drop 4, .force 5 [false, true]]).evs =
      [ { op := .sub, pos := [⟨.orig 1, 1⟩], neg := [⟨.orig 3, 1⟩, ⟨.orig 2, 1⟩],
          res := ⟨.res 0, 1⟩, fresh := true } ] ∧
    (({} : Sess Mat).run [.leaf 1, .leaf 2, .leaf 3, .bool 4 .sub 1 2, .bool 5 .sub 4 3,
        .force 5 [false, false]]).evs =
      [ { op := .sub, pos := [⟨.orig 1, 1⟩], neg := [⟨.orig 2, 1⟩], res := ⟨.res 0, 1⟩,
          fresh := true },
        { op := .sub, pos := [⟨.res 0, 1⟩], neg := [⟨.orig 3, 1⟩], res := ⟨.res 1, 1⟩,
          fresh := true } ] := by
  decide +kernel

/-- **nested_eq_flat**: nested binary unions / intersections equal the flat batch -/
theorem nested_eq_flat (L : Val S) (s : Store M) (hwf : WFs s) (hc : CacheOK L s) (o : Op)
    (ho : o = .add ∨ o = .int) (a b c : Nat)
    (ha : a < s.nodes.length) (hb : b < s.nodes.length) (hcl : c < s.nodes.length) :
    let s1 := (s.boolean a b o).1
    let x := (s.boolean a b o).2
    denote L (s1.boolean x c o).1 (s1.boolean x c o).2
      = denote L (s.batch [a, b, c] o).1 (s.batch [a, b, c] o).2 := by
  intro s1 x
  have b1 := boolean_built L s hwf hc a b o ha hb
  have b2 := boolean_built L s1 b1.wf b1.cache x c o b1.lt (Nat.lt_of_lt_of_le hcl b1.mono)
  have f := batch_built L s hwf hc [a, b, c] o (by
    intro n hn
    simp only [List.mem_cons, List.not_mem_nil, or_false] at hn
    rcases hn with rfl | rfl | rfl <;> assumption)
  rw [b2.val, b1.val, b1.sem c hcl, f.val]
  rcases ho with rfl | rfl
  · simp [binSem, opSem, union_empty, union_assoc]
  · simp [binSem, opSem, bigI, bigIo, inter_assoc]

/-- `nested_eq_flat` on the DAG above, with the shared op node `x` (node 3) as an operand -/
example {S' : Type} [SolidAlg S'] [XfAct Mat S'] (L : Val S') :
    let s1 := (dag.boolean 3 4 .add).1
    let x := (dag.boolean 3 4 .add).2
    denote L (s1.boolean x 5 .add).1 (s1.boolean x 5 .add).2
      = denote L (dag.batch [3, 4, 5] .add).1 (dag.batch [3, 4, 5] .add).2 :=
  nested_eq_flat L dag dag_wfs (dag_cache L) .add (Or.inl rfl) 3 4 5 (by decide) (by decide)
    (by decide)

/-- nested versus flat as the evaluator performs it: the nested union collapses (oracle bit 1)
into one finalize over the same three operands as the batch -/
example :
    (({} : Sess Mat).run [.leaf 1, .leaf 2, .leaf 3, .bool 4 .add 1 2, .bool 5 .add 4 3,
        .drop 4, .force 5 [false, true]]).evs =
      [ { op := .add, pos := [⟨.orig 3, 1⟩, ⟨.orig 1, 1⟩, ⟨.orig 2, 1⟩], neg := [],
          res := ⟨.res 0, 1⟩, fresh := true } ] ∧
    (({} : Sess Mat).run [.leaf 1, .leaf 2, .leaf 3, .batch 5 .add [1, 2, 3],
        .force 5 [false]]).evs =
      [ { op := .add, pos := [⟨.orig 1, 1⟩, ⟨.orig 2, 1⟩, ⟨.orig 3, 1⟩], neg := [],
          res := ⟨.res 0, 1⟩, fresh := true } ] := by
  decide +kernel

/-- **transform_chain**: a chain of transforms equals the product applied once -/
theorem transform_chain (L : Val S) (s : Store M) (hwf : WFs s) (hc : CacheOK L s) (e : Nat)
    (m n : M) (he : e < s.nodes.length) :
    let s1 := (s.transform e n).1
    let x := (s.transform e n).2
    denote L (s1.transform x m).1 (s1.transform x m).2 = act (m * n) (denote L s e) := by
  intro s1 x
  have b1 := transform_built L s hwf hc e n he
  have b2 := transform_built L s1 b1.wf b1.cache x m b1.lt
  rw [b2.val, b1.val, act_mul]

/-- `transform_chain` on the shared op node `x` (node 3) of the DAG above, and the matrices the
model actually stores: the chain is multiplied out at construction (`m * Mat4(n)`), also when
the transformed node was collapsed into its parent during evaluation (the returned leaf `⟨.orig 1, T2 * T1⟩` below). -/
example {S' : Type} [SolidAlg S'] [XfAct Mat S'] (L : Val S') :
    let s1 := (dag.transform 3 T1).1
    let x := (dag.transform 3 T1).2
    denote L (s1.transform x T2).1 (s1.transform x T2).2 = act (T2 * T1) (denote L dag 3) :=
  transform_chain L dag dag_wfs (dag_cache L) 3 T2 T1 (by decide)

example :
    ((dag.transform 3 T1).1.transform (dag.transform 3 T1).2 T2).1.nodes[9]?
      = some (.op 0 .add (T2 * T1) none) ∧
    T2 * T1 = (⟨2, 0, 0, 10, 0, 2, 0, 0, 0, 0, 2, 0⟩ : Mat) ∧
    (({} : Sess Mat).run [.leaf 1, .xf 2 1 T1, .xf 3 2 T2, .force 3 []]).rets
      = [⟨.orig 1, T2 * T1⟩] := by
  decide +kernel

/-- **batch_eq_fold**: any bracketing, grouping and order in which `BatchUnion` /
`BatchBoolean` combine their operands with a commutative associative operation gives the left
fold of the operands -/
theorem batch_eq_fold {α : Type} (f : α → α → α) [Std.Associative f] [Std.Commutative f]
    (t : Bracket α) (x : α) (l : List α) (h : t.leaves.Perm (x :: l)) :
    t.eval f = l.foldl f x := by
  apply Option.some.inj
  rw [Bracket.eval_eq_msum, @CsgBatch.msum_perm _ (CsgBatch.optCMon f) _ _ (h.map some),
    CsgBatch.optCMon_msum]

/-- `batch_eq_fold` on a concrete bracketing: `(d ∪ a) ∪ (c ∪ b)` is the fold of `a,b,c,d` -/
example (a b c d : S) :
    union (union d a) (union c b) = union (union (union a b) c) d :=
  batch_eq_fold union (.op (.op (.one d) (.one a)) (.op (.one c) (.one b))) a [b, c, d]
    ((List.Perm.swap a d [c, b]).trans ((List.reverse_perm [b, c, d]).cons a))

/-- `BatchUnion` of the operands `x :: l`, whatever it does internally, is `⋃` -/
theorem batchUnion_eq (t : Bracket S) (x : S) (l : List S) (h : t.leaves.Perm (x :: l)) :
    t.eval union = bigU (x :: l) := by
  rw [batch_eq_fold union t x l h, foldl_union_eq]

/-- `BatchBoolean(Intersect)` of the operands `x :: l`, whatever the heap order, is `⋂` -/
theorem batchInter_eq (t : Bracket S) (x : S) (l : List S) (h : t.leaves.Perm (x :: l)) :
    t.eval inter = bigI (x :: l) := by
  rw [batch_eq_fold inter t x l h, foldl_inter_eq]

end MV.Csg.C03
