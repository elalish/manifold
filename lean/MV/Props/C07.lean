import MV.Proof.ExportRuns

import MV.Proof.ExportIds
/-!
# C07 — provenance: the run table of the exported mesh

"Runs are contiguous, cover all triangles, are sorted by original ID (originals that contribute
no triangle trail as empty runs), and distinct instances of one original keep their own
transforms."

The theorems are about `MV.Export.exportRuns` (the transliteration of the run part of
`GetMeshGLImpl`, /repo/src/impl.h:569-750) and about the mesh-ID bookkeeping that feeds it
(`IncrementMeshIDs`, the Boolean's `offsetQ` shift, `Compose`'s `i * snapshot` offsets).
They are tied to the C++ by `checks/c07.py`: the harness dumps the exporter's inputs of the real
`Impl` and the real `GetMeshGL64` integer fields, `mvdriver export all …` must reproduce them.

The geometric half of C07 (triangle within tolerance of the transformed source face, property
values = interpolated source field) is an oracle in the harness, not a theorem.
-/
namespace MV.C07
open MV.Export List

variable {τ : Type}


/-- the concrete instance used by the non-vacuity examples: two instances (meshIDs 5, 6) of two
originals (2, 1), and a relation (7) no triangle uses -/
def exRefs : List TriRef := [⟨5, 2, -1, 0⟩, ⟨6, 1, -1, 1⟩, ⟨5, 2, 3, 2⟩, ⟨6, 1, -1, 3⟩]
def exMap : RelMap Nat := [(5, ⟨2, 50, false, false⟩), (6, ⟨1, 60, true, false⟩), (7, ⟨1, 70, false, true⟩)]

theorem exRefs_hid : ∀ r ∈ exRefs, r.meshID ≠ -1 := by simp [exRefs]
theorem exMap_sorted : RelMap.Sorted exMap := by simp [RelMap.Sorted, exMap]
theorem ex_consistent : Consistent exRefs exMap := by
  unfold Consistent; decide +kernel

/-! ## runs are contiguous, cover all triangles, and are homogeneous -/

/-- RUNS PARTITION THE TRIANGLES (any input, original or not; the only hypothesis is that no
triangle carries the sentinel `lastID = -1` as its meshID).
* `triNew2Old` is a permutation of `0..n-1` and `sorted` is `refs` read through it;
* `runIndex` has one entry more than `runOriginalID`, starts at 0, ends at `3n`, is
  non-decreasing, all entries are multiples of 3: run `k` is the contiguous block
  `[runIndex[k]/3, runIndex[k+1]/3)` and the blocks tile `0..n-1`;
* every triangle of run `k` has the meshID that opened run `k`;
* the vertex loop, which walks `for run, for tri in run`, visits `0,1,…,n-1` in order. -/
theorem runs_partition (isOriginal : Bool) (idT : τ) (refs : List TriRef) (m : RelMap τ)
    (hid : ∀ r ∈ refs, r.meshID ≠ -1) :
    let rt := exportRuns isOriginal idT refs m
    rt.triNew2Old ~ List.range refs.length ∧
    rt.sorted.length = refs.length ∧
    (∀ t, t < refs.length → rt.sorted[t]? = refs[rt.triNew2Old.getD t 0]?) ∧
    rt.runIndex.length = rt.runOriginalID.length + 1 ∧
    rt.runIndex.head? = some 0 ∧ rt.runIndex.getLast? = some (3 * refs.length) ∧
    rt.runIndex.Pairwise (· ≤ ·) ∧ (∀ x ∈ rt.runIndex, 3 ∣ x) ∧
    (∀ k t r, k < rt.runMeshID.length → rt.runIndex.getD k 0 ≤ 3 * t →
      3 * t < rt.runIndex.getD (k + 1) 0 → rt.sorted[t]? = some r →
      rt.runMeshID[k]? = some r.meshID) ∧
    runOrder rt.runIndex = List.range refs.length := by
  intro rt
  obtain ⟨hp, hh⟩ := exportRuns_starts isOriginal idT refs m hid
  have hri : rt.runIndex = (rt.runs.map (·.start) ++ [refs.length]).map (3 * ·) := runIndex_eq rt
  refine ⟨sortIdx_snd_perm _ _, sortedOf_length _ _, sorted_getElem?_eq _ _, ?_, ?_, ?_, ?_, ?_, ?_, ?_⟩
  · simp [RunTable.runIndex, RunTable.runOriginalID]
  · rw [hri, head?_map, hh]; rfl
  · simp [RunTable.runIndex, rt, exportRuns_numTri]
  · rw [hri]
    exact pairwise_map.2 (hp.imp (fun h => by omega))
  · intro x hx
    rw [hri] at hx
    obtain ⟨y, _, rfl⟩ := mem_map.1 hx
    exact Nat.dvd_mul_right 3 y
  · intro k t r hk h1 h2 hr
    exact exportRuns_cover isOriginal idT refs m k t r
      (by simpa [RunTable.runMeshID] using hk) h1 h2 hr
  · rw [hri, runOrder_map3 _ hp, hh, getLast?_concat, Option.getD_some, Option.getD_some, Nat.sub_zero,
      range_eq_range']

/-- non-vacuity: the hypothesis holds for a concrete mixed input (sorted and unsorted export) -/
example := runs_partition false (0 : Nat) exRefs exMap exRefs_hid
example := runs_partition true (0 : Nat) exRefs exMap exRefs_hid

/-! ## runs are sorted; empty runs trail; every instance keeps its own relation -/

/-- RUNS ARE SORTED (non-original export of a consistent relation table with ascending keys).
There is a `p` (the number of non-empty runs) such that
* runs `0..p-1` are non-empty, runs `p..` are empty and start at `3n` (empty runs last);
* the non-empty runs are STRICTLY increasing in (originalID, meshID): in particular
  `runOriginalID` is non-decreasing over them and every instance (meshID) has exactly one run;
* their meshIDs are exactly the meshIDs that occur on triangles;
* EVERY run (empty or not) carries the relation stored under its own meshID — distinct instances
  of one original keep their own transform/backSide/hasNormals, nothing is defaulted;
* the empty runs are exactly the relations no triangle uses, one each, in key order. -/
theorem runs_sorted (idT : τ) (refs : List TriRef) (m : RelMap τ)
    (hm : RelMap.Sorted m) (hid : ∀ r ∈ refs, r.meshID ≠ -1) (hc : Consistent refs m) :
    let rt := exportRuns false idT refs m
    ∃ p, p ≤ rt.runs.length ∧
      (∀ k, k < p → rt.runIndex.getD k 0 < rt.runIndex.getD (k + 1) 0) ∧
      (∀ k, p ≤ k → k < rt.runs.length → rt.runIndex.getD k 0 = 3 * refs.length) ∧
      (rt.runs.take p).Pairwise RunKeyLT ∧
      (rt.runOriginalID.take p).Pairwise (· ≤ ·) ∧
      (rt.runMeshID.take p).Nodup ∧
      (∀ id, id ∈ rt.runMeshID.take p ↔ id ∈ refs.map (·.meshID)) ∧
      (∀ run ∈ rt.runs, RelMap.lookup m run.meshID = some run.rel) ∧
      (rt.runs.drop p).map (fun r => (r.meshID, r.rel)) =
        m.filter (fun kv => !(refs.map (·.meshID)).contains kv.1) := by
  intro rt
  have hruns : rt.runs = (loopOf false idT refs m).1 ++
      (loopOf false idT refs m).2.map fun kv => (⟨refs.length, kv.1, kv.2⟩ : Run τ) := rfl
  have hst := runsFrom_start (Rel.dflt idT) (sortedOf false refs) 0 (-1) m
  have hb : ∀ run ∈ (loopOf false idT refs m).1, run.start < refs.length := fun run hr =>
    loop_start_lt false idT refs m hr
  have htake : rt.runs.take (loopOf false idT refs m).1.length = (loopOf false idT refs m).1 := by
    rw [hruns, take_left']; rfl
  have hdrop : rt.runs.drop (loopOf false idT refs m).1.length =
      (loopOf false idT refs m).2.map fun kv => (⟨refs.length, kv.1, kv.2⟩ : Run τ) := by
    rw [hruns, drop_left']; rfl
  have hkey := loop_pairwise_key idT refs m hid hc
  refine ⟨(loopOf false idT refs m).1.length, by rw [hruns, length_append]; omega,
    ?_, ?_, ?_, ?_, ?_, ?_, ?_, ?_⟩
  · intro k hk
    rw [runIndex_getD _ _ (by rw [hruns, length_append]; omega),
      runIndex_getD _ _ (by rw [hruns, length_append]; omega)]
    simp only [rt, exportRuns_numTri, exportRuns_nxt]
    have : nxt (loopOf false idT refs m).1 k refs.length <
        nxt (loopOf false idT refs m).1 (k + 1) refs.length := nxt_strict hst.2 hb hk
    omega
  · intro k hk hk'
    rw [runIndex_getD _ _ (Nat.le_of_lt hk')]
    simp only [rt, exportRuns_numTri, exportRuns_nxt]
    rw [nxt_of_ge hk]
  · rw [htake]; exact hkey
  · rw [RunTable.runOriginalID, ← map_take, htake]
    refine pairwise_map.2 (hkey.imp ?_)
    intro a b h
    rcases h with h | ⟨h, _⟩ <;> omega
  · rw [RunTable.runMeshID, ← map_take, htake]
    exact loop_meshIDs_nodup idT refs m hid hc
  · intro id
    rw [RunTable.runMeshID, ← map_take, htake]
    exact loop_mem_meshIDs idT refs m false hid id
  · exact exportRuns_run_lookup idT refs m hm hid hc
  · rw [hdrop, map_map, ← loop_snd idT refs m false hid]
    exact map_id' _

/-- non-vacuity: a consistent state with two non-empty runs and one trailing empty run -/
example := runs_sorted (0 : Nat) exRefs exMap exMap_sorted exRefs_hid ex_consistent

/-! ## IncrementMeshIDs -/

/-- `IncrementMeshIDs` renumbers the keys by a strictly monotone bijection onto
`[next, next + size)`; the new table is sorted and stores the same relations under the new keys. -/
theorem increment_bijective_monotone (m : RelMap τ) (next : Int) (hm : RelMap.Sorted m) :
    let t := old2new m next
    (∀ a b, a ∈ m.keys → b ∈ m.keys → (a < b ↔ old2newAt t a < old2newAt t b)) ∧
    (∀ a ∈ m.keys, next ≤ old2newAt t a ∧ old2newAt t a < next + m.length) ∧
    (∀ j : Nat, j < m.length → ∃ a ∈ m.keys, old2newAt t a = next + j) ∧
    RelMap.Sorted (incrementKeys m next) ∧
    (∀ a ∈ m.keys, RelMap.lookup (incrementKeys m next) (old2newAt t a) = RelMap.lookup m a) := by
  intro t
  refine ⟨?_, ?_, ?_, incrementKeys_sorted m next, ?_⟩
  · intro a b ha hb
    obtain ⟨i, hi, rfl⟩ := (RelMap.mem_keys_iff_getElem m a).1 ha
    obtain ⟨j, hj, rfl⟩ := (RelMap.mem_keys_iff_getElem m b).1 hb
    show _ ↔ old2newAt (old2new m next) _ < old2newAt (old2new m next) _
    rw [old2newAt_getElem m next hm i hi, old2newAt_getElem m next hm j hj, hm.key_lt_iff i j hi hj]
    omega
  · intro a ha
    obtain ⟨i, hi, rfl⟩ := (RelMap.mem_keys_iff_getElem m a).1 ha
    show _ ≤ old2newAt (old2new m next) _ ∧ old2newAt (old2new m next) _ < _
    rw [old2newAt_getElem m next hm i hi]
    omega
  · intro j hj
    exact ⟨(m[j]).1, (RelMap.mem_keys_iff_getElem m _).2 ⟨j, hj, rfl⟩, old2newAt_getElem m next hm j hj⟩
  · intro a ha
    obtain ⟨i, hi, rfl⟩ := (RelMap.mem_keys_iff_getElem m a).1 ha
    show RelMap.lookup _ (old2newAt (old2new m next) _) = _
    rw [old2newAt_getElem m next hm i hi]
    exact incrementKeys_lookup_getElem m next hm i hi

example := increment_bijective_monotone exMap 100 exMap_sorted

/-- consequently the run sort key order of any two triangles is unchanged by `IncrementMeshIDs`
(the exported run order does not depend on when the IDs were last incremented) -/
theorem increment_preserves_runLE (m : RelMap τ) (next : Int) (hm : RelMap.Sorted m)
    (a b : TriRef) (ha : a.meshID ∈ m.keys) (hb : b.meshID ∈ m.keys) :
    let t := old2new m next
    runLE { a with meshID := old2newAt t a.meshID } { b with meshID := old2newAt t b.meshID } = runLE a b := by
  intro t
  have h := (increment_bijective_monotone m next hm).1 b.meshID a.meshID hb ha
  exact runLE_rename (old2newAt t) a b fun _ => by
    have h' : b.meshID < a.meshID ↔ old2newAt t b.meshID < old2newAt t a.meshID := h
    omega

example := increment_preserves_runLE exMap 100 exMap_sorted ⟨7, 1, 0, 0⟩ ⟨6, 1, 3, 3⟩
  (by simp [exMap, RelMap.keys]) (by simp [exMap, RelMap.keys])

/-! ## Boolean: Q's IDs are shifted past P's -/

/-- If every key of P is below the counter value `offsetQ` and Q's keys are non-negative, then
`UpdateReference` overwrites nothing: the result is P's table followed by Q's shifted table
(backSide xor-ed with `invertQ` on Q only). -/
theorem offsetQ_disjoint (mP mQ : RelMap τ) (offsetQ : Int) (invertQ : Bool)
    (hP : RelMap.Sorted mP) (hQ : RelMap.Sorted mQ)
    (hPlt : ∀ k ∈ mP.keys, k < offsetQ) (hQge : ∀ k ∈ mQ.keys, 0 ≤ k) :
    let m := updateReference mP mQ offsetQ invertQ
    m = mP ++ mQ.map (fun kv => (kv.1 + offsetQ, { kv.2 with backSide := xor kv.2.backSide invertQ })) ∧
    RelMap.Sorted m ∧
    (∀ k ∈ mP.keys, RelMap.lookup m k = RelMap.lookup mP k) ∧
    (∀ k ∈ mQ.keys, RelMap.lookup m (k + offsetQ) =
      (RelMap.lookup mQ k).map fun r => { r with backSide := xor r.backSide invertQ }) := by
  intro m
  have hcat : m = mP ++ mQ.map (fun kv => (kv.1 + offsetQ,
      { kv.2 with backSide := xor kv.2.backSide invertQ })) := by
    show updateReference mP mQ offsetQ invertQ = _
    unfold updateReference
    simp only
    rw [RelMap.foldl_insert_nil mP hP]
    refine RelMap.foldl_insert_eq_append
      (fun kv : Int × Rel τ => (kv.1 + offsetQ, { kv.2 with backSide := xor kv.2.backSide invertQ }))
      mQ mP (RelMap.pairwise_map_shift mQ offsetQ hQ) ?_
    intro k hk x hx
    have h1 := hPlt k hk
    have h2 := hQge x.1 (List.mem_map.2 ⟨x, hx, rfl⟩)
    show k < x.1 + offsetQ
    omega
  have hsorted : RelMap.Sorted m := by
    rw [hcat]
    refine RelMap.sorted_append _ _ hP (RelMap.sorted_map_shift mQ offsetQ
      (fun r => { r with backSide := xor r.backSide invertQ }) hQ) ?_
    intro a ha b hb
    obtain ⟨k', hk', rfl⟩ := (RelMap.mem_keys_map_shift mQ offsetQ
      (fun r => { r with backSide := xor r.backSide invertQ }) b).1 hb
    have h1 := hPlt a ha
    have h2 := hQge k' hk'
    omega
  -- the keys are distinct, so an entry of either part is what `lookup` finds
  refine ⟨hcat, hsorted, ?_, ?_⟩
  · intro k hk
    obtain ⟨v, hv⟩ := RelMap.exists_mem_of_mem_keys mP k hk
    rw [RelMap.lookup_eq_some_of_mem mP k v hP hv]
    exact RelMap.lookup_eq_some_of_mem m k v hsorted (by rw [hcat]; exact List.mem_append_left _ hv)
  · intro k hk
    obtain ⟨v, hv⟩ := RelMap.exists_mem_of_mem_keys mQ k hk
    rw [RelMap.lookup_eq_some_of_mem mQ k v hQ hv]
    exact RelMap.lookup_eq_some_of_mem m _ _ hsorted
      (by rw [hcat]; exact List.mem_append_right _ (List.mem_map.2 ⟨(k, v), hv, rfl⟩))

example := offsetQ_disjoint exMap ([(0, ⟨5, 50, false, false⟩), (1, ⟨6, 60, true, true⟩)] : RelMap Nat) 8 true
  exMap_sorted (by simp [RelMap.Sorted]) (by simp [exMap, RelMap.keys]) (by simp [RelMap.keys])

/-! ## Compose: node `i` is shifted by `i * snapshot` -/

/-- If every key of every node is in `[0, snapshot)`, the shifted tables are pairwise disjoint:
the combined table is their concatenation, and node `i`'s relation `k` is found at
`k + i * snapshot`.  (For `snapshot ≤ 0`, `hk` leaves only empty tables.) -/
theorem compose_offsets_disjoint (ms : List (RelMap τ)) (snapshot : Int)
    (hs : ∀ m ∈ ms, RelMap.Sorted m) (hk : ∀ m ∈ ms, ∀ k ∈ m.keys, 0 ≤ k ∧ k < snapshot) :
    let c := composeRelations ms snapshot
    c = ms.zipIdx.flatMap (fun mi => mi.1.map fun kv => (kv.1 + mi.2 * snapshot, kv.2)) ∧
    RelMap.Sorted c ∧
    (∀ (i : Nat) mi k, ms[i]? = some mi → k ∈ mi.keys →
      RelMap.lookup c (k + (i : Int) * snapshot) = RelMap.lookup mi k) := by
  intro c
  have hcat : c = ms.zipIdx.flatMap (shiftNode snapshot) := composeRelations_eq ms snapshot hs hk
  have hsorted : RelMap.Sorted c := hcat ▸ (compose_flat_sorted ms snapshot hs hk 0).1
  refine ⟨hcat, hsorted, ?_⟩
  intro i mi k hi hk'
  obtain ⟨v, hv⟩ := RelMap.exists_mem_of_mem_keys mi k hk'
  rw [RelMap.lookup_eq_some_of_mem mi k v (hs mi (List.mem_of_getElem? hi)) hv]
  apply RelMap.lookup_eq_some_of_mem c _ v hsorted
  rw [hcat, List.mem_flatMap]
  exact ⟨(mi, i), List.mk_mem_zipIdx_iff_getElem?.2 hi, List.mem_map.2 ⟨(k, v), hv, rfl⟩⟩

example := compose_offsets_disjoint
  ([[(0, ⟨0, 10, false, false⟩), (3, ⟨2, 30, true, false⟩)], [],
    [(1, ⟨5, 50, false, false⟩), (2, ⟨6, 60, true, true⟩)]] : List (RelMap Nat)) 4
  (by simp [RelMap.Sorted])
  (by
    intro m hm k hk
    simp only [List.mem_cons, List.not_mem_nil, or_false] at hm
    rcases hm with rfl | rfl | rfl <;> simp [RelMap.keys] at hk <;> omega)

end MV.C07
