import MV.Proof.ExportRuns
import MV.Proof.ExportRoundtrip

import MV.Props.C07
/-!
# C08 (part b) — MeshGL export and re-import is lossless: runs, relations, face IDs

Theorems about `MV.Export.exportRuns` / `MV.Export.importRuns` (the run part of `GetMeshGLImpl`,
/repo/src/impl.h:569-750, and of `Impl::Impl(MeshGLP)`, /repo/src/impl.h:417-463).
-/
namespace MV.C08
open MV.Export List

variable {τ : Type}

/-! ## face IDs -/

/-- what the importer stores as `faceID` is re-exported unchanged (user-supplied IDs survive any
number of round trips; a missing one is replaced ONCE by the coplanar ID) -/
theorem faceID_roundtrip (r : TriRef) (meshID originalID coplanarID : Int) (h : 0 ≤ exportFaceID r) :
    exportFaceID ⟨meshID, originalID, exportFaceID r, coplanarID⟩ = exportFaceID r := by
  show (if 0 ≤ exportFaceID r then exportFaceID r else coplanarID) = exportFaceID r
  rw [if_pos h]

/-- non-vacuity: a user-supplied face ID, and a missing one replaced by the coplanar ID -/
example : 0 ≤ exportFaceID ⟨5, 2, 3, 2⟩ ∧ 0 ≤ exportFaceID ⟨5, 2, -1, 7⟩ := by decide

/-! ## runs -/

/-- RUNS ROUND TRIP.  Export a consistent, non-original relation state, import the run fields
again with fresh IDs `startID, startID+1, …`:
* triangle `t` (in exported order) gets the ref of `sorted[t]` with its meshID renamed by
  `ρ id := startID + (index of id's run)`, the same originalID, the exported faceID, and
  `coplanarID = t`;
* run `k`'s relation is stored under `startID + k` (hasNormals survives iff the mesh has at least
  3 extra channels);
* `ρ` preserves the run sort key order between any two triangles, so a second export produces the
  runs in the same order. -/
theorem runs_roundtrip (idT : τ) (refs : List TriRef) (m : RelMap τ) (startID : Int) (nx : Nat)
    (hm : RelMap.Sorted m) (hid : ∀ r ∈ refs, r.meshID ≠ -1) (hc : Consistent refs m)
    (hne : refs ≠ []) :
    let rt := exportRuns false idT refs m
    let imp := importRuns idT startID nx (ImportIn.ofExport rt)
    let ρ := fun id : Int => startID + (rt.runMeshID.idxOf id : Nat)
    imp.1 = rt.sorted.zipIdx.map (fun rt' => ⟨ρ rt'.1.meshID, rt'.1.originalID, exportFaceID rt'.1, rt'.2⟩) ∧
    imp.2 = rt.runs.zipIdx.map (fun rk =>
      (startID + (rk.2 : Nat), { rk.1.rel with hasNormals := rk.1.rel.hasNormals && decide (3 ≤ nx) })) ∧
    (∀ a ∈ refs, ∀ b ∈ refs,
      runLE { a with meshID := ρ a.meshID } { b with meshID := ρ b.meshID } = runLE a b) := by
  intro rt imp ρ
  have _hm := hm
  have hp := (exportRuns_starts false idT refs m hid).1
  have hrne := exportRuns_runs_ne_nil false idT refs m hid hne
  obtain ⟨a, mp, inv, himp⟩ := importRuns_ofExport idT rt startID nx rfl hrne hp
  have himp1 : imp.1 = a.toList := congrArg Prod.fst himp
  have himp2 : imp.2 = mp := congrArg Prod.snd himp
  refine ⟨?_, ?_, ?_⟩
  · rw [himp1]
    apply ext_getElem?
    intro t
    rw [Array.getElem?_toList, getElem?_map, getElem?_zipIdx, Nat.zero_add]
    cases hr : rt.sorted[t]? with
    | none =>
      have : refs.length ≤ t := by
        have := getElem?_eq_none_iff.1 hr
        rwa [exportRuns_sorted, sortedOf_length] at this
      simp only [Option.map_none]
      exact Array.getElem?_eq_none (by rw [inv.size]; exact this)
    | some r =>
      obtain ⟨k, run, hrun, h1, h2, _, ho, hidx⟩ := ref_run idT refs m hid hc t r hr
      have hrun' : rt.runs[k]? = some run := exportRuns_runs_getElem? false idT refs m hrun
      have hk : k < rt.runs.length := (List.getElem?_eq_some_iff.1 hrun').1
      rw [inv.done k run hk hrun' t h1 h2]
      have hf : rt.faceID.isEmpty = false := by
        cases hs : rt.sorted with
        | nil => rw [hs] at hr; simp at hr
        | cons a l => simp [RunTable.faceID, hs]
      have hf2 : rt.faceID.getD t 0 = exportFaceID r := by
        simp [RunTable.faceID, hr]
      have hidx' : idxOf r.meshID rt.runMeshID = k := hidx
      simp only [Option.map_some, hf, Bool.false_eq_true, if_false, hf2, ho, ρ, hidx']
  · rw [himp2, inv.map, take_length]
  · exact rho_preserves idT refs m startID hid hc

/-- non-vacuity: the consistent two-instance state of `MV.C07.exRefs`, `MV.C07.exMap` -/
example := runs_roundtrip (0 : Nat) MV.C07.exRefs MV.C07.exMap 100 3 MV.C07.exMap_sorted
  MV.C07.exRefs_hid MV.C07.ex_consistent (by simp [MV.C07.exRefs])

/-- RE-EXPORT IS THE IDENTITY: exporting the re-imported state gives the same run fields and
the same face IDs, with the triangles already in run order (`triNew2Old = 0..n-1`).  `hn`: the
hasNormals bit survives when the mesh has ≥ 3 extra channels (or no relation has it). -/
theorem reexport_eq (idT : τ) (refs : List TriRef) (m : RelMap τ) (startID : Int) (nx : Nat)
    (hm : RelMap.Sorted m) (hid : ∀ r ∈ refs, r.meshID ≠ -1) (hc : Consistent refs m)
    (hne : refs ≠ []) (hs : 0 ≤ startID) (hf : ∀ r ∈ refs, 0 ≤ exportFaceID r)
    (hn : 3 ≤ nx ∨ ∀ kv ∈ m, kv.2.hasNormals = false) :
    let rt := exportRuns false idT refs m
    let imp := importRuns idT startID nx (ImportIn.ofExport rt)
    let rt2 := exportRuns false idT imp.1 imp.2
    rt2.triNew2Old = List.range refs.length ∧
    rt2.runIndex = rt.runIndex ∧ rt2.runOriginalID = rt.runOriginalID ∧
    rt2.runFlags = rt.runFlags ∧ rt2.runTransform = rt.runTransform ∧ rt2.faceID = rt.faceID := by
  intro rt imp rt2
  obtain ⟨e1, e2, _⟩ := runs_roundtrip idT refs m startID nx hm hid hc hne
  have hrt2 : rt2 = exportRuns false idT (reRefs startID (exportRuns false idT refs m))
      (reMap startID nx (exportRuns false idT refs m)) := by
    show exportRuns false idT imp.1 imp.2 = _
    rw [show imp.1 = reRefs startID (exportRuns false idT refs m) from e1,
      show imp.2 = reMap startID nx (exportRuns false idT refs m) from e2]
  have hfl := reexport_fields idT refs m startID nx hm hs hid hc hn
  rw [← hrt2] at hfl
  have hstart : rt2.runs.map (·.start) = rt.runs.map (·.start) := by
    have := congrArg (map Prod.fst) hfl
    rw [map_map, map_map] at this
    exact this
  have hrel : rt2.runs.map (·.rel) = rt.runs.map (·.rel) := by
    have := congrArg (map Prod.snd) hfl
    rw [map_map, map_map] at this
    exact this
  have hnum : rt2.numTri = rt.numTri := by
    rw [hrt2, exportRuns_numTri, reRefs_length]; rfl
  refine ⟨?_, ?_, ?_, ?_, ?_, ?_⟩
  · rw [hrt2]; exact reexport_triNew2Old idT refs m startID nx hid hc
  · rw [runIndex_eq rt2, runIndex_eq rt, hstart, hnum]
  · have := congrArg (map (·.originalID)) hrel
    rw [map_map, map_map] at this
    exact this
  · have := congrArg (map (relFlags ·)) hrel
    rw [map_map, map_map] at this
    exact this
  · have := congrArg (map (·.transform)) hrel
    have ho2 : rt2.isOriginal = false := by rw [hrt2]; rfl
    have ho : rt.isOriginal = false := rfl
    simp only [RunTable.runTransform, ho, ho2, Bool.false_eq_true, if_false]
    rw [map_map, map_map] at this
    exact this
  · rw [hrt2]; exact reexport_faceID idT refs m startID nx hid hc hf

/-- non-vacuity: every exported face ID of `exRefs` is non-negative (faceID or coplanarID), and the
mesh has 3 extra channels -/
example := reexport_eq (0 : Nat) MV.C07.exRefs MV.C07.exMap 100 3 MV.C07.exMap_sorted
  MV.C07.exRefs_hid MV.C07.ex_consistent (by simp [MV.C07.exRefs]) (by omega)
  (by simp [MV.C07.exRefs, exportFaceID]) (Or.inl (Nat.le_refl 3))

end MV.C08
