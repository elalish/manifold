/-
C04 — every normaliser erases the schedule.  All statements hold for every arrangement the
scheduler can produce (any permutation of the same multiset / any order of the increments).
-/
import MV.Model.Determ
import MV.Model.DetermSites
import MV.Proof.ParSort
import MV.Proof.ListArray
import MV.Props.C13a
import MV.Props.C13b
namespace MV.Determ.C04
open MV.Par MV.Determ

variable {α : Type}

/-- two permutations of each other with at most one element per key class are sorted to the
same list: the sort key is injective, so the stable sort is canonical -/
theorem sort_perm_canonical {lt : α → α → Bool} (sw : StrictWeak lt) {l₁ l₂ : List α}
    (hp : l₁.Perm l₂) (hinj : ∀ a, (l₁.filter (cls lt a)).length ≤ 1) :
    stableSort lt l₁ = stableSort lt l₂ := by
  apply sorted_unique_of_cls sw _ _ (C13b.stableSort_sorted sw _) (C13b.stableSort_sorted sw _)
  intro a
  rw [C13b.stableSort_stable sw l₁ a, C13b.stableSort_stable sw l₂ a]
  exact perm_eq_of_length_le_one (hp.filter _) (hinj a)

/-- Kernel12Recorder / EdgePos / AddNewEdgeVerts: whatever worker recorded what, and in
whatever order the per-worker lists are combined, the sorted result is the same, provided no
two recorded items share a key (collision pairs (edge, face) are distinct by construction) -/
theorem collectThenSort_schedule_free {lt : α → α → Bool} (sw : StrictWeak lt)
    {w₁ w₂ : List (List α)} (hp : w₁.flatten.Perm w₂.flatten)
    (hinj : ∀ a, (w₁.flatten.filter (cls lt a)).length ≤ 1) :
    collectThenSort lt w₁ = collectThenSort lt w₂ :=
  sort_perm_canonical sw hp hinj

theorem natLt_cls (a x : Nat) : cls natLt a x = (x == a) := congrFun (cls_key id a) x

theorem filter_cls_natLt_le_one {l : List Nat} (hnd : l.Nodup) (a : Nat) :
    (l.filter (cls natLt a)).length ≤ 1 :=
  length_filter_le_one hnd fun x _ hx => by
    rw [natLt_cls] at hx; exact eq_of_beq hx

example : collectThenSort natLt [[5, 1], [3]] = collectThenSort natLt [[3], [1], [5]] := by
  apply collectThenSort_schedule_free strictWeak_natLt
  · decide
  · exact filter_cls_natLt_le_one (by decide)

/-- FlagStore::run_par equals the sequential ascending filter for every distribution of the
flagged indices over workers and every combine order (each index is flagged once). -/
theorem flagStore_eq_seq (n : Nat) (flag : Nat → Bool) (w : List (List Nat))
    (hp : w.flatten.Perm (flagSeq n flag)) : flagStore w = flagSeq n flag := by
  unfold flagStore
  have hs : (flagSeq n flag).Pairwise (· ≤ ·) := by
    unfold flagSeq
    apply List.Pairwise.filter
    exact (List.pairwise_lt_range (n := n)).imp (fun h => Nat.le_of_lt h)
  exact (C13b.eq_stableSort_natLt hs hp.symm).symm

example : flagStore [[4, 0], [], [2]] = flagSeq 5 (fun i => i % 2 == 0) := by
  apply flagStore_eq_seq; decide

/-! integer atomic counters: order-free -/

theorem getD_set_counter (c : List Int) (i k : Nat) (v : Int) (hi : i < c.length) :
    (c.set i v).getD k 0 = if k = i then v else c.getD k 0 := by
  rw [List.getD_set]
  exact ite_congr (propext ⟨fun h => h.1.symm, fun h => ⟨h.symm, hi⟩⟩) (fun _ => rfl) fun _ => rfl

theorem atomicCounters_go (incs : List (Nat × Int)) (c : List Int)
    (hb : ∀ i ∈ incs, i.1 < c.length) (k : Nat) :
    (incs.foldl (fun c i => c.set i.1 (c.getD i.1 0 + i.2)) c).getD k 0
      = c.getD k 0 + counterSpec incs k := by
  induction incs generalizing c with
  | nil => simp [counterSpec]
  | cons i rest ih =>
    have hi : i.1 < c.length := hb i (List.mem_cons_self ..)
    rw [List.foldl_cons, ih _ (by
      intro j hj; rw [List.length_set]; exact hb j (List.mem_cons_of_mem _ hj))]
    rw [List.getD_set]
    unfold counterSpec
    by_cases h : i.1 = k
    · subst h; rw [if_pos ⟨rfl, hi⟩]; simp; omega
    · have : (i.1 == k) = false := by simpa using h
      rw [if_neg fun e => h e.1]; simp [this]

theorem perm_sum_int {l l' : List Int} (h : l.Perm l') : l.sum = l'.sum := h.sum_int

/-- final value of every counter is the sum of its increments — in particular independent of
the order in which the `fetch_add`s happened -/
theorem atomic_int_counters_order_free (n : Nat) (incs incs' : List (Nat × Int))
    (hp : incs.Perm incs') (hb : ∀ i ∈ incs, i.1 < n) (k : Nat) :
    (atomicCounters n incs).getD k 0 = (atomicCounters n incs').getD k 0 := by
  unfold atomicCounters
  rw [atomicCounters_go incs _ (by simpa using hb), atomicCounters_go incs' _ (by
    intro i hi; simpa using hb i (hp.mem_iff.mpr hi))]
  congr 1
  unfold counterSpec
  exact ((hp.filter _).map _).sum_int

example : (atomicCounters 3 [(0, 1), (2, 1), (0, 1)]).getD 0 0
        = (atomicCounters 3 [(2, 1), (0, 1), (0, 1)]).getD 0 0 :=
  atomic_int_counters_order_free 3 _ _ (by decide) (by decide) 0

/-- reductions: for an associative operation with `init` an identity (`hid`; no commutativity) every TBB
reduction tree gives the left fold (instances: NaN-skipping min/max, `&&`, integer `+`) —
this is `parReduce_eq_foldl` of C13 -/
theorem reduce_tree_irrelevant {f : α → α → α} {init : α} {t t' : Sched} {xs : List α}
    (hassoc : ∀ a b c, f (f a b) c = f a (f b c)) (hid : ∀ a b, f a (f init b) = f a b)
    (hv : t.Valid xs.length) (hv' : t'.Valid xs.length) :
    parReduce f init t xs = parReduce f init t' xs := by
  rw [parReduce_eq_foldl hassoc hid hv, parReduce_eq_foldl hassoc hid hv']

/-- BatchBoolean: with serial numbers the (size, serial) keys are pairwise distinct, so the pop
order is a function of the multiset of keys only -/
theorem batchBoolean_serial_deterministic (xs ys : List (Nat × Nat)) (hp : xs.Perm ys)
    (hserial : (xs.map Prod.snd).Nodup) : heapPopOrder xs = heapPopOrder ys := by
  have sw : StrictWeak (fun (a b : Nat × Nat) => decide (a.1 < b.1 ∨ (a.1 = b.1 ∧ a.2 < b.2))) := by
    refine ⟨?_, ?_⟩
    · intro a b h; simp only [decide_eq_true_eq, decide_eq_false_iff_not] at h ⊢; omega
    · intro a b c h1 h2; simp only [decide_eq_false_iff_not] at h1 h2 ⊢; omega
  apply sort_perm_canonical sw hp
  intro a
  -- the members of one class have the same (size, serial), and the serials are distinct
  have hnd : xs.Nodup := (List.pairwise_map.mp hserial).imp fun h e => h (congrArg Prod.snd e)
  refine length_filter_le_one (a := a) hnd fun x _ hx => ?_
  simp only [cls, Bool.and_eq_true, Bool.not_eq_true', decide_eq_false_iff_not] at hx
  exact Prod.ext (by omega) (by omega)

/-! ### The inventory of schedule-sensitive sites (regenerated from the source on every run) -/

/-- every `AtomicAdd` / `fetch_add` / `compare_exchange` / `tbb::combinable` / `concurrent_map` /
`tbb::task_group` site of src/*.cpp, src/*.h is in the reviewed table, and the side condition of
its class holds for what the translator read at the site: integer counters and slot cursors are
integral, floating-point accumulations and cursors without a normaliser run only in loops whose
policy is `ExecutionPolicy::Seq`.  Proved by kernel evaluation over the GENERATED table. -/
theorem all_sites_classified : MV.Gen.Atomics.sites.all Sites.siteOk = true := by decide +kernel

/-- no stale line in the reviewed table -/
theorem reviewed_sites_live : Sites.reviewedLive MV.Gen.Atomics.sites = true := by decide +kernel

/-- the float rule is not vacuous: a parallel floating accumulation is rejected, the same site in
a sequential loop is accepted (defect 9 of DESIGN.md §7: `CalculateCurvature`); the third site is
rejected because it is in no row of the reviewed table (`classify` gives `none`) -/
example : Sites.siteOk ⟨"properties.cpp", "CurvatureAngles", "atomicAdd", "area[vert] , area3", "double", ["auto"]⟩ = false := by decide +kernel
example : Sites.siteOk ⟨"properties.cpp", "CurvatureAngles", "atomicAdd", "area[vert] , area3", "double", ["Seq"]⟩ = true := by decide +kernel
example : Sites.siteOk ⟨"impl.cpp", "Manifold::Impl::Foo", "atomicAdd", "x[i] , 1", "int", ["auto"]⟩ = false := by decide +kernel

end MV.Determ.C04
