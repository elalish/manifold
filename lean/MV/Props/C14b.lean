/-
Property C14, 2-D half:

  "The 2D edge-pair broad phase and the polygon k-d tree likewise return exactly the
   boxes/points a brute-force scan would."

Model: MV/Model/Broad2.lean — line-by-line transliterations of `CollectIntersectionPairs`
(both branches), `BVHBuildFromBoxes`, `BVHCollisions` (boolean2.cpp / boolean2.h) and of
`BuildTwoDTree` / `QueryTwoDTree` (tree2d.cpp / tree2d.h).  Coordinates are `Int`.

All theorems hold for ALL inputs of the stated shape: any number of boxes/points (including 0
and 1), any ties in `min.x`, any Morton codes `< 2^32` (all equal is legal), identical and
degenerate boxes, duplicate points, ties on the split coordinate, any query rectangle.  The
only geometric hypothesis is in `xsweep_pairs_exact`: every box has `min.x ≤ max.x`
(`xsweep_needs_valid` shows it cannot be dropped; `BoxOf2DEdge` with `eps ≥ 0` guarantees it;
`xsweep_pairs_general` is the statement without it).

Sections: 1 x-sorted sweep, 2 BVH branch, 3 polygon k-d tree, 4 `MergeVerts` candidate sweep.
-/
import MV.Proof.Broad2Sweep
import MV.Proof.Broad2Bvh
import MV.Proof.Broad2Kd
import MV.Proof.MergeSweep
-- with Mathlib's algebra loaded, `^` on `ℕ` in the statements below (`2 ^ 32`) elaborates through
-- `Monoid.npow`; this import fixes that reading whatever the proof modules import
import Mathlib.Algebra.Group.Nat.Defs

namespace MV.Broad2.C14b
open MV.Broad2 MV.Collider

/-! ## 1. the x-sorted sweep (`CollectIntersectionPairs` without a BVH) -/

theorem xsweepPairs_eq (boxes : Array Box2) (skip : Nat → Nat → Bool) :
    xsweepPairs boxes skip =
      emit boxes.size (outerG (xbrk boxes) (xkeep boxes skip) (sweepOrder boxes)) := by
  unfold xsweepPairs emit
  rw [sweepOuter_eq]

/-- **xsweep_pairs_general** (no hypothesis at all).  The emitted list is strictly increasing
in the lexicographic order (hence duplicate-free), and `(a, b)` is emitted iff `a < b < n`, the
closed y-intervals overlap, and for the one of the two that is sorted first (`e`, the other
being `l`; `Prec`: smaller `min.x`, ties by index): `box_l.min.x ≤ box_e.max.x` and `¬ skip e l`.
The `break` loses nothing: the proof (`mem_innerG`) uses that `order` is sorted by `min.x`, so
once `bj.min.x > bi.max.x` holds it holds for every later `j`. -/
theorem xsweep_pairs_general (boxes : Array Box2) (skip : Nat → Nat → Bool) :
    (xsweepPairs boxes skip).Pairwise pairLt ∧
    ∀ a b, (a, b) ∈ xsweepPairs boxes skip ↔
      (a < b ∧ b < boxes.size ∧ yov boxes a b = true ∧
        ((Prec (minXof boxes) a b ∧ (boxAt boxes b).minX ≤ (boxAt boxes a).maxX ∧ skip a b = false) ∨
         (Prec (minXof boxes) b a ∧ (boxAt boxes a).minX ≤ (boxAt boxes b).maxX ∧
           skip b a = false))) := by
  rw [xsweepPairs_eq]
  have ho := sweepOrder_spec boxes
  have hnd := nodup_outerG (xbrk boxes) (xkeep boxes skip) _ ho.nodup
  refine ⟨emit_sorted hnd, fun a b => ?_⟩
  rw [mem_emit (fun p hp => (ho.mem _).mp (outerG_mem_both _ _ _ p hp).1),
    mem_outerG_prec (xbrk_mono boxes) _ ho.prec, ho.mem, ho.mem]
  simp only [xbrk, xkeep, yov_comm boxes b a, decide_eq_false_iff_not, Bool.and_eq_true, Bool.not_eq_true',
    Int.not_lt, gt_iff_lt]
  constructor
  · rintro ⟨hab, _, hb, ⟨hp, hx, hy, hs⟩ | ⟨hp, hx, hy, hs⟩⟩
    · exact ⟨hab, hb, hy, Or.inl ⟨hp, hx, hs⟩⟩
    · exact ⟨hab, hb, hy, Or.inr ⟨hp, hx, hs⟩⟩
  · rintro ⟨hab, hb, hy, ⟨hp, hx, hs⟩ | ⟨hp, hx, hs⟩⟩
    · exact ⟨hab, by omega, hb, Or.inl ⟨hp, hx, hy, hs⟩⟩
    · exact ⟨hab, by omega, hb, Or.inr ⟨hp, hx, hy, hs⟩⟩

/-- **xsweep_pairs_exact.**  For every box array with `min.x ≤ max.x` (any ties in `min.x`,
identical boxes, zero-width boxes) and every symmetric filter, the list emitted by the no-BVH
branch of `CollectIntersectionPairs` is strictly lexicographically increasing — so it is
duplicate-free and sorted — and contains `(i, j)` iff `i < j < n`, the two boxes overlap under
`Box2::DoesOverlap` (closed intervals in x AND y) and the pair is not filtered. -/
theorem xsweep_pairs_exact (boxes : Array Box2) (skip : Nat → Nat → Bool)
    (hsym : ∀ a b, skip a b = skip b a)
    (hval : ∀ i, i < boxes.size → (boxAt boxes i).minX ≤ (boxAt boxes i).maxX) :
    (xsweepPairs boxes skip).Pairwise pairLt ∧ (xsweepPairs boxes skip).Nodup ∧
    ∀ i j, (i, j) ∈ xsweepPairs boxes skip ↔
      (i < j ∧ j < boxes.size ∧ (boxAt boxes i).doesOverlap (boxAt boxes j) = true ∧
        skip i j = false) := by
  obtain ⟨h1, h2⟩ := xsweep_pairs_general boxes skip
  refine ⟨h1, nodup_of_pairwise_pairLt h1, ?_⟩
  intro i j
  rw [h2 i j]
  constructor
  · rintro ⟨hij, hj, hy, h⟩
    have vi := hval i (by omega)
    have vj := hval j hj
    simp only [yov, Bool.and_eq_true, decide_eq_true_eq] at hy
    refine ⟨hij, hj, ?_, ?_⟩
    · simp only [Box2.doesOverlap, Bool.and_eq_true, decide_eq_true_eq]
      rcases h with ⟨hp, hx, _⟩ | ⟨hp, hx, _⟩
      · unfold Prec minXof at hp; omega
      · unfold Prec minXof at hp; omega
    · rcases h with ⟨_, _, hs⟩ | ⟨_, _, hs⟩
      · exact hs
      · rw [hsym]; exact hs
  · rintro ⟨hij, hj, ho, hs⟩
    simp only [Box2.doesOverlap, Bool.and_eq_true, decide_eq_true_eq] at ho
    refine ⟨hij, hj, ?_, ?_⟩
    · simp only [yov, Bool.and_eq_true, decide_eq_true_eq]; omega
    · by_cases hp : Prec (minXof boxes) i j
      · exact Or.inl ⟨hp, by omega, hs⟩
      · refine Or.inr ⟨?_, by omega, by rw [hsym]; exact hs⟩
        unfold Prec minXof at hp ⊢; omega

/-- the running example: identical boxes, ties in `min.x`, a zero-width and a point box -/
def exBoxes : Array Box2 :=
  #[⟨0, 0, 2, 2⟩, ⟨1, 1, 3, 3⟩, ⟨0, 0, 2, 2⟩, ⟨3, 0, 4, 1⟩, ⟨2, 2, 2, 2⟩, ⟨0, 5, 0, 9⟩]

theorem exBoxes_valid : ∀ i, i < exBoxes.size → (boxAt exBoxes i).minX ≤ (boxAt exBoxes i).maxX := by
  intro i hi
  have : i < 6 := hi
  match i, this with
  | 0, _ | 1, _ | 2, _ | 3, _ | 4, _ | 5, _ => decide

-- the hypotheses are met, and the list is not empty:
example : (0, 2) ∈ xsweepPairs exBoxes (fun _ _ => false) ∧
    (1, 3) ∈ xsweepPairs exBoxes (fun _ _ => false) ∧
    (0, 3) ∉ xsweepPairs exBoxes (fun _ _ => false) := by
  have h := (xsweep_pairs_exact exBoxes (fun _ _ => false) (fun _ _ => rfl) exBoxes_valid).2.2
  refine ⟨(h 0 2).mpr (by decide), (h 1 3).mpr (by decide), fun hc => ?_⟩
  have := (h 0 3).mp hc
  revert this; decide
#guard xsweepPairs exBoxes (fun _ _ => false) =
  [(0, 1), (0, 2), (0, 4), (1, 2), (1, 3), (1, 4), (2, 4)]
#guard xsweepPairs exBoxes (fun a b => (a, b) == (2, 0) || (a, b) == (0, 2)) =
  [(0, 1), (0, 4), (1, 2), (1, 3), (1, 4), (2, 4)]

/-- The hypothesis `min.x ≤ max.x` cannot be dropped: with an inverted second box the sweep
emits `(0, 1)` although `Box2::DoesOverlap` is false (the sweep never tests
`bi.min.x ≤ bj.max.x`; sortedness implies it only for valid `bj`). -/
theorem xsweep_needs_valid :
    let boxes : Array Box2 := #[⟨0, 0, 5, 0⟩, ⟨3, 0, -2, 0⟩]
    (0, 1) ∈ xsweepPairs boxes (fun _ _ => false) ∧
    (boxAt boxes 0).doesOverlap (boxAt boxes 1) = false := by
  intro boxes
  refine ⟨((xsweep_pairs_general boxes _).2 0 1).mpr ?_, by decide⟩
  decide

/-! ## 2. the BVH branch (`BVHBuildFromBoxes` + `BVHCollisions` + `CollectIntersectionPairs`)

Derived from the 3-D theorems: `bvh2Build_wf` (MV/Proof/Broad2Bvh.lean) shows that the arrays
built from the stably code-sorted leaves pass the decidable checks `wfTree` (by
`createRadixTree_wf`, the core of `C14.radixTree_wf`) and, after embedding every 2-D box as the
3-D box with `z = [0,0]`, `unionBoxes` (the recursive `buildNode` is proved to fill every
internal cell with the union of its children: `buildNode_spec`); `C14.query_iff_overlap_of_wf`
(`findCollision_of_wf`) then gives the exactness of every traversal.  For `Box2` itself only the box identities at the
head of that file (`Box2.embed_union`, `Box2.doesOverlap_union_left`, …) are proved. -/

/-- **`BVHBuildFromBoxes` builds a well-formed collider** (`n ≥ 2`): see `bvh2Build_wf`. -/
theorem bvh2_build_wf (codes : Array Nat) (boxes : Array Box2)
    (hc : ∀ i, i < boxes.size → codes.getD i 0 < 2 ^ 32) (hn : boxes.size < 2 ^ 32)
    (h2 : 2 ≤ boxes.size) :
    ∃ nb, bvh2Build codes boxes = some ⟨nb, (createRadixTree (sortedMorton codes boxes.size)).1,
        (leafOrder codes boxes.size).toArray⟩ ∧
      (leafOrder codes boxes.size).Perm (List.range boxes.size) ∧
      (leafOrder codes boxes.size).Pairwise (fun a b => codes.getD a 0 ≤ codes.getD b 0) ∧
      wfTree (createRadixTree (sortedMorton codes boxes.size)).1
        (createRadixTree (sortedMorton codes boxes.size)).2 boxes.size = true ∧
      unionBoxes (createRadixTree (sortedMorton codes boxes.size)).1 (nb.map Box2.embed)
        ((leafBoxes codes boxes).map Box2.embed) boxes.size = true := by
  obtain ⟨nb, h1, h2', h3⟩ := bvh2Build_wf codes boxes hc hn h2
  exact ⟨nb, h1, (leafOrder_spec _ _).perm, leafOrder_sorted _ _, h2', h3⟩

/-- **bvh2_query_exact**: one `BVHCollisions` traversal reports leaf `l` iff the box of
`leafToOrig[l]` overlaps the query (closed intervals), each once; `some` = within fuel and the
64-entry stack. -/
theorem bvh2_query_exact (codes : Array Nat) (boxes : Array Box2)
    (hc : ∀ i, i < boxes.size → codes.getD i 0 < 2 ^ 32) (hn : boxes.size < 2 ^ 32)
    (h2 : 2 ≤ boxes.size) {bvh : BVH} (hb : bvh2Build codes boxes = some bvh) (q : Box2) :
    ∃ out, bvh2Query bvh q = some out ∧ out.toList.Nodup ∧
      ∀ leaf, leaf ∈ out.toList ↔
        (leaf < boxes.size ∧ (boxAt boxes (bvh.leafToOrig.getD leaf 0)).doesOverlap q = true) :=
  bvh2Query_spec codes boxes hc hn h2 hb q

/-- **bvh2_pairs_exact.**  For every array of fewer than `2^32` boxes (no `min ≤ max` hypothesis), every code array
(`< 2^32`, any multiset, all equal included) and every filter, `BVHBuildFromBoxes` followed by the
BVH branch of `CollectIntersectionPairs` (every edge box queried, `qi < li` kept, filter,
`RadixSortPairs`) succeeds within all guards (fuel, 64-entry traversal stack, array bounds) and
emits a strictly lexicographically increasing — hence sorted and duplicate-free — list that
contains `(i, j)` iff `i < j < n`, the boxes overlap under `Box2::DoesOverlap` and the pair is
not filtered (`skip i j` is only ever evaluated with `i < j`). -/
theorem bvh2_pairs_exact (codes : Array Nat) (boxes : Array Box2) (skip : Nat → Nat → Bool)
    (hc : ∀ i, i < boxes.size → codes.getD i 0 < 2 ^ 32) (hn : boxes.size < 2 ^ 32) :
    ∃ bvh ps, bvh2Build codes boxes = some bvh ∧ bvh2Pairs bvh boxes skip = some ps ∧
      ps.Pairwise pairLt ∧ ps.Nodup ∧
      ∀ i j, (i, j) ∈ ps ↔
        (i < j ∧ j < boxes.size ∧ (boxAt boxes i).doesOverlap (boxAt boxes j) = true ∧
          skip i j = false) := by
  by_cases h2 : 2 ≤ boxes.size
  · obtain ⟨bvh, ps, h1, h2', h3, h4⟩ := bvh2Pairs_spec_ge2 codes boxes skip hc hn h2
    exact ⟨bvh, ps, h1, h2', h3, nodup_of_pairwise_pairLt h3, h4⟩
  · by_cases h0 : boxes.size = 0
    · refine ⟨⟨#[], #[], #[]⟩, [], ?_, ?_, List.Pairwise.nil, List.nodup_nil, ?_⟩
      · rw [bvh2Build_unfold, if_pos h0]
      · simp [bvh2Pairs, bvh2Raw, h0, collectAll, radixSortPairs]
      · intro i j; simp only [List.not_mem_nil, false_iff]; omega
    · have h1 : boxes.size = 1 := by omega
      have hch : (createRadixTree (sortedMorton codes boxes.size)).1.size = 0 := by
        simp [createRadixTree, createRadixTreeOrd, sortedMorton_size, h1]
      refine ⟨⟨leafCells boxes (leafOrder codes boxes.size),
        (createRadixTree (sortedMorton codes boxes.size)).1, (leafOrder codes boxes.size).toArray⟩,
        [], ?_, ?_, List.Pairwise.nil, List.nodup_nil, ?_⟩
      · rw [bvh2Build_unfold, if_neg h0, if_neg (by omega)]
      · exact bvh2Pairs_empty _ _ _ hch
      · intro i j; simp only [List.not_mem_nil, false_iff]; omega

/-- two strictly increasing lists with the same members are equal -/
theorem eq_of_pairLt_of_mem {l1 l2 : List (Nat × Nat)} (h1 : l1.Pairwise pairLt)
    (h2 : l2.Pairwise pairLt) (h : ∀ i j, (i, j) ∈ l1 ↔ (i, j) ∈ l2) : l1 = l2 := by
  apply List.Perm.eq_of_pairwise (le := pairLt) _ h1 h2
  · rw [List.perm_ext_iff_of_nodup (nodup_of_pairwise_pairLt h1) (nodup_of_pairwise_pairLt h2)]
    intro p; exact h p.1 p.2
  · intro a b _ _ hab hba
    unfold pairLt at hab hba
    omega

/-- **The two branches of `CollectIntersectionPairs` agree** (valid boxes, symmetric filter):
the 1024-edge switch does not change the emitted list. -/
theorem bvh2_eq_xsweep (codes : Array Nat) (boxes : Array Box2) (skip : Nat → Nat → Bool)
    (hc : ∀ i, i < boxes.size → codes.getD i 0 < 2 ^ 32) (hn : boxes.size < 2 ^ 32)
    (hsym : ∀ a b, skip a b = skip b a)
    (hval : ∀ i, i < boxes.size → (boxAt boxes i).minX ≤ (boxAt boxes i).maxX) :
    ∃ bvh, bvh2Build codes boxes = some bvh ∧
      bvh2Pairs bvh boxes skip = some (xsweepPairs boxes skip) := by
  obtain ⟨bvh, ps, h1, h2, h3, _, h5⟩ := bvh2_pairs_exact codes boxes skip hc hn
  obtain ⟨g1, _, g3⟩ := xsweep_pairs_exact boxes skip hsym hval
  refine ⟨bvh, h1, ?_⟩
  rw [h2, eq_of_pairLt_of_mem h3 g1 (fun i j => by rw [h5, g3])]

/-- Morton codes with ties (all of `exBoxes`' codes are drawn from two values) -/
def exCodes : Array Nat := #[5, 1, 5, 9, 1, 5]

example : ∃ bvh, bvh2Build exCodes exBoxes = some bvh ∧
    bvh2Pairs bvh exBoxes (fun _ _ => false) = some (xsweepPairs exBoxes (fun _ _ => false)) :=
  bvh2_eq_xsweep exCodes exBoxes _ (by decide) (by decide) (fun _ _ => rfl) exBoxes_valid
#guard (bvh2Build exCodes exBoxes).map (·.leafToOrig) == some #[1, 4, 0, 2, 5, 3]
#guard (bvh2Build exCodes exBoxes).bind (fun b => bvh2Pairs b exBoxes (fun _ _ => false)) ==
  some [(0, 1), (0, 2), (0, 4), (1, 2), (1, 3), (1, 4), (2, 4)]
-- a single box: no internal node, nothing is ever reported (as in the C++: `bvh.Empty()`)
#guard (bvh2Build #[7] #[⟨0, 0, 1, 1⟩]).bind (fun b => bvh2Pairs b #[⟨0, 0, 1, 1⟩] (fun _ _ => false)) == some []

/-! ## 3. the polygon k-d tree (`BuildTwoDTree` / `QueryTwoDTree`) -/

/-- **kdtree_build_invariant** (the key invariant).  `BuildTwoDTree` permutes the points; for
more than 8 points the result satisfies `KD true`: at every level `ℓ` (x for even, y for odd) the
array is `l ++ m :: r` with `m` at index `size/2`, every point of `l` has coordinate `≤` that of
`m` and every point of `r` has coordinate `≥` that of `m` — with a stable sort and duplicate
coordinates, points EQUAL to the median on the split axis sit on both sides — and `l`, `r`
satisfy the invariant for level `ℓ+1`. -/
theorem kdtree_build_invariant (pts : List PolyVert) :
    (buildTwoDTree pts).Perm pts ∧ (8 < pts.length → KD true (buildTwoDTree pts)) :=
  ⟨buildTwoDTree_perm pts, fun h => buildTwoDTree_kd pts h⟩

/-- the closed `DoesOverlap` prune is what makes ties harmless: a conceptual rectangle that
contains a point of `r` overlaps `r`, so a subtree holding a reported point is never skipped -/
theorem kdtree_prune_sound {c : CRect} {r : Rect} {p : PolyVert} (hc : InRect c p)
    (hr : r.contains p = true) : c.doesOverlap r = true := overlap_of_mem hc hr

/-- the traversal works on ANY array satisfying the invariant, not only on the one the build
produces -/
theorem kdtree_query_of_invariant (tree : List PolyVert) (r : Rect)
    (hn : tree.length < 9 * 2 ^ 64) (hkd : 8 < tree.length → KD true tree) :
    ∃ out, queryTwoDTree tree r = some out ∧ out.Perm (tree.filter r.contains) := by
  unfold queryTwoDTree
  by_cases h : tree.length ≤ 8
  · rw [if_pos h]; exact ⟨_, rfl, List.Perm.refl _⟩
  · rw [if_neg h]
    obtain ⟨V, c, pV, c2, s⟩ := queryLoop_spec r (hkd (by omega)) 0 ⟨none, none, none, none⟩ rfl
      (fun p _ => ⟨rfl, rfl, rfl, rfl⟩)
    refine ⟨V, ?_, pV⟩
    rw [show tree.length + 1 = (tree.length + 1 - c) + c by omega, s 64 _ [] [] hn (by simp)]
    rfl

/-- **kdtree_query_exact.**  For every point list (duplicates, ties on the split coordinate,
all points identical, …) and every rectangle (degenerate or inverted included), after
`BuildTwoDTree` the query `QueryTwoDTree` reports exactly the points contained in the closed
rectangle, each exactly once: the reported list is a permutation of (= equal as a multiset to)
`pts.filter r.contains`.  `some` says that the loop ends within its fuel and never pushes onto a
full 64-entry stack; the hypothesis is the bound implied by the depth: a view of more than 8
points is halved per level and each level holds at most one stack entry, so 64 entries suffice
as long as `n < 9 · 2^64` (vacuous for any real input; beyond it the C++ would overrun
`rectStack`). -/
theorem kdtree_query_exact (pts : List PolyVert) (r : Rect) (hn : pts.length < 9 * 2 ^ 64) :
    ∃ out, queryTwoDTree (buildTwoDTree pts) r = some out ∧
      out.Perm (pts.filter r.contains) := by
  have hp := buildTwoDTree_perm pts
  obtain ⟨out, h1, h2⟩ := kdtree_query_of_invariant (buildTwoDTree pts) r
    (by rw [hp.length_eq]; exact hn)
    (fun h => buildTwoDTree_kd pts (by rw [hp.length_eq] at h; exact h))
  exact ⟨out, h1, h2.trans (hp.filter _)⟩

/-- each point inside the rectangle is reported exactly once, each point outside never
(the multiset statement spelled out with `count`) -/
theorem kdtree_query_count (pts : List PolyVert) (r : Rect) (hn : pts.length < 9 * 2 ^ 64) :
    ∃ out, queryTwoDTree (buildTwoDTree pts) r = some out ∧
      ∀ p, out.count p = if r.contains p then pts.count p else 0 := by
  obtain ⟨out, h1, h2⟩ := kdtree_query_exact pts r hn
  refine ⟨out, h1, fun p => ?_⟩
  rw [h2.count_eq]
  split
  · rename_i h
    exact List.count_filter h
  · rename_i h
    rw [List.count_eq_zero]
    intro hm
    rw [List.mem_filter] at hm
    exact h hm.2

/-- 20 points on a 3×2 lattice: every coordinate value is shared by several points, so every
median has ties on both sides -/
def exPts : List PolyVert := (List.range 20).map fun i => ⟨((i * 7) % 3 : Nat), ((i * 3) % 2 : Nat), i⟩

example : ∃ out, queryTwoDTree (buildTwoDTree exPts) ⟨1, 0, 1, 1⟩ = some out ∧
    out.Perm (exPts.filter (Rect.contains ⟨1, 0, 1, 1⟩)) :=
  kdtree_query_exact exPts _ (by decide)
#guard ((buildTwoDTree exPts).map (·.idx)) ==
  [0, 6, 12, 18, 4, 3, 9, 15, 1, 7, 10, 16, 2, 8, 14, 13, 19, 5, 11, 17]
#guard ((queryTwoDTree (buildTwoDTree exPts) ⟨1, 0, 1, 1⟩).map (·.map (·.idx))) ==
  some [10, 4, 1, 7, 13, 16, 19]
#guard ((exPts.filter (Rect.contains ⟨1, 0, 1, 1⟩)).map (·.idx)) == [1, 4, 7, 10, 13, 16, 19]

/-! ## 4. the candidate sweep of `MergeVerts` (same pattern as the x-sweep)

Model MV/Model/MergeSweep.lean.  The candidate list is internal to `MergeVerts`, so the tie to the
C++ is the result oracle of harness/c14_broad2.cpp only (clusters = components of the
`distance ≤ eps` graph found by an all-pairs scan). -/

/-- **merge_candidates_exact.**  For every vertex array and every threshold (`2·eps`), both
branches of the candidate search of `MergeVerts` (all-pairs below 32 vertices, the x-sorted sweep
with early `break` from 32 on) produce the strictly lexicographically increasing list of exactly
the pairs `i < j` with `|x_i − x_j| ≤ thresh` and `|y_i − y_j| ≤ thresh`. -/
theorem merge_candidates_exact (pts : Array (Int × Int)) (thresh : Int) :
    (mergeCandidates pts thresh).Pairwise pairLt ∧
    ∀ i j, (i, j) ∈ mergeCandidates pts thresh ↔ (i < j ∧ j < pts.size ∧
      iabs (ptX pts i - ptX pts j) ≤ thresh ∧ iabs (ptY pts i - ptY pts j) ≤ thresh) := by
  unfold mergeCandidates
  split
  · exact mergeBrute_spec pts thresh
  · exact mergeSweep_spec pts thresh

/-- … hence no pair within distance `eps` is lost by the broad phase (`thresh = 2·eps`,
`eps ≥ 0`): every edge of the "distance ≤ eps" graph is a candidate. -/
theorem merge_candidates_cover (pts : Array (Int × Int)) (eps : Int) (he : 0 ≤ eps) (i j : Nat)
    (hij : i < j) (hj : j < pts.size)
    (hd : (ptX pts i - ptX pts j) * (ptX pts i - ptX pts j) +
      (ptY pts i - ptY pts j) * (ptY pts i - ptY pts j) ≤ eps * eps) :
    (i, j) ∈ mergeCandidates pts (2 * eps) := by
  rw [(merge_candidates_exact pts (2 * eps)).2]
  exact ⟨hij, hj, Int.le_trans (iabs_le_of_sq_add_sq_le he hd) (by omega),
    Int.le_trans (iabs_le_of_sq_add_sq_le he (Int.add_comm _ _ ▸ hd)) (by omega)⟩

example : (0, 2) ∈ mergeCandidates #[(0, 0), (5, 5), (1, 0)] 2 :=
  merge_candidates_cover _ 1 (by decide) 0 2 (by decide) (by decide) (by decide)
#guard mergeCandidates #[(0, 0), (5, 5), (1, 0), (0, 0)] 2 == [(0, 2), (0, 3), (2, 3)]

end MV.Broad2.C14b
