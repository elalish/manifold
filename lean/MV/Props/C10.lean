import MV.Proof.EarClip
import MV.Proof.EarClipRings
/-!
# C10 (topological part) — `Triangulate` returns a correct triangulation

Property: "Triangulate returns triangles over the input vertex indices in which every input edge
occurs exactly once in its input direction and every other edge is matched by its reverse;
exactly V−2+2h−2(o−1) triangles when no topological degenerate is skipped; the convex fast
path gives a valid triangulation too; the call terminates."
Of "terminates" what is proved is the bound `numClips ops ≤ V + 2·numJoins ops` on the clips of
every guarded run (`earclip_clip_bound`).

Model: `MV/Model/EarClip.lean` (`polygon_` vector with `left`/`right` indices, `ClipEar`,
`JoinPolygons`, `Initialize`, `TriangulateConvex`, `HalfedgeTriangulation`).  Every geometric
decision of the C++ is an oracle: all theorems quantify over EVERY sequence `ops` of
`clip v` / `join s c` whose ops satisfy the guard the C++ call sites establish.

Guards (`MV/Proof/EarClip.lean`):
* `OpLive st op` — `clip v`: `v` in range and `!Clipped(v)`; `join s c`: both in range and
  unclipped and `s->right ≠ c` (true whenever `s`, `c` lie in different rings, which is what
  `CutKeyhole` guarantees: `start` is on a hole ring, `connector` on an outer ring).  This is
  all the chain invariant needs — clipping a vert of a ring with one or two verts is harmless
  for it.  (For `s->right = c` the statement is FALSE: `JoinPolygons` then leaves `newStart`
  clipped and `newConnector->right` dangling.)
* `OpOk st op` — additionally `v->left ≠ v->right` for `clip v` (the test in
  `ClipIfDegenerate`; in the main loop the `numTri` countdown keeps the ring at ≥ 3 verts).
  `opOk`/`runChecked` decide it; needed for the triangle count only.

`Σ_rings net(ring edges)` is stated as `net (liveEdges s)`: every unclipped vert `v` contributes
the edge `(v.mesh_idx, v->right.mesh_idx)` of the one ring it lies on.  `Linked` says `right` is
a bijection of the unclipped verts with inverse `left` (`liveList_map_R_perm`); that they
decompose into disjoint cycles is made explicit by `linked_rings_partition` (the lists
`ring s v` read through `right` from the smallest vert of each ring are duplicate-free and
partition the unclipped verts) and `earclip_chain_rings` restates the invariant with the
literal sum `Σ_{ring} bdRing`.
-/
namespace MV.EarClip

/-- the closed form `initState` used below is what the literal push_back/`Link` loop of
    `Initialize` (`initStateSeq`) produces, for every input -/
theorem initialize_faithful (polys : List (List Nat)) : initStateSeq polys = initState polys := by
  unfold initStateSeq initState initVerts
  congr 1
  generalize (#[] : Array Vert) = vs
  induction polys generalizing vs with
  | nil => rfl
  | cons p ps ih => simp only [List.foldl_cons, initPolySeq_eq, ih]

example : (initStateSeq [[0, 1, 2, 3], [4, 5, 6]]).verts.toList.map (fun v => (v.meshIdx, v.left, v.right)) =
    [(0, 3, 1), (1, 0, 2), (2, 1, 3), (3, 2, 0), (4, 6, 5), (5, 4, 6), (6, 5, 4)] := by decide +kernel

/-- after `Initialize` the lists are well linked, no triangle is emitted and the rings'
    boundary is the contours' -/
theorem earclip_chain_init (polys : List (List Nat)) :
    Linked (initState polys) ∧
    ∀ a b, net (triEdges (initState polys).tris) a b + net (liveEdges (initState polys)) a b
      = bdContours polys a b :=
  ⟨init_linked polys, fun a b => init_chain polys a b⟩

/-- `ClipEar` on any unclipped vert of any well-linked state keeps the state well linked and
    keeps `net(triangles) + Σ_rings net(ring edges)` -/
theorem earclip_chain_clip (s : State) (h : Linked s) (v : Nat) (hv : v < s.n) (hl : s.live v) :
    Linked (clipEar s v) ∧
    ∀ a b, net (triEdges (clipEar s v).tris) a b + net (liveEdges (clipEar s v)) a b
      = net (triEdges s.tris) a b + net (liveEdges s) a b :=
  ⟨clip_linked s h v hv hl, fun a b => clip_chain s h v hv hl a b⟩

/-- when the topological degenerate is skipped (two of the three mesh indices coincide) no
    triangle is emitted and the change of the ring is zero in the group -/
theorem earclip_chain_clip_degenerate (s : State) (h : Linked s) (v : Nat) (hv : v < s.n)
    (hl : s.live v)
    (hdeg : s.mesh (s.L v) = s.mesh v ∨ s.mesh v = s.mesh (s.R v) ∨ s.mesh (s.R v) = s.mesh (s.L v)) :
    (clipEar s v).tris = s.tris ∧ (clipEar s v).skipped = s.skipped + 1 ∧
    ∀ a b, net (liveEdges (clipEar s v)) a b = net (liveEdges s) a b := by
  have ht : (clipEar s v).tris = s.tris ∧ (clipEar s v).skipped = s.skipped + 1 := by
    unfold clipEar; dsimp only
    split
    · next hd => rcases hdeg with h1 | h1 | h1
                 · exact absurd h1 hd.1
                 · exact absurd h1 hd.2.1
                 · exact absurd h1 hd.2.2
    · exact ⟨rfl, rfl⟩
  refine ⟨ht.1, ht.2, fun a b => ?_⟩
  have := clip_chain s h v hv hl a b
  unfold chainVal at this
  rw [ht.1] at this
  omega

/-- `JoinPolygons(start, connector)` (both unclipped, `start->right ≠ connector`; same ring or
    different rings) keeps the state well linked and keeps the chain -/
theorem earclip_chain_join (st : State) (h : Linked st) (s c : Nat) (hs : s < st.n) (hc : c < st.n)
    (hls : st.live s) (hlc : st.live c) (hne : st.R s ≠ c) :
    Linked (joinPolygons st s c) ∧
    ∀ a b, net (triEdges (joinPolygons st s c).tris) a b + net (liveEdges (joinPolygons st s c)) a b
      = net (triEdges st.tris) a b + net (liveEdges st) a b :=
  ⟨join_linked st h s c hs hc hls hlc hne, fun a b => join_chain st h s c hs hc hls hlc hne a b⟩

/-- **earclip_chain**: for every contour set and every guarded op sequence,
    `net(triangles) + Σ_rings net(ring edges) = net(contours)` and the lists stay well linked -/
theorem earclip_chain (polys : List (List Nat)) (ops : List Op)
    (hr : RunOk OpLive (initState polys) ops) :
    Linked (run (initState polys) ops) ∧
    ∀ a b, net (triEdges (run (initState polys) ops).tris) a b
        + net (liveEdges (run (initState polys) ops)) a b = bdContours polys a b :=
  have h := RunOk.invariant Inv.step (Inv.init polys) hr
  ⟨h.linked, h.chain⟩

/-- in a well-linked state the unclipped verts decompose into disjoint cycles: the rings read
    through `right` pointers (one per smallest vert) are duplicate-free lists whose
    concatenation is a permutation of the unclipped verts; hence `net (liveEdges s)` is
    literally `Σ_rings bdRing`. -/
theorem linked_rings_partition (s : State) (h : Linked s) :
    (rings s).flatten.Perm (liveList s) ∧ (∀ r, r ∈ rings s → r.Nodup) ∧
    ∀ a b, net (liveEdges s) a b = ((ringReps s).map fun v => bdRing s v a b).sum := by
  refine ⟨rings_flatten_perm s h, ?_, netLive_eq_sum_rings s h⟩
  intro r hr
  simp only [rings, List.mem_map] at hr
  obtain ⟨v, hv, rfl⟩ := hr
  rw [mem_ringReps s h] at hv
  exact ring_nodup s h v hv.1 hv.2.1

/-- `earclip_chain` with the sum over rings written out -/
theorem earclip_chain_rings (polys : List (List Nat)) (ops : List Op)
    (hr : RunOk OpLive (initState polys) ops) (a b : Nat) :
    let s := run (initState polys) ops
    net (triEdges s.tris) a b + ((ringReps s).map fun v => bdRing s v a b).sum
      = bdContours polys a b := by
  dsimp only
  obtain ⟨hl, hc⟩ := earclip_chain polys ops hr
  rw [← netLive_eq_sum_rings _ hl]
  exact hc a b

/-- the same from an arbitrary well-linked state -/
theorem earclip_chain_from (st : State) (h : Linked st) (ops : List Op) (hr : RunOk OpLive st ops) :
    Linked (run st ops) ∧
    ∀ a b, net (triEdges (run st ops).tris) a b + net (liveEdges (run st ops)) a b
      = net (triEdges st.tris) a b + net (liveEdges st) a b :=
  have h := RunOk.invariant Inv.step (Inv.of_linked h) hr
  ⟨h.linked, h.chain⟩

/-- `runChecked` (used by the driver) succeeds exactly on the sequences satisfying the C++ guards -/
theorem runChecked_sound (st : State) (ops : List Op) (st' : State)
    (h : runChecked st ops = .ok st') : RunOk OpOk st ops ∧ st' = run st ops :=
  (runChecked_ok st ops 0 st').1 h

theorem runOk_of_toBool (st : State) (ops : List Op) (h : (runChecked st ops).toBool = true) :
    RunOk OpOk st ops := by
  cases hc : runChecked st ops with
  | error k => rw [hc] at h; cases h
  | ok st' => exact (runChecked_sound st ops st' hc).1

/-! non-vacuity: a square `0 1 2 3` with a triangular hole `4 5 6`, keyholed by one join of hole
vert 4 to outer vert 1 (`newStart = 7`, `newConnector = 8`), then seven ears. -/
def exPolys : List (List Nat) := [[0, 1, 2, 3], [4, 5, 6]]
def exOps : List Op :=
  [.join 4 1, .clip 8, .clip 7, .clip 0, .clip 4, .clip 1, .clip 6, .clip 2]

theorem exOps_ok : RunOk OpOk (initState exPolys) exOps :=
  runOk_of_toBool _ _ (by decide)

example : RunOk OpLive (initState exPolys) exOps := exOps_ok.toLive
example : (run (initState exPolys) exOps).tris =
    [(0, 1, 4), (0, 4, 5), (3, 0, 5), (6, 4, 1), (6, 1, 2), (5, 6, 2), (5, 2, 3)] := by decide +kernel
/-- a degenerate is really skipped on some guarded run (clip 0 after clips 2, 3 sees mesh 1 twice) -/
example : RunOk OpOk (initState exPolys) [.join 4 1, .clip 2, .clip 3, .clip 0] ∧
    (run (initState exPolys) [.join 4 1, .clip 2, .clip 3, .clip 0]).skipped = 1 :=
  ⟨runOk_of_toBool _ _ (by decide), by decide⟩
/-- the excluded join really breaks the lists: `join 0 1` on a square leaves `newStart` clipped
    while `newConnector->right = newStart` -/
example : let s := joinPolygons (initState [[0, 1, 2, 3]]) 0 1
    s.clipped 4 = true ∧ s.clipped 5 = false ∧ s.R 5 = 4 := by decide

/-- **earclip_exit**: if at the end every live ring has ≤ 2 verts (`ringsDone`, the
    `v->right == v->left` test of the C++), the triangles' boundary IS the contours':
    `count (a,b) − count (b,a)` over the triangle edges equals the same over the input edges,
    for every `(a,b)`. -/
theorem earclip_exit (polys : List (List Nat)) (ops : List Op)
    (hr : RunOk OpLive (initState polys) ops)
    (hdone : ringsDone (run (initState polys) ops) = true) :
    ∀ a b, net (triEdges (run (initState polys) ops).tris) a b = bdContours polys a b := by
  intro a b
  obtain ⟨hl, hc⟩ := earclip_chain polys ops hr
  have := hc a b
  rw [liveEdges_net_zero _ hl hdone] at this
  omega

/-- reading of `earclip_exit` for a simple input (no contour edge repeated, reversed or a
    self-loop): every input edge has net count `+1` in its input direction (so `−1` against it),
    every other edge has net count `0`, i.e. is matched by its reverse. -/
theorem earclip_exit_simple (polys : List (List Nat)) (ops : List Op)
    (hr : RunOk OpLive (initState polys) ops)
    (hdone : ringsDone (run (initState polys) ops) = true)
    (hnd : (contourEdges polys).Nodup)
    (hrev : ∀ a b, (a, b) ∈ contourEdges polys → (b, a) ∉ contourEdges polys) (a b : Nat) :
    let T := triEdges (run (initState polys) ops).tris
    ((T.count (a, b) : Int) - (T.count (b, a) : Int)) =
      if (a, b) ∈ contourEdges polys then 1 else if (b, a) ∈ contourEdges polys then -1 else 0 := by
  intro T
  have := earclip_exit polys ops hr hdone a b
  unfold net at this
  rw [this]
  unfold bdContours net
  rw [hnd.count, hnd.count]
  by_cases h1 : (a, b) ∈ contourEdges polys
  · have := hrev a b h1
    simp [h1, this]
  · by_cases h2 : (b, a) ∈ contourEdges polys <;> simp [h1, h2]

example : ringsDone (run (initState exPolys) exOps) = true := by decide +kernel
example : (contourEdges exPolys).Nodup ∧
    ∀ e ∈ contourEdges exPolys, (e.2, e.1) ∉ contourEdges exPolys := by decide

/-- **earclip_count**.  With the C++ guards (`OpOk`): every `clip` removes one vert from a ring
    and emits one triangle or skips one degenerate; every `join` adds two verts; so
    `#triangles + #skipped + #unclipped = #polygon_ = V + 2j` at every moment, and `#clip ops =
    #triangles + #skipped`.  If at the end every live ring has exactly two verts
    (`ringsAllTwo`), `#unclipped = 2·numRings`, hence

      `#triangles = V + 2j − 2·(#final rings) − d`.

    With `h = j` holes keyholed, `o = #final rings` and `d = 0` this is the property's
    `V − 2 + 2h − 2(o−1)`.  (A `join` of two different rings merges them into one ring with two
    more verts; a guarded `join` inside one ring splits it in two — the C++ never does the
    latter; the count does not depend on which happened, only on `o` at the end.) -/
theorem earclip_count (polys : List (List Nat)) (ops : List Op)
    (hr : RunOk OpOk (initState polys) ops) :
    let s := run (initState polys) ops
    s.n = totalVerts polys + 2 * numJoins ops ∧
    s.tris.length + s.skipped + liveCount s = totalVerts polys + 2 * numJoins ops ∧
    s.tris.length + s.skipped = numClips ops ∧
    (ringsAllTwo s = true →
      s.tris.length + 2 * numRings s + s.skipped = totalVerts polys + 2 * numJoins ops) := by
  dsimp only
  have hV := (init_count polys).1
  obtain ⟨hl, hb⟩ := RunOk.invariant Balanced.step (Q := fun s => Linked s ∧ Balanced s)
    ⟨init_linked polys, Balanced.init polys⟩ hr
  obtain ⟨hn, hc⟩ := run_size (initState polys) ops
  have h0 : (initState polys).tris.length = 0 ∧ (initState polys).skipped = 0 := ⟨rfl, rfl⟩
  unfold Balanced at hb
  refine ⟨by omega, by omega, by omega, fun htwo => ?_⟩
  have := run_count_rings (init_linked polys) (Balanced.init polys) hr
  rw [sum_rings_allTwo _ hl htwo] at this
  omega

/-- the property's formula: no degenerate skipped, `h` joins, `o` final rings of two verts -/
theorem earclip_count_formula (polys : List (List Nat)) (ops : List Op)
    (hr : RunOk OpOk (initState polys) ops)
    (htwo : ringsAllTwo (run (initState polys) ops) = true)
    (hskip : (run (initState polys) ops).skipped = 0) :
    ((run (initState polys) ops).tris.length : Int) =
      (totalVerts polys : Int) - 2 + 2 * (numJoins ops : Int)
        - 2 * ((numRings (run (initState polys) ops) : Int) - 1) := by
  have := (earclip_count polys ops hr).2.2.2 htwo
  omega

/-- termination of the clipping: under the guards at most `V + 2j` clips can ever happen -/
theorem earclip_clip_bound (polys : List (List Nat)) (ops : List Op)
    (hr : RunOk OpOk (initState polys) ops) :
    numClips ops ≤ totalVerts polys + 2 * numJoins ops := by
  have := earclip_count polys ops hr
  omega

/-- ring bookkeeping on the example: two rings after `Initialize`, the keyhole join merges them
    into one ring of 9 verts; a guarded join inside one ring would split it (never done by the C++) -/
example : rings (initState exPolys) = [[0, 1, 2, 3], [4, 5, 6]] ∧
    rings (joinPolygons (initState exPolys) 4 1) = [[0, 8, 7, 5, 6, 4, 1, 2, 3]] ∧
    rings (joinPolygons (initState [[0, 1, 2, 3, 4, 5]]) 0 3) = [[0, 3, 4, 5], [1, 2, 7, 6]] := by
  decide +kernel

example : ringsAllTwo (run (initState exPolys) exOps) = true ∧
    (run (initState exPolys) exOps).skipped = 0 ∧
    numRings (run (initState exPolys) exOps) = 1 ∧ numJoins exOps = 1 ∧ totalVerts exPolys = 7 ∧
    (run (initState exPolys) exOps).tris.length = 7 := by decide +kernel

/-- **indices_subset_input**: every emitted index is an input mesh index -/
theorem indices_subset_input (polys : List (List Nat)) (ops : List Op)
    (hr : RunOk OpLive (initState polys) ops) (t : Tri)
    (ht : t ∈ (run (initState polys) ops).tris) :
    t.1 ∈ polys.flatten ∧ t.2.1 ∈ polys.flatten ∧ t.2.2 ∈ polys.flatten :=
  (RunOk.invariant Inv.step (Inv.init polys) hr).meshIn.2 t ht

/-- and no emitted triangle repeats an index (for every op sequence, guarded or not) -/
theorem emitted_distinct (polys : List (List Nat)) (ops : List Op) (t : Tri)
    (ht : t ∈ (run (initState polys) ops).tris) : t.1 ≠ t.2.1 ∧ t.2.1 ≠ t.2.2 ∧ t.2.2 ≠ t.1 :=
  run_trisDistinct _ ops (fun t ht => by simp [initState] at ht) t ht

example : (5, 2, 3) ∈ (run (initState exPolys) exOps).tris := by decide +kernel

/-- **halfedgeTri_pairInv**: after ANY sequence of `AddHalfedge` calls
    (i) `pairedHalfedge` is a partial involution between opposite halfedges,
    (ii) the stacks of `edge2halfedge` hold exactly the unpaired halfedges, each under its own
         `(start,end)` key, without repetition, and no empty stack is stored,
    (iii) a key and its reverse are never both non-empty (for a self-loop key `(a,a)`, which is
         its own reverse: at most one entry),
    and the net count of all added halfedges on `(a,b)` is `|stack(a,b)| − |stack(b,a)|`. -/
theorem halfedgeTri_pairInv (es : List Edge) :
    let t := HT.empty.addEdges es
    (∀ h, h < t.size → -1 ≤ t.pr h) ∧
    (∀ h, h < t.size → ∀ p : Nat, t.pr h = (p : Int) →
      p < t.size ∧ t.pr p = (h : Int) ∧ t.st p = t.en h ∧ t.en p = t.st h ∧ p ≠ h) ∧
    (∀ k h, h ∈ t.stk k ↔ (h < t.size ∧ t.pr h = -1 ∧ (t.st h, t.en h) = k)) ∧
    (∀ k, (t.stk k).Nodup) ∧ (∀ e, e ∈ t.stacks → e.2 ≠ []) ∧
    (∀ a b, a ≠ b → t.stk (a, b) = [] ∨ t.stk (b, a) = []) ∧
    (∀ a, (t.stk (a, a)).length ≤ 1) ∧
    t.edges = es ∧
    (∀ a b, net es a b = ((t.stk (a, b)).length : Int) - ((t.stk (b, a)).length : Int)) := by
  intro t
  obtain ⟨hI, hE'⟩ : HInv t ∧ t.edges = es := hinv_of_edges es
  exact ⟨hI.prLow, hI.pair, hI.stk, hI.nodup, hI.nonempty, hI.excl, hI.self, hE',
    fun a b => by rw [← hE']; exact hI.netEq a b⟩

/-- hence: if the added halfedges have net count 0 on every edge and none is a self-loop,
    `edge2halfedge` is empty and every halfedge is paired — all asserts of `Finalize` hold.
    (A self-loop halfedge `(a,a)` added an odd number of times stays unpaired although its net
    count is 0: a contour with a repeated consecutive index makes `Finalize` assert.) -/
theorem halfedgeTri_all_paired (es : List Edge) (hnet : ∀ a b, net es a b = 0)
    (hloop : ∀ e, e ∈ es → e.1 ≠ e.2) :
    (HT.empty.addEdges es).stacks = [] ∧
    (∀ i, i < (HT.empty.addEdges es).size → 0 ≤ (HT.empty.addEdges es).pr i) ∧
    (HT.empty.addEdges es).finalizeOk = true := by
  obtain ⟨hI, hE'⟩ := hinv_of_edges es
  have := hinv_all_paired _ hI (by rw [hE']; exact hnet)
    (fun i hi => hloop _ (by rw [← hE']; exact mem_edges _ i hi))
  exact ⟨this.1, this.2, finalizeOk_of _ hI this.1 this.2⟩

/-- the whole call: for every guarded op sequence ending with `ringsDone`, on contours without
    self-loop edges, the `HalfedgeTriangulation` the C++ returns passes `Finalize`'s asserts -/
theorem earclip_finalize_ok (polys : List (List Nat)) (ops : List Op)
    (hr : RunOk OpLive (initState polys) ops)
    (hdone : ringsDone (run (initState polys) ops) = true)
    (hcont : ∀ e, e ∈ contourEdges polys → e.1 ≠ e.2) :
    (halfedgeTriangulation polys (run (initState polys) ops).tris).finalizeOk = true :=
  halfedgeTriangulation_ok polys _ (earclip_exit polys ops hr hdone) hcont
    (fun t ht => emitted_distinct polys ops t ht)

example : ∀ e ∈ contourEdges exPolys, e.1 ≠ e.2 := by decide
/-- self-loop remark is real: contour `0 0 1` leaves the halfedge `(0,0)` unpaired -/
example : (halfedgeTriangulation [[0, 0, 1]] []).finalizeOk = false ∧
    ∀ a b, net (triEdges []) a b = net (contourEdges [[0, 0, 1]]) a b := by
  refine ⟨by decide, fun a b => ?_⟩
  have : contourEdges [[0, 0, 1]] = [(0, 0), (0, 1), (1, 0)] := by decide
  rw [this]; simp only [triEdges, List.flatMap_nil, net_nil, net_cons]
  have := ind_swap 0 1 a b; have := ind_self 0 a b; omega
/-- LIFO pairing is observable: two `(0,1)` then one `(1,0)` pairs halfedge 2 with halfedge 1 -/
example : ((HT.empty.addEdges [(0, 1), (0, 1), (1, 0)]).halfedges.toList.map (·.paired)) = [-1, 2, 1] := by
  decide

/-- what the driver's flags mean: whenever `runChecked` accepts the logged ops and prints
    `rings done`, the brute-force `net` check must print `ok`, and `paired` must print `ok`
    unless some contour has a repeated consecutive index.  (So `rings done | net bad` can never
    be printed for the model; it can only show up when the logged C++ triangles are compared
    instead.) -/
theorem driver_flags (polys : List (List Nat)) (ops : List Op) (s : State)
    (h : runChecked (initState polys) ops = .ok s) (hd : ringsDone s = true) :
    netEqCheck (triEdges s.tris) (contourEdges polys) = true ∧
    ((∀ e, e ∈ contourEdges polys → e.1 ≠ e.2) →
      (halfedgeTriangulation polys s.tris).finalizeOk = true) := by
  obtain ⟨hr, rfl⟩ := runChecked_sound _ _ _ h
  exact ⟨(netEqCheck_iff _ _).2 (earclip_exit polys ops hr.toLive hd),
    fun hc => earclip_finalize_ok polys ops hr.toLive hd hc⟩

/-- **convex_strip_triangulates**: for one contour with `n` indices, the alternating strip of
    `TriangulateConvex` emits `n − 2` triangles whose boundary is the contour (every `n`, also
    with repeated indices); with `n ≥ 3` distinct indices every triangle has three distinct
    input indices and the resulting `HalfedgeTriangulation` passes `Finalize`'s asserts. -/
theorem convex_strip_triangulates (p : List Nat) :
    (stripPoly p).length = p.length - 2 ∧
    (∀ a b, net (triEdges (stripPoly p)) a b = net (polyEdges p) a b) ∧
    (∀ t, t ∈ stripPoly p → t.1 ∈ p ∧ t.2.1 ∈ p ∧ t.2.2 ∈ p) ∧
    (p.Nodup → 3 ≤ p.length →
      (∀ t, t ∈ stripPoly p → t.1 ≠ t.2.1 ∧ t.2.1 ≠ t.2.2 ∧ t.2.2 ≠ t.1) ∧
      (halfedgeTriangulation [p] (triangulateConvex [p])).finalizeOk = true) := by
  refine ⟨stripPoly_length p, stripPoly_net p, stripPoly_in p, fun hnd hlen => ?_⟩
  refine ⟨stripPoly_distinct p hnd, ?_⟩
  apply halfedgeTriangulation_ok
  · exact triangulateConvex_net [p]
  · intro e he
    simp only [contourEdges, List.flatMap_cons, List.flatMap_nil, List.append_nil] at he
    exact polyEdges_noloop p hnd (by omega) e he
  · intro t ht
    simp only [triangulateConvex, List.flatMap_cons, List.flatMap_nil, List.append_nil] at ht
    exact stripPoly_distinct p hnd t ht

/-- several contours: boundary and count add up -/
theorem convex_triangulates (polys : List (List Nat)) :
    (triangulateConvex polys).length = (polys.map fun p => p.length - 2).sum ∧
    ∀ a b, net (triEdges (triangulateConvex polys)) a b = bdContours polys a b :=
  ⟨triangulateConvex_length polys, triangulateConvex_net polys⟩

example : stripPoly [0, 1, 2, 3, 4, 5, 6] = [(0, 1, 6), (1, 5, 6), (1, 2, 5), (2, 4, 5), (2, 3, 4)] := by
  decide
example : [0, 1, 2, 3, 4, 5, 6].Nodup := by decide

end MV.EarClip
