import MV.Model.HullCheck
import MV.Proof.HullCheck
import Mathlib.Analysis.Convex.Hull
import Mathlib.Analysis.Normed.Module.Basic
import Mathlib.Tactic.Ring
import Mathlib.Tactic.Linarith
/-!
# Property C16, Hull half — the certificate accepted by `MV.Hull.checkHull`

Anchors: /repo/src/manifold.cpp:1107-1152 (`Manifold::Hull` ×3), /repo/src/quickhull.cpp (`Impl::Hull`,
`QuickHull::buildMesh`) — QuickHull's control flow is NOT modelled; its OUTPUT is checked, exactly.

* `hullCheck_sound`      for ALL inputs: acceptance ⇒ (1) closed oriented 2-manifold over all output
                         vertices, (2) every output vertex is an input point, (3) in `ℝ³` the polytope
                         `⋂ faces {x | orient(face, x) ≤ 0}` is convex and contains the convex hull of the
                         input points, (4) the three corners of every face are input points lying ON its
                         plane: each face plane supports the hull of the input (zero-area faces are legal in
                         a Manifold, carry no half-space, and are counted by `flatCount`, not rejected).
* `hullCheck_complete`   conversely the checker accepts every `HullCert` (closed 2-manifold, output vertices ⊆ input,
                         every input point on or behind every face plane).
* `hull_edges_convex`    the apex of the triangle across any edge is on or behind the plane: no concave edge.
* `affineRank_exact`     `affineRank pts = 4` iff four input points span a tetrahedron — the exact
                         hypothesis of the clause "empty when the points span no volume".
* `hullCheck_partial`    (gap, recorded) the full statement would be `solid bounded by the mesh = convexHull
                         input`.  (3) gives `convexHull input ⊆ polytope`; that a closed 2-manifold all of whose
                         faces lie on supporting planes BOUNDS that polytope is classical and not formalised.
-/
namespace MV.C16b
open MV.Hull MV.Mesh

abbrev R3 := ℝ × ℝ × ℝ

def toR (p : P3) : R3 := ((p.1 : ℝ), (p.2.1 : ℝ), (p.2.2 : ℝ))

/-- `MV.Hull.orient` over the reals -/
def orientR (a b c p : R3) : ℝ :=
  ((b.2.1 - a.2.1) * (c.2.2 - a.2.2) - (b.2.2 - a.2.2) * (c.2.1 - a.2.1)) * (p.1 - a.1) +
  ((b.2.2 - a.2.2) * (c.1 - a.1) - (b.1 - a.1) * (c.2.2 - a.2.2)) * (p.2.1 - a.2.1) +
  ((b.1 - a.1) * (c.2.1 - a.2.1) - (b.2.1 - a.2.1) * (c.1 - a.1)) * (p.2.2 - a.2.2)

theorem orientR_cast (a b c p : P3) : orientR (toR a) (toR b) (toR c) (toR p) = ((orient a b c p : Int) : ℝ) := by
  obtain ⟨a1, a2, a3⟩ := a; obtain ⟨b1, b2, b3⟩ := b; obtain ⟨c1, c2, c3⟩ := c; obtain ⟨p1, p2, p3⟩ := p
  simp only [orientR, toR, orient, normal, dot, cross, sub]
  push_cast; ring

/-- closed half-space behind the plane of the triangle `a b c` -/
def halfspace (a b c : R3) : Set R3 := {x | orientR a b c x ≤ 0}

theorem convex_halfspace (a b c : R3) : Convex ℝ (halfspace a b c) := by
  intro x hx y hy s t hs ht hst
  obtain rfl : t = 1 - s := by linarith
  have hlin : orientR a b c (s • x + (1 - s) • y) = s * orientR a b c x + (1 - s) * orientR a b c y := by
    simp only [orientR, Prod.fst_add, Prod.snd_add, Prod.smul_fst, Prod.smul_snd, smul_eq_mul]
    ring
  show orientR a b c (s • x + (1 - s) • y) ≤ 0
  rw [hlin]
  have h1 : s * orientR a b c x ≤ 0 := mul_nonpos_of_nonneg_of_nonpos hs hx
  have h2 : (1 - s) * orientR a b c y ≤ 0 := mul_nonpos_of_nonneg_of_nonpos ht hy
  linarith

/-- intersection of the half-spaces of all output triangles -/
def polytope (vs : Array P3) (ts : List Tri) : Set R3 :=
  ⋂ t ∈ ts, halfspace (toR (vpos vs t.1)) (toR (vpos vs t.2.1)) (toR (vpos vs t.2.2))

theorem convex_polytope (vs : Array P3) (ts : List Tri) : Convex ℝ (polytope vs ts) :=
  convex_iInter₂ fun _ _ => convex_halfspace _ _ _

/-- the input points as a subset of `ℝ³` -/
def cloud (pts : List P3) : Set R3 := toR '' {p | p ∈ pts}

/-- **Soundness of the hull certificate, for all inputs.** -/
theorem hullCheck_sound {pts : List P3} {vs : Array P3} {ts : List Tri}
    (h : checkHull pts vs ts = .ok ()) :
    Closed2Manifold vs.size ts ∧
    (∀ i, i < vs.size → vpos vs i ∈ pts) ∧
    Convex ℝ (polytope vs ts) ∧
    convexHull ℝ (cloud pts) ⊆ polytope vs ts ∧
    (∀ t ∈ ts,
      ∀ v ∈ triVerts t, toR (vpos vs v) ∈ cloud pts ∧
        orientR (toR (vpos vs t.1)) (toR (vpos vs t.2.1)) (toR (vpos vs t.2.2)) (toR (vpos vs v)) = 0) := by
  have c := checkHull_sound h
  refine ⟨c.manifold, c.verts_input, convex_polytope vs ts, ?_, ?_⟩
  · apply convexHull_min _ (convex_polytope vs ts)
    rintro _ ⟨p, hp, rfl⟩
    simp only [polytope, Set.mem_iInter]
    intro t ht
    show orientR _ _ _ _ ≤ 0
    rw [orientR_cast]
    exact_mod_cast c.inside t ht p hp
  · intro t ht v hv
    have hr := c.manifold.1 t ht
    have hc := orient_corner (vpos vs t.1) (vpos vs t.2.1) (vpos vs t.2.2)
    simp only [triVerts, List.mem_cons, List.not_mem_nil, or_false] at hv
    rcases hv with rfl | rfl | rfl
    · exact ⟨⟨_, c.verts_input _ hr.1, rfl⟩, by rw [orientR_cast, hc.1]; simp⟩
    · exact ⟨⟨_, c.verts_input _ hr.2.1, rfl⟩, by rw [orientR_cast, hc.2.1]; simp⟩
    · exact ⟨⟨_, c.verts_input _ hr.2.2, rfl⟩, by rw [orientR_cast, hc.2.2]; simp⟩

/-- non-vacuity: the unit tetrahedron with a duplicated corner, an interior point and a point on a
face is accepted (and its output is what `Hull` returns for it) -/
example : checkHull [(0, 0, 0), (4, 0, 0), (0, 4, 0), (0, 0, 4), (0, 0, 0), (1, 1, 1), (2, 2, 0)]
    #[(0, 0, 0), (4, 0, 0), (0, 4, 0), (0, 0, 4)] [(0, 2, 1), (0, 1, 3), (0, 3, 2), (1, 2, 3)] = .ok () :=
  (checkHull_iff _ _ _).mpr (by decide +kernel)

/-- the same mesh is rejected when a point outside is added to the input -/
example : checkHull [(0, 0, 0), (4, 0, 0), (0, 4, 0), (0, 0, 4), (3, 3, 3)]
    #[(0, 0, 0), (4, 0, 0), (0, 4, 0), (0, 0, 4)] [(0, 2, 1), (0, 1, 3), (0, 3, 2), (1, 2, 3)] ≠ .ok () :=
  fun h => absurd ((checkHull_iff _ _ _).mp h) (by decide +kernel)

/-- **Completeness**: the checker accepts every certificate (so a rejection always names a violated clause). -/
theorem hullCheck_complete {pts : List P3} {vs : Array P3} {ts : List Tri}
    (h : HullCert pts vs ts) : checkHull pts vs ts = .ok () := (checkHull_iff pts vs ts).mpr h

example : HullCert [(0, 0, 0), (4, 0, 0), (0, 4, 0), (0, 0, 4)]
    #[(0, 0, 0), (4, 0, 0), (0, 4, 0), (0, 0, 4)] [(0, 2, 1), (0, 1, 3), (0, 3, 2), (1, 2, 3)] :=
  by decide +kernel

/-- **No concave edge**: every vertex of an accepted mesh — in particular the apex of the triangle
across any edge — is on or behind the plane of every triangle. -/
theorem hull_edges_convex {pts : List P3} {vs : Array P3} {ts : List Tri}
    (h : checkHull pts vs ts = .ok ()) {t : Tri} (ht : t ∈ ts) {i : Nat} (hi : i < vs.size) :
    triOrient vs t (vpos vs i) ≤ 0 :=
  (checkHull_sound h).vertex_behind ht hi

example : triOrient #[(0, 0, 0), (4, 0, 0), (0, 4, 0), (0, 0, 4)] (1, 2, 3) (0, 0, 0) ≤ 0 := by decide +kernel

/-- **The decision "spans a volume" is exact.**  Rank 4 exhibits four input points spanning a
tetrahedron; any smaller rank means every four input points are coplanar. -/
theorem affineRank_exact (pts : List P3) :
    affineRank pts = 4 ↔ ∃ a ∈ pts, ∃ b ∈ pts, ∃ c ∈ pts, ∃ d ∈ pts, orient a b c d ≠ 0 := by
  constructor
  · intro h
    cases pts with
    | nil => simp [affineRank] at h
    | cons p0 rest =>
      unfold affineRank at h
      cases h1 : rest.find? (fun q => !isZero (sub q p0)) with
      | none => simp [h1] at h
      | some p1 =>
        simp only [h1] at h
        cases h2 : rest.find? (fun q => !isZero (cross (sub p1 p0) (sub q p0))) with
        | none => simp [h2] at h
        | some p2 =>
          simp only [h2] at h
          cases h3 : rest.find? (fun q => orient p0 p1 p2 q != 0) with
          | none => simp [h3] at h
          | some p3 =>
            refine ⟨p0, by simp, p1, List.mem_cons_of_mem _ (List.mem_of_find?_eq_some h1),
              p2, List.mem_cons_of_mem _ (List.mem_of_find?_eq_some h2),
              p3, List.mem_cons_of_mem _ (List.mem_of_find?_eq_some h3), ?_⟩
            simpa using List.find?_some h3
  · rintro ⟨a, ha, b, hb, c, hc, d, hd, hne⟩
    by_contra hr
    apply hne
    cases pts with
    | nil => simp at ha
    | cons p0 rest =>
      unfold affineRank at hr
      -- every point of the cloud, including `p0`, satisfies a predicate that holds on `rest` and at `p0`
      have all_of {P : P3 → Prop} (h0 : P p0) (hrest : ∀ x ∈ rest, P x) : ∀ x ∈ p0 :: rest, P x := by
        intro x hx
        rcases List.mem_cons.mp hx with rfl | hx
        · exact h0
        · exact hrest x hx
      cases h1 : rest.find? (fun q => !isZero (sub q p0)) with
      | none =>
        -- all points equal p0
        have hall : ∀ x ∈ p0 :: rest, dot (sub x p0) (1, 0, 0) = 0 := by
          apply all_of
          · rw [sub_self_zero]; exact dot_zero_left _
          · intro x hx
            have := List.find?_eq_none.mp h1 x hx
            simp only [Bool.not_eq_eq_eq_not, Bool.not_true, Bool.not_eq_false] at this
            rw [(isZero_iff _).mp this]; exact dot_zero_left _
        exact coplanar_of_common_plane (by simp) hall a ha b hb c hc d hd
      | some p1 =>
        simp only [h1] at hr
        have hp1 : sub p1 p0 ≠ (0, 0, 0) := by
          have := List.find?_some h1
          rw [Ne, ← isZero_iff]; simpa using this
        cases h2 : rest.find? (fun q => !isZero (cross (sub p1 p0) (sub q p0))) with
        | none =>
          obtain ⟨n, hn, hortho⟩ := exists_orthogonal hp1
          have hall : ∀ x ∈ p0 :: rest, dot (sub x p0) n = 0 := by
            apply all_of
            · rw [sub_self_zero]; exact dot_zero_left _
            · intro x hx
              have := List.find?_eq_none.mp h2 x hx
              simp only [Bool.not_eq_eq_eq_not, Bool.not_true, Bool.not_eq_false] at this
              exact hortho _ ((isZero_iff _).mp this)
          exact coplanar_of_common_plane hn hall a ha b hb c hc d hd
        | some p2 =>
          simp only [h2] at hr
          have hn : normal p0 p1 p2 ≠ (0, 0, 0) := by
            have := List.find?_some h2
            rw [Ne, ← isZero_iff]; simpa [normal] using this
          cases h3 : rest.find? (fun q => orient p0 p1 p2 q != 0) with
          | some p3 => simp [h3] at hr
          | none =>
            have hall : ∀ x ∈ p0 :: rest, dot (sub x p0) (normal p0 p1 p2) = 0 := by
              apply all_of
              · rw [sub_self_zero]; exact dot_zero_left _
              · intro x hx
                have := List.find?_eq_none.mp h3 x hx
                rw [← orient_eq_dot]; simpa using this
            exact coplanar_of_common_plane hn hall a ha b hb c hc d hd

example : affineRank [(0, 0, 0), (0, 0, 0), (1, 0, 0), (2, 0, 0), (0, 3, 0), (5, 5, 0)] = 3 := by decide +kernel
example : affineRank [(0, 0, 0), (1, 0, 0), (2, 0, 0), (0, 3, 0), (5, 5, 1)] = 4 := by decide +kernel

/-- **Recorded gap (`_partial`).**  Full statement wanted: *the solid bounded by an accepted mesh is
`convexHull ℝ (cloud pts)`*.  Proved: the mesh is a closed oriented 2-manifold on input points, and
`convexHull (cloud of the mesh vertices) ⊆ convexHull (cloud pts) ⊆ polytope`.  Missing: a closed
2-manifold whose faces all lie on supporting planes of a convex body bounds exactly that polytope
(local ⇒ global convexity); the harness closes it per run with a volume comparison
(signed volume of the mesh = volume of the reference hull) and winding-number samples. -/
theorem hullCheck_partial {pts : List P3} {vs : Array P3} {ts : List Tri}
    (h : checkHull pts vs ts = .ok ()) :
    convexHull ℝ (toR '' {p | ∃ i, i < vs.size ∧ p = vpos vs i}) ⊆ convexHull ℝ (cloud pts) ∧
    convexHull ℝ (cloud pts) ⊆ polytope vs ts := by
  have s := hullCheck_sound h
  refine ⟨convexHull_mono ?_, s.2.2.2.1⟩
  rintro _ ⟨p, ⟨i, hi, rfl⟩, rfl⟩
  exact ⟨_, s.2.1 i hi, rfl⟩

example : (toR (1, 1, 1)) ∈ polytope #[(0, 0, 0), (4, 0, 0), (0, 4, 0), (0, 0, 4)] [(0, 2, 1), (0, 1, 3), (0, 3, 2), (1, 2, 3)] := by
  have h : checkHull [(0, 0, 0), (4, 0, 0), (0, 4, 0), (0, 0, 4), (1, 1, 1)]
    #[(0, 0, 0), (4, 0, 0), (0, 4, 0), (0, 0, 4)] [(0, 2, 1), (0, 1, 3), (0, 3, 2), (1, 2, 3)] = .ok () :=
    (checkHull_iff _ _ _).mpr (by decide +kernel)
  exact (hullCheck_sound h).2.2.2.1 (subset_convexHull ℝ _ ⟨(1, 1, 1), by simp, rfl⟩)

end MV.C16b
