/-
Property C13a: the parallel primitives of /repo/src/parallel.h (TBB parallel_reduce,
parallel_scan, parallel_for protocols, model in `MV/Model/Par.lean`) equal their sequential
specifications for EVERY schedule tree satisfying `Sched.Valid` and every input list.

Each theorem is followed by a concrete `example` instantiating its hypotheses (non-vacuity).
Lemmas, and the theorems that other lemmas rest on (`reduceGo_eq_foldl`, `finalScan_eq_exScan`,
`copyIfWrites_eq`, `parFor_eq_seqFor`, `parForCancel_subset`, …), are in `MV/Proof/ParScan.lean`.
Core Lean only.
-/
import MV.Proof.ParScan

namespace MV.Par

variable {α : Type}

/-! ## 0. schedules -/

theorem Sched.valid_iff {t : Sched} {n : Nat} : t.valid n = true ↔ t.Valid n := by
  induction t generalizing n with
  | leaf => simp [Sched.valid, Sched.Valid]
  | node k s l r ihl ihr => simp [Sched.valid, Sched.Valid, ihl, ihr, and_assoc]

instance (t : Sched) (n : Nat) : Decidable (t.Valid n) :=
  decidable_of_iff _ Sched.valid_iff

example : (Sched.node 2 true .leaf .leaf).valid 5 = true ∧ (Sched.node 2 true .leaf .leaf).Valid 5 :=
  ⟨by decide, Sched.valid_iff.1 (by decide)⟩
example : ¬ (Sched.node 5 true .leaf .leaf).Valid 5 := by decide

/-! ## 1. parallel_reduce -/

example : reduceGo (· + ·) 0 (.node 2 true .leaf (.node 1 false .leaf .leaf)) 7 [1, 2, 3, 4, 5]
    = [1, 2, 3, 4, 5].foldl (· + ·) 7 :=
  reduceGo_eq_foldl _ _ (by intros; omega) (by intros; omega) _ 7 _ (by decide)

theorem natAbs_add_assoc (a b c : Int) :
    ((↑(↑a.natAbs + ↑b.natAbs : Int).natAbs + ↑c.natAbs : Int)) =
      ↑a.natAbs + ↑(↑b.natAbs + ↑c.natAbs : Int).natAbs := by
  simp only [← Int.natCast_add, Int.natAbs_natCast, Nat.add_assoc]

theorem natAbs_add_zero (a b : Int) :
    ((↑a.natAbs + ↑(↑(0 : Int).natAbs + ↑b.natAbs : Int).natAbs : Int)) = ↑a.natAbs + ↑b.natAbs := by
  simp only [← Int.natCast_add, Int.natAbs_natCast, Int.natAbs_zero, Nat.zero_add]

/-- `AbsSum` on `Int` with `idn = 0` meets `hassoc` and `hid` (and `0` is not an identity) -/
example : reduceGo (fun a b : Int => a.natAbs + b.natAbs) 0 (.node 2 true .leaf .leaf) (-7)
      [1, -2, 3, -4, 5]
    = [1, -2, 3, -4, 5].foldl (fun a b : Int => a.natAbs + b.natAbs) (-7) :=
  reduceGo_eq_foldl _ _ natAbs_add_assoc natAbs_add_zero _ (-7) _ (by decide)

/-! ## 2. reduce -/

theorem parReduce_eq_foldl {f : α → α → α} {init : α}
    (hassoc : ∀ a b c, f (f a b) c = f a (f b c))
    (hid : ∀ a b, f a (f init b) = f a b)
    {t : Sched} {xs : List α} (hv : t.Valid xs.length) :
    parReduce f init t xs = xs.foldl f init := by
  unfold parReduce
  split
  · next h => rw [List.isEmpty_iff.1 h]; rfl
  · exact reduceGo_eq_foldl f init hassoc hid t init xs hv

example : parReduce (· + ·) 0 (.node 2 true .leaf .leaf) [1, 2, 3, 4, 5] = 15 :=
  (parReduce_eq_foldl (by intros; omega) (by intros; omega) (by decide)).trans (by decide)

/-- Without `hid` the statement fails: `manifold::reduce` hands `init` to TBB as the identity,
so every stolen sub-range adds `init` again. -/
theorem parReduce_init_not_identity :
    parReduce (· + ·) 5 (.node 1 true .leaf .leaf) [1, 2] = 13 ∧
      [1, 2].foldl (· + ·) 5 = 8 ∧ (Sched.node 1 true .leaf .leaf).Valid [1, 2].length := by
  decide

/-! ## 3. all_of, count_if -/

/-- No `Valid` hypothesis is needed: `true` is a genuine identity of `&&` and the leaf
function is total on empty chunks. -/
theorem parAllOf_eq_all (p : α → Bool) (t : Sched) (xs : List α) :
    parAllOf p t xs = xs.all p := by
  unfold parAllOf
  split
  · next h => rw [List.isEmpty_iff.1 h]; rfl
  · rw [allOfGo_eq]; simp

example : parAllOf (fun x => x < 5) (.node 2 true .leaf .leaf) [1, 2, 3, 4, 5] = false ∧
    [1, 2, 3, 4, 5].all (fun x => decide (x < 5)) = false := by decide

theorem parCountIf_eq_countP (p : α → Bool) {t : Sched} {xs : List α} (hv : t.Valid xs.length) :
    parCountIf p t xs = xs.countP p := by
  unfold parCountIf
  rw [parReduce_eq_foldl Nat.add_assoc nat_add_hid (by simpa using hv), List.countP_eq_length_filter,
    ← Nat.zero_add (xs.filter p).length]
  exact foldl_add_ind p 0 xs

example : parCountIf (fun x => x % 2 == 1) (.node 2 true .leaf .leaf) [1, 2, 3, 4, 5] = 3 :=
  (parCountIf_eq_countP _ (by decide)).trans (by decide)

/-! ## 4. parallel_scan with ScanBody -/

example : finalScan (· + ·) 0 (.node 2 true .leaf (.node 2 false .leaf .leaf)) 10 [1, 2, 3, 4, 5]
    = ([10, 11, 13, 16, 20], 25) :=
  (finalScan_eq_exScan _ _ (by intros; omega) (by intros; omega) _ 10 _ (by decide)).trans (by decide)

theorem parExclusiveScan_eq {f : α → α → α} {idn : α}
    (hassoc : ∀ a b c, f (f a b) c = f a (f b c))
    (hid : ∀ a b, f a (f idn b) = f a b)
    {t : Sched} {xs : List α} (init : α) (hv : t.Valid xs.length) :
    parExclusiveScan f init idn t xs = (exScan f init xs).1 := by
  unfold parExclusiveScan
  split
  · next h => rw [List.isEmpty_iff.1 h]; rfl
  · rw [finalScan_eq_exScan f idn hassoc hid t init xs hv]

/-- the `AbsSum` call of boolean_result.cpp:889 (`init = numVertR`, identity `0`) -/
example : parExclusiveScan (fun a b : Int => a.natAbs + b.natAbs) 3 0
      (.node 2 true .leaf .leaf) [1, -1, 0, -1, 1] = [3, 4, 5, 5, 6] :=
  (parExclusiveScan_eq natAbs_add_assoc natAbs_add_zero 3 (by decide)).trans (by decide)

/-- Weakest law that makes the functional-form `parallel_scan` of `inclusive_scan` agree with
the sequential inclusive scan *started from* `idn`: associativity and `hid`
(`f a (f idn b) = f a b`).  A left identity (`∀ b, f idn b = b`) implies `hid`; it is needed
only to drop the leading `idn` (`parInclusiveScan_eq_std` below). -/
theorem parInclusiveScan_eq {f : α → α → α} {idn : α}
    (hassoc : ∀ a b c, f (f a b) c = f a (f b c))
    (hid : ∀ a b, f a (f idn b) = f a b)
    {t : Sched} {xs : List α} (hv : t.Valid xs.length) :
    parInclusiveScan f idn t xs = inScan f idn xs := by
  unfold parInclusiveScan
  split
  · next h => rw [List.isEmpty_iff.1 h]; rfl
  · rw [finalScanIncl_eq f idn hassoc hid t idn xs hv]

example : parInclusiveScan (· + ·) 0 (.node 2 true .leaf .leaf) [1, 2, 3, 4, 5] = [1, 3, 6, 10, 15] :=
  (parInclusiveScan_eq (by intros; omega) (by intros; omega) (by decide)).trans (by decide)

/-- `std::inclusive_scan(first, last, d_first)` (no init): `out[0] = x0`, `out[i] = out[i-1] ∘ x[i]` -/
def stdInScan (f : α → α → α) : List α → List α
  | [] => []
  | x :: xs => x :: inScan f x xs

theorem parInclusiveScan_eq_std {f : α → α → α} {idn : α}
    (hassoc : ∀ a b c, f (f a b) c = f a (f b c))
    (hleft : ∀ b, f idn b = b)
    {t : Sched} {xs : List α} (hv : t.Valid xs.length) :
    parInclusiveScan f idn t xs = stdInScan f xs := by
  rw [parInclusiveScan_eq hassoc (fun a b => by rw [hleft]) hv]
  cases xs with
  | nil => rfl
  | cons x xs => simp [inScan, stdInScan, hleft]

example : parInclusiveScan (· + ·) 0 (.node 3 true (.node 1 true .leaf .leaf) .leaf) [1, 2, 3, 4, 5]
    = stdInScan (· + ·) [1, 2, 3, 4, 5] :=
  parInclusiveScan_eq_std (by intros; omega) (by intros; omega) (by decide)

/-! ## 5. CopyIfScanBody: slots and count -/

example : copyIfWrites (fun x => x % 2 == 1) (.node 2 true .leaf .leaf) 0 [11, 12, 13, 14, 15]
    = [(0, 11), (1, 13), (2, 15)] :=
  (copyIfWrites_eq _ _ 0 _ (by decide)).trans (by decide)

example : copyIfCount (fun x => x % 2 == 1) (.node 2 true .leaf .leaf) 4 [11, 12, 13, 14, 15] = 7 :=
  (copyIfCount_eq _ _ 4 _ (by decide)).trans (by decide)

/-! ## 6. copy_if, remove_if -/

example : applyWrites [0, 0, 0, 0, 9] ((List.range' 0 3).zip [11, 13, 15]) = [11, 13, 15, 0, 9] :=
  applyWrites_prefix [0, 0, 0, 0, 9] [11, 13, 15] (by decide)

/-- the parallel pass alone already leaves `filter p xs` in the buffer prefix and the right
count in `body.get_sum()` -/
theorem parCopyIfPass_eq (p : α → Bool) {t : Sched} {xs out : List α}
    (hv : t.Valid xs.length) (hout : (xs.filter p).length ≤ out.length) :
    parCopyIfPass p t xs out
      = (xs.filter p ++ out.drop (xs.filter p).length, (xs.filter p).length) := by
  unfold parCopyIfPass
  rw [if_neg (by simpa using hv.ne_nil), copyIfWrites_eq p t 0 xs hv, copyIfCount_eq p t 0 xs hv,
    applyWrites_prefix _ _ hout, Nat.zero_add]

example : parCopyIfPass (fun x => x % 2 == 1) (.node 2 true .leaf .leaf) [11, 12, 13, 14, 15]
    [0, 0, 0, 0, 9] = ([11, 13, 15, 0, 9], 3) :=
  (parCopyIfPass_eq _ (by decide) (by decide)).trans (by decide)

/-- No `Valid` hypothesis: `manifold::copy_if(Par)` discards the parallel pass's return value
(the `return` is inside the `isolate` lambda) and falls through to `std::copy_if`, which
rewrites the prefix; so the result is right for any schedule by the fall-through alone. -/
theorem parCopyIf_eq_filter (p : α → Bool) (t : Sched) (xs out : List α) :
    (parCopyIf p t xs out).1.take (parCopyIf p t xs out).2 = xs.filter p := by
  simp [parCopyIf]

example : (parCopyIf (fun x => x % 2 == 1) (.node 2 true .leaf .leaf) [11, 12, 13, 14, 15]
    [0, 0, 0, 0, 9]) = ([11, 13, 15, 0, 9], 3) := by decide

/-- whole buffer, not only the prefix: with a valid schedule the fall-through changes nothing -/
theorem parCopyIf_eq_pass (p : α → Bool) {t : Sched} {xs out : List α}
    (hv : t.Valid xs.length) (hout : (xs.filter p).length ≤ out.length) :
    parCopyIf p t xs out = parCopyIfPass p t xs out := by
  rw [parCopyIfPass_eq p hv hout]
  unfold parCopyIf
  rw [if_neg (by simpa using hv.ne_nil), copyIfWrites_eq p t 0 xs hv, applyWrites_prefix _ _ hout]
  simp

example : parCopyIf (fun x => x % 2 == 1) (.node 2 true .leaf .leaf) [11, 12, 13, 14, 15]
      [0, 0, 0, 0, 9]
    = parCopyIfPass (fun x => x % 2 == 1) (.node 2 true .leaf .leaf) [11, 12, 13, 14, 15]
      [0, 0, 0, 0, 9] :=
  parCopyIf_eq_pass _ (by decide) (by decide)

/-- no `Valid` needed (inherits the fall-through of `copy_if`) -/
theorem parRemoveIf_eq (p : α → Bool) (t : Sched) (xs : List α) :
    parRemoveIf p t xs = xs.filter (fun x => !p x) := by
  unfold parRemoveIf
  exact parCopyIf_eq_filter _ t xs xs

example : parRemoveIf (fun x => x % 2 == 1) (.node 2 true .leaf .leaf) [11, 12, 13, 14, 15]
    = [12, 14] := by
  rw [parRemoveIf_eq]; decide

/-! ## 7. writes to distinct slots commute -/

theorem applyWrites_perm {ws ws' : List (Nat × α)} (out : List α)
    (hd : (ws.map Prod.fst).Nodup) (hp : ws'.Perm ws) :
    applyWrites out ws' = applyWrites out ws := by
  unfold applyWrites
  refine (List.Perm.foldl_eq' hp.symm ?_ out).symm
  intro x hx y hy z
  by_cases hxy : x.1 = y.1
  · rw [eq_of_fst_eq_of_nodup hd hx hy hxy]
  · exact List.set_comm _ _ hxy

example : applyWrites [0, 0, 0, 0] [(2, 15), (0, 11), (1, 13)]
    = applyWrites [0, 0, 0, 0] [(0, 11), (1, 13), (2, 15)] :=
  applyWrites_perm _ (by decide) (by decide)

/-! ## 8. parallel_for -/

theorem tiles_iff {cs : List (Nat × Nat)} {a b : Nat} : tiles cs a b = true ↔ Tiles cs a b :=
  tiles_iff'

example : tiles [(0, 2), (2, 5)] 0 5 = true ∧ Tiles [(0, 2), (2, 5)] 0 5 :=
  ⟨by decide, tiles_iff.1 (by decide)⟩

example : Tiles ((Sched.node 2 true .leaf (.node 1 false .leaf .leaf)).chunks 10 5) 10 15 :=
  Sched.chunks_tiles _ 10 _ (by decide)
example : (Sched.node 2 true .leaf (.node 1 false .leaf .leaf)).chunks 10 5
    = [(10, 12), (12, 13), (13, 15)] := by decide

/-- in particular: the leaves of any valid schedule, in any execution order -/
theorem parFor_sched_eq_seqFor {σ : Type} (body : Nat → σ → σ)
    (hcomm : ∀ i j s, i ≠ j → body i (body j s) = body j (body i s))
    {t : Sched} {n : Nat} (hv : t.Valid n) {cs : List (Nat × Nat)}
    (hp : cs.Perm (t.chunks 0 n)) (s : σ) :
    parFor body cs s = seqFor body n s := by
  have ht := Sched.chunks_tiles t 0 n hv
  rw [Nat.zero_add] at ht
  exact parFor_eq_seqFor body hcomm hp ht s

/-- `out[i] = i + 10` written by three chunks executed out of order -/
example : parFor (fun i (s : List Nat) => s.set i (i + 10)) [(3, 5), (0, 2), (2, 3)] [0, 0, 0, 0, 0]
    = seqFor (fun i (s : List Nat) => s.set i (i + 10)) 5 [0, 0, 0, 0, 0] :=
  parFor_sched_eq_seqFor (t := .node 2 true .leaf (.node 1 false .leaf .leaf)) _
    (fun _ _ _ h => List.set_comm _ _ (Ne.symm h)) (by decide) (by decide) _

/-! ## 9. cancellation is whole-chunk -/

example : parForCancel (fun i (s : List Nat) => s.set i (i + 10))
      [((0, 2), false), ((2, 4), true), ((4, 5), false)] [0, 0, 0, 0, 0]
    = [10, 11, 0, 0, 14] := by
  rw [parForCancel_subset]; decide

/-- if no check fires nothing is skipped -/
theorem parForCancel_none {σ : Type} (body : Nat → σ → σ) (cs : List (Nat × Nat)) (s : σ) :
    parForCancel body (cs.map fun c => (c, false)) s = parFor body cs s := by
  rw [parForCancel_subset]
  congr 1
  induction cs with
  | nil => rfl
  | cons c cs ih => simpa using ih

example : parForCancel (fun i (s : Nat) => s + i) ([(0, 2), (2, 5)].map fun c => (c, false)) 0
    = parFor (fun i (s : Nat) => s + i) [(0, 2), (2, 5)] 0 :=
  parForCancel_none _ _ _

/-! ## 10. unique

`uniqFrom last xs` (in `MV/Proof/ParScan.lean`) is `std::unique` with an explicit
predecessor; `seqUnique xs = uniqFrom none xs`. -/

section unique
variable [BEq α] [LawfulBEq α]

/-- one window: the scan over `[0, L-1)` needs a valid schedule only when `L ≥ 2`
(`L = 1` is the empty `blocked_range(0,0)`) -/
theorem uniqueWindow_eq (t : Sched) (last : Option α) (tmp : List α)
    (hv : 2 ≤ tmp.length → t.Valid (tmp.length - 1)) :
    uniqueWindow t last tmp = uniqFrom last tmp := by
  cases tmp with
  | nil => cases last <;> rfl
  | cons h rest =>
    have hk : (if rest.isEmpty then []
        else (copyIfWrites (fun ab : α × α => ab.1 != ab.2) t 0 ((h :: rest).zip rest)).map
          fun r => r.2.2) = uniqFrom (some h) rest := by
      cases rest with
      | nil => rfl
      | cons r rs =>
        rw [if_neg (by simp), copyIfWrites_eq _ t 0 _ (by simpa [List.length_zip] using hv (by simp)),
          ← pairs_filter_eq]
        show List.map (Prod.snd ∘ Prod.snd) _ = _
        rw [← List.map_map, List.map_snd_zip]
        simp
    rw [uniqueWindow_cons, hk]
    cases last with
    | none => rfl
    | some l =>
      simp only [uniqFrom]
      by_cases e : l == h
      · cases eq_of_beq e; simp
      · simp [e]

example : uniqueWindow (.node 2 true .leaf .leaf) (some 1) [1, 1, 2, 2, 3] = [2, 3] :=
  (uniqueWindow_eq _ _ _ (fun _ => by decide)).trans (by decide)

theorem parUniqueGo_eq (W : Nat) (hW : 0 < W) (fuel : Nat) (ts : List Sched)
    (last : Option α) (xs : List α) (hf : xs.length < fuel)
    (hv : WindowsValidGo W fuel ts xs) :
    parUniqueGo W fuel ts last xs = uniqFrom last xs := by
  induction fuel generalizing ts last xs with
  | zero => exact absurd hf (Nat.not_lt_zero _)
  | succ fuel ih =>
    cases xs with
    | nil => cases last <;> rfl
    | cons x xs' =>
      rcases hv with hnil | ⟨hv1, hv2⟩
      · cases hnil
      · rw [parUniqueGo_cons, uniqueWindow_eq _ last _ hv1,
          ih _ _ _ (by simp only [List.length_drop, List.length_cons] at hf ⊢; omega) hv2,
          ← uniqFrom_append, List.take_append_drop]

theorem parUnique_eq_seqUnique {W : Nat} (hW : 0 < W) {ts : List Sched} {xs : List α}
    (hv : WindowsValid W ts xs) : parUnique W ts xs = seqUnique xs := by
  rw [seqUnique_eq]
  exact parUniqueGo_eq W hW _ ts none xs (Nat.lt_succ_self _) hv

/-- windows `[1,1,2]`, `[2,2,3]`, `[3]` with a split schedule, a leaf and the default -/
example : parUnique 3 [.node 1 true .leaf .leaf, .leaf] [1, 1, 2, 2, 2, 3, 3] = [1, 2, 3] :=
  (parUnique_eq_seqUnique (by decide)
    (by simp [WindowsValid, WindowsValidGo, Sched.Valid])).trans (by decide)

end unique

/-- index form of the window hypothesis: window `i` has length `L = min W (n - i*W)` and its
schedule (default `leaf`) is valid for the scan range `[0, L-1)` whenever `L ≥ 2` -/
theorem windowsValid_of_forall (W : Nat) (ts : List Sched) (xs : List α)
    (h : ∀ i, i * W < xs.length → 2 ≤ min W (xs.length - i * W) →
      (ts.getD i .leaf).Valid (min W (xs.length - i * W) - 1)) :
    WindowsValid W ts xs :=
  windowsValidGo_of_forall W _ ts xs h

/-- with no schedules given every window runs as one leaf, which is always valid -/
example (W : Nat) (xs : List Nat) : WindowsValid W [] xs :=
  windowsValid_of_forall W [] xs (fun i _ h => by
    show 0 < _
    omega)

/-- per window: emitted ≤ consumed, for any schedule (valid or not) -/
theorem uniqueWindow_emitted_le [BEq α] (t : Sched) (last : Option α) (tmp : List α) :
    (uniqueWindow t last tmp).length ≤ tmp.length := by
  cases tmp with
  | nil => simp [uniqueWindow]
  | cons h rest =>
    unfold uniqueWindow
    simp only [List.length_append, List.length_cons]
    rw [Nat.add_comm]
    refine Nat.add_le_add ?_ ?_
    · split
      · simp
      · rw [List.length_map]
        refine Nat.le_trans (List.length_filter_le _ _) ?_
        rw [List.length_zip, List.length_zip]
        simp only [List.length_cons]
        omega
    · cases last with
      | none => simp
      | some l => dsimp only; split <;> simp

/-- Safety: after `j` windows (`parUniqueGo` with fuel `j` is exactly the output of the first
`j` windows) the number of emitted elements is at most the number consumed,
`min (j*W) n` — the in-place output cursor `first` never overtakes `newSrcStart`.
Holds for every schedule, valid or not. -/
theorem parUnique_emitted_le_consumed [BEq α] (W j : Nat) (ts : List Sched) (last : Option α)
    (xs : List α) : (parUniqueGo W j ts last xs).length ≤ min (j * W) xs.length := by
  induction j generalizing ts last xs with
  | zero => simp [parUniqueGo]
  | succ j ih =>
    unfold parUniqueGo
    split
    · simp
    · simp only [List.length_append]
      refine Nat.le_trans (Nat.add_le_add
        (uniqueWindow_emitted_le (ts.headD .leaf) last (xs.take W)) (ih _ _ _)) ?_
      rw [List.length_take, List.length_drop, Nat.succ_mul]
      omega

example : (parUniqueGo 3 2 [.node 1 true .leaf .leaf, .leaf] none [1, 1, 2, 2, 2, 3, 3]).length = 3
    ∧ min (2 * 3) [1, 1, 2, 2, 2, 3, 3].length = 6 := by decide

/-! ### without the guard on the window head

`uniqueWindow` models `manifold::unique(Par)` with the guard
`first == dstStart || *(first - 1) != tmp[0]` (/repo/src/parallel.h:1052) in front of
`*first = tmp[0]`.  Before commit df04a051 the head of every window was written unconditionally,
i.e. every window behaved as if `last = none`.  That variant is NOT `std::unique`: -/

def parUniquePinnedGo [BEq α] (W : Nat) : Nat → List Sched → List α → List α
  | 0, _, _ => []
  | fuel + 1, ts, xs =>
    if xs.isEmpty then []
    else uniqueWindow (ts.headD .leaf) none (xs.take W)
      ++ parUniquePinnedGo W fuel ts.tail (xs.drop W)

theorem parUniquePinned_duplicates :
    parUniquePinnedGo 2 4 [] [1, 1, 1] = [1, 1] ∧ seqUnique [1, 1, 1] = [1] := by decide

end MV.Par
