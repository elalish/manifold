/-
Property C14 — the collider (spatial index) of /repo/src/collider.h.

  "A collision query against the bounding-volume hierarchy reports a (query, leaf) pair if and
   only if the query box or point overlaps that leaf's box under the documented closed-interval
   test, each pair once, for any leaf set including many identical Morton codes, identical
   boxes and a degenerate bounding box; after an axis-aligned Transform or UpdateBoxes the same
   holds for the new boxes."

Model: MV/Model/Collider.lean (line-by-line transliteration of `CreateRadixTree`,
`BuildInternalBoxes`, `FindCollision`, `Box::DoesOverlap/Union/Transform`).
All theorems hold for ALL leaf counts `2 ≤ n < 2^32` (`PrefixLength` is the common prefix of the
64-bit keys `code * 2^32 + index`, MV/Proof/ColliderDelta.lean, so an index has to fit in the low
32 bits; the model's indices are `Int` and never overflow, whereas in the C++ the `int`
`max_length *= kLengthMultiple` of `RangeEnd` can overflow for `n` beyond `2^29`: NOT covered),
all non-decreasing code arrays with values `< 2^32` (duplicates allowed: all equal is a legal
input), all boxes (no validity assumption except for
`Transform`, where it is necessary — see `transform_needs_valid`), all queries, every arrival
order of `BuildInternalBoxes` and every execution order of `CreateRadixTree`.

Where the model returns `Option` (`findCollision`) / carries `ok` (`updateBoxes`), `some` /
`ok = true` *is* the statement that the 64-entry stack is never overrun, the loop fuel given by
the entry point suffices, no array is indexed out of range and no box is read before it is
written.
-/
import MV.Proof.ColliderQuery
import MV.Proof.ColliderBoxes
import MV.Proof.ColliderSpec

namespace MV.Collider.C14
open MV.Collider

/-- the running example: duplicate codes -/
def exCodes : Array Nat := #[3, 3, 3, 7, 7, 9]

/-- identical boxes, a point box and an inverted ("empty") box among the leaves -/
def exBoxes : Array Box :=
  #[⟨⟨0, 0, 0⟩, ⟨1, 1, 1⟩⟩, ⟨⟨0, 0, 0⟩, ⟨1, 1, 1⟩⟩, ⟨⟨0, 0, 0⟩, ⟨1, 1, 1⟩⟩,
    ⟨⟨5, 5, 5⟩, ⟨5, 5, 5⟩⟩, ⟨⟨9, 9, 9⟩, ⟨8, 8, 8⟩⟩, ⟨⟨-3, 0, 2⟩, ⟨7, 1, 4⟩⟩]

theorem exSorted : Sorted exCodes := sorted_of_sortedCodes (by decide)

/-! ## 1. clz and δ -/

/-- **clz32_xor_spec.** `clz32 (a xor b)` is the number of leading bits (of 32) on which `a` and
`b` agree: for every `L ≤ 32`, the top `L` bits agree iff `L ≤ clz32 (a ^^^ b)`.  Hence for
`a ≠ b` it is the largest such `L` (`clz32_xor_largest`). -/
theorem clz32_xor_spec {a b : Nat} (ha : a < 2 ^ 32) (hb : b < 2 ^ 32) (L : Nat) (hL : L ≤ 32) :
    (a >>> (32 - L) = b >>> (32 - L)) ↔ L ≤ clz32 (a ^^^ b) :=
  MV.Collider.clz32_xor_spec ha hb L hL

theorem clz32_xor_largest {a b : Nat} (ha : a < 2 ^ 32) (hb : b < 2 ^ 32) (hab : a ≠ b) :
    clz32 (a ^^^ b) < 32 ∧
    a >>> (32 - clz32 (a ^^^ b)) = b >>> (32 - clz32 (a ^^^ b)) ∧
    a >>> (32 - (clz32 (a ^^^ b) + 1)) ≠ b >>> (32 - (clz32 (a ^^^ b) + 1)) := by
  have hlt : clz32 (a ^^^ b) < 32 := clz32_lt_of_ne_zero (fun h => hab (xor_eq_zero_iff.mp h))
  refine ⟨hlt, ?_, ?_⟩
  · exact (clz32_xor_spec ha hb _ (Nat.le_of_lt hlt)).mpr (Nat.le_refl _)
  · intro h
    have := (clz32_xor_spec ha hb _ hlt).mp h
    omega

example : clz32 (3 ^^^ 7) = 29 ∧ (3 : Nat) >>> 3 = 7 >>> 3 ∧ (3 : Nat) >>> 2 ≠ 7 >>> 2 := by decide

/-- **delta = PrefixLength.**  With keys `k_i = code_i * 2^32 + i` (strictly increasing,
`key_increasing`), the model's `prefixLength codes i j` is the length of the common prefix of
`k_i` and `k_j` as 64-bit words: for every `L ≤ 64`, `L ≤ prefixLength codes i j` iff the keys
agree on their top `L` bits. -/
theorem delta_spec {codes : Array Nat} (hs : Sorted codes) (hn : codes.size < 2 ^ 32)
    {i j : Int} (hi0 : 0 ≤ i) (hi : i < codes.size) (hj0 : 0 ≤ j) (hj : j < codes.size)
    (L : Nat) (hL : L ≤ 64) :
    ((L : Int) ≤ prefixLength codes i j) ↔ agree 64 L (key codes i.toNat) (key codes j.toNat) :=
  prefixLength_spec hs hn hi0 hi hj0 hj L hL

theorem key_increasing {codes : Array Nat} (hs : Sorted codes) {i j : Nat} (hij : i < j)
    (hj : j < codes.size) : key codes i < key codes j := by
  unfold key
  have := hs.2 i j (Nat.le_of_lt hij) hj
  omega

/-- Karras' δ on sorted codes is the minimum over any split of the index range. -/
theorem delta_min {codes : Array Nat} (hs : Sorted codes) (hn : codes.size < 2 ^ 32)
    {i j k : Int} (hi0 : 0 ≤ i) (hij : i ≤ j) (hjk : j ≤ k) (hk : k < codes.size) :
    prefixLength codes i k = min (prefixLength codes i j) (prefixLength codes j k) :=
  MV.Collider.delta_min hs hn hi0 hij hjk hk

/-- Two adjacent index ranges never have the same δ: a bit has only two values, so three distinct
keys cannot pairwise first differ at the same position. -/
theorem delta_ne {codes : Array Nat} (hs : Sorted codes) (hn : codes.size < 2 ^ 32)
    {i j k : Int} (hi0 : 0 ≤ i) (hij : i < j) (hjk : j < k) (hk : k < codes.size) :
    prefixLength codes i j ≠ prefixLength codes j k :=
  MV.Collider.delta_ne hs hn hi0 hij hjk hk

-- equal codes are disambiguated by the index: δ(0,1)=63, δ(1,2)=62, δ(0,2)=62, δ(2,3)=29
example : prefixLength exCodes 0 1 = 63 ∧ prefixLength exCodes 1 2 = 62 ∧
    prefixLength exCodes 0 2 = 62 ∧ prefixLength exCodes 2 3 = 29 ∧
    prefixLength exCodes 0 (-1) = -1 ∧ prefixLength exCodes 5 6 = -1 := by decide
example : prefixLength exCodes 0 2 = min (prefixLength exCodes 0 1) (prefixLength exCodes 1 2) :=
  delta_min exSorted (by decide) (by decide) (by decide) (by decide) (by decide)
example : prefixLength exCodes 0 1 ≠ prefixLength exCodes 1 2 :=
  delta_ne exSorted (by decide) (by decide) (by decide) (by decide) (by decide)

/-! ## 2. radixTree_wf -/

/-- Prop-level well-formedness of `(internalChildren_, nodeParent_)` for `n` leaves. -/
structure RadixWF (ch : Array (Int × Int)) (parent : Array Int) (n : Nat) : Prop where
  /-- array sizes -/
  sizes : ch.size = n - 1 ∧ parent.size = 2 * n - 1
  /-- the arrays unfold from the root (node 1 = internal 0) into a finite binary tree `t`:
  internal 0 covers `[0, n-1]`, every internal node `i` covers a contiguous block with
  `i ∈ {first, last}`, children cover `[first, γ]`, `[γ+1, last]`, a child is a leaf iff its
  block is a singleton (`Blocks`); the leaves are `0 … n-1` left to right, each once; the internal
  indices are exactly `0 … n-2`, each once; depth `≤ 64`. -/
  tree : ∃ t : T, toTree ch 65 kRoot = some t ∧ Rep ch t ∧ t.id = 1 ∧ Blocks t 0 (n - 1) ∧
    t.leaves = List.range n ∧ t.internals.Nodup ∧ (∀ k, k ∈ t.internals ↔ k < n - 1) ∧
    t.height ≤ 64
  /-- the root has no parent; every other node has exactly one parent, and `nodeParent_`
  records it -/
  rootParent : parent[1]? = some (-1)
  parents : ∀ c, c < 2 * n - 1 → c ≠ 1 →
    ∃ k, k < n - 1 ∧ parent[c]? = some (2 * (k : Int) + 1) ∧
      (∃ c1 c2, ch[k]? = some (c1, c2) ∧ ((c : Int) = c1 ∨ (c : Int) = c2)) ∧
      ∀ k', k' < n - 1 →
        (∃ c1 c2, ch[k']? = some (c1, c2) ∧ ((c : Int) = c1 ∨ (c : Int) = c2)) → k' = k
  /-- every leaf is reachable from the root by exactly one path -/
  paths : ∀ i, i < n → ∃ p, walk ch kRoot p = some (2 * (i : Int)) ∧
    ∀ p', walk ch kRoot p' = some (2 * (i : Int)) → p' = p

/-- the decidable check implies the Prop-level statement -/
theorem radixWF_of_wfTree {ch : Array (Int × Int)} {parent : Array Int} {n : Nat}
    (hwf : wfTree ch parent n = true) : RadixWF ch parent n := by
  obtain ⟨t, c⟩ := wfTree_iff.mp hwf
  have hn := c.hn
  refine ⟨⟨c.hcs, c.hps⟩, ⟨t, c.htree, c.rep, c.id_eq, blocks_of_cover _ _ _ c.hcov, ?_,
    c.nodup_internals, c.mem_internals, c.depth_le⟩, c.hp1,
    unique_parent_of_wf hwf, unique_path_of_wf hwf⟩
  rw [cover_leaves _ _ _ c.hcov, List.range_eq_range']
  congr 1
  omega

/-- **radixTree_wf.**  For every `n ≥ 2` and every sorted code array, the arrays produced by
`CreateRadixTree` — in any execution order of the parallel loop — form Karras' binary radix
tree: see `RadixWF`. -/
theorem radixTree_wf {codes : Array Nat} (hs : Sorted codes) (hn : codes.size < 2 ^ 32)
    (h2 : 2 ≤ codes.size) (order : List Nat) (hperm : order.Perm (List.range (codes.size - 1))) :
    wfTree (createRadixTreeOrd codes order).1 (createRadixTreeOrd codes order).2 codes.size = true ∧
    RadixWF (createRadixTreeOrd codes order).1 (createRadixTreeOrd codes order).2 codes.size := by
  have h := createRadixTreeOrd_wf hs hn h2 order
    (fun k hk => hperm.mem_iff.mpr (List.mem_range.mpr hk))
    (fun k hk => List.mem_range.mp (hperm.mem_iff.mp hk))
  exact ⟨h, radixWF_of_wfTree h⟩

/-- **The parallel loop is deterministic**: every execution order produces the same two
arrays. -/
theorem createRadixTreeOrd_eq {codes : Array Nat} (hs : Sorted codes) (hn : codes.size < 2 ^ 32)
    (h2 : 2 ≤ codes.size) (order : List Nat) (hperm : order.Perm (List.range (codes.size - 1))) :
    createRadixTreeOrd codes order = createRadixTree codes := by
  have hch : (createRadixTreeOrd codes order).1 = (createRadixTree codes).1 :=
    createRadixTreeOrd_children_eq codes order
      (fun k hk => hperm.mem_iff.mpr (List.mem_range.mpr hk))
  have w1 := (radixTree_wf hs hn h2 order hperm).1
  have w2 := createRadixTree_wf hs hn h2
  have hpar : (createRadixTreeOrd codes order).2 = (createRadixTree codes).2 := by
    apply Array.ext_getElem?
    intro c
    obtain ⟨_, c1⟩ := wfTree_iff.mp w1
    obtain ⟨_, c2⟩ := wfTree_iff.mp w2
    have s1 := c1.hps
    have s2 := c2.hps
    by_cases hc : c < 2 * codes.size - 1
    · by_cases hc1 : c = 1
      · subst hc1
        rw [c1.hp1, c2.hp1]
      · obtain ⟨k, hk, p1, _, u1⟩ := unique_parent_of_wf w1 c hc hc1
        obtain ⟨k', hk', p2, e2, _⟩ := unique_parent_of_wf w2 c hc hc1
        rw [← hch] at e2
        have := u1 k' hk' e2
        rw [p1, p2, this]
    · rw [Array.getElem?_eq_none (by omega), Array.getElem?_eq_none (by omega)]
  exact Prod.ext hch hpar

example : createRadixTreeOrd exCodes [4, 0, 3, 1, 2] = createRadixTree exCodes :=
  createRadixTreeOrd_eq exSorted (by decide) (by decide) _ (by decide)

/-- the sequential order used by `createRadixTree` -/
theorem radixTree_wf_seq {codes : Array Nat} (hs : Sorted codes) (hn : codes.size < 2 ^ 32)
    (h2 : 2 ≤ codes.size) :
    wfTree (createRadixTree codes).1 (createRadixTree codes).2 codes.size = true ∧
    RadixWF (createRadixTree codes).1 (createRadixTree codes).2 codes.size := by
  have h := createRadixTree_wf hs hn h2
  exact ⟨h, radixWF_of_wfTree h⟩

example : RadixWF (createRadixTree exCodes).1 (createRadixTree exCodes).2 6 :=
  (radixTree_wf_seq exSorted (by decide) (by decide)).2
example : RadixWF (createRadixTreeOrd exCodes [4, 0, 3, 1, 2]).1
    (createRadixTreeOrd exCodes [4, 0, 3, 1, 2]).2 6 :=
  (radixTree_wf exSorted (by decide) (by decide) [4, 0, 3, 1, 2] (by decide)).2
-- the arrays themselves (same as the C++ prints)
example : (createRadixTree exCodes).1.toList = [(9, 10), (0, 2), (3, 4), (6, 8), (5, 7)] ∧
    (createRadixTree exCodes).2.toList = [3, -1, 3, 5, 5, 9, 7, 9, 7, 1, 1] := by decide +kernel

/-! ## 3. boxes_are_unions -/

/-- **boxes_are_unions.**  For every arrival order of the leaves (any permutation),
`UpdateBoxes`/`BuildInternalBoxes` never reads a box before it is written (`ok`), writes every
cell, the leaf cells hold the leaf boxes, and the cell of every node of the tree — every tree `s`
contained in the arrays, in particular every subtree of the root — is the componentwise
min/max union of the leaf boxes of its block. -/
theorem boxes_are_unions {codes : Array Nat} (hs : Sorted codes) (hn : codes.size < 2 ^ 32)
    (h2 : 2 ≤ codes.size) (leafBB : Array Box) (hsz : leafBB.size = codes.size)
    (order : List Nat) (hperm : order.Perm (List.range codes.size)) :
    let ch := (createRadixTree codes).1
    let parent := (createRadixTree codes).2
    let st := updateBoxes parent ch leafBB order
    st.ok = true ∧ st.boxes.size = 2 * codes.size - 1 ∧
    (∀ i, i < 2 * codes.size - 1 → ∃ b, st.boxes[i]? = some (some b)) ∧
    unionBoxes ch st.final leafBB codes.size = true ∧
    ∀ s : T, Rep ch s → (∀ i ∈ s.leaves, i < codes.size) → (∀ k ∈ s.internals, k < codes.size - 1) →
      st.final[s.id.toNat]? = unionList (s.leaves.map fun i => leafBB.getD i default) := by
  intro ch parent st
  have hwf := createRadixTree_wf hs hn h2
  obtain ⟨h1, h2', h3, h4⟩ := updateBoxes_correct hwf leafBB hsz order hperm
  exact ⟨h1, h2', h3, h4, fun s hr hl hk => unionBoxes_block h4 s hr (below_of_mem s hl hk)⟩

/-- the same from the decidable check alone -/
theorem boxes_are_unions_of_wf {ch : Array (Int × Int)} {parent : Array Int} {n : Nat}
    (hwf : wfTree ch parent n = true) (leafBB : Array Box) (hsz : leafBB.size = n)
    (order : List Nat) (hperm : order.Perm (List.range n)) :
    (updateBoxes parent ch leafBB order).ok = true ∧
    unionBoxes ch (updateBoxes parent ch leafBB order).final leafBB n = true := by
  obtain ⟨h1, _, _, h4⟩ := updateBoxes_correct hwf leafBB hsz order hperm
  exact ⟨h1, h4⟩

example :
    let st := updateBoxes (createRadixTree exCodes).2 (createRadixTree exCodes).1 exBoxes
      [4, 2, 0, 5, 1, 3]
    st.ok = true ∧ unionBoxes (createRadixTree exCodes).1 st.final exBoxes 6 = true :=
  let h := boxes_are_unions exSorted (by decide) (by decide) exBoxes (by decide)
    [4, 2, 0, 5, 1, 3] (by decide)
  ⟨h.1, h.2.2.2.1⟩

/-! ## 4. query_iff_overlap -/

/-- **query_iff_overlap, from the two decidable checks** (the driver's `check`/`checkboxes`
validate them for any concrete collider).  `ov` is the query's overlap test; the two documented
tests are instances (`query_box_of_wf`, `query_point_of_wf`). -/
theorem query_iff_overlap_of_wf {ch : Array (Int × Int)} {parent : Array Int}
    {boxes leafBB : Array Box} {n : Nat}
    (hwf : wfTree ch parent n = true) (hub : unionBoxes ch boxes leafBB n = true)
    (ov : Box → Bool)
    (hov1 : ∀ a b : Box, ov a = true → ov (a.union b) = true)
    (hov2 : ∀ a b : Box, ov b = true → ov (a.union b) = true)
    (self : Bool) (q : Nat) :
    ∃ out, findCollision ch boxes ov self q = some out ∧ out.toList.Nodup ∧
      ∀ i, i ∈ out.toList ↔
        (i < n ∧ (∃ b, leafBB[i]? = some b ∧ ov b = true) ∧ (self = true → i ≠ q)) :=
  findCollision_of_wf hwf hub ov hov1 hov2 self q

theorem query_box_of_wf {ch : Array (Int × Int)} {parent : Array Int}
    {boxes leafBB : Array Box} {n : Nat}
    (hwf : wfTree ch parent n = true) (hub : unionBoxes ch boxes leafBB n = true)
    (self : Bool) (qi : Nat) (q : Box) :
    ∃ out, findCollisionBox ch boxes self qi q = some out ∧ out.toList.Nodup ∧
      ∀ i, i ∈ out.toList ↔
        (i < n ∧ (∃ b, leafBB[i]? = some b ∧ doesOverlapBox b q = true) ∧
          (self = true → i ≠ qi)) :=
  findCollision_of_wf hwf hub _ (doesOverlapBox_union_left q) (doesOverlapBox_union_right q) self qi

theorem query_point_of_wf {ch : Array (Int × Int)} {parent : Array Int}
    {boxes leafBB : Array Box} {n : Nat}
    (hwf : wfTree ch parent n = true) (hub : unionBoxes ch boxes leafBB n = true)
    (self : Bool) (qi : Nat) (p : Vec3) :
    ∃ out, findCollisionPoint ch boxes self qi p = some out ∧ out.toList.Nodup ∧
      ∀ i, i ∈ out.toList ↔
        (i < n ∧ (∃ b, leafBB[i]? = some b ∧ doesOverlapPoint b p = true) ∧
          (self = true → i ≠ qi)) :=
  findCollision_of_wf hwf hub _ (doesOverlapPoint_union_left p) (doesOverlapPoint_union_right p)
    self qi

/-- **query_iff_overlap (end to end).**  Build the collider from any sorted codes and any leaf
boxes with any arrival order; then a box query reports leaf `i` iff `leafBB[i]` overlaps the
query under the closed-interval test (and `i ≠ queryIdx` when `selfCollision`), each reported
leaf exactly once; the traversal terminates within `children.size` iterations and never holds
more than 64 stack entries. -/
theorem query_iff_overlap {codes : Array Nat} (hs : Sorted codes) (hn : codes.size < 2 ^ 32)
    (h2 : 2 ≤ codes.size) (leafBB : Array Box) (hsz : leafBB.size = codes.size)
    (order : List Nat) (hperm : order.Perm (List.range codes.size))
    (self : Bool) (qi : Nat) (q : Box) :
    let ch := (createRadixTree codes).1
    let boxes := (updateBoxes (createRadixTree codes).2 ch leafBB order).final
    ∃ out, findCollisionBox ch boxes self qi q = some out ∧ out.toList.Nodup ∧
      ∀ i, i ∈ out.toList ↔
        (i < codes.size ∧ (∃ b, leafBB[i]? = some b ∧ doesOverlapBox b q = true) ∧
          (self = true → i ≠ qi)) := by
  intro ch boxes
  have hwf := createRadixTree_wf hs hn h2
  exact query_box_of_wf hwf (updateBoxes_correct hwf leafBB hsz order hperm).2.2.2 self qi q

/-- the same for point queries (`Box::DoesOverlap(vec3)`: x and y only) -/
theorem query_iff_overlap_point {codes : Array Nat} (hs : Sorted codes)
    (hn : codes.size < 2 ^ 32) (h2 : 2 ≤ codes.size) (leafBB : Array Box)
    (hsz : leafBB.size = codes.size) (order : List Nat)
    (hperm : order.Perm (List.range codes.size)) (self : Bool) (qi : Nat) (p : Vec3) :
    let ch := (createRadixTree codes).1
    let boxes := (updateBoxes (createRadixTree codes).2 ch leafBB order).final
    ∃ out, findCollisionPoint ch boxes self qi p = some out ∧ out.toList.Nodup ∧
      ∀ i, i ∈ out.toList ↔
        (i < codes.size ∧ (∃ b, leafBB[i]? = some b ∧ doesOverlapPoint b p = true) ∧
          (self = true → i ≠ qi)) := by
  intro ch boxes
  have hwf := createRadixTree_wf hs hn h2
  exact query_point_of_wf hwf (updateBoxes_correct hwf leafBB hsz order hperm).2.2.2 self qi p

-- the hypotheses are met by the running example, and the traversal really reports something:
example : ∃ out, findCollisionBox (createRadixTree exCodes).1
      (updateBoxes (createRadixTree exCodes).2 (createRadixTree exCodes).1 exBoxes
        [4, 2, 0, 5, 1, 3]).final true 1 ⟨⟨1, 1, 1⟩, ⟨6, 6, 6⟩⟩ = some out ∧ out.toList.Nodup ∧
      ∀ i, i ∈ out.toList ↔ (i < 6 ∧
        (∃ b, exBoxes[i]? = some b ∧ doesOverlapBox b ⟨⟨1, 1, 1⟩, ⟨6, 6, 6⟩⟩ = true) ∧
        ((true : Bool) = true → i ≠ 1)) :=
  query_iff_overlap exSorted (by decide) (by decide) exBoxes (by decide) [4, 2, 0, 5, 1, 3]
    (by decide) true 1 _
example : findCollisionBox (createRadixTree exCodes).1
      (updateBoxes (createRadixTree exCodes).2 (createRadixTree exCodes).1 exBoxes
        [4, 2, 0, 5, 1, 3]).final true 1 ⟨⟨1, 1, 1⟩, ⟨6, 6, 6⟩⟩ = some #[5, 2, 0, 3] := by
  decide +kernel
example : findCollisionPoint (createRadixTree exCodes).1
      (updateBoxes (createRadixTree exCodes).2 (createRadixTree exCodes).1 exBoxes
        [0, 1, 2, 3, 4, 5]).final false 0 ⟨0, 1, 100⟩ = some #[5, 2, 0, 1] := by
  decide +kernel

/-! ## 5. transform_commutes / UpdateBoxes -/

/-- **transform_commutes.**  For an axis-aligned matrix (`Collider::IsAxisAligned`: in every row
exactly two of the three linear entries are zero — this covers every permutation of axes with
non-zero scales and a translation) and valid (non-inverted) leaf boxes, `Collider::Transform`
(transform every node box) preserves the union-box invariant with respect to the transformed
leaf boxes … -/
theorem transform_commutes {ch : Array (Int × Int)} {parent : Array Int}
    {boxes leafBB : Array Box} {n : Nat} {m : Mat34}
    (hwf : wfTree ch parent n = true) (hm : m.isAxisAligned = true)
    (hv : ∀ i, i < leafBB.size → (leafBB.getD i default).Valid)
    (hub : unionBoxes ch boxes leafBB n = true) :
    unionBoxes ch (transformBoxes m boxes) (leafBB.map (Box.transform m)) n = true := by
  obtain ⟨t, c⟩ := wfTree_iff.mp hwf
  obtain ⟨hs, hl, _, _⟩ := unionBoxes_iff.mp hub
  have hlt : ∀ i ∈ t.leaves, i < leafBB.size := fun i hi => hl ▸ (c.mem_leaves i).mp hi
  refine unionBoxes_of_cells c (by rw [transformBoxes, Array.size_map, hs])
    (by rw [Array.size_map, hl]) ?_
  -- `Box.transform m` commutes with `T.val` on valid boxes; the two leaf-value functions agree on
  -- the leaves of `t`
  refine ((cells_of_unionBoxes hub t c.rep c.below).map (f := Box.transform m) (P := Box.Valid)
    (fun a b ha hb => ⟨Box.valid_union ha b, Box.transform_union hm ha hb⟩) t
    (fun i hi => hv i (hlt i hi))).frame t (fun i hi => ⟨rfl, ?_⟩) (fun _ _ => rfl)
  simp [Array.getD_eq_getD_getElem?, hlt i hi]

/-- … so `query_iff_overlap` holds afterwards for the new boxes (generic overlap test). -/
theorem query_after_transform_gen {codes : Array Nat} (hs : Sorted codes)
    (hn : codes.size < 2 ^ 32) (h2 : 2 ≤ codes.size) (leafBB : Array Box)
    (hsz : leafBB.size = codes.size) (hv : ∀ i, i < leafBB.size → (leafBB.getD i default).Valid)
    (order : List Nat) (hperm : order.Perm (List.range codes.size))
    (m : Mat34) (hm : m.isAxisAligned = true) (ov : Box → Bool)
    (hov1 : ∀ a b : Box, ov a = true → ov (a.union b) = true)
    (hov2 : ∀ a b : Box, ov b = true → ov (a.union b) = true) (self : Bool) (qi : Nat) :
    let ch := (createRadixTree codes).1
    let boxes := transformBoxes m (updateBoxes (createRadixTree codes).2 ch leafBB order).final
    ∃ out, findCollision ch boxes ov self qi = some out ∧ out.toList.Nodup ∧
      ∀ i, i ∈ out.toList ↔
        (i < codes.size ∧ (∃ b, leafBB[i]? = some b ∧ ov (b.transform m) = true) ∧
          (self = true → i ≠ qi)) := by
  intro ch boxes
  have hwf := createRadixTree_wf hs hn h2
  have hub := (updateBoxes_correct hwf leafBB hsz order hperm).2.2.2
  obtain ⟨out, h1, h2', h3⟩ :=
    findCollision_of_wf hwf (transform_commutes hwf hm hv hub) ov hov1 hov2 self qi
  refine ⟨out, h1, h2', ?_⟩
  intro i
  rw [h3 i]
  constructor
  · rintro ⟨hi, ⟨b, hb, ho⟩, hs'⟩
    refine ⟨hi, ?_, hs'⟩
    rw [Array.getElem?_map] at hb
    cases hx : leafBB[i]? with
    | none => rw [hx] at hb; cases hb
    | some b0 =>
      rw [hx] at hb
      simp only [Option.map_some, Option.some.injEq] at hb
      exact ⟨b0, rfl, by rw [hb]; exact ho⟩
  · rintro ⟨hi, ⟨b, hb, ho⟩, hs'⟩
    refine ⟨hi, ⟨b.transform m, ?_, ho⟩, hs'⟩
    rw [Array.getElem?_map, hb]; rfl

/-- box queries after `Transform` -/
theorem query_iff_overlap_after_transform {codes : Array Nat} (hs : Sorted codes)
    (hn : codes.size < 2 ^ 32) (h2 : 2 ≤ codes.size) (leafBB : Array Box)
    (hsz : leafBB.size = codes.size) (hv : ∀ i, i < leafBB.size → (leafBB.getD i default).Valid)
    (order : List Nat) (hperm : order.Perm (List.range codes.size))
    (m : Mat34) (hm : m.isAxisAligned = true) (self : Bool) (qi : Nat) (q : Box) :
    let ch := (createRadixTree codes).1
    let boxes := transformBoxes m (updateBoxes (createRadixTree codes).2 ch leafBB order).final
    ∃ out, findCollisionBox ch boxes self qi q = some out ∧ out.toList.Nodup ∧
      ∀ i, i ∈ out.toList ↔
        (i < codes.size ∧
          (∃ b, leafBB[i]? = some b ∧ doesOverlapBox (b.transform m) q = true) ∧
          (self = true → i ≠ qi)) :=
  query_after_transform_gen hs hn h2 leafBB hsz hv order hperm m hm _
    (doesOverlapBox_union_left q) (doesOverlapBox_union_right q) self qi

/-- point queries after `Transform` -/
theorem query_iff_overlap_point_after_transform {codes : Array Nat} (hs : Sorted codes)
    (hn : codes.size < 2 ^ 32) (h2 : 2 ≤ codes.size) (leafBB : Array Box)
    (hsz : leafBB.size = codes.size) (hv : ∀ i, i < leafBB.size → (leafBB.getD i default).Valid)
    (order : List Nat) (hperm : order.Perm (List.range codes.size))
    (m : Mat34) (hm : m.isAxisAligned = true) (self : Bool) (qi : Nat) (p : Vec3) :
    let ch := (createRadixTree codes).1
    let boxes := transformBoxes m (updateBoxes (createRadixTree codes).2 ch leafBB order).final
    ∃ out, findCollisionPoint ch boxes self qi p = some out ∧ out.toList.Nodup ∧
      ∀ i, i ∈ out.toList ↔
        (i < codes.size ∧
          (∃ b, leafBB[i]? = some b ∧ doesOverlapPoint (b.transform m) p = true) ∧
          (self = true → i ≠ qi)) :=
  query_after_transform_gen hs hn h2 leafBB hsz hv order hperm m hm _
    (doesOverlapPoint_union_left p) (doesOverlapPoint_union_right p) self qi

/-- The validity hypothesis cannot be dropped: `Box::Transform` re-sorts min/max, so an inverted
(empty) box becomes non-empty and `Transform ∘ Union ≠ Union ∘ Transform` even for the identity
matrix … -/
theorem transform_needs_valid :
    ∃ (m : Mat34) (a b : Box), m.isAxisAligned = true ∧
      (a.union b).transform m ≠ (a.transform m).union (b.transform m) :=
  ⟨⟨⟨1, 0, 0, 0⟩, ⟨0, 1, 0, 0⟩, ⟨0, 0, 1, 0⟩⟩, ⟨⟨5, 0, 0⟩, ⟨3, 0, 0⟩⟩, ⟨⟨0, 0, 0⟩, ⟨1, 0, 0⟩⟩, by decide⟩

/-- … and the query property then really fails: three leaves, the first inverted; after the
identity `Transform` the new box of leaf 0 is `[3,5]×[0,0]×[0,0]`, it overlaps the query
`[4,4]×[0,0]×[0,0]`, but the traversal reports nothing (the internal node above leaves 0,1 still
has the box `[0,3]`). -/
theorem transform_inverted_counterexample :
    let codes : Array Nat := #[0, 0, 7]
    let leafBB : Array Box := #[⟨⟨5, 0, 0⟩, ⟨3, 0, 0⟩⟩, ⟨⟨0, 0, 0⟩, ⟨1, 0, 0⟩⟩, ⟨⟨9, 9, 9⟩, ⟨9, 9, 9⟩⟩]
    let idm : Mat34 := ⟨⟨1, 0, 0, 0⟩, ⟨0, 1, 0, 0⟩, ⟨0, 0, 1, 0⟩⟩
    let q : Box := ⟨⟨4, 0, 0⟩, ⟨4, 0, 0⟩⟩
    let ch := (createRadixTree codes).1
    let boxes := transformBoxes idm (updateBoxes (createRadixTree codes).2 ch leafBB [0, 1, 2]).final
    idm.isAxisAligned = true ∧
    doesOverlapBox ((leafBB.getD 0 default).transform idm) q = true ∧
    boxes[0]? = some ((leafBB.getD 0 default).transform idm) ∧
    findCollisionBox ch boxes false 0 q = some #[] := by
  decide +kernel

/-- **UpdateBoxes re-establishes the invariant** for any new leaf boxes (whatever the cells held
before: the model marks every internal cell unwritten and proves none is read), hence
`query_iff_overlap` holds for the new boxes. -/
theorem updateBoxes_reestablishes {ch : Array (Int × Int)} {parent : Array Int} {n : Nat}
    (hwf : wfTree ch parent n = true) (newBB : Array Box) (hsz : newBB.size = n)
    (order : List Nat) (hperm : order.Perm (List.range n)) (self : Bool) (qi : Nat) (q : Box) :
    (updateBoxes parent ch newBB order).ok = true ∧
    unionBoxes ch (updateBoxes parent ch newBB order).final newBB n = true ∧
    ∃ out, findCollisionBox ch (updateBoxes parent ch newBB order).final self qi q = some out ∧
      out.toList.Nodup ∧
      ∀ i, i ∈ out.toList ↔
        (i < n ∧ (∃ b, newBB[i]? = some b ∧ doesOverlapBox b q = true) ∧ (self = true → i ≠ qi)) := by
  obtain ⟨h1, _, _, h4⟩ := updateBoxes_correct hwf newBB hsz order hperm
  exact ⟨h1, h4, query_box_of_wf hwf h4 self qi q⟩

/-- leaf boxes for the transform example: the inverted leaf 4 replaced by a valid box -/
def exValidBoxes : Array Box := exBoxes.set! 4 ⟨⟨8, 8, 8⟩, ⟨9, 9, 9⟩⟩

/-- x' = -y, y' = 2x + 1, z' = 3z (a rotation by 90° with scales and a translation) -/
def exMat : Mat34 := ⟨⟨0, -1, 0, 0⟩, ⟨2, 0, 0, 1⟩, ⟨0, 0, 3, 0⟩⟩

theorem exValid : ∀ i, i < exValidBoxes.size → (exValidBoxes.getD i default).Valid := by
  intro i hi
  have : i < 6 := hi
  match i, this with
  | 0, _ | 1, _ | 2, _ | 3, _ | 4, _ | 5, _ => exact ⟨by decide, by decide, by decide⟩

example : ∃ out, findCollisionBox (createRadixTree exCodes).1
      (transformBoxes exMat (updateBoxes (createRadixTree exCodes).2 (createRadixTree exCodes).1
          exValidBoxes [5, 4, 3, 2, 1, 0]).final)
      false 0 ⟨⟨-1, 0, 0⟩, ⟨0, 3, 3⟩⟩ = some out ∧ out.toList.Nodup ∧
      ∀ i, i ∈ out.toList ↔ (i < 6 ∧
        (∃ b, exValidBoxes[i]? = some b ∧
          doesOverlapBox (b.transform exMat) ⟨⟨-1, 0, 0⟩, ⟨0, 3, 3⟩⟩ = true) ∧
        ((false : Bool) = true → i ≠ 0)) :=
  query_iff_overlap_after_transform exSorted (by decide) (by decide) exValidBoxes (by decide)
    exValid [5, 4, 3, 2, 1, 0] (by decide) exMat (by decide) false 0 _
example : findCollisionBox (createRadixTree exCodes).1
      (transformBoxes exMat (updateBoxes (createRadixTree exCodes).2 (createRadixTree exCodes).1
          exValidBoxes [5, 4, 3, 2, 1, 0]).final)
      false 0 ⟨⟨-1, 0, 0⟩, ⟨0, 3, 3⟩⟩ = some #[2, 0, 1] := by
  decide +kernel

end MV.Collider.C14
