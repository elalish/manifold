import MV.Proof.ExportVerts
import MV.Props.C01a
/-!
# C08 (part a) — MeshGL export and re-import is lossless: vertices, merge vectors, tangents

Theorems about `MV.Export` (the transliteration of `GetMeshGLImpl`); tied to the C++ by
`checks/c08.py` / `checks/c07.py` (`mvdriver export all` reproduces the integer fields of the real
`GetMeshGL64` from the dumped `Impl` state).

* `exportVerts_eq_spec`       the array transliteration computes the flat-list specification
* `merge_restores`            the merge vectors alone restore the internal position-vertex
                              triangle list (up to an injective renaming), hence manifoldness
                              (`merge_restores_manifold`, `merge_restores_checkmerge`)
* `tangent_follows_triangle`  FIXED exporter: tangent of (new tri, corner) = internal tangent of
                              (triNew2Old[new tri], corner); FALSE on the pinned tree
                              (`pinned_tangents_counterexample`), restored by /repo commit 8d971bc6
-/
namespace MV.C08
open MV.Export MV.Mesh List

variable {τ : Type}

/-! ## the array exporter computes the flat-list specification -/

/-- `exportVerts` (bins per position vertex + `vert2idx`, as in the C++) and `exportVertsSpec`
(one flat list of emitted (vert, prop) pairs) produce the same output, for corners whose
position vertex is in range. -/
theorem exportVerts_eq_spec (numVert : Nat) (corners : List (Nat × Nat))
    (h : ∀ c ∈ corners, c.1 < numVert) :
    let s := exportVerts numVert corners
    let sp := exportVertsSpec corners
    s.out.toList = sp.out ∧ s.triVerts.toList = sp.triVerts ∧
    s.mergeFrom.toList = sp.merges.map (·.1) ∧ s.mergeTo.toList = sp.merges.map (·.2) := by
  have r := refines_export numVert corners h
  exact ⟨r.out, r.tri, r.mf, r.mt⟩

/-- non-vacuity: position vertex 0 carries three property vertices (output vertices 0, 3, 5; 3 and
5 are merged to 0), vertex 1 two (1 and 4), and the corner (2,2) is reused -/
example : exportVertsSpec [(0,0),(1,1),(2,2),(0,3),(2,2),(1,4),(0,5)] =
    ⟨[(0,0),(1,1),(2,2),(0,3),(1,4),(0,5)], [0,1,2,3,2,4,5], [(3,0),(4,1),(5,0)]⟩ := by decide
example : let s := exportVerts 3 [(0,0),(1,1),(2,2),(0,3),(2,2),(1,4),(0,5)]
    s.out.toList = [(0,0),(1,1),(2,2),(0,3),(1,4),(0,5)] ∧ s.triVerts.toList = [0,1,2,3,2,4,5] ∧
    s.mergeFrom.toList = [3,4,5] ∧ s.mergeTo.toList = [0,1,0] :=
  exportVerts_eq_spec 3 _ (by decide)

/-! ## merge vectors restore the internal triangles -/

/-- triangles of a flat index list (3 per triangle) -/
def trisOfFlat : List Nat → List Tri
  | a :: b :: c :: l => (a, b, c) :: trisOfFlat l
  | _ => []

/-- MERGE RESTORES.  Let `corners` be the (position vertex, property vertex) pairs of the
halfedges in export order.  Reading the exported `triVerts` through `mergeFrom → mergeTo`
(`mergeFun`: what the importer's `prop2vert` and `MeshGL::Merge` do) gives exactly the internal
position-vertex indices renamed by `f v := first output index of position vertex v`, and `f` is
injective on the position vertices that occur; every exported index is `< out.length`. -/
theorem merge_restores (corners : List (Nat × Nat)) :
    let sp := exportVertsSpec corners
    let mf := sp.merges.map (·.1)
    let mt := sp.merges.map (·.2)
    ∃ f : Nat → Nat,
      (∀ u v, u ∈ corners.map (·.1) → v ∈ corners.map (·.1) → f u = f v → u = v) ∧
      (∀ v ∈ corners.map (·.1), f v < sp.out.length) ∧
      sp.triVerts.length = corners.length ∧
      (∀ i ∈ sp.triVerts, i < sp.out.length) ∧
      sp.triVerts.map (mergeFun mf mt) = corners.map (fun c => f c.1) := by
  have hinv := specInv_export corners
  exact ⟨firstIdx corners, fun u v hu hv => firstIdx_inj corners hu hv,
    fun v hv => firstIdx_lt corners hv, hinv.length, hinv.lt, triVerts_mergeFun corners⟩

/-- non-vacuity: on the sample, the merged indices are `f = (0 ↦ 0, 1 ↦ 1, 2 ↦ 2)` of the position
vertices -/
example : let sp := exportVertsSpec [(0,0),(1,1),(2,2),(0,3),(2,2),(1,4),(0,5)]
    sp.triVerts.map (mergeFun (sp.merges.map (·.1)) (sp.merges.map (·.2))) = [0,1,2,0,2,1,0] := by
  decide

/-! ### triangles of a flat list -/

theorem trisOfFlat_map (g : Nat → Nat) : ∀ l : List Nat,
    trisOfFlat (l.map g) = (trisOfFlat l).map (mapTri g)
  | [] => rfl
  | [_] => rfl
  | [_, _] => rfl
  | a :: b :: c :: l => by
    simp only [map_cons, trisOfFlat, trisOfFlat_map g l]; rfl

theorem mem_of_used_trisOfFlat : ∀ (l : List Nat) (v : Nat), Used (trisOfFlat l) v → v ∈ l
  | [], v, h | [_], v, h | [_, _], v, h => by
    obtain ⟨t, ht, _⟩ := h
    simp [trisOfFlat] at ht
  | a :: b :: c :: l, v, h => by
    obtain ⟨t, ht, hv⟩ := h
    simp only [trisOfFlat, mem_cons] at ht
    rcases ht with rfl | ht
    · simp only [triVerts, mem_cons, not_mem_nil, or_false] at hv
      simp only [mem_cons]
      rcases hv with h | h | h
      · exact .inl h
      · exact .inr (.inl h)
      · exact .inr (.inr (.inl h))
    · have := mem_of_used_trisOfFlat l v ⟨t, ht, hv⟩
      simp only [mem_cons]
      exact .inr (.inr (.inr this))

theorem used_trisOfFlat_of_mem : ∀ (l : List Nat) (v : Nat), l.length % 3 = 0 → v ∈ l →
    Used (trisOfFlat l) v
  | [], v, _, h => by simp at h
  | [_], v, hl, _ => by simp at hl
  | [_, _], v, hl, _ => by simp at hl
  | a :: b :: c :: l, v, hl, h => by
    simp only [mem_cons] at h
    have hmem : (a, b, c) ∈ trisOfFlat (a :: b :: c :: l) := mem_cons_self
    rcases h with rfl | rfl | rfl | h
    · exact ⟨_, hmem, mem_cons_self⟩
    · exact ⟨_, hmem, mem_cons_of_mem _ mem_cons_self⟩
    · exact ⟨_, hmem, mem_cons_of_mem _ (mem_cons_of_mem _ mem_cons_self)⟩
    · have hl' : l.length % 3 = 0 := by simp only [length_cons] at hl; omega
      obtain ⟨t, ht, hv⟩ := used_trisOfFlat_of_mem l v hl' h
      exact ⟨t, by simp only [trisOfFlat, mem_cons]; exact .inr ht, hv⟩

/-- the exported triangles read through the merge vectors are the internal position-vertex
triangles renamed by `firstIdx` -/
theorem merged_eq (corners : List (Nat × Nat)) :
    let sp := exportVertsSpec corners
    applyMerge (sp.merges.map (·.1)) (sp.merges.map (·.2)) (trisOfFlat sp.triVerts)
      = (trisOfFlat (corners.map (·.1))).map (mapTri (firstIdx corners)) := by
  intro sp
  rw [MV.Mesh.applyMerge_eq, ← trisOfFlat_map, ← trisOfFlat_map, triVerts_mergeFun corners,
    map_map]
  rfl

/-- Hence manifoldness is restored by the merge vectors alone: if the internal position-vertex
triangle list `ts` (the triangles of `corners.map (·.1)`) is closed and oriented (which it is for
every `Impl`, C01), then the exported triangles read through the merge vectors, compacted by ANY
renumbering `c` that is injective on the surviving indices and onto `[0, nV')`, are a
`Closed2Manifold nV'`.  (`closed2Manifold_relabel` of C01a does the work.) -/
theorem merge_restores_manifold (corners : List (Nat × Nat)) (c : Nat → Nat) (nV' : Nat)
    (hclosed : ClosedOriented (trisOfFlat (corners.map (·.1)))) :
    let sp := exportVertsSpec corners
    let merged := applyMerge (sp.merges.map (·.1)) (sp.merges.map (·.2)) (trisOfFlat sp.triVerts)
    (∀ u v, Used merged u → Used merged v → c u = c v → u = v) →
    (∀ v, Used merged v → c v < nV') →
    (∀ w, w < nV' → ∃ v, Used merged v ∧ c v = w) →
    Closed2Manifold nV' (merged.map (mapTri c)) := by
  intro sp merged hinj hlt hsurj
  have hm : merged = (trisOfFlat (corners.map (·.1))).map (mapTri (firstIdx corners)) :=
    merged_eq corners
  have hmem : ∀ v, Used (trisOfFlat (corners.map (·.1))) v → v ∈ corners.map (·.1) :=
    mem_of_used_trisOfFlat _
  have hu : ∀ v, Used (trisOfFlat (corners.map (·.1))) v → Used merged (firstIdx corners v) := by
    intro v hv; rw [hm]; exact used_map.2 ⟨v, hv, rfl⟩
  have hmap : merged.map (mapTri c)
      = (trisOfFlat (corners.map (·.1))).map (mapTri fun v => c (firstIdx corners v)) := by
    rw [hm, map_map]; rfl
  rw [hmap]
  refine (MV.C01a.closed2Manifold_relabel _ nV' _ ?_ ?_ ?_).2 hclosed
  · intro u v hu' hv' h
    exact firstIdx_inj corners (hmem u hu') (hmem v hv') (hinj _ _ (hu u hu') (hu v hv') h)
  · intro v hv; exact hlt _ (hu v hv)
  · intro w hw
    obtain ⟨v', hv', rfl⟩ := hsurj w hw
    rw [hm] at hv'
    obtain ⟨v, hv, rfl⟩ := used_map.1 hv'
    exact ⟨v, hv, rfl⟩

/-- a tetrahedron whose position vertex 2 carries two property vertices (20 and 21): the export
has 5 output vertices, output vertex 4 is merged to 2 -/
def splitTetra : List (Nat × Nat) :=
  [(0,0),(2,20),(1,10), (0,0),(1,10),(3,30), (1,10),(2,21),(3,30), (2,21),(0,0),(3,30)]

example : (exportVertsSpec splitTetra).merges = [(4, 1)] := by decide
example : trisOfFlat (exportVertsSpec splitTetra).triVerts
    = [(0, 1, 2), (0, 2, 3), (2, 4, 3), (4, 0, 3)] := by decide
/-- non-vacuity of `merge_restores_manifold`: output vertices 0,1,2,3 survive (4 is merged to 1) -/
example : Closed2Manifold 4
    ((applyMerge ((exportVertsSpec splitTetra).merges.map (·.1))
      ((exportVertsSpec splitTetra).merges.map (·.2))
      (trisOfFlat (exportVertsSpec splitTetra).triVerts)).map (mapTri id)) := by
  refine merge_restores_manifold splitTetra id 4 (by decide +kernel) ?_ ?_ ?_
  · intro u v _ _ h; exact h
  · have : ∀ t ∈ applyMerge ((exportVertsSpec splitTetra).merges.map (·.1))
        ((exportVertsSpec splitTetra).merges.map (·.2))
        (trisOfFlat (exportVertsSpec splitTetra).triVerts), ∀ v ∈ triVerts t, id v < 4 := by decide +kernel
    rintro v ⟨t, ht, hv⟩; exact this t ht v hv
  · have : ∀ w, w < 4 → ∃ t ∈ applyMerge ((exportVertsSpec splitTetra).merges.map (·.1))
        ((exportVertsSpec splitTetra).merges.map (·.2))
        (trisOfFlat (exportVertsSpec splitTetra).triVerts), w ∈ triVerts t := by decide +kernel
    intro w hw
    obtain ⟨t, ht, hv⟩ := this w hw
    exact ⟨w, ⟨t, ht, hv⟩, rfl⟩

/-- … and the oracle the harness applies to the real export (`mesh checkmerge`: `checkMeshEx`
with the merged-from vertices exempt from the "referenced" clause) accepts the model's output
whenever the internal mesh is a closed 2-manifold over `nV` position vertices.

The hypothesis `hlen : corners.length % 3 = 0` (the corner list consists of whole triangles; true
for `cornersOf`) is needed.  Without it the statement is false: a trailing
corner with a fresh position vertex is emitted as an output vertex that is neither referenced by a
triangle (`trisOfFlat` drops the incomplete triple) nor in `mergeFrom`; see
`merge_restores_checkmerge_needs_len` below. -/
theorem merge_restores_checkmerge (nV : Nat) (corners : List (Nat × Nat))
    (hlen : corners.length % 3 = 0)
    (hclosed : Closed2Manifold nV (trisOfFlat (corners.map (·.1)))) :
    let sp := exportVertsSpec corners
    let mf := sp.merges.map (·.1)
    checkMeshEx sp.out.length (fun v => mf.contains v)
      (applyMerge mf (sp.merges.map (·.2)) (trisOfFlat sp.triVerts)) = .ok () := by
  intro sp mf
  rw [MV.C01a.checkMeshEx_iff]
  have hm := merged_eq corners
  simp only [] at hm
  rw [hm]
  have hmem : ∀ v, Used (trisOfFlat (corners.map (·.1))) v → v ∈ corners.map (·.1) :=
    mem_of_used_trisOfFlat _
  have hco := closedOriented_map_of_injOn (firstIdx corners) (trisOfFlat (corners.map (·.1)))
    (fun u v hu hv h => firstIdx_inj corners (hmem u hu) (hmem v hv) h) hclosed.closedOriented
  refine ⟨?_, hco.1, hco.2.1, hco.2.2, ?_⟩
  · intro t ht
    obtain ⟨t0, ht0, rfl⟩ := mem_map.1 ht
    have hv : ∀ v ∈ triVerts t0, firstIdx corners v < sp.out.length := fun v hv =>
      firstIdx_lt corners (hmem v ⟨t0, ht0, hv⟩)
    exact ⟨hv _ (by simp [triVerts]), hv _ (by simp [triVerts]), hv _ (by simp [triVerts])⟩
  · intro v hv hex
    have hnm : v ∉ mf := by
      intro h
      have h1 : mf.contains v = true := by simpa using h
      have h2 : mf.contains v = false := hex
      rw [h1] at h2; cases h2
    obtain ⟨c, hc, rfl⟩ := not_mergeFrom corners hv hnm
    have hused := used_trisOfFlat_of_mem (corners.map (·.1)) c.1 (by simpa using hlen)
      (mem_map.2 ⟨c, hc, rfl⟩)
    exact used_map.2 ⟨c.1, hused, rfl⟩

/-- non-vacuity: the split tetrahedron -/
example : checkMeshEx 5 (fun v => [4].contains v)
    (applyMerge [4] [1] [(0, 1, 2), (0, 2, 3), (2, 4, 3), (4, 0, 3)]) = .ok () :=
  merge_restores_checkmerge 4 splitTetra (by decide +kernel) (by decide +kernel)

/-- COUNTEREXAMPLE to the statement without `corners.length % 3 = 0`: a tetrahedron followed by
one stray corner of a fresh position vertex 7.  The hypothesis `Closed2Manifold 4 …` holds (the
stray corner is dropped by `trisOfFlat`), but output vertex 4 is unreferenced and not merged. -/
theorem merge_restores_checkmerge_needs_len :
    let corners : List (Nat × Nat) :=
      [(0,0),(2,0),(1,0), (0,0),(1,0),(3,0), (1,0),(2,0),(3,0), (2,0),(0,0),(3,0), (7,0)]
    let sp := exportVertsSpec corners
    let mf := sp.merges.map (·.1)
    Closed2Manifold 4 (trisOfFlat (corners.map (·.1))) ∧
    checkMeshEx sp.out.length (fun v => mf.contains v)
      (applyMerge mf (sp.merges.map (·.2)) (trisOfFlat sp.triVerts)) ≠ .ok () := by
  intro corners sp mf
  refine ⟨by decide +kernel, fun h => ?_⟩
  exact absurd ((MV.C01a.checkMeshEx_iff _ _ _).1 h) (by decide +kernel)

/-! ## tangents -/

/-- FIXED exporter: the tangent exported for halfedge `3*new+i` is the internal tangent of
halfedge `3*triNew2Old[new]+i` -/
theorem tangent_follows_triangle (dflt : τ) (tang : Array τ) (order : List Nat) (new i : Nat)
    (hn : new < order.length) (hi : i < 3) :
    (exportTangents dflt tang order)[3 * new + i]? = some (tang.getD (3 * order[new] + i) dflt) := by
  induction order generalizing new with
  | nil => simp at hn
  | cons o order ih =>
    simp only [exportTangents, flatMap_cons] at ih ⊢
    cases new with
    | zero =>
      obtain rfl | rfl | rfl : i = 0 ∨ i = 1 ∨ i = 2 := by omega
      all_goals rfl
    | succ n =>
      have hn' : n < order.length := by simpa using hn
      have h3 : 3 * (n + 1) + i = (3 * n + i) + 3 := by omega
      rw [h3, getElem?_append_right (by simp)]
      simp only [length_cons, length_nil, Nat.add_sub_cancel, getElem_cons_succ]
      exact ih n hn'

/-- non-vacuity: two triangles exported in the order `[1, 0]` -/
example : (exportTangents 0 #[10, 11, 12, 13, 14, 15] [1, 0])[3 * 0 + 2]? = some 15 :=
  tangent_follows_triangle 0 #[10, 11, 12, 13, 14, 15] [1, 0] 0 2 (by decide) (by decide)

/-- the exporter's whole tangent loop: a full tangent array (`halfedgeTangent_.size() = 3 * numTri`)
follows the triangles; an empty one is exported empty -/
theorem tangent_follows_triangle_fixed (dflt : τ) (tang : Array τ) (order : List Nat) (new i : Nat)
    (hsz : tang.size = 3 * order.length) (hn : new < order.length) (hi : i < 3) :
    (exportTangentsFixed dflt tang order)[3 * new + i]? = some (tang.getD (3 * order[new] + i) dflt) := by
  simp only [exportTangentsFixed, hsz, if_true]
  exact tangent_follows_triangle dflt tang order new i hn hi

theorem tangents_empty (dflt : τ) (order : List Nat) : exportTangentsFixed dflt #[] order = [] := by
  unfold exportTangentsFixed
  split
  · rename_i h
    have : order = [] := by
      cases order with
      | nil => rfl
      | cons a l => simp at h
    subst this; rfl
  · rfl

example : exportTangentsFixed 0 #[10, 11, 12, 13, 14, 15] [1, 0] = [13, 14, 15, 10, 11, 12] := by decide

/-- with it, "the same tangent on every directed edge": the exported (corner, tangent) pairs are
the internal ones in the new triangle order -/
theorem tangents_zip_corners (dflt : τ) (tang : Array τ) (he : Array (Nat × Nat)) (order : List Nat) :
    (cornersOf he order).zip (exportTangents dflt tang order) =
      order.flatMap fun old => [0, 1, 2].map fun i => (he.getD (3 * old + i) (0, 0), tang.getD (3 * old + i) dflt) := by
  induction order with
  | nil => rfl
  | cons o order ih =>
    simp only [cornersOf, exportTangents, flatMap_cons] at ih ⊢
    rw [zip_append (by simp), ih]
    rfl

example : (cornersOf #[(0,0),(1,1),(2,2),(0,3),(2,2),(1,4)] [1, 0]).zip
      (exportTangents 0 #[10, 11, 12, 13, 14, 15] [1, 0])
    = [((0,3),13), ((2,2),14), ((1,4),15), ((0,0),10), ((1,1),11), ((2,2),12)] := by decide

/-! ## the pinned tree violates `tangent_follows_triangle` (defect 5 of DESIGN.md §7)

Two triangles from two instances, internal (Morton) order `[instance 6 of original 2, instance 5 of
original 1]`: the exporter sorts them into two runs, `triNew2Old = [1, 0]`.  The pinned exporter
copies `halfedgeTangent_` in internal order, so exported halfedge 0 (corner 0 of internal
triangle 1) carries the tangent of internal halfedge 0 instead of internal halfedge 3. -/

def pinnedRefs : List TriRef := [⟨6, 2, -1, 0⟩, ⟨5, 1, -1, 1⟩]
def pinnedRel : RelMap Nat := [(5, ⟨1, 50, false, false⟩), (6, ⟨2, 60, false, false⟩)]
/-- tangent payload of internal halfedge `h` is `10 + h` -/
def pinnedTang : Array Nat := #[10, 11, 12, 13, 14, 15]

theorem pinned_order : (exportRuns false 0 pinnedRefs pinnedRel).triNew2Old = [1, 0] := by
  simp [exportRuns, sortIdx, pinnedRefs, List.zipIdx, List.mergeSort,
    List.MergeSort.Internal.splitInTwo, List.splitAt, List.splitAt.go, runLE]

/-- two runs -/
example : (exportRuns false 0 pinnedRefs pinnedRel).runIndex = [0, 3, 6] := by
  simp [exportRuns, sortIdx, pinnedRefs, pinnedRel, List.zipIdx, List.mergeSort,
    List.MergeSort.Internal.splitInTwo, List.splitAt, List.splitAt.go, runLE, RunTable.runIndex,
    runsFrom, RelMap.lookup, RelMap.erase]

/-- PINNED behaviour: the statement of `tangent_follows_triangle` fails at `new = 0, i = 0` -/
theorem pinned_tangents_counterexample :
    ¬ ∀ (new i : Nat) (hn : new < [1, 0].length), i < 3 →
      (exportTangentsPinned pinnedTang [1, 0])[3 * new + i]? =
        some (pinnedTang.getD (3 * [1, 0][new] + i) 0) := by
  intro h
  exact absurd (h 0 0 (by decide) (by decide)) (by decide)

/-- what the pinned exporter writes, and what the fixed exporter writes -/
example : exportTangentsPinned pinnedTang [1, 0] = [10, 11, 12, 13, 14, 15] := by decide
example : exportTangents 0 pinnedTang [1, 0] = [13, 14, 15, 10, 11, 12] := by decide

end MV.C08
