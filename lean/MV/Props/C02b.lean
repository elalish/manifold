/-
Property C02 where it meets C01 — the ASSEMBLY of the Boolean result is combinatorially sound.

Model: `MV/Model/BoolAssembly.lean` (line-by-line from src/boolean_result.cpp `PairUp`,
`AddNewEdgeVerts`, `AppendPartialEdges`, `AppendNewEdges`, `DuplicateHalfedges`, `SizeOutput`, and
src/boolean3.cpp `Winding03_`); replayed against the real code on every run by
harness/c02_assembly.cpp through the MANIFOLD_VERIF hook `onBoolAsm` (engine `boolasm`).

Proved here, for ALL inputs:

* `pairUp_pairs_all`       under `PairUp`'s own precondition (even size, as many starts as ends) and for
                           EVERY `std::partition` meeting the standard's contract: exactly `size/2` halfedges
                           are emitted, every entry is used exactly once, every halfedge runs from a start
                           entry to an end entry, and start `i` of the key order meets end `i` of the key order;
  `stdPartition_meets_contract`  libstdc++'s `__partition` (the one the replay runs) meets that contract.
* `partialEdge_balance`    if the winding number of the other operand at the end vertex of an edge is the one
                           at its start vertex minus the crossing numbers `x12` met on the way (what
                           `inclusion_coboundary`/`keepNew_is_jump` of MV/Props/C02.lean say a consistent
                           `w03, x12` satisfies), then the vector `AppendPartialEdges` hands to `PairUp` has
                           as many starts as ends — for every affine keeping rule, hence for the three
                           OpTypes, for P and for Q, and for all multiplicities.
* `sizeOutput_matches_emitted`  cursors started at the exclusive scan of the per-face counts of the fetches: for EVERY order
                           of the `facePtr[f]++` / `AtomicAdd` fetches, every fetch lands inside its face's
                           reserved range, no slot is obtained twice, every slot is obtained, every cursor ends
                           at the start of the next face; `emitted_any_schedule`: a permutation of the fetches has
                           the same reserved ranges, and each of its fetches lands in its face's range; `emitEvents_is_fetch`,
                           `emitEvents_paired`: the sequential model the replay runs is one such order and writes
                           mutually paired, reversed halfedges.
* `winding03_component_constant`  the flood fill gives every vertex the seed of its component's root, whatever
                           the traversal order (repeats allowed), constant on the components of the unbroken
                           edges; `winding03_true`: if the true winding is constant along unbroken edges and the
                           seeds are right at the roots, every `w03` is right.

NOT proved (decided per run by the replay and the oracle of harness/c02_assembly.cpp): that
`SizeOutput`'s per-face counts equal the number of fetches the Append* phases perform on that face
(the double-counting identity needs every vector to be balanced and the operand meshes to be
paired; the run compares `facePtrR` with `faceEdge` face by face), that each face's boundary is
closed, and the geometric hypothesis of `partialEdge_balance` (it is what `Kernel02/Kernel12`
must deliver; the run checks `#starts = #ends` on every vector).
-/
import MV.Proof.BoolAsmWinding
import MV.Proof.BoolAsmPair
import MV.Props.C02
import Mathlib.Data.List.Nodup
import Batteries.Data.List.Perm

namespace MV.BoolAsm.C02b
open MV.BoolAsm MV.Bool3 MV.Dsu

/-! ## 1. PairUp -/

theorem pairUp_pairs_all (part : List EdgePos → List EdgePos) (hc : PartitionContract part)
    (es : List EdgePos) (hpre : pairUpPre es = true) :
    ∃ Ss Es : List EdgePos,
      -- the starts and the ends, each in key order (`operator<`: edgePos, then collisionId)
      Ss.Perm (es.filter (·.isStart)) ∧ Es.Perm (es.filter fun e => !e.isStart) ∧
      Ss.Pairwise (fun a b => EdgePos.le a b = true) ∧ Es.Pairwise (fun a b => EdgePos.le a b = true) ∧
      Ss.length = es.length / 2 ∧ Es.length = es.length / 2 ∧
      -- halfedge i goes from start i to end i
      pairUpWith part es = List.zip (Ss.map (·.vert)) (Es.map (·.vert)) ∧
      (pairUpWith part es).length = es.length / 2 ∧
      -- every entry is used exactly once
      ((pairUpWith part es).map (·.1) ++ (pairUpWith part es).map (·.2)).Perm (es.map (·.vert)) := by
  obtain ⟨S, E, _, hS, hE, hSl, hEl, heq⟩ := pairUpWith_eq part hc es hpre
  have l1 : ((stableSort S).map (·.vert)).length = es.length / 2 := by simp [stableSort_length, hSl]
  have l2 : ((stableSort E).map (·.vert)).length = es.length / 2 := by simp [stableSort_length, hEl]
  refine ⟨stableSort S, stableSort E, (stableSort_perm S).trans hS, (stableSort_perm E).trans hE,
    stableSort_sorted S, stableSort_sorted E, by rw [stableSort_length, hSl],
    by rw [stableSort_length, hEl], heq, ?_, ?_⟩
  · rw [heq, List.length_zip, l1, l2, Nat.min_self]
  · rw [heq, List.map_fst_zip (by omega), List.map_snd_zip (by omega)]
    have p1 : ((stableSort S).map (·.vert)).Perm ((es.filter (·.isStart)).map (·.vert)) :=
      ((stableSort_perm S).trans hS).map _
    have p2 : ((stableSort E).map (·.vert)).Perm ((es.filter fun e => !e.isStart).map (·.vert)) :=
      ((stableSort_perm E).trans hE).map _
    refine (p1.append p2).trans ?_
    rw [← List.map_append]
    exact (List.filter_append_perm (·.isStart) es).map _

/-- the partition the driver runs (libstdc++ `std::__partition`, bidirectional) meets the contract -/
theorem stdPartition_meets_contract : PartitionContract (stdPartition (·.isStart)) := by
  intro l
  obtain ⟨hp, hs⟩ := go_spec (·.isStart) _ l (Nat.le_refl _)
  exact ⟨hp, split_filter _ _ hs⟩

/-- … so the statement holds for `pairUp`, the function replayed against the real `PairUp` -/
theorem pairUp_length (es : List EdgePos) (hpre : pairUpPre es = true) :
    (pairUp es).length = es.length / 2 := by
  obtain ⟨_, _, _, _, _, _, _, _, _, h, _⟩ := pairUp_pairs_all _ stdPartition_meets_contract es hpre
  exact h

/-- non-vacuity: two crossings, one retained start vertex, one retained end vertex: the
precondition holds, so the theorem applies with libstdc++'s partition (the driver evaluates this
vector to `[(13, 11), (10, 12)]`) -/
example : pairUpPre [⟨5, 10, 0, true⟩, ⟨3, 11, 1, false⟩, ⟨9, 12, intMax, false⟩, ⟨1, 13, 2, true⟩] = true := by
  decide

example : (pairUp [⟨5, 10, 0, true⟩, ⟨3, 11, 1, false⟩, ⟨9, 12, intMax, false⟩, ⟨1, 13, 2, true⟩]).length = 2 :=
  pairUp_length _ (by decide)

/-! ## 2. balance of a partially kept edge -/

/-- **`partialEdge_balance`**, general form: `c + c3·w` is the keeping rule (`c1 + c3·w03` for P,
`c2 + c3·w30` for Q), `xs` the crossing numbers `x12` of the collisions `cs` on this edge (in any
order), `wS` the other operand's winding number at the start vertex, and the hypothesis `hwE` that
the winding number at the end vertex is `wS − Σ xs`. -/
theorem partialEdge_balance_affine (c c3 wS wE : Int) (cs : List Coll) (xs : List Int)
    (hx : cs.map (·.incl) = xs.map fun x => c3 * x) (hwE : wE = wS - xs.sum) (vS vE : Nat)
    (keys : List Int)
    (hk : keys.length = (partialEntries (crossingEntries cs) vS vE (c + c3 * wS) (c + c3 * wE)).length) :
    pairUpPre (withKeys (partialEntries (crossingEntries cs) vS vE (c + c3 * wS) (c + c3 * wE)) keys) = true := by
  rw [pairUpPre_withKeys _ _ hk]
  apply length_even_of_signed_zero
  rw [signed_partialEntries, signed_crossingEntries, hx, hwE, keep_along]
  omega

/-- **`partialEdge_balance`** for an edge of P under the three OpTypes: `i03 = keepP op w03`,
`i12 = keepNew op x12` (the generated constants of `Boolean3::Result`). -/
theorem partialEdge_balance (op : OpType) (wS : Int) (cs : List Coll) (xs : List Int)
    (hx : cs.map (·.incl) = xs.map (keepNew op)) (vS vE : Nat) (keys : List Int)
    (hk : keys.length =
      (partialEntries (crossingEntries cs) vS vE (keepP op wS) (keepP op (wS - xs.sum))).length) :
    pairUpPre (withKeys (partialEntries (crossingEntries cs) vS vE (keepP op wS) (keepP op (wS - xs.sum))) keys)
      = true :=
  partialEdge_balance_affine (c1 op) (c3 op) wS (wS - xs.sum) cs xs hx rfl vS vE keys hk

/-- the same for an edge of Q (`i30 = keepQ op w30`, `i21 = keepNew op x21`) -/
theorem partialEdge_balance_Q (op : OpType) (wS : Int) (cs : List Coll) (xs : List Int)
    (hx : cs.map (·.incl) = xs.map (keepNew op)) (vS vE : Nat) (keys : List Int)
    (hk : keys.length =
      (partialEntries (crossingEntries cs) vS vE (keepQ op wS) (keepQ op (wS - xs.sum))).length) :
    pairUpPre (withKeys (partialEntries (crossingEntries cs) vS vE (keepQ op wS) (keepQ op (wS - xs.sum))) keys)
      = true :=
  partialEdge_balance_affine (c2 op) (c3 op) wS (wS - xs.sum) cs xs hx rfl vS vE keys hk

/-- `keepNew_is_jump` of MV/Props/C02.lean with the sign of `hwE`: lowering the winding number by `x`
lowers the kept multiplicity by `keepNew op x` -/
theorem balance_hypothesis_is_jump (op : OpType) (wQ x : Int) :
    keepP op (wQ - x) = keepP op wQ - keepNew op x := by
  have := (MV.Bool3.C02.keepNew_is_jump op wQ (-x)).1
  have e : wQ + -x = wQ - x := by omega
  rw [e] at this; rw [this]; unfold keepNew; rw [Int.mul_neg]; omega

/-- non-vacuity: `A − B`, an edge of A that starts outside B (w03 = 0, kept once), enters B
(x12 = −1: the winding rises to 1) and ends inside (not kept): one start (the vertex), one end
(the new vertex) — the hypotheses of `partialEdge_balance` are satisfiable. -/
example : pairUpPre (withKeys (partialEntries (crossingEntries [⟨7, 3, keepNew .subtract (-1), 20, 0⟩]) 4 9
    (keepP .subtract 0) (keepP .subtract (0 - [(-1 : Int)].sum))) [0, 5]) = true :=
  partialEdge_balance .subtract 0 [⟨7, 3, keepNew .subtract (-1), 20, 0⟩] [-1] (by decide) 4 9 [0, 5]
    (by rw [partialEntries_length]; decide)

/-! ## 3. cursors: reserved = written, for every schedule -/

/-- the per-face counts `SizeOutput` must reserve for the fetch sequence `fs` -/
def counts (nF : Nat) (fs : List Nat) : List Nat := (List.range nF).map fun f => fs.count f

theorem counts_getD (nF : Nat) (fs : List Nat) (f : Nat) (hf : f < nF) :
    (counts nF fs).getD f 0 = fs.count f := by
  unfold counts
  rw [List.getD_eq_getElem?_getD, List.getElem?_map, List.getElem?_range hf]; rfl

theorem counts_perm (nF : Nat) {fs fs' : List Nat} (h : fs'.Perm fs) : counts nF fs' = counts nF fs := by
  unfold counts; congr 1; funext f; exact h.count_eq f

theorem sum_indicator (a : Nat) : ∀ n, ((List.range n).map fun f => if a = f then 1 else 0).sum = if a < n then 1 else 0 := by
  intro n
  induction n with
  | zero => simp
  | succ n ih =>
    rw [List.range_succ, List.map_append, List.sum_append, ih]
    simp only [List.map_cons, List.map_nil, List.sum_cons, List.sum_nil, Nat.add_zero]
    rcases Nat.lt_trichotomy a n with h | h | h
    · rw [if_pos h, if_neg (Nat.ne_of_lt h), if_pos (Nat.lt_succ_of_lt h)]
    · rw [if_neg (Nat.not_lt_of_le (Nat.le_of_eq h.symm)), if_pos h,
        if_pos (Nat.lt_succ_of_le (Nat.le_of_eq h))]
    · rw [if_neg (Nat.lt_asymm h), if_neg (Nat.ne_of_gt h), if_neg (Nat.not_lt_of_le h)]

theorem counts_sum (nF : Nat) (fs : List Nat) (hf : ∀ f ∈ fs, f < nF) : (counts nF fs).sum = fs.length := by
  induction fs with
  | nil => simp [counts]
  | cons a fs ih =>
    have ha : a < nF := hf a (List.mem_cons_self ..)
    have ih' := ih (fun f h => hf f (List.mem_cons_of_mem _ h))
    unfold counts at ih' ⊢
    have : ((List.range nF).map fun f => (a :: fs).count f) =
        (List.range nF).map fun f => fs.count f + if a = f then 1 else 0 := by
      apply List.map_congr_left; intro f _
      rw [List.count_cons]; by_cases h : a = f <;> simp [h]
    rw [this]
    have hadd : ∀ (l : List Nat) (g h : Nat → Nat), (l.map fun f => g f + h f).sum = (l.map g).sum + (l.map h).sum := by
      intro l g h; induction l with
      | nil => simp
      | cons x xs ih2 => simp only [List.map_cons, List.sum_cons, ih2]; omega
    rw [hadd, ih', sum_indicator, if_pos ha, List.length_cons]

theorem count_take_lt (fs : List Nat) (k : Nat) (hk : k < fs.length) :
    (fs.take k).count (fs.getD k 0) < (fs.take (k + 1)).count (fs.getD k 0) := by
  have : fs.take (k + 1) = fs.take k ++ [fs.getD k 0] := by
    rw [List.take_add_one, List.getD_eq_getElem?_getD, List.getElem?_eq_getElem hk]; rfl
  rw [this, List.count_append]; simp

theorem count_take_mono (fs : List Nat) (g j k : Nat) (h : j ≤ k) : (fs.take j).count g ≤ (fs.take k).count g := by
  have : fs.take j = (fs.take k).take j := by rw [List.take_take, Nat.min_eq_left h]
  rw [this]
  exact (List.take_sublist j (fs.take k)).count_le g

theorem count_take_le (fs : List Nat) (g k : Nat) : (fs.take k).count g ≤ fs.count g :=
  (List.take_sublist k fs).count_le g

theorem getD_eq_getElem_nat (l : List Nat) (i : Nat) (h : i < l.length) : l.getD i 0 = l[i] :=
  (List.getElem_eq_getD 0).symm

/-- **`sizeOutput_matches_emitted`.**  `fs` = the faces of the successive cursor fetches, in the
order a schedule executes them (ANY list: nothing is assumed about the order).  With the cursors
started at the exclusive scan `FE` of `counts nF fs`, the number of these fetches on each face: (1) fetch `k` obtains a slot inside the
range `[FE f, FE (f+1))` reserved for its face `f`; (2) no slot is obtained twice (nothing is
overwritten); (3) every slot below the total is obtained (nothing is left unwritten); (4) every
cursor ends at the start of the next face. -/
theorem sizeOutput_matches_emitted (nF : Nat) (fs : List Nat) (hf : ∀ f ∈ fs, f < nF) :
    let FE := exSum 0 (counts nF fs)
    let r := fetch FE fs
    (∀ k, k < fs.length →
      FE.getD (fs.getD k 0) 0 ≤ r.2.getD k 0 ∧ r.2.getD k 0 < FE.getD (fs.getD k 0 + 1) 0) ∧
    r.2.Nodup ∧
    (∀ s, s < FE.getD nF 0 → s ∈ r.2) ∧
    (∀ f, f < nF → r.1.getD f 0 = FE.getD (f + 1) 0) ∧
    FE.getD nF 0 = fs.length := by
  intro FE r
  have hclen : (counts nF fs).length = nF := by simp [counts]
  have hFElen : FE.length = nF + 1 := by simp only [FE, exSum_length, hclen]
  obtain ⟨_, hptr, hlen, hslot⟩ := fetch_spec fs FE (fun f h => by rw [hFElen]; have := hf f h; omega)
  have hstep : ∀ f, f < nF → FE.getD (f + 1) 0 = FE.getD f 0 + fs.count f := by
    intro f h
    rw [exSum_getD_succ _ 0 f (by rw [hclen]; exact h), counts_getD _ _ _ h]
  have hmono : ∀ f g, f ≤ g → g ≤ nF → FE.getD f 0 ≤ FE.getD g 0 := by
    intro f g h1 h2; exact exSum_getD_mono _ 0 f g h1 (by rw [hclen]; exact h2)
  have hmem : ∀ k, k < fs.length → fs.getD k 0 < nF := by
    intro k hk; apply hf; rw [List.getD_eq_getElem?_getD, List.getElem?_eq_getElem hk]; simp
  have hrange : ∀ k, k < fs.length →
      FE.getD (fs.getD k 0) 0 ≤ r.2.getD k 0 ∧ r.2.getD k 0 < FE.getD (fs.getD k 0 + 1) 0 := by
    intro k hk
    rw [hslot k hk, hstep _ (hmem k hk)]
    have h1 := count_take_lt fs k hk
    have h2 := count_take_le fs (fs.getD k 0) (k + 1)
    omega
  have hinj : ∀ j k, j < k → k < fs.length → r.2.getD j 0 ≠ r.2.getD k 0 := by
    intro j k hjk hk
    have hj : j < fs.length := by omega
    by_cases hg : fs.getD j 0 = fs.getD k 0
    · rw [hslot j hj, hslot k hk, hg]
      have h1 := count_take_lt fs j hj
      rw [hg] at h1
      have h2 := count_take_mono fs (fs.getD k 0) (j + 1) k (by omega)
      omega
    · have rj := hrange j hj
      have rk := hrange k hk
      rcases Nat.lt_or_gt_of_ne hg with h | h
      · have := hmono (fs.getD j 0 + 1) (fs.getD k 0) h (Nat.le_of_lt (hmem k hk))
        omega
      · have := hmono (fs.getD k 0 + 1) (fs.getD j 0) h (Nat.le_of_lt (hmem j hj))
        omega
  have hnd : r.2.Nodup := by
    rw [List.Nodup, List.pairwise_iff_getElem]
    intro i j hi hj hij
    have := hinj i j hij (by rw [← hlen]; exact hj)
    rwa [getD_eq_getElem_nat _ _ hi, getD_eq_getElem_nat _ _ hj] at this
  have htot : FE.getD nF 0 = fs.length := by
    simp only [FE]
    rw [exSum_getD _ 0 nF (by rw [hclen]), List.take_of_length_le (by rw [hclen]), counts_sum nF fs hf,
      Nat.zero_add]
  refine ⟨hrange, hnd, ?_, fun f h => by rw [hptr f, hstep f h], htot⟩
  intro s hs
  -- `fs.length` distinct slots, all below `fs.length`: a permutation of `range fs.length`
  have hsub : r.2 ⊆ List.range fs.length := by
    intro x hx
    obtain ⟨k, hk, rfl⟩ := List.getElem_of_mem hx
    have hk' : k < fs.length := by rw [← hlen]; exact hk
    have := (hrange k hk').2
    rw [getD_eq_getElem_nat _ _ hk] at this
    have h2 := hmono (fs.getD k 0 + 1) nF (hmem k hk') (Nat.le_refl _)
    exact List.mem_range.2 (by omega)
  have hp := (List.subperm_of_subset hnd hsub).perm_of_length_le (by rw [List.length_range, hlen])
  exact hp.mem_iff.2 (List.mem_range.2 (htot ▸ hs))

/-- `items'` = the fetches `items` in another order (another schedule of the racing `AtomicAdd`s);
the second components (the halfedges to be written) do not occur in the conclusion.  The reserved
ranges are the same, and under `items'` fetch `k` obtains a slot in the range of its face. -/
theorem emitted_any_schedule {α : Type} (nF : Nat) (items items' : List (Nat × α))
    (hperm : items'.Perm items) (hf : ∀ it ∈ items, it.1 < nF) :
    let FE := exSum 0 (counts nF (items.map (·.1)))
    let FE' := exSum 0 (counts nF (items'.map (·.1)))
    FE' = FE ∧
    ∀ k, k < items'.length →
      FE.getD ((items'.map (·.1)).getD k 0) 0 ≤ (fetch FE (items'.map (·.1))).2.getD k 0 ∧
      (fetch FE (items'.map (·.1))).2.getD k 0 < FE.getD ((items'.map (·.1)).getD k 0 + 1) 0 := by
  intro FE FE'
  have hp : (items'.map (·.1)).Perm (items.map (·.1)) := hperm.map _
  have hFE : FE' = FE := by simp only [FE, FE', counts_perm nF hp]
  refine ⟨hFE, fun k hk => ?_⟩
  have hf' : ∀ f ∈ items'.map (·.1), f < nF := by
    intro f h
    obtain ⟨it, hit, rfl⟩ := List.mem_map.1 h
    exact hf it (hperm.mem_iff.1 hit)
  have := (sizeOutput_matches_emitted nF (items'.map (·.1)) hf').1 k (by simpa using hk)
  simp only [counts_perm nF hp] at this
  exact this

/-- the log of the sequential model: the slots written are the slots the fetches obtained, in
order, and the cursors are the fetch cursors -/
theorem emitEvents_is_fetch (evs : List Ev) : ∀ (o : Out),
    (emitEvents o evs).ptr = (fetch o.ptr (facesOf evs)).1 ∧
    (emitEvents o evs).log.map (·.1) = o.log.map (·.1) ++ (fetch o.ptr (facesOf evs)).2 := by
  induction evs with
  | nil => intro o; simp [emitEvents, facesOf, fetch]
  | cons ev evs ih =>
    intro o
    have := ih (emit o ev.fL ev.fR ev.s ev.e)
    simp only [emitEvents, List.foldl_cons, facesOf, List.flatMap_cons, List.cons_append,
      List.nil_append, fetch] at this ⊢
    refine ⟨this.1, ?_⟩
    rw [this.2]
    simp [emit]

/-- the log consists of mutually paired, reversed halfedges -/
def Paired (log : List (Nat × HE3)) : Prop :=
  ∃ ws : List (Nat × Nat × Nat × Nat),
    log = ws.flatMap fun w => [(w.1, ⟨w.2.2.1, w.2.2.2, w.2.1⟩), (w.2.1, ⟨w.2.2.2, w.2.2.1, w.1⟩)]

theorem emitEvents_paired (evs : List Ev) : ∀ (o : Out), Paired o.log → Paired (emitEvents o evs).log := by
  induction evs with
  | nil => intro o h; exact h
  | cons ev evs ih =>
    intro o h
    simp only [emitEvents, List.foldl_cons]
    apply ih
    obtain ⟨ws, hws⟩ := h
    refine ⟨ws ++ [(o.ptr.getD ev.fL 0, ((o.ptr.set ev.fL (o.ptr.getD ev.fL 0 + 1)).getD ev.fR 0), ev.s, ev.e)], ?_⟩
    simp [emit, hws, List.flatMap_append]

/-- non-vacuity: three faces, four fetches in two different orders -/
example : fetch (exSum 0 (counts 3 [0, 2, 0, 1])) [0, 2, 0, 1] = ([2, 3, 4, 4], [0, 3, 1, 2]) ∧
    fetch (exSum 0 (counts 3 [1, 0, 0, 2])) [1, 0, 0, 2] = ([2, 3, 4, 4], [2, 0, 1, 3]) := by decide

/-! ## 4. Winding03 -/

/-- **`winding03_component_constant`.**  `rootOf` passes the check `rootsOk` the replay applies to
the union-find's answers; `seed` holds the `Kernel02` sums (only root entries matter); `ord` is the
order in which the parallel `for_each` happens to run the iterations — any list that contains
every vertex.  Then every vertex receives the seed of its root, the result is constant on the
connected components of the unbroken edges, and it does not depend on `ord`. -/
theorem winding03_component_constant (n : Nat) (edges : List (Nat × Nat)) (rootOf : List Nat)
    (seed : List Int) (hb : ∀ p, p ∈ edges → p.1 < n ∧ p.2 < n) (hlen : seed.length = n)
    (hok : rootsOk n edges rootOf = true) (ord : List Nat) (hall : ∀ i, i < n → i ∈ ord) :
    let w := flood (fun i => rootOf.getD i 0) seed ord
    (∀ i, i < n → w.getD i 0 = seed.getD (rootOf.getD i 0) 0) ∧
    (∀ i j, i < n → j < n → Conn edges i j → w.getD i 0 = w.getD j 0) ∧
    (∀ i, i < n → w.getD i 0 = (winding03 rootOf seed).getD i 0) := by
  intro w
  have hs := rootsOk_spec hb hok
  have main : ∀ (ord : List Nat), (∀ i, i < n → i ∈ ord) → ∀ i, i < n →
      (flood (fun i => rootOf.getD i 0) seed ord).getD i 0 = seed.getD (rootOf.getD i 0) 0 := by
    intro ord hall i hi
    rw [flood_getD seed (fun j hj => hs.idem j (hlen ▸ hj)), if_pos ⟨hall i hi, hlen ▸ hi⟩]
  refine ⟨main ord hall, fun i j hi hj hc => ?_, fun i hi => ?_⟩
  · rw [main ord hall i hi, main ord hall j hj, hs.same i j hi hj hc]
  · rw [main ord hall i hi]
    unfold winding03
    rw [main (List.range seed.length) (fun j hj => by rw [hlen]; exact List.mem_range.2 hj) i hi]

/-- **`winding03_true`**: if the true winding number `tw` of the other operand is constant along
every unbroken edge (no crossing, no change) and the seeds are right at the roots, the flood fill
is right at every vertex. -/
theorem winding03_true (n : Nat) (edges : List (Nat × Nat)) (rootOf : List Nat) (seed : List Int)
    (hb : ∀ p, p ∈ edges → p.1 < n ∧ p.2 < n) (hlen : seed.length = n)
    (hok : rootsOk n edges rootOf = true) (ord : List Nat) (hall : ∀ i, i < n → i ∈ ord)
    (tw : Nat → Int) (hconst : ∀ p, p ∈ edges → tw p.1 = tw p.2)
    (hseed : ∀ r, r < n → rootOf.getD r 0 = r → seed.getD r 0 = tw r) :
    ∀ i, i < n → (flood (fun i => rootOf.getD i 0) seed ord).getD i 0 = tw i := by
  intro i hi
  have hs := rootsOk_spec hb hok
  rw [(winding03_component_constant n edges rootOf seed hb hlen hok ord hall).1 i hi,
    hseed _ (hs.lt i hi) (hs.idem i hi)]
  exact (conn_const tw hconst (hs.conn i hi)).symm

/-- whole edges: both ends of an unbroken edge get the same `w03`, hence the same inclusion
number — `DuplicateHalfedges` may read `i03[startVert]` only (l.493) -/
theorem whole_edge_same_inclusion (n : Nat) (edges : List (Nat × Nat)) (rootOf : List Nat)
    (seed : List Int) (hb : ∀ p, p ∈ edges → p.1 < n ∧ p.2 < n) (hlen : seed.length = n)
    (hok : rootsOk n edges rootOf = true) (op : OpType) (p : Nat × Nat) (hp : p ∈ edges) :
    keepP op ((winding03 rootOf seed).getD p.1 0) = keepP op ((winding03 rootOf seed).getD p.2 0) := by
  have h := (winding03_component_constant n edges rootOf seed hb hlen hok (List.range n)
    (fun i hi => List.mem_range.2 hi)).2
  have e1 := h.2 p.1 (hb p hp).1
  have e2 := h.2 p.2 (hb p hp).2
  rw [← e1, ← e2, h.1 p.1 p.2 (hb p hp).1 (hb p hp).2 (.base hp)]

/-- non-vacuity: two components {0,1} and {2,3}, roots 1 and 2, visited in a scrambled order -/
example : rootsOk 4 [(0, 1), (2, 3)] [1, 1, 2, 2] = true ∧
    flood (fun i => [1, 1, 2, 2].getD i 0) [0, 5, 7, 0] [3, 0, 2, 1, 0] = [5, 5, 7, 7] ∧
    winding03 [1, 1, 2, 2] [0, 5, 7, 0] = [5, 5, 7, 7] := by decide

end MV.BoolAsm.C02b
