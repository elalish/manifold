import MV.Proof.Cow
/-!
# C05 — values never change after creation

Storage level (`MV.Cow`, model of `Vec<T,true>` = SharedVec in /repo/src/vec.h):

* `rc_counts_handles`  — on every accepted trace the STORED reference count of every buffer
  equals the number of live handles pointing at it (`handlesOf` lists them without repetition).
* `cow_safe`           — an accepted event leaves `observe h'` unchanged for every live handle
  `h'` it does not act on; `cow_safe_trace` — along an accepted trace a handle's observation can
  change only at events whose subject it is; `observe_constant` — no such event ⇒ constant.
* `makeUnique_spec`, `share_spec`, `clone_spec`, `move_spec`, `write_spec`, `free_spec`.
* `makeUnique_refines` — the C++ body of MakeUnique (`*this = Vec(view())`, i.e. clone into a
  temporary, release, move back) has the same effect on every observation as the atomic event.
* `monitor_complete_counterexample` — a write with reference count 2 changes another handle's
  observation: the monitor's side condition is necessary.

Object level (`MV.Lazy`): `materialise_observationally_pure` with the commutation hypothesis
explicit; the Manifold leaf satisfies it, `CrossSection::GetTolerance` before its repair (/repo commit
ee47251a) does not (defect 12).
-/
namespace MV.Cow
open AMap

/-- The handles listed for a buffer are exactly the live handles pointing at it… -/
theorem mem_handlesOf {s : State} (hi : Inv s) (h : Handle) (b : BufId) :
    h ∈ handlesOf s b ↔ bufOf s h = some b := by
  rw [bufOf, ← mem_iff_get _ hi.nodup]
  simp only [handlesOf, List.mem_map, List.mem_filter, beq_iff_eq]
  exact ⟨fun ⟨⟨_, _⟩, ⟨hm, hb⟩, hh⟩ => hh ▸ hb ▸ hm, fun hm => ⟨(h, b), ⟨hm, rfl⟩, rfl⟩⟩

/-- …each listed once. -/
theorem handlesOf_nodup {s : State} (hi : Inv s) (b : BufId) : (handlesOf s b).Nodup :=
  (List.filter_sublist.map _).nodup (keys_nodup _ hi.nodup)

/-- **rc_counts_handles.** For every trace accepted by the monitor from the empty heap, the
reference count stored in every allocated buffer equals the number of live handles that point
at it (and is at least 1: a buffer nobody points at has been freed). -/
theorem rc_counts_handles (es : List Event) (ha : accepted {} es = true) (b : BufId) (x : Buf)
    (hb : get (run {} es).bufs b = some x) :
    x.rc = (handlesOf (run {} es) b).length ∧ 1 ≤ x.rc := by
  have hi := inv_run inv_init es ha
  refine ⟨?_, hi.rc_pos b x hb⟩
  rw [hi.rc_eq b x hb, refs_eq_filter]
  simp [handlesOf]

example : (handlesOf (run {} [.alloc 0 2, .share 0 1, .share 1 2, .free 0]) 0).length = 2
    ∧ rcOf (run {} [.alloc 0 2, .share 0 1, .share 1 2, .free 0]) 0 = 2 := by decide

/-- One accepted event keeps the invariant. -/
theorem inv_step {s : State} (hi : Inv s) (e : Event) (ha : accept s e = true) :
    Inv (step s e) :=
  (step_acts hi e ha).inv

/-- **cow_safe.** In a well-formed heap an event accepted by the monitor leaves every live
handle it does not act on alive and with the same observation. -/
theorem cow_safe {s : State} (hi : Inv s) (e : Event) (ha : accept s e = true)
    (h' : Handle) (hl : live s h' = true) (hs : h' ∉ subjects e) :
    live (step s e) h' = true ∧ observe (step s e) h' = observe s h' :=
  ⟨(live_of_hmap ((step_acts hi e ha).hmap h' hs)).trans hl, (step_acts hi e ha).obs h' hs⟩

/-- **cow_safe along a trace**: if no event of an accepted trace has `h` among its subjects,
`h` stays alive and its observation is the same at the end as at the beginning. -/
theorem observe_constant {s : State} (hi : Inv s) (es : List Event) (ha : accepted s es = true)
    (h : Handle) (hl : live s h = true) (hs : ∀ e ∈ es, h ∉ subjects e) :
    live (run s es) h = true ∧ observe (run s es) h = observe s h := by
  have hk : ¬ ∃ e ∈ es, h ∈ subjects e := fun ⟨e, he, hm⟩ => hs e he hm
  exact ⟨(live_of_hmap ((run_acts hi es ha).hmap h hk)).trans hl, (run_acts hi es ha).obs h hk⟩

/-- From the empty heap: after any accepted prefix `pre`, a live handle's observation is
unchanged by any accepted continuation that does not act on it — "each handle's observation
changes only through its own events". -/
theorem cow_safe_trace (pre es : List Event) (ha : accepted {} (pre ++ es) = true)
    (h : Handle) (hl : live (run {} pre) h = true) (hs : ∀ e ∈ es, h ∉ subjects e) :
    observe (run {} (pre ++ es)) h = observe (run {} pre) h := by
  have split : ∀ (s : State) (a b : List Event), accepted s (a ++ b) = true →
      accepted s a = true ∧ accepted (run s a) b = true ∧ run s (a ++ b) = run (run s a) b := by
    intro s a
    induction a generalizing s with
    | nil => intro b hab; exact ⟨rfl, hab, rfl⟩
    | cons e a ih =>
      intro b hab
      simp only [List.cons_append, accepted, Bool.and_eq_true] at hab
      obtain ⟨h1, h2, h3⟩ := ih (step s e) b hab.2
      exact ⟨by simp [accepted, hab.1, h1], h2, h3⟩
  obtain ⟨h1, h2, h3⟩ := split {} pre es ha
  rw [h3]
  exact (observe_constant (inv_run inv_init pre h1) es h2 h hl hs).2

example : observe (run {} ([.alloc 0 3, .share 0 1] ++ [.makeUnique 0, .write 0 1 7, .free 0])) 1
    = observe (run {} [.alloc 0 3, .share 0 1]) 1 := by decide

/-- **makeUnique_spec.** Afterwards the handle's buffer has reference count 1, the handle's
contents are what they were, and (by `cow_safe`) nobody else's changed. -/
theorem makeUnique_spec {s : State} (hi : Inv s) (h : Handle) (hl : live s h = true) :
    rcH (step s (.makeUnique h)) h = 1 ∧
    observe (step s (.makeUnique h)) h = observe s h ∧
    ∀ h', live s h' = true → h' ≠ h → observe (step s (.makeUnique h)) h' = observe s h' := by
  obtain ⟨b, hb⟩ := (live_iff s h).mp hl
  obtain ⟨x, hx⟩ := hi.buf_live h b hb
  refine ⟨?_, ?_, ?_⟩
  · simp only [step]
    by_cases hle : rcH s h ≤ 1
    · simp only [hle, if_true]
      have h1 := hi.rc_pos b x hx
      simp only [rcH, hb, rcOf, hx] at hle ⊢
      omega
    · simp only [hle, if_false, observe, hb, hx, Option.map_some]
      simp [rcH, rcOf, bindNew, get_set]
  · simp only [step]
    by_cases hle : rcH s h ≤ 1
    · simp only [hle, if_true]
    · simp only [hle, if_false]
      have hobs : observe s h = some x.data := by simp [observe, hb, hx]
      rw [hobs]
      simp only
      rw [observe_bindNew (inv_release hi h)]
      simp
  · intro h' hl' hne
    exact (cow_safe hi (.makeUnique h) (by simpa [accept] using hl) h' hl'
      (by simpa [subjects] using hne)).2

example : rcH (step (run {} [.alloc 0 2, .share 0 1]) (.makeUnique 1)) 1 = 1
    ∧ rcH (run {} [.alloc 0 2, .share 0 1]) 1 = 2 := by decide

/-- **share_spec.** `h' := h` (copy-assign into a dead handle): both handles now name the same
buffer, its count went up by one, and both read what `h` read before. -/
theorem share_spec {s : State} (hi : Inv s) (h h' : Handle)
    (ha : accept s (.share h h') = true) :
    bufOf (step s (.share h h')) h' = bufOf s h ∧
    bufOf (step s (.share h h')) h = bufOf s h ∧
    rcH (step s (.share h h')) h' = rcH s h + 1 ∧
    observe (step s (.share h h')) h' = observe s h ∧
    observe (step s (.share h h')) h = observe s h := by
  obtain ⟨b, x, hb, hx, hd⟩ := src_dst hi ha
  have hne : h ≠ h' := by intro e; rw [e, hd] at hb; simp at hb
  simp only [step, hb, bufOf]
  refine ⟨?_, ?_, ?_, ?_, ?_⟩
  · simp [hmap_bindShare s h' b x hx]
  · simp [hmap_bindShare s h' b x hx, hne, hb]
  · simp [rcH, hb, rcOf, bindShare, hx, get_set]
  · rw [observe_bindShare s h' b x hx]; simp [observe, hb, hx]
  · rw [observe_bindShare s h' b x hx]; simp [hne]

example : observe (run {} [.alloc 0 2, .write 0 1 5, .share 0 1]) 1 = some [0, 5] := by decide

/-- **clone_spec.** The copy constructor: `h'` gets a private buffer with `h`'s contents. -/
theorem clone_spec {s : State} (hi : Inv s) (h h' : Handle)
    (ha : accept s (.clone h h') = true) :
    observe (step s (.clone h h')) h' = observe s h ∧ rcH (step s (.clone h h')) h' = 1 ∧
    observe (step s (.clone h h')) h = observe s h := by
  obtain ⟨b, x, hb, hx, hd⟩ := src_dst hi ha
  have hne : h ≠ h' := by intro e; rw [e, hd] at hb; simp at hb
  have hobs : observe s h = some x.data := by simp [observe, hb, hx]
  simp only [step, hobs]
  refine ⟨?_, ?_, ?_⟩
  · rw [observe_bindNew hi]; simp
  · simp [rcH, rcOf, bindNew, get_set]
  · rw [observe_bindNew hi]; simp [hne, hobs]

/-- **move_spec.** `h'` takes over `h`'s buffer: it reads what `h` read, `h` is dead, and the
buffer's count is unchanged. -/
theorem move_spec {s : State} (hi : Inv s) (h h' : Handle)
    (ha : accept s (.move h h') = true) :
    observe (step s (.move h h')) h' = observe s h ∧ live (step s (.move h h')) h = false ∧
    rcH (step s (.move h h')) h' = rcH s h := by
  obtain ⟨b, x, hb, hx, hd⟩ := src_dst hi ha
  have hne : h' ≠ h := by intro e; rw [e, hb] at hd; simp at hd
  have hi2 := inv_bindShare hi h' b x hd hx
  simp only [step, hb]
  refine ⟨?_, ?_, ?_⟩
  · rw [observe_release hi2 h h' hne, observe_bindShare s h' b x hx]
    simp [observe, hb, hx]
  · rw [not_live_iff, hmap_release]; simp
  · have hg : get (bindShare s h' b).hmap h = some b := by
      rw [hmap_bindShare s h' b x hx]; simp [hne.symm, hb]
    have hxb : get (bindShare s h' b).bufs b = some { x with rc := x.rc + 1 } := by
      simp [bindShare, hx, get_set]
    have hrel : get (release (bindShare s h' b) h).bufs b = some x := by
      simp only [release, hg, hxb]
      have := hi.rc_pos b x hx
      have hle : ¬ x.rc + 1 ≤ 1 := by omega
      simp [hle, get_set]
    simp only [rcH, hmap_release, hne, if_false, hmap_bindShare s h' b x hx, if_true, rcOf,
      hrel, hb, hx]

/-- **write_spec / resize_spec.** What the acting handle itself sees. -/
theorem write_spec (s : State) (h : Handle) (i : Nat) (v : Int) :
    observe (step s (.write h i v)) h = (observe s h).map (fun d => d.set i v) :=
  observe_setData_self s h _

theorem resize_spec (s : State) (h : Handle) (n : Nat) :
    observe (step s (.resize h n)) h = (observe s h).map (fun d => resizeList d n) :=
  observe_setData_self s h _

/-- **free_spec.** The handle is dead afterwards; the buffer survives iff somebody else still
points at it (that is `cow_safe` for the others). -/
theorem free_spec (s : State) (h : Handle) : live (step s (.free h)) h = false := by
  rw [not_live_iff]; simp [step, hmap_release]

theorem live_of_observe {s : State} {k : Handle} {d : List Int} (h : observe s k = some d) :
    live s k = true := by
  unfold observe at h
  unfold live
  cases hg : get s.hmap k <;> simp [hg] at h ⊢

/-- **makeUnique_refines.** What `Vec::MakeUnique` really executes when the count is above 1 —
`*this = Vec<T,true>(this->view())`: deep-copy into a temporary `t`, release `h`, move `t` into
`h` — is accepted by the monitor and gives every handle other than the temporary the same
observation, liveness and reference count as the atomic `makeUnique h`. -/
theorem makeUnique_refines {s : State} (hi : Inv s) (h t : Handle) (hl : live s h = true)
    (ht : live s t = false) (hshared : 1 < rcH s h) :
    accepted s [.clone h t, .free h, .move t h] = true ∧
    ∀ k, k ≠ t →
      observe (run s [.clone h t, .free h, .move t h]) k = observe (step s (.makeUnique h)) k ∧
      live (run s [.clone h t, .free h, .move t h]) k = live (step s (.makeUnique h)) k := by
  obtain ⟨b, hb⟩ := (live_iff s h).mp hl
  obtain ⟨x, hx⟩ := hi.buf_live h b hb
  have htn := (not_live_iff s t).mp ht
  have hne : h ≠ t := by intro e; rw [e, htn] at hb; simp at hb
  have hobs : observe s h = some x.data := by simp [observe, hb, hx]
  have a1 : accept s (.clone h t) = true := by simp [accept, hl, ht]
  have A1 := step_acts hi _ a1
  have l1 : live (step s (.clone h t)) h = true :=
    (live_of_hmap (A1.hmap h (by simpa [subjects] using hne))).trans hl
  have a2 : accept (step s (.clone h t)) (.free h) = true := by simpa [accept] using l1
  have A2 := step_acts A1.inv _ a2
  have lt1 : live (step s (.clone h t)) t = true := by
    rw [live_iff]; simp [step, hobs, hmap_bindNew]
  have ht2 : t ∉ subjects (.free h) := by simpa [subjects] using hne.symm
  have lt2 : live (step (step s (.clone h t)) (.free h)) t = true :=
    (live_of_hmap (A2.hmap t ht2)).trans lt1
  have a3 : accept (step (step s (.clone h t)) (.free h)) (.move t h) = true := by
    simp [accept, lt2, free_spec]
  have ha : accepted s [.clone h t, .free h, .move t h] = true := by simp [accepted, a1, a2, a3]
  refine ⟨ha, fun k hk => ?_⟩
  by_cases hkh : k = h
  · subst hkh
    -- the acting handle reads its old contents on both sides
    have o3 : observe (run s [.clone k t, .free k, .move t k]) k = some x.data := by
      simp only [run]
      rw [(move_spec A2.inv t k a3).1, A2.obs t ht2, (clone_spec hi k t a1).1, hobs]
    have om : observe (step s (.makeUnique k)) k = some x.data := by
      rw [(makeUnique_spec hi k hl).2.1, hobs]
    exact ⟨o3.trans om.symm, (live_of_observe o3).trans (live_of_observe om).symm⟩
  · -- both sides act on `h` and `t` only
    have A := run_acts hi _ ha
    have B := step_acts hi (.makeUnique h) (by simpa [accept] using hl)
    have hA : ¬ ∃ e ∈ [Event.clone h t, .free h, .move t h], k ∈ subjects e := by
      simp [subjects, hk, hkh]
    have hB : k ∉ subjects (.makeUnique h) := by simpa [subjects] using hkh
    exact ⟨(A.obs k hA).trans (B.obs k hB).symm, live_of_hmap ((A.hmap k hA).trans (B.hmap k hB).symm)⟩

example : accepted (run {} [.alloc 0 2, .share 0 1]) [.clone 1 9, .free 1, .move 9 1] = true
    ∧ observe (run (run {} [.alloc 0 2, .share 0 1]) [.clone 1 9, .free 1, .move 9 1]) 1
      = observe (step (run {} [.alloc 0 2, .share 0 1]) (.makeUnique 1)) 1 := by decide

/-- **monitor_complete_counterexample.** `write` while the buffer's reference count is 2: the
monitor rejects it, `step` (the release build, `AssertUnique` compiled out) performs it, and the
OTHER handle's observation changes. -/
example :
    let s := run {} [.alloc 0 2, .share 0 1]
    rcH s 0 = 2 ∧ accept s (.write 0 0 7) = false ∧
    observe s 1 = some [0, 0] ∧ observe (step s (.write 0 0 7)) 1 = some [7, 0] := by decide

theorem monitor_complete_counterexample :
    ∃ (s : State) (h h' : Handle) (i : Nat) (v : Int), Inv s ∧ live s h' = true ∧ h' ≠ h ∧
      accept s (.write h i v) = false ∧ observe (step s (.write h i v)) h' ≠ observe s h' := by
  refine ⟨run {} [.alloc 0 2, .share 0 1], 0, 1, 0, 7,
    inv_run inv_init _ (by decide), by decide, by decide, by decide, by decide⟩

/-- the same for a structural change (`resize`/`push_back`/`clear` on a shared vector) -/
example :
    let s := run {} [.alloc 0 2, .share 0 1]
    accept s (.resize 0 0) = false ∧ observe (step s (.resize 0 0)) 1 = some [] := by decide

/-- and with `makeUnique` first the same write is accepted and harmless -/
example :
    let s := run {} [.alloc 0 2, .share 0 1, .makeUnique 0]
    accept s (.write 0 0 7) = true ∧ observe (step s (.write 0 0 7)) 1 = some [0, 0]
      ∧ observe (step s (.write 0 0 7)) 0 = some [7, 0] := by decide

end MV.Cow

namespace MV.Lazy

variable {P T E V : Type}

/-- The laws `GetImpl`/`GetPaths` rely on: applying / rescaling by the identity transform
does nothing (`if (transform_ == identity) return`). -/
structure Laws (o : Ops P T E) : Prop where
  apply_ident : ∀ p, o.apply o.ident p = p
  rescale_ident : ∀ e, o.rescale o.ident e = e

theorem materialise_idem (o : Ops P T E) (L : Laws o) (x : Obj P T E) :
    materialise o (materialise o x) = materialise o x := by
  simp [materialise, L.apply_ident, L.rescale_ident]

theorem denote_materialise (o : Ops P T E) (L : Laws o) (x : Obj P T E) :
    denote o (materialise o x) = denote o x := by
  simp [denote, materialise, L.apply_ident, L.rescale_ident]

/-- a getter commutes with materialisation -/
def Pure (o : Ops P T E) (g : Obj P T E → V) : Prop := ∀ x, g (materialise o x) = g x

/-- a getter that materialises first (`GetCsgLeafNode().GetImpl()->…`) is pure -/
theorem pure_of_materialise_first (o : Ops P T E) (L : Laws o) (g₀ : Obj P T E → V) :
    Pure o (fun x => g₀ (materialise o x)) := by
  intro x
  simp only [materialise_idem o L]

/-- a getter that only reads the denotation is pure -/
theorem pure_of_denote (o : Ops P T E) (L : Laws o) (g₀ : P × E → V) :
    Pure o (fun x => g₀ (denote o x)) := by
  intro x
  simp only [denote_materialise o L]

/-- **materialise_observationally_pure.** If every getter of an interface commutes with
`materialise` (hypothesis `hp`, e.g. because it materialises first: `pure_of_materialise_first`),
then no number of materialisations — caused by whatever calls happened in between — changes the
value of any getter: the whole observation tuple is constant. -/
theorem materialise_observationally_pure (o : Ops P T E) {ι : Type} (getters : ι → Obj P T E → V)
    (hp : ∀ i, Pure o (getters i)) (n : Nat) (x : Obj P T E) (i : ι) :
    getters i (materialiseN o n x) = getters i x := by
  induction n generalizing x with
  | zero => rfl
  | succ n ih => rw [materialiseN, ih, hp i]

/-- …and such an interface cannot tell two representations of the same value apart, provided
the getters materialise first. -/
theorem same_denotation_same_observation (o : Ops P T E) (g₀ : Obj P T E → V)
    (x y : Obj P T E) (h : denote o x = denote o y) :
    g₀ (materialise o x) = g₀ (materialise o y) := by
  have : materialise o x = materialise o y := by
    simp only [denote, Prod.mk.injEq] at h
    simp [materialise, h.1, h.2]
  rw [this]

/-! ### instance 1: the Manifold leaf (src/csg_tree.cpp:97-112, src/manifold.cpp)

`CsgLeafNode` = (`pImpl_`, `transform_`); tolerance, bounding box, … all live INSIDE the Impl
and are transformed by `Impl::Transform`, so there is no scalar next to the payload
(`E = Unit`).  Every public getter of `Manifold` is `GetCsgLeafNode().GetImpl()->…`, i.e. of
the form `g₀ ∘ materialise`; hence it is pure for ANY payload/transform types and laws. -/
theorem manifold_leaf_getters_pure (o : Ops P T Unit) (L : Laws o) {ι : Type}
    (g₀ : ι → Obj P T Unit → V) (n : Nat) (x : Obj P T Unit) (i : ι) :
    g₀ i (materialise o (materialiseN o n x)) = g₀ i (materialise o x) :=
  materialise_observationally_pure o (fun i x => g₀ i (materialise o x))
    (fun i => pure_of_materialise_first o L (g₀ i)) n x i

/-- a toy leaf: payload = list of vertex coordinates, transform = scale factor -/
def leafOps : Ops (List Int) Int Unit :=
  { ident := 1, apply := fun k p => p.map (k * ·), rescale := fun _ e => e }

theorem leafOps_laws : Laws leafOps :=
  ⟨by intro p; simp [leafOps], by intro e; rfl⟩

example : (fun x : Obj (List Int) Int Unit => (materialise leafOps x).payload.length)
      (materialiseN leafOps 3 ⟨[1, 2, 3], 5, ()⟩)
    = (materialise leafOps ⟨[1, 2, 3], 5, ()⟩).payload.length := by decide

/-! ### instance 2: CrossSection before the repair of /repo commit ee47251a (pinned tree:
src/cross_section.cpp:324-339, 659)

`GetPaths()` sets `tolerance_ = max(‖transform_‖ · tolerance_, …)` when it materialises, but
`GetTolerance()` is `return tolerance_;` — it reads the scalar WITHOUT materialising.  With
integers standing in for the doubles (transform = scale factor k, rescale = k · tol): -/
def csOps : Ops (List Int) Int Int :=
  { ident := 1, apply := fun k p => p.map (k * ·), rescale := fun k e => k * e }

theorem csOps_laws : Laws csOps :=
  ⟨by intro p; simp [csOps], by intro e; simp [csOps]⟩

/-- `double CrossSection::GetTolerance() const { return tolerance_; }`  (pinned) -/
def getTolerancePinned (x : Obj (List Int) Int Int) : Int := x.extra
/-- `GetPaths(); return tolerance_;`  (/repo commit ee47251a) -/
def getToleranceFixed (x : Obj (List Int) Int Int) : Int := (materialise csOps x).extra

/-- Defect 12: `Square.Scale(10)` reports tolerance 1 before and 10 after an unrelated
`ToPolygons()` — the pinned getter violates the hypothesis of
`materialise_observationally_pure`. -/
example : getTolerancePinned ⟨[0, 1], 10, 1⟩ = 1
    ∧ getTolerancePinned (materialise csOps ⟨[0, 1], 10, 1⟩) = 10 := by decide

theorem crossSection_pinned_getTolerance_not_pure : ¬ Pure csOps getTolerancePinned := by
  intro h
  have := h ⟨[0, 1], 10, 1⟩
  revert this
  decide

/-- The repaired getter materialises first, so it is pure. -/
theorem crossSection_fixed_getTolerance_pure : Pure csOps getToleranceFixed :=
  pure_of_materialise_first csOps csOps_laws (fun x => x.extra)

example : getToleranceFixed ⟨[0, 1], 10, 1⟩ = 10
    ∧ getToleranceFixed (materialise csOps ⟨[0, 1], 10, 1⟩) = 10 := by decide

end MV.Lazy
