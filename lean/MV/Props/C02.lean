/-
Property C02 — Booleans compute the regularised set operation on the operand solids.

  "For epsilon-valid operands A and B, every point farther than the result's tolerance from both
   input surfaces is inside A+B, A-B or A^B exactly when the corresponding set formula on
   'inside A' and 'inside B' says so, so volumes obey inclusion-exclusion and intersection/union
   are commutative as solids. [...] Split returns exactly (A^B, A-B) [...]"

What is proved here (model: `MV/Model/Bool3.lean`; the constants `c1 c2 c3` are GENERATED from
`Boolean3::Result` on every run, so every theorem below is re-checked against the working tree):

* `inclusion_is_setop`     on windings in {0,1} the inclusion number is the set formula;
* `inclusion_coboundary`   in ANY arrangement (all integer windings, i.e. also self-overlapping
                           operands, any cell adjacency), keeping each P-piece `c1 + c3·wQ` times and
                           each Q-piece `c2 + c3·wP` times gives a surface whose winding function is
                           `incl (wP, wQ)` in every cell connected to infinity — existence and
                           uniqueness (a 0-cochain is determined by its coboundary and one value);
* `ray_winding`            the 1-D version, computationally, for every crossing sequence;
* `inclusion_exclusion`, `volume_inclusion_exclusion`, `add_comm_solid`, `intersect_comm_solid`,
  `split_partition`, `split_disjoint`, `keepNew_is_jump`;
* `shadows_antisymm`       for the `Shadows` predicate instantiated at an ordered field;
* `abssum_law`, `abssum_scan_any_schedule`  the algebraic law the parallel `exclusive_scan` with
                           `AbsSum` needs (C13's `parExclusiveScan_eq`), and the layout it yields.

NOT proved (oracle-checked by harness/c02_bool.cpp only): that `Intersect12`/`Winding03` and the
collider deliver the true `x12`/`w03` of the perturbed operands (global correctness of the
kernel cascade), anything about rounding, and the lattice clause — `lattice_partial` below is
stated in a comment only; the harness enumerates it and reports what it finds.
-/
import MV.Model.Bool3
import MV.Props.C13a
import Mathlib.Algebra.Order.Field.Basic
import Mathlib.Algebra.Order.Ring.Rat
import Mathlib.Algebra.Field.Rat
import Mathlib.Tactic.Ring
import Mathlib.Tactic.LinearCombination

namespace MV.Bool3.C02
open MV.Bool3

/-! ## 1. inclusion arithmetic on {0,1} -/

/-- For `wP, wQ ∈ {0,1}` (`b2i` of "inside A", "inside B") the inclusion number is `b2i` of the
set formula: `∪` for Add, `\` for Subtract, `∩` for Intersect; in particular it is in {0,1}. -/
theorem inclusion_is_setop (op : OpType) (a b : Bool) :
    incl op (b2i a) (b2i b) = b2i (setOp op a b) := by
  cases op <;> cases a <;> cases b <;> decide

theorem inclusion_in_01 (op : OpType) (wP wQ : Int) (hP : wP = 0 ∨ wP = 1) (hQ : wQ = 0 ∨ wQ = 1) :
    incl op wP wQ = 0 ∨ incl op wP wQ = 1 := by
  cases op <;> rcases hP with rfl | rfl <;> rcases hQ with rfl | rfl <;> decide

example : incl .subtract 1 0 = 1 ∧ incl .subtract 1 1 = 0 ∧ incl .add 1 1 = 1 ∧ incl .intersect 1 0 = 0 := by
  decide

/-- the constants, as read from the working tree (fails to build if the translator reads
something else: this is what the other proofs unfold) -/
theorem constants :
    (OpType.all.map fun op => (c1 op, c2 op, c3 op)) = [(1, 1, -1), (1, 0, -1), (0, 0, 1)] := by
  decide

/-- the three inclusion formulas with the generated constants put in -/
theorem incl_add (p q : Int) : incl .add p q = p + q - p * q := by
  show (1 : Int) * p + 1 * q + -1 * p * q = _; ring

theorem incl_subtract (p q : Int) : incl .subtract p q = p - p * q := by
  show (1 : Int) * p + 0 * q + -1 * p * q = _; ring

theorem incl_intersect (p q : Int) : incl .intersect p q = p * q := by
  show (0 : Int) * p + 0 * q + 1 * p * q = _; ring

/-! ## 2. the coboundary argument -/

/-- the jump of `incl` across a piece is the piece's orientation times its kept multiplicity -/
theorem incl_jump (op : OpType) (A : Arrangement) (p : Piece) (h : p.Ok A) :
    incl op (A.wP p.dst) (A.wQ p.dst) =
      incl op (A.wP p.src) (A.wQ p.src) + p.sign * p.keep op A := by
  unfold Piece.Ok at h
  unfold Piece.keep
  cases ho : p.owner <;> simp only [ho] at h ⊢
  · obtain ⟨h1, h2⟩ := h
    rw [h1, h2]; unfold incl keepP; ring
  · obtain ⟨h1, h2⟩ := h
    rw [h1, h2]; unfold incl keepQ; ring

/-- **`inclusion_coboundary`.**  In any well-formed arrangement and for ALL integer windings
(self-overlapping operands included):
(1) `c ↦ incl op (wP c) (wQ c)` is a winding function of the kept surface (`i03, i30` kept
    multiplicities), and
(2) it is the only one: any `w` whose jumps are those of the kept surface and that agrees with it
    in one cell `c0` (the cell at infinity, where everything is 0) agrees in every cell joined to
    `c0` by pieces. -/
theorem inclusion_coboundary (op : OpType) (A : Arrangement) (hA : A.WF) :
    IsWindingOfKept op A (fun c => incl op (A.wP c) (A.wQ c)) ∧
    ∀ (w : Nat → Int) (c0 : Nat), IsWindingOfKept op A w →
      w c0 = incl op (A.wP c0) (A.wQ c0) →
      ∀ c, Reach A c0 c → w c = incl op (A.wP c) (A.wQ c) := by
  refine ⟨fun p hp => incl_jump op A p (hA p hp), ?_⟩
  intro w c0 hw h0 c hr
  induction hr with
  | base => exact h0
  | @fwd p hp _ ih =>
    rw [hw p hp, ih, incl_jump op A p (hA p hp)]
  | @bwd p hp _ ih =>
    have h1 := hw p hp
    have h2 := incl_jump op A p (hA p hp)
    omega

/-- at infinity both windings vanish, and so does `incl` -/
theorem incl_at_infinity (op : OpType) : incl op 0 0 = 0 := by
  unfold incl; ring

/-- non-vacuity: a ray through `A = [1,3]`, `B = [2,4]` on a line: cells 0 (outside), 1 (A only),
2 (both), 3 (B only), 4 (outside); the kept surface of `A - B` winds once in cell 1 only. -/
def exArr : Arrangement where
  wP := fun c => if c = 1 ∨ c = 2 then 1 else 0
  wQ := fun c => if c = 2 ∨ c = 3 then 1 else 0
  pieces := [⟨.P, 1, 0, 1⟩, ⟨.Q, 1, 1, 2⟩, ⟨.P, -1, 2, 3⟩, ⟨.Q, -1, 3, 4⟩]

theorem exArr_wf : exArr.WF := by
  intro p hp
  simp only [exArr, List.mem_cons, List.mem_nil_iff, or_false] at hp
  rcases hp with rfl | rfl | rfl | rfl <;> simp [Piece.Ok, exArr]

example : exArr.WF := exArr_wf

example : (List.range 5).map (fun c => incl .subtract (exArr.wP c) (exArr.wQ c)) = [0, 1, 0, 0, 0] ∧
    exArr.pieces.map (Piece.keep .subtract exArr) = [1, -1, 0, 0] := by decide

/-- part (2) is not vacuous: cell 2 (inside both) is joined to infinity, so any winding function of
the kept surface of `A - B` that vanishes at infinity vanishes there -/
example (w : Nat → Int) (hw : IsWindingOfKept .subtract exArr w) (h0 : w 0 = 0) : w 2 = 0 := by
  have hr : Reach exArr 0 2 :=
    Reach.fwd (p := ⟨.Q, 1, 1, 2⟩) (by simp [exArr])
      (Reach.fwd (p := ⟨.P, 1, 0, 1⟩) (by simp [exArr]) Reach.base)
  have := (inclusion_coboundary .subtract exArr exArr_wf).2 w 0 hw (by rw [h0]; decide) 2 hr
  rw [this]; decide

/-- every step of a ray keeps `wR = incl (wP, wQ)` -/
theorem rayStep_inv (op : OpType) (s : RayState) (c : Crossing) (h : s.wR = incl op s.wP s.wQ) :
    (rayStep op s c).wR = incl op (rayStep op s c).wP (rayStep op s c).wQ := by
  unfold rayStep
  cases c.owner
  · simp only [h]; unfold incl keepP; ring
  · simp only [h]; unfold incl keepQ; ring

/-- **1-D version of `inclusion_coboundary`**: walking in from infinity along any generic ray,
summing `sign × kept multiplicity` over the crossed pieces (= the winding number of the kept
surface at the end point, by definition of winding number) gives `incl` of the operands'
winding numbers there — for every sequence of crossings, any signs, any multiplicities. -/
theorem ray_winding (op : OpType) (cs : List Crossing) :
    (rayRun op cs).wR = incl op (rayRun op cs).wP (rayRun op cs).wQ :=
  List.foldlRecOn (motive := fun s => s.wR = incl op s.wP s.wQ) cs (rayStep op)
    (incl_at_infinity op).symm fun s h c _ => rayStep_inv op s c h

example : rayRun .subtract [⟨.P, 1⟩, ⟨.P, 1⟩, ⟨.Q, 1⟩, ⟨.P, -1⟩] = ⟨1, 1, 0⟩ := by decide
example : rayRun .add [⟨.P, 1⟩, ⟨.P, 1⟩, ⟨.Q, 1⟩] = ⟨2, 1, 1⟩ := by decide

/-- `i12 = c3 · x12`: where `wQ` jumps by `x` along an edge of P, the kept multiplicity of the edge
jumps by `keepNew op x` — the start/end balance `PairUp` relies on.  A crossing with number `x12`
lowers `wQ` by `x12` (`wE = wS − Σ x12` in `MV/Props/C02b.lean`), so there `x = −x12`. -/
theorem keepNew_is_jump (op : OpType) (wQ x : Int) :
    keepP op (wQ + x) = keepP op wQ + keepNew op x ∧
    keepQ op (wQ + x) = keepQ op wQ + keepNew op x := by
  unfold keepP keepQ keepNew; constructor <;> ring

/-! ## 3. corollaries -/

/-- inclusion–exclusion, cell by cell (all integer windings) -/
theorem inclusion_exclusion (wP wQ : Int) :
    incl .add wP wQ + incl .intersect wP wQ = wP + wQ := by
  rw [incl_add, incl_intersect]; ring

/-- `Vol(A∪B) + Vol(A∩B) = Vol A + Vol B` on cell measures: for any finite family of cells with
measures `μ c` in a commutative ring (ℝ, ℚ, …) and the winding-weighted volumes
`Σ μ c · w c`. -/
theorem volume_inclusion_exclusion {R : Type} [CommRing R] (cells : List Nat) (μ : Nat → R)
    (wP wQ : Nat → Int) :
    (cells.map fun c => μ c * ((incl .add (wP c) (wQ c) : Int) : R)).sum +
      (cells.map fun c => μ c * ((incl .intersect (wP c) (wQ c) : Int) : R)).sum =
    (cells.map fun c => μ c * ((wP c : Int) : R)).sum + (cells.map fun c => μ c * ((wQ c : Int) : R)).sum := by
  induction cells with
  | nil => simp
  | cons c cs ih =>
    simp only [List.map_cons, List.sum_cons]
    have h := inclusion_exclusion (wP c) (wQ c)
    have h' : ((incl .add (wP c) (wQ c) : Int) : R) + ((incl .intersect (wP c) (wQ c) : Int) : R)
        = ((wP c : Int) : R) + ((wQ c : Int) : R) := by
      rw [← Int.cast_add, h, Int.cast_add]
    linear_combination ih + μ c * h'

example : (([0, 1, 2, 3].map fun c => (2 : Int) * ((incl .add (exArr.wP c) (exArr.wQ c) : Int) : Int)).sum +
    ([0, 1, 2, 3].map fun c => (2 : Int) * ((incl .intersect (exArr.wP c) (exArr.wQ c) : Int) : Int)).sum) = 8 := by
  decide

/-- union is commutative as a solid (same winding function with the operands exchanged) -/
theorem add_comm_solid (wP wQ : Int) : incl .add wP wQ = incl .add wQ wP := by
  rw [incl_add, incl_add]; ring

/-- intersection is commutative as a solid -/
theorem intersect_comm_solid (wP wQ : Int) : incl .intersect wP wQ = incl .intersect wQ wP := by
  rw [incl_intersect, incl_intersect, Int.mul_comm]

/-- subtraction is not: the statement is not vacuous -/
example : incl .subtract 1 0 ≠ incl .subtract 0 1 := by decide

/-- `Split(cutter) = (A ^ B, A − B)`: the two results of `Split` (both computed from ONE
`Boolean3` built with `OpType::Subtract`, manifold.cpp:1072-1082) partition A, winding by winding -/
theorem split_partition (wP wQ : Int) :
    incl .intersect wP wQ + incl .subtract wP wQ = wP := by
  rw [incl_intersect, incl_subtract]; ring

/-- … and the two parts are disjoint for simple operands -/
theorem split_disjoint (a b : Bool) :
    incl .intersect (b2i a) (b2i b) * incl .subtract (b2i a) (b2i b) = 0 := by
  cases a <;> cases b <;> decide

/-! ## 4. `Shadows` over an ordered field -/

/-- The `Scalar` interface instantiated at a linearly ordered field extended by an absorbing
not-a-number (`none`): exact arithmetic, division by zero is not finite, comparisons with
not-a-number are false — the IEEE conventions the kernels rely on, without rounding. -/
instance exactScalar (F : Type) [Field F] [LinearOrder F] : Scalar (Option F) where
  zero := some 0
  add a b := match a, b with | some x, some y => some (x + y) | _, _ => none
  sub a b := match a, b with | some x, some y => some (x - y) | _, _ => none
  mul a b := match a, b with | some x, some y => some (x * y) | _, _ => none
  div a b := match a, b with | some x, some y => if y = 0 then none else some (x / y) | _, _ => none
  neg a := match a with | some x => some (-x) | none => none
  abs a := match a with | some x => some (if x < 0 then -x else x) | none => none
  lt a b := match a, b with | some x, some y => decide (x < y) | _, _ => false
  beq a b := match a, b with | some x, some y => decide (x = y) | _, _ => false
  isFinite a := a.isSome

section Field
variable {F : Type} [Field F] [LinearOrder F] [IsStrictOrderedRing F]

omit [IsStrictOrderedRing F] in
/-- `shadows` at the exact instance is literally `p == q ? dir < 0 : p < q` -/
theorem shadows_exact (p q d : F) :
    shadows (some p) (some q) (some d) = if p = q then decide (d < 0) else decide (p < q) := by
  unfold shadows
  simp only [Scalar.beq, Scalar.lt, Scalar.zero]
  by_cases h : p = q <;> simp [h]

/-- **`shadows_antisymm`**: exchanging the operands and negating the perturbation direction
negates the answer, unless `p = q ∧ d = 0` (no perturbation on a tie). -/
theorem shadows_antisymm (p q d : F) (h : ¬ (p = q ∧ d = 0)) :
    shadows (some p) (some q) (some d) = !shadows (some q) (some p) (Scalar.neg (some d)) := by
  have hneg : (Scalar.neg (some d) : Option F) = some (-d) := rfl
  rw [hneg, shadows_exact, shadows_exact]
  by_cases hpq : p = q
  · subst hpq
    have hd : d ≠ 0 := fun h0 => h ⟨rfl, h0⟩
    simp only [if_true]
    rcases lt_trichotomy d 0 with h1 | h1 | h1
    · simp [h1, le_of_lt h1]
    · exact absurd h1 hd
    · simp [h1, not_lt.2 (le_of_lt h1)]
  · have hqp : ¬ q = p := fun e => hpq e.symm
    simp only [hpq, hqp, if_false]
    rcases lt_trichotomy p q with h1 | h1 | h1
    · simp [h1, not_lt.2 (le_of_lt h1)]
    · exact absurd h1 hpq
    · simp [h1, not_lt.2 (le_of_lt h1)]

omit [IsStrictOrderedRing F] in
/-- the exception is real: on an unperturbed tie both orders answer "does not shadow" -/
theorem shadows_tie (p : F) :
    shadows (some p) (some p) (some (0 : F)) = false ∧
    shadows (some p) (some p) (Scalar.neg (some (0 : F))) = false := by
  have hneg : (Scalar.neg (some (0 : F)) : Option F) = some (-0) := rfl
  rw [hneg, shadows_exact, shadows_exact]
  simp

example : shadows (some (1 : ℚ)) (some 1) (some (-1)) = true ∧
    shadows (some (1 : ℚ)) (some 1) (Scalar.neg (some (-1))) = false := by
  have hneg : (Scalar.neg (some (-1 : ℚ)) : Option ℚ) = some (-(-1)) := rfl
  rw [hneg, shadows_exact, shadows_exact]
  norm_num

end Field

/-! ## 5. `AbsSum` and the parallel scan -/

/-- `AbsSum` is associative and satisfies `f a (f 0 b) = f a b` (it has NO identity: `f a 0 = |a|`),
exactly the two hypotheses of C13's `parExclusiveScan_eq`. -/
theorem abssum_law :
    (∀ a b c : Int, absSum (absSum a b) c = absSum a (absSum b c)) ∧
    (∀ a b : Int, absSum a (absSum 0 b) = absSum a b) ∧
    ¬ (∀ a : Int, absSum a 0 = a) := by
  refine ⟨MV.Par.natAbs_add_assoc, MV.Par.natAbs_add_zero, ?_⟩
  · intro h; exact absurd (h (-1)) (by decide)

/-- The four `exclusive_scan(…, AbsSum())` calls of `Boolean3::Result` (l.884-903), run through
TBB's `parallel_scan` under ANY valid schedule, give the sequential exclusive scan. -/
theorem abssum_scan_any_schedule {t : MV.Par.Sched} {xs : List Int} (init : Int)
    (hv : t.Valid xs.length) :
    MV.Par.parExclusiveScan absSum init 0 t xs = (MV.Par.exScan absSum init xs).1 :=
  MV.Par.parExclusiveScan_eq abssum_law.1 abssum_law.2.1 init hv

/-- … and the sequential scan lays the duplicated vertices out in consecutive disjoint blocks:
started from a count `init ≥ 0` (`0`, then `numVertR`), the running value after the whole list is
`init + Σ |i03[j]|` — the `numVertR` the code reads off as `AbsSum()(vP2R.back(), i03.back())`. -/
theorem abssum_exScan_total (init : Int) (h0 : 0 ≤ init) (xs : List Int) :
    (MV.Par.exScan absSum init xs).2 = init + (xs.map fun x => (x.natAbs : Int)).sum := by
  induction xs generalizing init with
  | nil => simp [MV.Par.exScan]
  | cons x xs ih =>
    simp only [MV.Par.exScan, List.map_cons, List.sum_cons]
    rw [ih (absSum init x) (by unfold absSum; omega)]
    unfold absSum; omega

example : (MV.Par.exScan absSum 3 [1, -1, 0, -2, 1]).2 = 8 := by decide

example : MV.Par.parExclusiveScan absSum 3 0 (.node 2 true .leaf .leaf) [1, -1, 0, -2, 1] = [3, 4, 5, 5, 7] :=
  (abssum_scan_any_schedule 3 (by decide)).trans (by decide)

/-!
`lattice_partial` is NOT proved: it speaks about the real evaluator and is only tested, and
DESIGN.md §7 defect 8 lists lattice programs on which the pinned tree violates it:
"for every CSG program over integer-lattice boxes, the result of the real evaluator classified at
voxel centres equals the voxel-set semantics of the program."  The harness enumerates all pairs
of boxes with integer corners in [0,3]³ × 3 operations (in both tiers) and random programs of depth ≤ 6.
-/

end MV.Bool3.C02
