/-
Property C06 — shared Manifolds / CrossSections may be used from many threads: no data race, no
deadlock, the answers of a serial execution.

What is proved here, for ALL traces / schedules / numbers of threads:

* `monitor_sound`        a synchronisation trace accepted by the vector-clock monitor `hbAccept` (the
                         function the compiled driver runs on every trace recorded from the real library)
                         has no two conflicting accesses unordered by happens-before;
* `lockset_sound`        the lock-set discipline (mutexes exclusive, every access to a variable made while
                         holding that variable's one guard) implies the same race freedom;
* `lazy_eval_linearizable`  every interleaving of any number of threads forcing the same lazy op node
                         through the lock protocol of `GetCsgLeafNode` / `ToLeafNode`: every thread
                         returns the serial value, every handle that was forced holds that leaf, the
                         Boolean is executed at most once (exactly once as soon as one thread is done);
* `lazy_eval_no_deadlock`, `lazy_eval_mutex`  the same machine never deadlocks and its locks exclude;
* `two_lock_no_deadlock`, `two_lock_mutex`    `std::scoped_lock(a, b)` as libstdc++ implements it
                         (lock one, try the other, back off) next to single `lock_guard`s: no deadlock for
                         any lock pairs (also `a,b` against `b,a`), mutual exclusion;
* `rank_no_deadlock`     nested blocking acquisitions that respect a rank cannot deadlock (the monitor
                         `lsAccept` checks the rank rule pNodeMutex_/pathsMutex_ < op-node guard <
                         leaf mutex_ on every real trace);
* `reserveIDs_disjoint`, `reserveIDs_cover`   `fetch_add` hands out pairwise disjoint, gap-free ID
                         ranges whatever the order in which the threads reach the counter; `idsAccept`
                         (run on the real trace) decides exactly that disjointness.

The driver's verdict functions are tied to the hypotheses of these theorems by
`hbFirstBad_none_iff` / `lsFirstBad_none_iff`.

NOT proved (gap, stated): the happens-before relation is sequentially-consistent interleaving
semantics with release/acquire edges of mutexes only (atomics are given no ordering power: an
under-approximation, the monitor can only be too strict); the thread programs of the lazy-evaluation
machine are a transliteration of the root-node path of `ToLeafNode` (one shared op node; nested
shared nodes repeat the same protocol one guard at a time), not a translation of the whole evaluator;
that the recorded trace is complete relies on the hook inventory (ASSUMPTIONS of checks/c06.py).
-/
import MV.Proof.SyncHB
import MV.Proof.SyncLockset
import MV.Proof.LazyEval
import MV.Proof.TwoLock

namespace MV.C06
open MV.Sync

/-- **Soundness of the happens-before monitor** that runs on every recorded trace. -/
theorem monitor_sound (n : Nat) (tr : List Ev) (h : hbAccept n tr = true) : RaceFree tr :=
  hbAccept_sound n tr h

example : RaceFree [.acq 0 7 0, .wr 0 5 8, .rel 0 7, .acq 1 7 0, .wr 1 5 8, .rel 1 7] :=
  monitor_sound 2 _ (by decide)

/-- the unguarded `cache_` read of `NumLeaves` against the guarded publication in `ToLeafNode`
(DESIGN.md §7 defect 10), as a trace: rejected -/
example : hbAccept 3 [.wr 0 6 0, .rel 0 16, .acq 1 16 3, .acq 2 16 3,
    .rd 1 6 0, .acq 2 85 1, .wr 2 6 86, .rel 2 85] = false := by decide

/-- **Lock-set discipline is sound.** -/
theorem lockset_sound (rank : Nat → Nat) (guard : Nat → Nat) (tr : List Ev)
    (hls : lsAccept rank tr = true) (hg : allGuarded guard tr = true) : RaceFree tr :=
  MV.Sync.lockset_sound rank guard tr hls hg

example : RaceFree [.acq 0 7 0, .wr 0 3 8, .rel 0 7, .acq 1 7 0, .rd 1 3 8, .rel 1 7] :=
  lockset_sound (fun _ => 0) (fun _ => 7) _ (by decide) (by decide)

/-- the driver prints `hb=ok` exactly when `hbAccept` holds -/
theorem hbFirstBad_none_iff (n : Nat) (s : HbSt) (tr : List Ev) :
    hbFirstBad n s tr = none ↔ (hbRun n s tr).isSome = true := by
  induction tr generalizing s with
  | nil => simp [hbFirstBad, hbRun]
  | cons e es ih =>
    simp only [hbFirstBad, hbRun]
    cases h : hbStep n s e with
    | none => simp
    | some s' => simpa using ih s'

/-- the driver prints `ls=ok` exactly when `lsAccept` holds -/
theorem lsFirstBad_none_iff (rank : Nat → Nat) (h : Held) (i : Nat) (tr : List Ev) :
    lsFirstBad rank h i tr = none ↔ (lsRun rank h tr).isSome = true := by
  induction tr generalizing h i with
  | nil => simp [lsFirstBad, lsRun]
  | cons e es ih =>
    simp only [lsFirstBad, lsRun]
    cases hs : lsStep rank h e with
    | none => simp
    | some h' => simpa using ih h' (i + 1)

/-- **Lazy evaluation is linearizable**: for every schedule of every number of threads (each thread
`t` forcing through its handle `hd t`; handles may be shared or be copies), in every reachable
state: answers are the serial value `T V`, forced handles hold that leaf, the Boolean ran at most
once, and a finished thread has the value, a leaf `pNode_`, and the Boolean ran exactly once. -/
theorem lazy_eval_linearizable (V : Nat) (T : Nat → Nat) (hd : Nat → Nat) (sched : List Nat) :
    let s := MV.LazyEval.run V T hd MV.LazyEval.init sched
    (∀ t v, (s.th t).res = some v → v = T V) ∧
    (∀ h v, s.pnode h = .leaf v → v = T V ∧ s.cache = some (T V)) ∧
    s.evals ≤ 1 ∧
    (∀ t, (s.th t).pc = 10 →
      (s.th t).res = some (T V) ∧ s.pnode (hd t) = .leaf (T V) ∧ s.evals = 1) := by
  intro s
  have h : MV.LazyEval.Inv V T hd s := MV.LazyEval.run_inv sched (MV.LazyEval.init_inv V T hd)
  have G := h.glob
  refine ⟨fun t v hv => ((h.loc t).res v hv).1, G.pn, ?_, fun t ht => ?_⟩
  · cases hca : s.cache with
    | none => rw [(G.cn hca).1]; exact Nat.zero_le 1
    | some w => rw [(G.cs w hca).2.1]; exact Nat.le_refl 1
  · have h9 := (h.loc t).p9 (Or.inr ht)
    exact ⟨h9.1, h9.2, (G.cs _ ((h.loc t).res _ h9.1).2).2.1⟩

/-- three threads, two of them sharing a handle, round-robin: all finish with the serial value -/
example :
    let s := MV.LazyEval.run 7 (· + 100) (· % 2) MV.LazyEval.init
      ((List.range 60).map (· % 3))
    (s.th 0).pc = 10 ∧ (s.th 1).pc = 10 ∧ (s.th 2).pc = 10 ∧ s.evals = 1 ∧
      (s.th 2).res = some 107 := by decide +kernel

theorem lazy_eval_no_deadlock (V : Nat) (T : Nat → Nat) (hd : Nat → Nat) (sched : List Nat) (t : Nat) :
    let s := MV.LazyEval.run V T hd MV.LazyEval.init sched
    (s.th t).pc ≠ 10 → MV.LazyEval.enabled hd s t = false →
    ∃ u, u ≠ t ∧ MV.LazyEval.enabled hd s u = true ∧ 1 ≤ (s.th u).pc ∧ (s.th u).pc < 10 :=
  (MV.LazyEval.run_inv sched (MV.LazyEval.init_inv V T hd)).no_deadlock t

theorem lazy_eval_mutex (V : Nat) (T : Nat → Nat) (hd : Nat → Nat) (sched : List Nat) :
    let s := MV.LazyEval.run V T hd MV.LazyEval.init sched
    (∀ t u, t ≠ u → (s.th t).pc ∈ [3, 5, 7] → (s.th u).pc ∈ [3, 5, 7] → False) ∧
    (∀ t u, t ≠ u → hd t = hd u → 1 ≤ (s.th t).pc → (s.th t).pc ≤ 9 →
      1 ≤ (s.th u).pc → (s.th u).pc ≤ 9 → False) := by
  intro s
  have h : MV.LazyEval.Inv V T hd s := MV.LazyEval.run_inv sched (MV.LazyEval.init_inv V T hd)
  -- two threads in such a section would own the same lock
  constructor
  · intro t u htu ht hu
    simp only [List.mem_cons, List.mem_nil_iff, or_false] at ht hu
    have h2 := (h.loc u).gl.1 hu
    rw [(h.loc t).gl.1 ht] at h2
    exact htu (Option.some.inj h2)
  · intro t u htu hhd ht1 ht9 hu1 hu9
    have h2 := (h.loc u).hl.1 ⟨hu1, hu9⟩
    rw [← hhd, (h.loc t).hl.1 ⟨ht1, ht9⟩] at h2
    exact htu (Option.some.inj h2)

/-- **`std::scoped_lock` over two mutexes never deadlocks**, for any number of threads, any pairs
of distinct locks and every interleaving: a thread that is stuck waits for a thread that can move. -/
theorem two_lock_no_deadlock (prog : Nat → MV.TwoLock.Prog)
    (hne : ∀ t a b, prog t = .two a b → a ≠ b) (sched : List Nat) (t : Nat) :
    let s := MV.TwoLock.run prog MV.TwoLock.init sched
    (s.th t).pc ≠ .fin → MV.TwoLock.enabled prog s t = false →
    ∃ u, u ≠ t ∧ MV.TwoLock.enabled prog s u = true ∧
      ((s.th u).pc = .first ∨ (s.th u).pc = .crit) :=
  -- (`hne` is not needed: the invariant also survives a degenerate `two a a`)
  have _ := hne
  (MV.TwoLock.inv_run prog sched _ (MV.TwoLock.inv_init prog)).progress t

theorem two_lock_mutex (prog : Nat → MV.TwoLock.Prog)
    (hne : ∀ t a b, prog t = .two a b → a ≠ b) (sched : List Nat) (t u : Nat) (htu : t ≠ u) :
    let s := MV.TwoLock.run prog MV.TwoLock.init sched
    (s.th t).pc = .crit → (s.th u).pc = .crit →
    ∀ l, l ∈ MV.TwoLock.locksOf (prog t) → l ∈ MV.TwoLock.locksOf (prog u) → False :=
  MV.TwoLock.two_lock_mutex prog hne sched t u htu

/-- `x = y` on one thread against `y = x` on another: after the schedule 0,1,0,1 thread 1 is inside
its critical section and thread 0 has backed off (it holds nothing) -/
example :
    let prog : Nat → MV.TwoLock.Prog := fun t => if t = 0 then .two 0 1 else .two 1 0
    let s := MV.TwoLock.run prog MV.TwoLock.init [0, 1, 0, 1]
    (s.th 1).pc = .crit ∧ (s.th 0).pc = .idle ∧ s.owner 0 = some 1 ∧ s.owner 1 = some 1 := by
  decide

/-- **Ranked nesting cannot deadlock.** -/
theorem rank_no_deadlock (rank : Nat → Nat) (ths : List MV.LockOrder.TSt)
    (hwait : ∀ th ∈ ths, ∀ l, th.wait = some l → ∃ th' ∈ ths, l ∈ th'.held)
    (hrank : ∀ th ∈ ths, ∀ l, th.wait = some l → ∀ h ∈ th.held, rank h < rank l)
    (hsome : ∃ th ∈ ths, th.wait ≠ none) :
    ∃ th ∈ ths, th.wait = none ∧ th.held ≠ [] :=
  MV.LockOrder.rank_no_deadlock rank ths hwait hrank hsome

example : ∃ th ∈ [(⟨[0], some 1⟩ : MV.LockOrder.TSt), ⟨[1, 2], none⟩], th.wait = none ∧ th.held ≠ [] :=
  rank_no_deadlock id _ (by simp) (by simp) (by simp)

/-- **Reserved ID ranges are disjoint** for every order in which the `fetch_add`s of all threads
reach the counter. -/
theorem reserveIDs_disjoint (c : Nat) (ns : List Nat) : rangesDisjoint (reserveAll c ns) = true := by
  induction ns generalizing c with
  | nil => rfl
  | cons n ns ih =>
    simp only [reserveAll, rangesDisjoint, Bool.and_eq_true, List.all_eq_true, Bool.or_eq_true,
      decide_eq_true_eq]
    refine ⟨fun p hp => ?_, ih (c + n)⟩
    have := reserveAll_ge (c + n) ns p hp
    omega

/-- … and what `rangesDisjoint` (hence `idsAccept` on a real trace) decides is disjointness. -/
theorem idsAccept_iff (tr : List Ev) :
    idsAccept tr = true ↔ (faddRanges tr).Pairwise
      (fun p q => ∀ id, p.1 ≤ id → id < p.1 + p.2 → q.1 ≤ id → id < q.1 + q.2 → False) :=
  rangesDisjoint_iff (faddRanges tr)

theorem reserveIDs_cover (c : Nat) (ns : List Nat) (id : Nat) (h1 : c ≤ id) (h2 : id < c + ns.sum) :
    ∃ p ∈ reserveAll c ns, p.1 ≤ id ∧ id < p.1 + p.2 := by
  induction ns generalizing c with
  | nil => simp at h2; omega
  | cons n ns ih =>
    simp only [List.sum_cons] at h2
    by_cases hlt : id < c + n
    · exact ⟨(c, n), by simp [reserveAll], h1, hlt⟩
    · obtain ⟨p, hp, hp1, hp2⟩ := ih (c + n) (by omega) (by omega)
      exact ⟨p, by simp [reserveAll, hp], hp1, hp2⟩

example : reserveAll 1 [3, 0, 2, 5] = [(1, 3), (4, 0), (4, 2), (6, 5)] ∧
    rangesDisjoint (reserveAll 1 [3, 0, 2, 5]) = true ∧ rangesDisjoint [(1, 3), (3, 1)] = false := by
  decide

end MV.C06
