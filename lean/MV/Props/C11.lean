import MV.Model.Sweep2
import MV.Gen.WindRule
import MV.Proof.Sweep2Wind
import MV.Proof.Sweep2PolySet
import MV.Proof.Sweep2Vert
import MV.Proof.Sweep2Walk
import MV.Proof.ListArray
/-!
# C11 — CrossSections are regularised; 2-D Booleans compute the set operation

Theorems about the multiplicity logic of `src/boolean2_sweep.cpp` / `src/boolean2.cpp`
(models: `MV/Model/Sweep2.lean`; regenerated copies of the switch and of the seeding/emission
expressions: `MV/Gen/WindRule.lean`).

What is proved (all inputs): the fill rules on all integers; the emitted boundary of a status
column is the coboundary of the fill indicator (so the output winds 0/1 and is 1 exactly where the
rule holds); the seeded `PolySet2` depends only on the multiset of input edges modulo reversal
(operand order is immaterial for union/intersection, Subtract is Add of the reversed operand);
on one vertical line (`mergeLine`, what `MergeVerticals1D` does to one `x`-group; nothing is stated about the
grouping) the merge preserves the signed coverage and emits disjoint sorted intervals; in a balanced directed multigraph the loop extraction never gets stuck, for every
tie-breaking rule.

NOT proved here (exercised by `harness/c11_cross.cpp` only): that the floating-point sweep keeps
the status in the geometric order (Bentley–Ottmann completeness under rounding, block rule), the
eps-preprocessing (`MergeVerts`, incidence split).
-/
namespace MV.C11
open MV.Sweep2

/-! ## (a) the winding rules -/

/-- the switch regenerated from the source equals the hand model on the table −4..4 … -/
theorem isInside_table :
    (allRules.all fun r => (List.range 9).all fun i =>
      MV.Gen.WindRule.isInside r ((i : Int) - 4) == isInside r ((i : Int) - 4)) = true := by
  decide

/-- … and, since both are built from the code's comparisons, on ALL integers; together with
    the regenerated `bSign`/`rule` selection of `Boolean2D`, the operand multiplicities of
    `ApplyFillRule` and the orientation expression of `EmitBoundary`. -/
theorem gen_eq_model :
    (∀ r w, MV.Gen.WindRule.isInside r w = isInside r w)
    ∧ (∀ op, MV.Gen.WindRule.bSign op = bSign op)
    ∧ (∀ op, MV.Gen.WindRule.ruleOf op = ruleOf op)
    ∧ (∀ sgn, MV.Gen.WindRule.multA sgn = 1 ∧ MV.Gen.WindRule.multB sgn = sgn)
    ∧ (∀ r fwd b a, MV.Gen.WindRule.emitRaw r fwd b a = emitRaw r fwd b a)
    ∧ MV.Gen.WindRule.enumerators = ["Add", "Intersect", "EvenOdd"] := by
  have h1 : ∀ r w, MV.Gen.WindRule.isInside r w = isInside r w := by
    intro r w; cases r <;> rfl
  refine ⟨h1, ?_, ?_, ?_, ?_, ?_⟩
  · intro op; cases op <;> rfl
  · intro op; cases op <;> rfl
  · intro sgn; exact ⟨rfl, rfl⟩
  · intro r fwd b a
    unfold MV.Gen.WindRule.emitRaw emitRaw
    simp only [h1] <;> (cases isInside r b <;> cases isInside r a <;> cases fwd <;> rfl)
  · rfl

/-- the rules as predicates on every integer winding: positive / greater than one / odd;
    `Add` and `Intersect` are monotone, `EvenOdd` is 2-periodic, winding 0 is never filled. -/
theorem isInside_spec :
    (∀ w, isInside .add w = true ↔ 0 < w)
    ∧ (∀ w, isInside .intersect w = true ↔ 1 < w)
    ∧ (∀ w, isInside .evenOdd w = true ↔ w % 2 = 1)
    ∧ (∀ w w', w ≤ w' → isInside .add w = true → isInside .add w' = true)
    ∧ (∀ w w', w ≤ w' → isInside .intersect w = true → isInside .intersect w' = true)
    ∧ (∀ w, isInside .evenOdd (w + 2) = isInside .evenOdd w)
    ∧ (∀ r, isInside r 0 = false) :=
  ⟨isInside_add, isInside_intersect, isInside_evenOdd,
   fun w w' h hw => by rw [isInside_add] at *; omega,
   fun w w' h hw => by rw [isInside_intersect] at *; omega,
   fun w => Bool.eq_iff_iff.mpr (by rw [isInside_evenOdd, isInside_evenOdd]; omega), isInside_zero⟩

example : isInside .evenOdd (-1) = true ∧ isInside .add (-1) = false ∧ isInside .intersect 2 = true := by
  decide

/-- `Boolean2D` on regularised operands (winding 0/1 each) is the set formula. -/
theorem boolean_is_set_formula (a b : Int) (ha : a = 0 ∨ a = 1) (hb : b = 0 ∨ b = 1) :
    opInside .add a b = (decide (a = 1) || decide (b = 1))
    ∧ opInside .subtract a b = (decide (a = 1) && !decide (b = 1))
    ∧ opInside .intersect a b = (decide (a = 1) && decide (b = 1)) := by
  rcases ha with rfl | rfl <;> rcases hb with rfl | rfl <;> decide

example : opInside .subtract 1 1 = false ∧ opInside .subtract 1 0 = true ∧ opInside .intersect 1 1 = true := by
  decide

/-- `BatchBoolean` Add/Subtract concatenates all clips into one operand whose winding is the SUM
    of the clips' 0/1 windings (they may overlap): still the union / the difference of the union. -/
theorem batch_is_set_formula (a : Int) (bs : List Int) (ha : a = 0 ∨ a = 1)
    (hb : ∀ b ∈ bs, b = 0 ∨ b = 1) :
    (batchInside .add a bs = true ↔ a = 1 ∨ ∃ b ∈ bs, b = 1)
    ∧ (batchInside .subtract a bs = true ↔ a = 1 ∧ ∀ b ∈ bs, b = 0) := by
  have hs := sum_zero_one_nonneg bs hb
  have hp := sum_zero_one_pos_iff bs hb
  have hz : (∀ b ∈ bs, b = 0) ↔ ¬ ∃ b ∈ bs, b = 1 := by
    constructor
    · rintro h ⟨b, hb1, hb2⟩; have := h b hb1; omega
    · intro h b hb1
      rcases hb b hb1 with h0 | h1
      · exact h0
      · exact absurd ⟨b, hb1, h1⟩ h
  constructor
  · have e : batchInside .add a bs = isInside .add (a + 1 * bs.sum) := rfl
    rw [e, isInside_add, ← hp]
    rcases ha with rfl | rfl <;> omega
  · have e : batchInside .subtract a bs = isInside .add (a + (-1) * bs.sum) := rfl
    rw [e, isInside_add, hz, ← hp]
    rcases ha with rfl | rfl <;> omega

example : batchInside .add 0 [0, 1, 1] = true ∧ batchInside .subtract 1 [1, 1] = false
    ∧ batchInside .subtract 1 [0, 0] = true := by decide

/-! ## (b) EmitBoundary is the coboundary of the fill indicator -/

/-- For every status column (`ms` = lex-forward multiplicities bottom to top, entered with running
    winding `w` = the sum over the strictly-under edges) and either hand-over direction `fwd`:
    every stored sign is −1, 0 or +1 and the sum of the signs up to gap `k` is
    `[rule W_k] − [rule w]` where `W_k = w + Σ_{j<k} m_j`. -/
theorem emit_is_coboundary (rule : WindRule) (fwd : Bool) (w : Int) (ms : List Int) :
    (emitFrom rule fwd w ms).length = ms.length
    ∧ (∀ e ∈ emitFrom rule fwd w ms, e = -1 ∨ e = 0 ∨ e = 1)
    ∧ ∀ k, ((emitFrom rule fwd w ms).take k).sum
        = ind (isInside rule (w + (ms.take k).sum)) - ind (isInside rule w) :=
  ⟨emitFrom_length rule fwd w ms, emitFrom_mem_range rule fwd w ms, emitFrom_prefix_sum rule fwd w ms⟩

/-- Hence for a whole column (entered at winding 0): the winding number of the OUTPUT in every
    gap is the indicator of the filled set — 0 or 1 everywhere, and 1 exactly where the rule holds
    on the input winding. -/
theorem output_winding_is_indicator (rule : WindRule) (ms : List Int) (k : Nat) :
    let wOut := ((emitColumn rule ms).take k).sum
    (wOut = 0 ∨ wOut = 1) ∧ (wOut = 1 ↔ isInside rule ((ms.take k).sum) = true) := by
  have h := emitFrom_prefix_sum rule true 0 ms k
  simp only [isInside_zero, ind, Int.zero_add] at h
  simp only [emitColumn, h]
  cases isInside rule (ms.take k).sum <;> simp

/-- the direction in which `ProcessEvent` hands a piece to `EmitBoundary` does not matter -/
theorem emit_direction_irrelevant (rule : WindRule) (fwd : Bool) (below above : Int) :
    emitLex rule fwd below above = emitSign rule below above := emitLex_eq_emitSign rule fwd below above

example : emitColumn .add [1, 1, -1, -1] = [1, 0, 0, -1]
    ∧ emitColumn .evenOdd [1, 1, -1, -1] = [1, -1, 1, -1]
    ∧ emitColumn .intersect [1, 1, -1, -1] = [0, 1, -1, 0]
    ∧ emitFrom .add false 2 [-1, -1, -1] = [0, -1, 0] := by decide

/-! ## (c) PolySet2 -/

/-- The seeded `PolySet2` is a function of the multiset of input edges: any permutation of the
    edge list gives the identical map (same entries in the same iteration order). -/
theorem polyset_perm {es fs : List DEdge} (h : es.Perm fs) : ofEdges es = ofEdges fs :=
  ofEdges_ext (fun k => h.sum_map_int (contrib · k))

/-- Reversing an edge is negating its multiplicity; an edge and its reverse cancel; zero-length
    and zero-multiplicity edges vanish. -/
theorem polyset_cancel (a b : Pt) (m : Int) (es : List DEdge) :
    ofEdges ((b, a, -m) :: es) = ofEdges ((a, b, m) :: es)
    ∧ ofEdges ((a, b, m) :: (b, a, m) :: es) = ofEdges es
    ∧ ofEdges ((a, b, m) :: (a, b, -m) :: es) = ofEdges es
    ∧ ofEdges ((a, a, m) :: es) = ofEdges es
    ∧ ofEdges ((a, b, 0) :: es) = ofEdges es := by
  refine ⟨?_, ?_, ?_, ?_, ?_⟩ <;> apply ofEdges_ext <;> intro k <;>
    simp only [List.map_cons, List.sum_cons]
  · rw [contrib_reverse]
  · have := contrib_reverse a b (-m) k
    have h2 := contrib_neg a b m k
    simp only [Int.neg_neg] at this
    omega
  · have h2 := contrib_neg a b m k
    omega
  · rw [contrib_degenerate]; omega
  · rw [contrib_zero]; omega

/-- the map is in canonical form: keys strictly increasing in `PairLexLess`, no zero entry;
    and the stored multiplicity of a key is the signed count of the input edges on it. -/
theorem polyset_canonical (es : List DEdge) :
    Canon (ofEdges es) ∧ ∀ k, mult (ofEdges es) k = (es.map (contrib · k)).sum :=
  ⟨canon_ofEdges es, mult_ofEdges es⟩

/-- seeding is symmetric in the operands for Add and Intersect (both use `bSign = +1`) -/
theorem polyset_union_comm (a b : List (List Pt)) : seed a b (bSign .add) = seed b a (bSign .add) :=
  polyset_perm List.perm_append_comm

theorem polyset_inter_comm (a b : List (List Pt)) :
    seed a b (bSign .intersect) = seed b a (bSign .intersect) :=
  polyset_perm List.perm_append_comm

/-- `Boolean2D(a, b, Subtract)` = the Add rule on `a` plus `b` with multiplicity −1, and that
    seeds the same `PolySet2` as `a` plus `b` with every edge reversed. -/
theorem subtract_is_add_with_negated_B (a b : List (Pt × Pt)) :
    ruleOf .subtract = .add ∧ bSign .subtract = -1
    ∧ seedEdges a b (-1) = seedEdges a (b.map fun e => (e.2, e.1)) 1 := by
  refine ⟨rfl, rfl, ?_⟩
  apply ofEdges_ext
  intro k
  simp only [List.map_append, List.sum_append, List.map_map]
  congr 2
  exact List.map_congr_left fun e _ => contrib_reverse e.2 e.1 1 k

example : ofEdges [((0, 0), (1, 0), 1), ((1, 0), (0, 0), 1), ((2, 0), (1, 5), 3), ((1, 5), (2, 0), -1)]
    = [(((1, 5), (2, 0)), -4)] := by decide

example : seed [[(0, 0), (2, 0), (2, 2)]] [[(0, 0), (2, 2), (0, 2)]] 1
    = seed [[(0, 0), (2, 2), (0, 2)]] [[(0, 0), (2, 0), (2, 2)]] 1 := by decide

/-! ## (d) MergeVerticals1D -/

/-- both ends of every emitted interval are ends of input intervals -/
theorem mergeLine_endpoints (segs : List (Int × Int × Int)) :
    ∀ s ∈ mergeLine segs, (∃ t ∈ segs, s.1 = t.1 ∨ s.1 = t.2.1) ∧ ∃ t ∈ segs, s.2.1 = t.1 ∨ s.2.1 = t.2.1 := by
  intro s h
  obtain ⟨_, h0, _, _, e1, he1, h1⟩ :=
    (scan_shape _ 0 none (dsorted_deltaOf segs) fun _ h => nomatch h).1 s h
  obtain ⟨e0, he0, h0⟩ := h0.resolve_left fun h => nomatch h
  rw [h0, h1]
  exact ⟨keys_deltaOf segs e0 he0, keys_deltaOf segs e1 he1⟩

/-- On one vertical line: the emitted intervals are non-degenerate, non-zero, sorted and
    pairwise disjoint (each ends where or before the next starts), their endpoints are input
    endpoints, and at every `y` that is not an input endpoint the signed coverage is unchanged. -/
theorem verticals_coverage (segs : List (Int × Int × Int)) (hwf : ∀ s ∈ segs, s.1 < s.2.1) :
    (∀ s ∈ mergeLine segs, s.1 < s.2.1 ∧ s.2.2 ≠ 0)
    ∧ (mergeLine segs).Pairwise (fun a b => a.2.1 ≤ b.1)
    ∧ (∀ s ∈ mergeLine segs, ∃ t ∈ segs, s.2.1 = t.1 ∨ s.2.1 = t.2.1)
    ∧ ∀ y, (∀ s ∈ segs, y ≠ s.1 ∧ y ≠ s.2.1) → cov (mergeLine segs) y = cov segs y := by
  have hs := dsorted_deltaOf segs
  have hshape := scan_shape (deltaOf segs) 0 none hs fun _ h => nomatch h
  refine ⟨fun s h => ⟨(hshape.1 s h).2.2.1, (hshape.1 s h).2.2.2.1⟩, hshape.2,
    fun s h => (mergeLine_endpoints segs s h).2, ?_⟩
  intro y hy
  have hyd : ∀ e ∈ deltaOf segs, y ≠ e.1 := by
    intro e he
    obtain ⟨t, ht, hk⟩ := keys_deltaOf segs e he
    have := hy t ht
    omega
  unfold mergeLine
  rw [cov_scan _ 0 none y hs (fun _ h => nomatch h) (fun _ => rfl) hyd (by rw [dsum_true_deltaOf]; rfl),
    if_pos fun _ h => nomatch h]
  exact (Int.zero_add _).trans (dsum_lt_deltaOf segs hwf y hy)

example : mergeLine [(0, 4, 1), (2, 6, 1), (1, 3, -1), (6, 8, 2), (8, 9, -1), (8, 9, 1)]
    = [(0, 1, 1), (2, 3, 1), (3, 4, 2), (4, 6, 1), (6, 8, 2)] := by decide

/-! ## (e) closed walks -/

/-- In a finite directed multigraph in which every vertex has as many out-edges as in-edges,
    the extraction loop of `OutEdgesToPolygons` — with ANY rule for picking the next unused
    out-edge (`choose`; the code's smallest-CCW-turn rule is one instance) — never gets stuck:
    every walk returns to its start vertex, every edge is consumed exactly once, and the loops
    partition the edge set into closed walks. -/
theorem closed_walks (es : Graph) (choose : Nat → List Nat → Nat)
    (hbal : ∀ v, outdeg es v = indeg es v) :
    let r := extractAll es choose
    r.allClosed = true
    ∧ r.visited.Perm (List.range es.length)
    ∧ r.loops.flatten.Perm (List.range es.length)
    ∧ ∀ l ∈ r.loops, l ≠ [] ∧ ∃ s, WalkFromTo es s l s := by
  have h0 : ExtractOk es ⟨[], true, []⟩ := by
    refine ⟨rfl, List.nodup_nil, by simp, ?_, by simp, by simp⟩
    intro v
    have := hbal v
    simpa [outU, inU, outdeg, indeg] using this
  obtain ⟨hok, hall⟩ := extractFrom_spec es choose (List.range es.length) _
    (fun e he => List.mem_range.mp he) h0
  have hvis : (extractAll es choose).visited.Perm (List.range es.length) := by
    unfold extractAll
    rw [List.perm_ext_iff_of_nodup hok.nodup List.nodup_range]
    exact fun a => ⟨fun ha => List.mem_range.mpr (hok.bound a ha), fun ha => hall.1 a ha⟩
  exact ⟨hok.allClosed, hvis, hok.perm.trans hvis, hok.loops⟩

/-- a bow-tie (two triangles sharing vertex 0) with the worst possible oracle (always the last
    candidate): still two closed walks using all six edges -/
example : (extractAll [(0, 1), (1, 2), (2, 0), (0, 3), (3, 4), (4, 0)] (fun _ cs => cs.getLastD 0)).allClosed = true
    ∧ (extractAll [(0, 1), (1, 2), (2, 0), (0, 3), (3, 4), (4, 0)] (fun _ cs => cs.getLastD 0)).loops
        = [[0, 1, 2], [3, 4, 5]] := by decide

/-- `PushSimpleLoops`: whatever walks were extracted, every polygon handed out has at least three
    vertices and repeats no vertex id (a contour is vertex-simple). -/
theorem simple_loops (verts : List Pt) (es : Graph) :
    ∀ l ∈ (outEdgesToPolygons verts es).1, l.Nodup ∧ 3 ≤ l.length := by
  unfold outEdgesToPolygons
  simp only
  generalize ((extractAll es (pickCcw verts es)).loops.map fun l => l.map es.v0) = loopsV
  refine List.foldlRecOn (motive := fun out : List (List Nat) => ∀ x ∈ out, x.Nodup ∧ 3 ≤ x.length) loopsV _
    (by simp) fun out h l _ => ?_
  by_cases h3 : l.length ≥ 3
  · rw [if_pos h3]; exact pushSimpleLoops_simple _ l out (Nat.le_refl _) h
  · rw [if_neg h3]; exact h

/-- a walk that passes twice through vertex 0 is cut into two simple triangles -/
example : pushSimpleLoops 6 [0, 1, 2, 0, 3, 4] [] = [[0, 1, 2], [0, 3, 4]] := by decide

/-! ## pixel semantics (the executable specification used by the harness) -/

theorem pixel_union_comm (a b : Expr) (i j : Int) :
    pixelIn (.bin .add a b) i j = pixelIn (.bin .add b a) i j := by
  simp only [pixelIn]; exact Bool.or_comm _ _

theorem pixel_inter_comm (a b : Expr) (i j : Int) :
    pixelIn (.bin .intersect a b) i j = pixelIn (.bin .intersect b a) i j := by
  simp only [pixelIn]; exact Bool.and_comm _ _

/-- a pixel is listed by `pixelEval` iff it is in the window and belongs to the denoted set (membership only:
    that each is listed once, so that the length is the pixel count, is not stated) -/
theorem pixelEval_mem (lo hi : Int) (e : Expr) (i j : Int) :
    (i, j) ∈ pixelEval lo hi e ↔ (lo ≤ i ∧ i < hi ∧ lo ≤ j ∧ j < hi) ∧ pixelIn e i j = true := by
  unfold pixelEval
  simp only [List.mem_flatMap, List.mem_filterMap, List.mem_range, Int.lt_toNat]
  constructor
  · rintro ⟨dj, hdj, di, hdi, h⟩
    split at h
    · rename_i hp
      simp only [Option.some.injEq, Prod.mk.injEq] at h
      obtain ⟨rfl, rfl⟩ := h
      exact ⟨by omega, hp⟩
    · simp at h
  · rintro ⟨⟨h1, h2, h3, h4⟩, hp⟩
    have ei : lo + ((i - lo).toNat : Int) = i := by rw [Int.toNat_of_nonneg (by omega)]; omega
    have ej : lo + ((j - lo).toNat : Int) = j := by rw [Int.toNat_of_nonneg (by omega)]; omega
    refine ⟨(j - lo).toNat, by omega, (i - lo).toNat, by omega, ?_⟩
    simp only [ei, ej, hp, if_true]

/-- one decided instance: the rectangle `[1,4)×[2,7)` has `3·5` pixels in the window `[-2,10)²` -/
theorem pixel_area_rect_example :
    (pixelEval (-2) 10 (.rect 1 2 4 7)).length = (4 - 1) * (7 - 2) := by decide

example : pixelEval 0 4 (.bin .subtract (.rect 0 0 3 3) (.rot90 (.rect 0 (-2) 2 (-1))))
    = [(0, 0), (2, 0), (0, 1), (2, 1), (0, 2), (1, 2), (2, 2)] := by decide

end MV.C11
