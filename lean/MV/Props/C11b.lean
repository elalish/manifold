import MV.Model.Arrange2
import MV.Proof.Arrange2Adj
import MV.Proof.Arrange2Queue
/-!
# C11b — the arrangement pass of the 2-D sweep: event queue, status, adjacency tests

Theorems about `MV/Model/Arrange2.lean`, the transliteration of `class SweepPass`
(`src/boolean2_sweep.cpp`: `PendingAdd`, `Classify`, `GradientLess`, `EmitBoundary`, `SplitAt`, `TestPair`,
`ProcessEvent`, `Run`).  The three floating-point kernels (`YAtX` comparisons, the sign of the gradient cross
product, the constructed crossing point) are ORACLE arguments; every theorem quantifies over all oracles, all
states (every status size) and all event points; hypotheses about an oracle are stated explicitly.

* `adjacency_complete`, `adjacency_tests_reach_the_pair`: the Bentley–Ottmann adjacency invariant of
  `ProcessEvent` — every neighbour pair of the new status that was not a neighbour pair before either leaves the
  event point together (shares an end point: `TestPair` would return at once) or is passed to `TestPair`,
  wherever the pair sits (bottom, middle, top of the status).
* `status_sorted_invariant`: re-insertion and removal keep the status ordered.
* `events_processed_in_order`: the event queue is consumed in strictly increasing lexicographic order as long as
  every constructed crossing lies after the event at which it is found (the model's `ahead` flag, recomputed on
  every replayed run of the real code).
* `no_missed_crossing_partial`: the combinatorial half of "no crossing is missed", with the geometric half named.
-/
namespace MV.C11b
open MV.Sweep2 MV.Arr2

/-! ## the adjacency tests -/

/-- **adjacency_complete.** For EVERY classification / gradient / crossing oracle, every status and every event
    point: let `x, y` be neighbours (positions `i, i+1`) in the status right after the re-insertion of
    `ProcessEvent(p)`. Then (1) `x, y` were already neighbours before the event, or (2) both leave `p` (the
    re-inserted block: they share their left end point, which `TestPair` never needs to test), or (3) the call
    `TestPair(i, i+1)` is issued.  No assumption on where the pair sits: `i = 0` (bottom) and
    `i + 2 = status_.size()` (top) are included. -/
theorem adjacency_complete (o : Oracle) (mode : Mode) (rule : WindRule) (st : St) (p : Pt)
    (i : Nat) (x y : SEdge)
    (hx : (prepare o mode rule st p).mid.status[i]? = some x)
    (hy : (prepare o mode rule st p).mid.status[i + 1]? = some y) :
    Adj st.status x.seq y.seq
    ∨ (x.l = p ∧ y.l = p)
    ∨ (i, i + 1) ∈ adjacencyTests (prepare o mode rule st p).lo (prepare o mode rule st p).k
        (prepare o mode rule st p).removedAny := by
  have hlh := prepare_lo_le_hi o mode rule st p
  have hhn := prepare_hi_le o mode rule st p
  rw [prepare_status] at hx hy
  rw [prepare_k, prepare_removedAny]
  generalize (prepare o mode rule st p).lo = lo at *
  generalize (prepare o mode rule st p).hi = hi at *
  -- the old status is `take lo ++ block ++ drop hi`, the new one has the sorted re-inserted edges for the block
  rcases splice_adjacent _ ((st.status.drop lo).take (hi - lo)) _ _ i x y hx hy with h | h | h
  · obtain ⟨j, h1, h2⟩ := h
    rw [← status_split st.status _ _ hlh] at h1 h2
    exact .inl ⟨j, x, y, h1, h2, rfl, rfl⟩
  · exact .inr (.inl ⟨(mem_reinsertOf o mode rule st p x ((sortReinsert_mem o _ x).mp h.1)).1,
      (mem_reinsertOf o mode rule st p y ((sortReinsert_mem o _ y).mp h.2)).1⟩)
  · refine .inr (.inr ?_)
    rw [List.length_take, List.length_take, List.length_drop, Nat.min_eq_left (Nat.le_trans hlh hhn),
      Nat.min_eq_left (Nat.sub_le_sub_right hhn lo)] at h
    rw [show decide (hi > lo) = decide (0 < hi - lo) from decide_eq_decide.mpr Nat.sub_pos_iff_lt.symm]
    exact h

/-- the call list of a pure end event (nothing re-inserted, something removed, an edge below): exactly the pair
    `(lo-1, lo)`, whatever the size of the status — in particular when `lo` is the top-most index -/
theorem adjacencyTests_pure_end (lo : Nat) (h : lo > 0) : adjacencyTests lo 0 true = [(lo - 1, lo)] := by
  simp [adjacencyTests, h]

/-- the call list after an insertion: the upper seam first, then the lower seam when there is an edge below -/
theorem adjacencyTests_insert (lo k : Nat) (rem : Bool) (hk : k > 0) :
    adjacencyTests lo k rem = (lo + k - 1, lo + k) :: (if lo > 0 then [(lo - 1, lo)] else []) := by
  simp [adjacencyTests, hk]

/-- **the tests reach the pair.** In arrangement mode, if no constructed crossing coincides with the left end of
    one of the two tested edges (`NoErase`: true whenever crossings lie strictly ahead of the sweep; then `SplitAt`
    only shortens edges), every new neighbour pair that does not leave `p` together has its two sequence numbers
    in the log of pairs that got past the index guard of `TestPair`, and the status at exit has the same edges
    (sequence number, left end) in the same order as the status after the re-insertion. -/
theorem adjacency_tests_reach_the_pair (o : Oracle) (hne : NoErase o) (rule : WindRule) (st : St) (p : Pt) :
    keys (processEvent o .arrangement rule st p).status = keys (prepare o .arrangement rule st p).mid.status
    ∧ ∀ (i : Nat) (x y : SEdge),
        (prepare o .arrangement rule st p).mid.status[i]? = some x →
        (prepare o .arrangement rule st p).mid.status[i + 1]? = some y →
        Adj st.status x.seq y.seq ∨ (x.l = p ∧ y.l = p)
        ∨ (x.seq, y.seq) ∈ (processEvent o .arrangement rule st p).tested := by
  refine ⟨(fold_tests o p _ _).keys hne, ?_⟩
  intro i x y hx hy
  rcases adjacency_complete o .arrangement rule st p i x y hx hy with h | h | h
  · exact Or.inl h
  · exact Or.inr (Or.inl h)
  · right; right
    exact fold_tested o hne p _ _ i (i + 1) x y (by omega) hx hy h

/-- a concrete instance: edges 1 and 2 end at `p = (5,5)`, edge 0 lies below,
    edge 3 above is the TOP-MOST edge; nothing starts at `p`. -/
def exO : Oracle :=
  { ycmp := fun lo _ _ => if lo.2 < 3 then -1 else 1
    crossSign := fun _ _ _ _ => 0
    crossing := fun al _ bl _ => if al = (0, 0) ∧ bl = (0, 9) then some (8, 6) else none }
def exSt : St := { St.empty with
  status := [⟨(0, 0), (10, 8), 1, 0⟩, ⟨(1, 4), (5, 5), 1, 1⟩, ⟨(1, 6), (5, 5), -1, 2⟩, ⟨(0, 9), (10, 7), 1, 3⟩]
  events := [(10, 7), (10, 8)], seq := 4 }

theorem exO_noErase : NoErase exO := by
  intro al ar bl br q h
  simp only [exO] at h
  split at h
  · next hc => cases h; rw [hc.1, hc.2]; decide
  · cases h

/-- non-vacuity: `lo = 1`, `k = 0`, the new status has two edges (so `lo + 1 = size`: the upper edge is top-most),
    and the pair (0, 3) is tested; the crossing (8,6) is queued and both edges are shortened to it -/
example :
    ((prepare exO .arrangement .add exSt (5, 5)).lo, (prepare exO .arrangement .add exSt (5, 5)).k,
      (prepare exO .arrangement .add exSt (5, 5)).mid.status.length) = (1, 0, 2)
    ∧ (processEvent exO .arrangement .add exSt (5, 5)).tested = [(0, 3)]
    ∧ (processEvent exO .arrangement .add exSt (5, 5)).events = [(8, 6), (10, 7), (10, 8)]
    ∧ (processEvent exO .arrangement .add exSt (5, 5)).status.map (·.r) = [(8, 6), (8, 6)] := by
  decide +kernel

example : ¬ Adj exSt.status 0 3 := by
  rintro ⟨i, x, y, h1, h2, h3, h4⟩
  match i with
  | 0 => simp [exSt] at h2; rw [← h2] at h4; simp at h4
  | 1 => simp [exSt] at h1; rw [← h1] at h3; simp at h3
  | 2 => simp [exSt] at h1; rw [← h1] at h3; simp at h3
  | 3 => simp [exSt] at h2
  | n + 4 => simp [exSt] at h1

/-! ## the status stays ordered -/

/-- **status_sorted_invariant.** `below` is any relation (the intended one: "is below, just right of the sweep
    point"). If the status is ordered, an UNDER edge is below and an OVER edge above every edge leaving `p`, and two
    edges leaving `p` are ordered by the gradient comparison — itself a total preorder — then the status after the
    removal of the block and the re-insertion (before the adjacency tests) is ordered.  With nothing re-inserted
    this is "removal keeps the status ordered". -/
theorem status_sorted_invariant (o : Oracle) (mode : Mode) (rule : WindRule) (st : St) (p : Pt)
    (below : SEdge → SEdge → Prop)
    (hsorted : st.status.Pairwise below)
    (htot : ∀ a b, (gradLE o a b || gradLE o b a) = true)
    (htr : ∀ a b c, gradLE o a b = true → gradLE o b c = true → gradLE o a c = true)
    (hU : ∀ e ∈ st.status, classify o e p = Side.under → ∀ f, f.l = p → below e f)
    (hO : ∀ e ∈ st.status, classify o e p = Side.over → ∀ f, f.l = p → below f e)
    (hG : ∀ a b, a.l = p → b.l = p → gradLE o a b = true → below a b) :
    (prepare o mode rule st p).mid.status.Pairwise below
    ∧ (∀ e ∈ st.status.take (prepare o mode rule st p).lo, classify o e p = Side.under)
    ∧ (∀ e ∈ st.status.drop (prepare o mode rule st p).hi, classify o e p = Side.over) := by
  have hA := fun e => classify_of_mem_take_lo o mode rule st p (e := e)
  have hC := fun e => classify_of_mem_drop_hi o mode rule st p (e := e)
  refine ⟨?_, hA, hC⟩
  have hlh := prepare_lo_le_hi o mode rule st p
  rw [prepare_status]
  rw [status_split st.status _ _ hlh] at hsorted
  have hs1 := List.pairwise_append.mp hsorted
  have hs2 := List.pairwise_append.mp hs1.1
  have hRl : ∀ e ∈ sortReinsert o (reinsertOf o mode rule st p), e.l = p :=
    fun e he => (mem_reinsertOf o mode rule st p e ((sortReinsert_mem o _ e).mp he)).1
  have hR : (sortReinsert o (reinsertOf o mode rule st p)).Pairwise below :=
    (pairwise_sortReinsert o htot htr _).imp_of_mem (fun ha hb h => hG _ _ (hRl _ ha) (hRl _ hb) h)
  refine List.pairwise_append.mpr ⟨List.pairwise_append.mpr ⟨hs2.1, hR, ?_⟩, hs1.2.1, ?_⟩
  · intro a ha r hr
    exact hU a (List.mem_of_mem_take ha) (hA a ha) r (hRl r hr)
  · intro x hx c hc
    rcases List.mem_append.mp hx with h | h
    · exact hs1.2.2 x (List.mem_append_left _ h) c hc
    · exact hO c (List.mem_of_mem_drop hc) (hC c hc) x (hRl x h)

/-- totality of the gradient order needs only that the cross-product sign is antisymmetric -/
theorem gradient_order_total (o : Oracle)
    (hanti : ∀ al ar bl br, o.crossSign bl br al ar = - o.crossSign al ar bl br) (a b : SEdge) :
    (gradLE o a b || gradLE o b a) = true := by
  have h := hanti a.l a.r b.l b.r
  simp only [gradLE, gradientLess, h, Bool.or_eq_true, Bool.not_eq_true', ne_eq, ite_not]
  generalize gradientRank a = ra
  generalize gradientRank b = rb
  generalize o.crossSign a.l a.r b.l b.r = c
  by_cases h1 : ra = rb
  · subst h1
    by_cases h2 : ra = 0 <;> by_cases h3 : c = 0 <;> simp [h2, h3] <;> omega
  · simp [h1, Ne.symm h1]; omega

/-- in the instance above nothing is re-inserted at `p`: the status after the re-insertion is the two survivors
    `[0, 3]` (by `seq`) -/
example : (prepare exO .arrangement .add exSt (5, 5)).mid.status.map (·.seq) = [0, 3] := by decide +kernel

/-! ## the event queue -/

/-- **events_processed_in_order.** Seed any edges, run any number of steps of `Run()` in either mode with any
    oracles: if the `ahead` flag is still set at the end (every crossing point constructed by `TestPair` was
    lexicographically after the event being processed), the events were processed in strictly increasing
    lexicographic order.  (Without the hypothesis the conclusion is false, also for the real code: a crossing
    rounded to just before the current event is popped next, see the `behind` counter of the harness.) -/
theorem events_processed_in_order (o : Oracle) (mode : Mode) (rule : WindRule) (fuel : Nat) (es : List DEdge)
    (hah : (run o mode rule fuel (seedAll es)).ahead = true) :
    ((runStates o mode rule fuel (seedAll es)).map (·.1)).Pairwise (fun a b => lexLess a b = true) := by
  cases hev : (seedAll es).events with
  | nil =>
    have : runStates o mode rule fuel (seedAll es) = [] := by
      cases fuel with
      | zero => rfl
      | succ n => simp [runStates, hev]
    rw [this]; exact List.Pairwise.nil
  | cons p' rest =>
    have hinv := seedAll_inv (p'.1 - 1, 0) es
    have hafter : After (p'.1 - 1, 0) (seedAll es) := by
      intro q hq
      rw [hev] at hq
      have h0 : lexLess (p'.1 - 1, 0) p' = true := by rw [lexLess_iff]; left; simp only; omega
      rcases List.mem_cons.mp hq with h | h
      · rw [h]; exact h0
      · have hs := hinv.sorted
        rw [hev] at hs
        exact lexLess_order.trans h0 ((List.pairwise_cons.mp hs).1 q h)
    exact (run_in_order o mode rule fuel (seedAll es) _ hinv hafter hah).1

/-- the queue invariant itself, for use by other proofs: after any prefix of the run that kept `ahead`, every live
    edge's pending end is a queued event and the queue is strictly ascending -/
theorem queue_invariant_step (o : Oracle) (mode : Mode) (rule : WindRule) (st : St) (p p' : Pt) (rest : List Pt)
    (h : Inv p st) (ha : After p st) (hev : st.events = p' :: rest)
    (hah : (processEvent o mode rule { st with events := rest } p').ahead = true) :
    Inv p' (processEvent o mode rule { st with events := rest } p')
    ∧ After p' (processEvent o mode rule { st with events := rest } p') :=
  processEvent_inv o mode rule _ p' (pop_preInv p p' rest st h ha hev) hah

/-- non-vacuity: two crossing segments (0,0)-(4,4) and (0,4)-(4,0) with the exact crossing (2,2) as oracle:
    five events, in order, flag kept, status drained -/
def exX : Oracle :=
  { ycmp := fun lo _ _ => if lo.2 = 0 then -1 else 1
    crossSign := fun _ ar _ br => if ar.2 < br.2 then 1 else if ar.2 > br.2 then -1 else 0
    crossing := fun al ar bl br => if al = (0, 0) ∧ ar = (4, 4) ∧ bl = (0, 4) ∧ br = (4, 0) then some (2, 2) else none }

example :
    (run exX .arrangement .add 10 (seedAll [((0, 0), (4, 4), 1), ((4, 0), (0, 4), 1)])).ahead = true
    ∧ (runStates exX .arrangement .add 10 (seedAll [((0, 0), (4, 4), 1), ((4, 0), (0, 4), 1)])).map (·.1)
        = [(0, 0), (0, 4), (2, 2), (4, 0), (4, 4)]
    ∧ (run exX .arrangement .add 10 (seedAll [((0, 0), (4, 4), 1), ((4, 0), (0, 4), 1)])).status = []
    ∧ (run exX .arrangement .add 10 (seedAll [((0, 0), (4, 4), 1), ((4, 0), (0, 4), 1)])).out
        = [(((0, 0), (2, 2)), 1), (((0, 4), (2, 2)), -1), (((2, 2), (4, 0)), -1), (((2, 2), (4, 4)), 1)] := by
  decide +kernel

/-! ## no missed crossing (partial) -/

theorem runStates_mem (o : Oracle) (mode : Mode) (rule : WindRule) (fuel : Nat) (st : St) (x : Pt × St × St)
    (h : x ∈ runStates o mode rule fuel st) : x.2.2 = processEvent o mode rule x.2.1 x.1 := by
  induction fuel generalizing st with
  | zero => simp [runStates] at h
  | succ n ih =>
    unfold runStates at h
    cases hev : st.events with
    | nil => simp [hev] at h
    | cons p rest =>
      simp only [hev] at h
      rcases List.mem_cons.mp h with h | h
      · rw [h]
      · exact ih _ h

/-- **no_missed_crossing_partial.**  Full statement wanted: *if the crossing oracle is exact, the status is
    geometrically ordered (hypotheses of `status_sorted_invariant` for the true "below" relation), the input is in
    general position w.r.t. the oracles (no crossing at an event point other than a queued one, every crossing
    strictly ahead of the event that finds it), then every proper crossing of two seeded edges is a queued event
    before the sweep passes it.*  Proved here is the combinatorial half, for every run of the arrangement pass with
    a non-erasing crossing oracle: at every event of the run, every pair of edges that is adjacent in the status at
    the exit of `ProcessEvent` was adjacent at its entry, or leaves the event point together, or has been handed to
    `TestPair` at this or an earlier event (`tested` is the log of the whole run).  By induction over the run, every pair that is ever adjacent has been tested at
    the moment it became adjacent.  NOT proved (the gap): the geometric half — that two edges that cross must become
    adjacent before their crossing point when the status is geometrically ordered (this needs the real-number
    geometry of segments, which the model does not have: its coordinates are only an order), and that the
    floating-point kernels realise such an order.  That half remains with the oracles on the real output. -/
theorem no_missed_crossing_partial (o : Oracle) (hne : NoErase o) (rule : WindRule) (fuel : Nat) (st : St)
    (x : Pt × St × St) (hmem : x ∈ runStates o .arrangement rule fuel st) (a b : Nat)
    (hadj : Adj x.2.2.status a b) :
    Adj x.2.1.status a b
    ∨ (∃ ea eb, ea ∈ x.2.2.status ∧ eb ∈ x.2.2.status ∧ ea.seq = a ∧ eb.seq = b ∧ ea.l = x.1 ∧ eb.l = x.1)
    ∨ (a, b) ∈ x.2.2.tested := by
  have hx := runStates_mem o .arrangement rule fuel st x hmem
  obtain ⟨hk, hall⟩ := adjacency_tests_reach_the_pair o hne rule x.2.1 x.1
  rw [← hx] at hk hall
  obtain ⟨i, ea, eb, h1, h2, h3, h4⟩ := hadj
  obtain ⟨xa, hm1, hsa, hla⟩ := getElem?_of_keys_eq hk h1
  obtain ⟨xb, hm2, hsb, hlb⟩ := getElem?_of_keys_eq hk h2
  rw [← h3, ← h4, ← hsa, ← hsb]
  refine (hall i xa xb hm1 hm2).imp_right (Or.imp_left fun h => ?_)
  exact ⟨ea, eb, List.mem_of_getElem? h1, List.mem_of_getElem? h2, hsa.symm, hsb.symm, by rw [← hla]; exact h.1,
    by rw [← hlb]; exact h.2⟩

/-- non-vacuity: in the run of `exX` the two segments become adjacent at the event (0,4) and are tested there -/
example :
    ((runStates exX .arrangement .add 10 (seedAll [((0, 0), (4, 4), 1), ((4, 0), (0, 4), 1)])).map
      (fun x => x.2.2.tested)) = [[], [(0, 1)], [(0, 1)], [(0, 1)], [(0, 1)]] := by
  decide +kernel

end MV.C11b
