import MV.Proof.Partition
import MV.Proof.PartitionCheck
import MV.Proof.PartitionTabT5
import MV.Proof.PartitionTabT6
import MV.Proof.PartitionTabT7
import MV.Proof.PartitionTabT8
import MV.Proof.PartitionTabQ3
import MV.Proof.PartitionTabQ4
/-!
# C19 — refinement keeps the surface; simplification only removes redundancy

Model: `MV/Model/Partition.lean` (`Partition::GetPartition`, `GetCachedPartition`, `PartitionQuad`,
`PartitionFan`, `Reindex` of src/subdivision.cpp:31-380; the exclusive scans and the triangle
assembly of `Manifold::Impl::Subdivide`, subdivision.cpp:564-669; the scalar logic of
`SetTolerance` / `Simplify` / `SetEpsilon`).  Checker: `MV/Model/PartitionCheck.lean`.

What is proved here
* for ALL inputs: `GetPartition` sorts a triangle's divisions descending by a recorded permutation
  and rotates a quad's so that a lexicographically least pair `(d[i], d[i+1])` comes first
  (`getPartition_sorts_tri`, `getPartition_rotates_quad`); the exclusive-scan offsets of `Subdivide` give pairwise disjoint
  index ranges that cover exactly the new vertices (`edge_offsets_disjoint_cover`); `PartitionFan`
  produces exactly the fan (`fan_valid`); a pattern accepted by the checker satisfies the `Prop`
  statement `PatternValid` (`checker_sound`) and therefore has `b + 2i - 2` triangles
  (`count_from_euler`); `SetTolerance` reports `max t epsilon` and `epsilon ≤ tolerance` is
  preserved by `SetTolerance`, `Simplify`, `SetEpsilon` (`tolerance_floor`).
* exhaustively up to the bound (the property's own quantifier), by kernel evaluation of the verified
  checker (the tables are stated with the model's own `checkCached`; what the kernel runs is its twin with the
  geometric half on numerators over a common denominator, which accepts no more, `MV/Proof/PartitionGeomNat.lean`)
  on the model with the integer-exact count decisions: every triangle pattern with
  divisions `1..8` in any order and every quad pattern with divisions `1..4` is valid
  (`partition_valid_tri_upto`, `partition_valid_quad_upto`), and `Refine(n)`'s pattern has `n²`
  triangles for `n ≤ 8` (`refine_count_upto`).

NOT proved (stated, not hidden): validity of the patterns beyond the bounds (the recursion of
`PartitionQuad` is only evaluated, not reasoned about; beyond the bound the harness's oracle and the
driver's run of the same checker cover sampled tuples up to 200); that `Dec.float` (the C++'s
`double` expressions) equals `Dec.exact` — checked by the driver on every tuple of the tables on
every run, false from 22 divisions on (ties of `round(lerp(..))`), which is why the tables are
about `Dec.exact`; that `PatternValid` implies a geometric tiling (degree argument: positively
oriented triangles whose boundary is the outer cycle and whose areas add up to the whole);
`Reindex` is modelled and tied but its injectivity / edge agreement is an oracle of the harness,
not a theorem; tangent interpolation (`InterpTri`), `SimplifyTopology2`'s geometry.
-/
namespace MV.C19
open MV.Partition

/-! ## `GetPartition` (all inputs) -/

/-- subdivision.cpp:53-65.  For every division triple the cache key is sorted descending, is the
input read through the recorded permutation `idx`, and `idx` is a permutation of `{0,1,2}`. -/
theorem getPartition_sorts_tri (d : I4) (h0 : d.a ≠ 0) (h3 : d.d = 0) (dec : Dec) :
    let p := getPartition dec d
    p.sorted.a ≥ p.sorted.b ∧ p.sorted.b ≥ p.sorted.c ∧ p.sorted.d = 0 ∧ p.idx.d = 3 ∧ isPerm3 p.idx ∧
    p.sorted.a = d.get p.idx.a.toNat ∧ p.sorted.b = d.get p.idx.b.toNat ∧ p.sorted.c = d.get p.idx.c.toNat := by
  have hs := sortTri_spec d
  rw [h3] at hs
  simp only [getPartition_eq dec d h0, sortDivisions_tri d h3, getCachedPartition_sorted]
  exact hs

example : (getPartition Dec.exact ⟨2, 5, 3, 0⟩).sorted = ⟨5, 3, 2, 0⟩ ∧ (getPartition Dec.exact ⟨2, 5, 3, 0⟩).idx = ⟨1, 2, 0, 3⟩ := by
  decide +kernel

/-- subdivision.cpp:67-85.  For every quad the cache key is the rotation of the input that starts
at a lexicographically least pair `(d[i], d[i+1])`, and `idx` records that rotation. -/
theorem getPartition_rotates_quad (d : I4) (h0 : d.a ≠ 0) (h3 : d.d ≠ 0) (dec : Dec) :
    let p := getPartition dec d
    let m := quadMinIdx d
    m < 4 ∧ p.sorted = ⟨d.get ((0 + m) % 4), d.get ((1 + m) % 4), d.get ((2 + m) % 4), d.get ((3 + m) % 4)⟩ ∧
    p.idx = ⟨Int.ofNat ((0 + m) % 4), Int.ofNat ((1 + m) % 4), Int.ofNat ((2 + m) % 4), Int.ofNat ((3 + m) % 4)⟩ ∧
    ∀ i, i < 4 → d.get m < d.get i ∨ (d.get m = d.get i ∧ d.get ((m + 1) % 4) ≤ d.get ((i + 1) % 4)) := by
  simp only [getPartition_eq dec d h0, sortDivisions_quad d h3, getCachedPartition_sorted]
  exact ⟨quadMinIdx_lt d, rfl, rfl, fun i hi => quadMinIdx_min d i hi⟩

example : (getPartition Dec.exact ⟨3, 2, 4, 2⟩).sorted = ⟨2, 3, 2, 4⟩ ∧ (getPartition Dec.exact ⟨3, 2, 4, 2⟩).idx = ⟨3, 0, 1, 2⟩ := by
  decide +kernel

/-! ## `Subdivide`'s exclusive scans (all inputs) -/

/-- subdivision.cpp:564-569 and 609-622.  With `offset = exclusive_scan(added, init)`, entry `i` owns the
indices `offset[i] … offset[i] + added[i] - 1`.  For non-negative `added` (the code clamps with
`std::max(0, …)`): different entries own disjoint ranges, every owned index lies in
`[init, init + Σ added)`, and every index of that interval is owned — the ranges tile exactly the
new vertices.  (Used with `init = numVert` for the edge vertices and `init = numVert + Σ edgeAdded`
for the interior vertices.) -/
theorem edge_offsets_disjoint_cover (init : Int) (added : List Int) (hnn : ∀ x ∈ added, 0 ≤ x) :
    (exclusiveScan init added).length = added.length ∧
    (∀ i j v, i < added.length → j < added.length → ownsIdx init added i v → ownsIdx init added j v → i = j) ∧
    (∀ i v, i < added.length → ownsIdx init added i v → init ≤ v ∧ v < init + sumL added) ∧
    (∀ v, init ≤ v → v < init + sumL added → ∃ i, i < added.length ∧ ownsIdx init added i v) :=
  ⟨exclusiveScan_length init added,
   fun i j v hi hj h1 h2 => scan_disjoint init added hnn i j hi hj v h1 h2,
   fun i v hi h => scan_within init added hnn i hi v h,
   fun v h0 h1 => scan_cover init added v h0 h1⟩

example : exclusiveScan 8 [2, 0, 3] = [8, 10, 10] ∧ ownsIdx 8 [2, 0, 3] 2 11 := by
  refine ⟨by decide, ?_⟩
  unfold ownsIdx
  decide

/-! ## `PartitionFan` (all sizes) -/

/-- subdivision.cpp:249-258.  For every `added ≥ 0` the fan consists of exactly the `added + 1`
triangles `(chain j, chain (j+1), c2)` along the chain `c0, off, …, off+added-1, c1`; no vertex
is created. -/
theorem fan_valid (s : QState) (c0 c1 c2 added off : Int) :
    (partitionFan s c0 c1 c2 added off).tris.reverse = s.tris.reverse ++ fanTris c0 c1 c2 off added.toNat ∧
    (fanTris c0 c1 c2 off added.toNat).length = added.toNat + 1 ∧
    (partitionFan s c0 c1 c2 added off).nV = s.nV ∧ (partitionFan s c0 c1 c2 added off).ok = s.ok :=
  ⟨(partitionFan_tris s c0 c1 c2 added off).1, fanTris_length .., (partitionFan_tris s c0 c1 c2 added off).2.1,
   (partitionFan_tris s c0 c1 c2 added off).2.2⟩

example : fanTris 0 1 2 3 2 = [(0, 3, 2), (3, 4, 2), (4, 1, 2)] := by decide

/-! ## The checker is sound; triangle count (all patterns) -/

/-- `checkPart p = true` implies the `Prop`-level validity: indices in range, no degenerate
triangle, every directed edge at most once, the boundary is the subdivided outer cycle in order,
every other edge paired, every vertex referenced, Euler characteristic 1; barycentrics convex,
boundary vertices at the exact fractions, every sub-triangle positively oriented, areas adding
up to the whole — all in exact rational arithmetic. -/
theorem checker_sound (p : Part) (h : checkPart p = true) : PatternValid p := checkPart_sound p h

/-- A valid pattern with `b` boundary vertices and `i` interior vertices has `b + 2 i - 2`
triangles. -/
theorem count_from_euler (p : Part) (h : PatternValid p) (b i : Nat) (hb : (boundaryCycle p.sorted).length = b)
    (hi : p.nV = b + i) : p.tris.length + 2 = b + 2 * i :=
  MV.Partition.count_from_euler p.sorted p.nV p.tris h.topo b i hb hi

/-- Uniform `n` on a triangle: `3 n` boundary vertices; with `i` interior vertices the pattern has
`3 n + 2 i - 2` triangles (`= n²` when `i = (n-1)(n-2)/2`). -/
theorem count_uniform (n : Nat) (hn : 1 ≤ n) (p : Part) (hs : p.sorted = ⟨Int.ofNat n, Int.ofNat n, Int.ofNat n, 0⟩)
    (h : PatternValid p) (i : Nat) (hi : p.nV = 3 * n + i) : p.tris.length + 2 = 3 * n + 2 * i := by
  have hb := boundaryCycle_length_tri n n n hn hn hn
  rw [← hs] at hb
  exact count_from_euler p h (3 * n) i (by omega) hi

example : PatternValid (getCachedPartition Dec.exact ⟨3, 3, 3, 0⟩) :=
  checker_sound _ (List.all_eq_true.mp tab_t5 _ (mem_sortedTriplesFrom.2 (by decide)))

/-! ## Exhaustive tables (bounded, kernel-evaluated) -/

theorem checkPart_idx (p : Part) (t : I4) : checkPart { p with idx := t } = checkPart p := rfl

theorem getPartition_eq (dec : Dec) (d : I4) (h : d.a ≠ 0) :
    getPartition dec d = { getCachedPartition dec (sortDivisions d).1 with idx := (sortDivisions d).2 } :=
  Partition.getPartition_eq dec d h

theorem mem_allTriples (N : Nat) (a b c : Int) (ha : 1 ≤ a ∧ a ≤ N) (hb : 1 ≤ b ∧ b ≤ N) (hc : 1 ≤ c ∧ c ≤ N) :
    (⟨a, b, c, 0⟩ : I4) ∈ allTriples N := by
  simp only [allTriples, List.mem_flatMap, List.mem_map, List.mem_range]
  refine ⟨(a - 1).toNat, by omega, (b - 1).toNat, by omega, (c - 1).toNat, by omega, ?_⟩
  simp only [I4.mk.injEq, Int.ofNat_eq_natCast, and_true]
  omega

theorem mem_allQuads (N : Nat) (a b c e : Int) (ha : 1 ≤ a ∧ a ≤ N) (hb : 1 ≤ b ∧ b ≤ N) (hc : 1 ≤ c ∧ c ≤ N)
    (he : 1 ≤ e ∧ e ≤ N) : (⟨a, b, c, e⟩ : I4) ∈ allQuads N :=
  Partition.mem_allQuads.2 ⟨ha, hb, hc, he⟩

/-- `PatternValid` does not read `idx`: what holds for the cached pattern of the sorted divisions
holds for the partition `GetPartition` returns. -/
theorem getPartition_valid (dec : Dec) (d : I4) (h : d.a ≠ 0)
    (hv : PatternValid (getCachedPartition dec (sortDivisions d).1)) : PatternValid (getPartition dec d) := by
  rw [getPartition_eq dec d h]
  exact ⟨hv.fuel, hv.topo, hv.geom⟩

/-- If the cached pattern of every sorted triple up to `N` is valid, so is the partition of every
triangle with divisions in `1..N`, in any order. -/
theorem partition_valid_tri_of_keys (dec : Dec) (N : Nat)
    (hkeys : ∀ n ∈ sortedTriplesFrom 0 N, PatternValid (getCachedPartition dec n))
    (a b c : Int) (ha : 1 ≤ a ∧ a ≤ N) (hb : 1 ≤ b ∧ b ≤ N) (hc : 1 ≤ c ∧ c ≤ N) :
    PatternValid (getPartition dec ⟨a, b, c, 0⟩) :=
  getPartition_valid dec _ (by dsimp only; omega) (hkeys _ (sortDivisions_mem_sortedTriples N a b c ha hb hc))

/-- If the cached pattern of every quad up to `N` that the rotation leaves alone is valid, so is
the partition of every quad with divisions in `1..N`. -/
theorem partition_valid_quad_of_keys (dec : Dec) (N : Nat)
    (hkeys : ∀ n ∈ canonQuads N, PatternValid (getCachedPartition dec n))
    (a b c e : Int) (ha : 1 ≤ a ∧ a ≤ N) (hb : 1 ≤ b ∧ b ≤ N) (hc : 1 ≤ c ∧ c ≤ N) (he : 1 ≤ e ∧ e ≤ N) :
    PatternValid (getPartition dec ⟨a, b, c, e⟩) :=
  getPartition_valid dec _ (by dsimp only; omega)
    (hkeys _ (sortDivisions_mem_canonQuads N _ (mem_allQuads N a b c e ha hb hc he)))

/-- every sorted triple up to 8 lies in one of the four table chunks -/
theorem tri_chunks_cover :
    (sortedTriples 8).all (fun n => (sortedTriplesFrom 0 5 ++ sortedTriplesFrom 5 6 ++ sortedTriplesFrom 6 7 ++
      sortedTriplesFrom 7 8).contains n) = true :=
  List.all_eq_true.2 fun n hn => by
    have h : n ∈ sortedTriplesFrom 0 8 := List.mem_filter.2 ⟨hn, by
      simp only [sortedTriples, List.mem_flatMap, List.mem_map] at hn
      obtain ⟨i, -, j, -, k, -, rfl⟩ := hn
      simp⟩
    simp only [List.contains_eq_mem, List.mem_append, decide_eq_true_eq]
    -- by largest division
    rcases sortedTriplesFrom_chunk 0 5 8 h with h | h
    · exact .inl (.inl (.inl h))
    rcases sortedTriplesFrom_chunk 5 6 8 h with h | h
    · exact .inl (.inl (.inr h))
    exact (sortedTriplesFrom_chunk 6 7 8 h).elim (fun h => .inl (.inr h)) .inr

/-- sorting any triple with entries `1..8` lands in the table -/
theorem tri_sort_lands : (allTriples 8).all (fun d => (sortedTriples 8).contains (sortDivisions d).1) = true :=
  List.all_eq_true.2 fun d hd => by
    simp only [allTriples, List.mem_flatMap, List.mem_map, List.mem_range] at hd
    obtain ⟨i, hi, j, hj, k, hk, rfl⟩ := hd
    simpa only [List.contains_eq_mem, decide_eq_true_eq] using
      (List.mem_filter.1 (sortDivisions_mem_sortedTriples 8 _ _ _ (by simp; omega) (by simp; omega) (by simp; omega))).1

theorem quad_sort_lands :
    (allQuads 4).all (fun d => (canonQuads 3 ++ (canonQuads 4).filter fun d => decide (d.b = 4 ∨ d.c = 4 ∨ d.d = 4)).contains
      (sortDivisions d).1) = true :=
  List.all_eq_true.2 fun d hd => by
    simpa only [List.contains_eq_mem, List.mem_append, decide_eq_true_eq] using
      canonQuads_four (sortDivisions_mem_canonQuads 4 d hd)

/-- **Every triangle pattern with divisions `1..8`, in any order, is valid** (model with the
integer-exact decisions, which the driver confirms equal to the C++'s `double` decisions on every
one of these tuples on every run). -/
theorem partition_valid_tri_upto (a b c : Int) (ha : 1 ≤ a ∧ a ≤ 8) (hb : 1 ≤ b ∧ b ≤ 8) (hc : 1 ≤ c ∧ c ≤ 8) :
    PatternValid (getPartition Dec.exact ⟨a, b, c, 0⟩) := by
  refine partition_valid_tri_of_keys Dec.exact 8 (fun n hn => checker_sound _ ?_) a b c ha hb hc
  have h := List.all_eq_true.mp tri_chunks_cover n (List.mem_filter.1 hn).1
  simp only [List.contains_eq_mem, List.mem_append, decide_eq_true_eq] at h
  rcases h with ((h | h) | h) | h
  exacts [List.all_eq_true.mp tab_t5 _ h, List.all_eq_true.mp tab_t6 _ h, List.all_eq_true.mp tab_t7 _ h,
    List.all_eq_true.mp tab_t8 _ h]

example : PatternValid (getPartition Dec.exact ⟨3, 7, 2, 0⟩) := partition_valid_tri_upto 3 7 2 (by omega) (by omega) (by omega)

/-- **Every quad pattern with divisions `1..4` is valid.** -/
theorem partition_valid_quad_upto (a b c e : Int) (ha : 1 ≤ a ∧ a ≤ 4) (hb : 1 ≤ b ∧ b ≤ 4) (hc : 1 ≤ c ∧ c ≤ 4)
    (he : 1 ≤ e ∧ e ≤ 4) : PatternValid (getPartition Dec.exact ⟨a, b, c, e⟩) := by
  refine partition_valid_quad_of_keys Dec.exact 4 (fun n hn => checker_sound _ ?_) a b c e ha hb hc he
  -- the keys with all divisions up to 3, and those with a division 4 behind the first (a smallest) one
  rcases canonQuads_four hn with h | h
  · exact List.all_eq_true.mp tab_q3 _ h
  · exact List.all_eq_true.mp tab_q4 _ h

example : PatternValid (getPartition Dec.exact ⟨4, 1, 3, 2⟩) :=
  partition_valid_quad_upto 4 1 3 2 (by omega) (by omega) (by omega) (by omega)

/-- `Refine(n)` splits every triangle into exactly `n²` (`n ≤ 8`; for larger `n` the harness counts). -/
theorem refine_count_upto :
    (List.range 8).all (fun k => (getPartition Dec.exact ⟨Int.ofNat (k + 1), Int.ofNat (k + 1), Int.ofNat (k + 1), 0⟩).tris.length
      == (k + 1) * (k + 1)) = true := by decide +kernel

/-! ## Tolerance floor (all values of a linear order) -/

-- with Mathlib's lattice instances in scope `max` on a linear order would be read as the lattice join;
-- the statement means the order's own `max`
attribute [-instance] instDistribLatticeOfLinearOrder LinearOrder.toLattice in
/-- src/manifold.cpp:393-435, src/impl.cpp:677-684.  On a state with `epsilon ≤ tolerance`:
`SetTolerance t` reports `max t epsilon`, leaves epsilon alone and keeps `epsilon ≤ tolerance`
(simplifying exactly when the tolerance grew); `Simplify` leaves the state alone and simplifies at
a tolerance not below the state's (the exact value is in `simplifyTol_spec`); `SetEpsilon` re-establishes `epsilon ≤ tolerance` from ANY state and never
lowers the tolerance.  `α` is any linear order whose `<` is the comparison the code uses (doubles
without NaN). -/
theorem tolerance_floor {α : Type} [LinearOrder α] [TScalar α] (hlt : ∀ a b : α, TScalar.lt a b = decide (a < b))
    (s : TolState α) (t : α) :
    (s.epsilon ≤ s.tolerance →
      (setTolerance s t).1.tolerance = max t s.epsilon ∧ (setTolerance s t).1.epsilon = s.epsilon ∧
      (setTolerance s t).1.epsilon ≤ (setTolerance s t).1.tolerance ∧ ((setTolerance s t).2 = true ↔ s.tolerance < t)) ∧
    (∀ z, (simplifyTol s t z).2 = s ∧ s.tolerance ≤ (simplifyTol s t z).1) ∧
    (∀ e f, (setEpsilon s e f).epsilon = e ∧ (setEpsilon s e f).epsilon ≤ (setEpsilon s e f).tolerance ∧
      s.tolerance ≤ (setEpsilon s e f).tolerance) :=
  ⟨fun h => setTolerance_spec hlt s t h,
   fun z => ⟨(simplifyTol_spec hlt s t z).1, (simplifyTol_spec hlt s t z).2.2⟩,
   fun e f => setEpsilon_spec hlt s e f⟩

example : (setTolerance (⟨3, 5⟩ : TolState Int) 1).1.tolerance = 3 ∧ (setTolerance (⟨3, 5⟩ : TolState Int) 9).1.tolerance = 9 := by
  decide

end MV.C19
