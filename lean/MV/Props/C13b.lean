/-
Property C13 (part b): the parallel sorts of /repo/src/parallel.h equal the sequential
stable sort, for every input length, every threshold `T ≥ 2` and every TBB schedule.

Model: `MV/Model/Par.lean` (`mergeSeq … parRadixSort`).  Lemmas: `MV/Proof/SortOrder.lean`,
`MV/Proof/ParSort.lean`.

Comparator hypotheses.  `lt : α → α → Bool` is assumed to be a strict weak order,
`StrictWeak lt`, i.e.
    asymm    : lt a b = true → lt b a = false
    negTrans : lt a b = false → lt b c = false → lt a c = false
`strictWeak_of_std` below shows this follows from the textbook presentation (irreflexive,
transitive, incomparability transitive); `StrictWeak.irrefl/.trans/.incomp_trans` are the
converse, so the two are equivalent.  `mergeSeq_perm`, `mergeSeq_split` and
`mergeRec_terminates_any` need no hypothesis on `lt` at all; `stable_unique` only uses irreflexivity.

Remark on fuel.  `mergeRec` and `mergeSortRec` in the model fall back to the sequential
algorithm when their fuel argument reaches 0, so the *equalities* `mergeRec_eq_mergeSeq`,
`mergeSortRec_eq_stableSort`, `parRadixSort_eq_sort` hold for every fuel and every `T`
(the hypotheses `2 ≤ T`, `fuel ≥ …`, `t.Valid …` are kept in the statements because they are
the conditions under which the model is a faithful reading of the C++, but they are not used in
those proofs).  That the fall-back is dead code, i.e. that the C++ recursion terminates, is a
separate statement: `mergeRec_terminates`, `mergeSortRec_terminates`; these genuinely need
`2 ≤ T`, and `mergeRec_diverges_T1` / `mergeSortRec_diverges_T0` show the recursion re-enters
itself on the same arguments for smaller thresholds.
-/
import MV.Proof.ParSort

namespace MV.C13b
open MV.Par

variable {α : Type}

/-! ## test comparators for the non-vacuity examples -/

/-- records `(key, payload)` compared by key only: a strict weak order that is not linear -/
def keyLt : Nat × Nat → Nat × Nat → Bool := fun a b => decide (a.1 < b.1)

theorem strictWeak_keyLt : StrictWeak keyLt := strictWeak_key Prod.fst

theorem cls_keyLt (k p : Nat) : cls keyLt (k, p) = fun x => x.1 == k :=
  cls_key Prod.fst (k, p)

/-- the textbook presentation of a strict weak order implies `StrictWeak` -/
theorem strictWeak_of_std {lt : α → α → Bool}
    (irr : ∀ a, lt a a = false)
    (tr : ∀ a b c, lt a b = true → lt b c = true → lt a c = true)
    (inc : ∀ a b c, lt a b = false → lt b a = false → lt b c = false → lt c b = false →
      lt a c = false ∧ lt c a = false) : StrictWeak lt where
  asymm a b hab :=
    Bool.eq_false_iff.2 fun e => Bool.false_ne_true ((irr a).symm.trans (tr a b a hab e))
  negTrans a b c hab hbc :=
    Bool.eq_false_iff.2 fun e => by
      cases e1 : lt b a with
      | true => exact Bool.false_ne_true (hbc.symm.trans (tr b a c e1 e))
      | false =>
        cases e2 : lt c b with
        | true => exact Bool.false_ne_true (hab.symm.trans (tr a c b e e2))
        | false => exact Bool.false_ne_true ((inc a b c hab e1 hbc e2).1.symm.trans e)

example : StrictWeak keyLt :=
  strictWeak_of_std (fun _ => decide_eq_false (Nat.lt_irrefl _))
    (fun _ _ _ h1 h2 => decide_eq_true (Nat.lt_trans (of_decide_eq_true h1) (of_decide_eq_true h2)))
    (by intro a b c; simp only [keyLt, decide_eq_false_iff_not]; omega)

/-! ## 1. `std::merge`, `std::stable_sort`, uniqueness of the stable sort -/

theorem mergeSeq_sorted {lt : α → α → Bool} (sw : StrictWeak lt) {l1 l2 : List α}
    (h1 : SortedBy lt l1) (h2 : SortedBy lt l2) : SortedBy lt (mergeSeq lt l1 l2) :=
  Par.mergeSeq_sorted sw h1 h2

example : SortedBy keyLt (mergeSeq keyLt [(1,0),(2,1),(2,2)] [(0,3),(2,4),(3,5)]) :=
  mergeSeq_sorted strictWeak_keyLt (by decide) (by decide)

theorem mergeSeq_perm (lt : α → α → Bool) (l1 l2 : List α) :
    (mergeSeq lt l1 l2).Perm (l1 ++ l2) := by
  rw [mergeSeq_eq_merge]; exact List.merge_perm_append _

example : (mergeSeq keyLt [(1,0),(2,1),(2,2)] [(0,3),(2,4),(3,5)]).Perm
    ([(1,0),(2,1),(2,2)] ++ [(0,3),(2,4),(3,5)]) := mergeSeq_perm _ _ _

/-- Stability of `std::merge`: within every key class the merge lists the members of `l1`
(in their order) followed by those of `l2` (in their order). -/
theorem mergeSeq_stable {lt : α → α → Bool} (sw : StrictWeak lt) {l1 l2 : List α}
    (h1 : SortedBy lt l1) (a : α) :
    (mergeSeq lt l1 l2).filter (cls lt a) = l1.filter (cls lt a) ++ l2.filter (cls lt a) := by
  rw [← List.filter_append]; exact Par.mergeSeq_stable sw h1 a

example : (mergeSeq keyLt [(1,0),(2,1),(2,2)] [(0,3),(2,4),(3,5)]).filter (cls keyLt (2,9))
    = [(2,1),(2,2),(2,4)] := by simp [mergeSeq, keyLt, cls]

example : (mergeSeq keyLt [(1,0),(2,1),(2,2)] [(0,3),(2,4),(3,5)]).filter (cls keyLt (2,9))
    = [(1,0),(2,1),(2,2)].filter (cls keyLt (2,9)) ++ [(0,3),(2,4),(3,5)].filter (cls keyLt (2,9)) :=
  mergeSeq_stable strictWeak_keyLt (by decide) _

/-- **Uniqueness.**  A list has at most one sorted, stable rearrangement.  (`StableWrt lt l l'`
: for every `a`, `l'.filter (cls lt a) = l.filter (cls lt a)`.)  The permutation hypotheses
are implied by stability and are not used. -/
theorem stable_unique {lt : α → α → Bool} (sw : StrictWeak lt) {l l' l'' : List α}
    (s1 : SortedBy lt l') (s2 : SortedBy lt l'') (_p1 : l'.Perm l) (_p2 : l''.Perm l)
    (st1 : StableWrt lt l l') (st2 : StableWrt lt l l'') : l' = l'' :=
  sorted_unique_of_cls sw l' l'' s1 s2 (fun a => (st1 a).trans (st2 a).symm)

/-- invariant of the insertion loop of `stableSort` -/
theorem foldl_insertStable {lt : α → α → Bool} (sw : StrictWeak lt) :
    ∀ (xs acc : List α), SortedBy lt acc →
      SortedBy lt (xs.foldl (fun acc x => insertStable lt x acc) acc) ∧
      (xs.foldl (fun acc x => insertStable lt x acc) acc).Perm (acc ++ xs) ∧
      StableWrt lt (acc ++ xs) (xs.foldl (fun acc x => insertStable lt x acc) acc) :=
  Par.foldl_insertStable sw

theorem stableSort_sorted {lt : α → α → Bool} (sw : StrictWeak lt) (xs : List α) :
    SortedBy lt (stableSort lt xs) :=
  (foldl_insertStable sw xs [] SortedBy.nil).1

theorem stableSort_perm {lt : α → α → Bool} (sw : StrictWeak lt) (xs : List α) :
    (stableSort lt xs).Perm xs := by
  simpa [stableSort] using (foldl_insertStable sw xs [] SortedBy.nil).2.1

theorem stableSort_stable {lt : α → α → Bool} (sw : StrictWeak lt) (xs : List α) :
    StableWrt lt xs (stableSort lt xs) := by
  simpa [stableSort] using (foldl_insertStable sw xs [] SortedBy.nil).2.2

/-- characterisation: the only sorted stable rearrangement of `xs` is `stableSort lt xs` -/
theorem eq_stableSort {lt : α → α → Bool} (sw : StrictWeak lt) {xs l : List α}
    (hs : SortedBy lt l) (hst : StableWrt lt xs l) : l = stableSort lt xs :=
  Par.eq_stableSort sw hs hst

/-- merging the stable sorts of two halves is the stable sort of the whole -/
theorem mergeSeq_stableSort {lt : α → α → Bool} (sw : StrictWeak lt) (l1 l2 : List α) :
    mergeSeq lt (stableSort lt l1) (stableSort lt l2) = stableSort lt (l1 ++ l2) := by
  apply eq_stableSort sw
  · exact mergeSeq_sorted sw (stableSort_sorted sw l1) (stableSort_sorted sw l2)
  · intro a
    rw [mergeSeq_stable sw (stableSort_sorted sw l1), stableSort_stable sw l1 a,
      stableSort_stable sw l2 a, List.filter_append]

/-- any sorted permutation of `xs : List Nat` is the sequential stable sort of `xs` -/
theorem eq_stableSort_natLt {xs l : List Nat} (hs : l.Pairwise (· ≤ ·)) (hp : l.Perm xs) :
    l = stableSort natLt xs :=
  List.Perm.eq_of_pairwise (fun _ _ _ _ => Nat.le_antisymm) hs
    (sortedBy_natLt_iff.mp (stableSort_sorted strictWeak_natLt xs))
    (hp.trans (stableSort_perm strictWeak_natLt xs).symm)

example : stableSort keyLt [(2,0),(1,1),(2,2),(0,3),(1,4)] = [(0,3),(1,1),(1,4),(2,0),(2,2)] := by
  decide

/-- non-vacuity of `stable_unique`: the hand-written answer is *the* stable sort -/
example : [(0,3),(1,1),(1,4),(2,0),(2,2)] = stableSort keyLt [(2,0),(1,1),(2,2),(0,3),(1,4)] :=
  stable_unique (l := [(2,0),(1,1),(2,2),(0,3),(1,4)]) strictWeak_keyLt (by decide)
    (stableSort_sorted strictWeak_keyLt _) (by decide) (stableSort_perm strictWeak_keyLt _)
    (by
      intro ⟨k, p⟩
      rw [cls_keyLt]
      match k with
      | 0 => decide
      | 1 => decide
      | 2 => decide
      | k + 3 => simp)
    (stableSort_stable strictWeak_keyLt _)

/-! ## 2. the split lemma -/

/-- **Split lemma.**  If every element of `l1[0,q1)` is `≤` every element of `l2[q2,…)` and
every element of `l2[0,q2)` is `<` every element of `l1[q1,…)`, the merge splits at
`(q1,q2)`.  (Sortedness of `l1`, `l2` is not needed for this step; it is needed to derive
the two conditions from the pivot rules, see `split_left_pivot`, `split_right_pivot`.) -/
theorem mergeSeq_split (lt : α → α → Bool) (l1 l2 : List α) (q1 q2 : Nat)
    (hA : ∀ x ∈ l1.take q1, ∀ y ∈ l2.drop q2, lt y x = false)
    (hB : ∀ y ∈ l2.take q2, ∀ x ∈ l1.drop q1, lt y x = true) :
    mergeSeq lt l1 l2 =
      mergeSeq lt (l1.take q1) (l2.take q2) ++ mergeSeq lt (l1.drop q1) (l2.drop q2) := by
  rw [← mergeSeq_append_append lt _ _ _ _ hA hB, List.take_append_drop, List.take_append_drop]

example : mergeSeq keyLt [(1,0),(2,1),(2,2)] [(0,3),(2,4),(3,5)] =
    mergeSeq keyLt [(1,0),(2,1),(2,2)] [(0,3)] ++ mergeSeq keyLt [] [(2,4),(3,5)] :=
  mergeSeq_split keyLt [(1,0),(2,1),(2,2)] [(0,3),(2,4),(3,5)] 3 1 (by decide) (by decide)

/-- C++ left-pivot rule (`length1 > length2`): pivot `l1[q1]`, `q2 = lower_bound(l2, pivot)` -/
theorem split_left_pivot {lt : α → α → Bool} (sw : StrictWeak lt) {l1 l2 : List α}
    (h1 : SortedBy lt l1) (h2 : SortedBy lt l2) {q1 : Nat} {p : α} (hp : l1[q1]? = some p) :
    mergeSeq lt l1 l2 =
      mergeSeq lt (l1.take q1) (l2.take (lowerBound lt l2 p)) ++
      mergeSeq lt (l1.drop q1) (l2.drop (lowerBound lt l2 p)) :=
  have h := Par.split_left_pivot sw h1 h2 hp
  mergeSeq_split lt l1 l2 _ _ h.1 h.2

/-- C++ right-pivot rule: pivot `l2[q2]`, `q1 = upper_bound(l1, pivot)` -/
theorem split_right_pivot {lt : α → α → Bool} (sw : StrictWeak lt) {l1 l2 : List α}
    (h1 : SortedBy lt l1) (h2 : SortedBy lt l2) {q2 : Nat} {p : α} (hp : l2[q2]? = some p) :
    mergeSeq lt l1 l2 =
      mergeSeq lt (l1.take (upperBound lt l1 p)) (l2.take q2) ++
      mergeSeq lt (l1.drop (upperBound lt l1 p)) (l2.drop q2) :=
  have h := Par.split_right_pivot sw h1 h2 hp
  mergeSeq_split lt l1 l2 _ _ h.1 h.2

example : mergeSeq keyLt [(1,0),(2,1),(2,2),(4,6)] [(0,3),(2,4),(3,5)] =
    mergeSeq keyLt [(1,0),(2,1)] [(0,3)] ++ mergeSeq keyLt [(2,2),(4,6)] [(2,4),(3,5)] :=
  split_left_pivot (q1 := 2) (p := (2,2)) strictWeak_keyLt (by decide) (by decide) (by decide)

example : mergeSeq keyLt [(1,0),(2,1),(2,2)] [(0,3),(2,4),(3,5)] =
    mergeSeq keyLt [(1,0),(2,1),(2,2)] [(0,3)] ++ mergeSeq keyLt [] [(2,4),(3,5)] :=
  split_right_pivot (q2 := 1) (p := (2,4)) strictWeak_keyLt (by decide) (by decide) (by decide)

/-! ## 3. `details::mergeRec` -/

/-- `details::mergeRec` on sorted ranges is `std::merge`. -/
theorem mergeRec_eq_mergeSeq {lt : α → α → Bool} (sw : StrictWeak lt) {T fuel : Nat}
    {l1 l2 : List α} (_hT : 2 ≤ T) (h1 : SortedBy lt l1) (h2 : SortedBy lt l2)
    (_hf : l1.length + l2.length ≤ fuel) :
    mergeRec T lt fuel l1 l2 = mergeSeq lt l1 l2 :=
  Par.mergeRec_eq_mergeSeq sw T fuel h1 h2

example : mergeRec 2 keyLt 7 [(1,0),(2,1),(2,2),(4,6)] [(0,3),(2,4),(3,5)] =
    mergeSeq keyLt [(1,0),(2,1),(2,2),(4,6)] [(0,3),(2,4),(3,5)] :=
  mergeRec_eq_mergeSeq strictWeak_keyLt (by decide) (by decide) (by decide) (by decide)

example : mergeRec 2 keyLt 7 [(1,0),(2,1),(2,2),(4,6)] [(0,3),(2,4),(3,5)] =
    [(0,3),(1,0),(2,1),(2,2),(2,4),(3,5),(4,6)] := by
  rw [mergeRec_eq_mergeSeq strictWeak_keyLt (by decide) (by decide) (by decide) (by decide)]
  simp [mergeSeq, keyLt]

/-- **Termination of `details::mergeRec`** needs no assumption on the data or on `lt`.
`mergeRecO` is `mergeRec` with `none` for "fuel exhausted"; for `2 ≤ T` it returns as soon as the
fuel exceeds the total length, because both recursive calls are on strictly shorter inputs. -/
theorem mergeRec_terminates_any (lt : α → α → Bool) {T fuel : Nat} (l1 l2 : List α)
    (hT : 2 ≤ T) (hf : l1.length + l2.length < fuel) :
    ∃ r, mergeRecO T lt fuel l1 l2 = some r ∧ mergeRec T lt fuel l1 l2 = r := by
  induction fuel generalizing l1 l2 with
  | zero => omega
  | succ fuel ih =>
    rcases mergeRec_succ T lt fuel l1 l2 with ⟨e, eO⟩ | ⟨q1, q2, e, eO, hshort, -⟩
    · exact ⟨_, eO, e⟩
    · obtain ⟨ha, hb⟩ := hshort hT
      obtain ⟨a, haO, ha⟩ := ih (l1.take q1) (l2.take q2) (by omega)
      obtain ⟨b, hbO, hb⟩ := ih (l1.drop q1) (l2.drop q2) (by omega)
      exact ⟨a ++ b, by rw [eO, haO, hbO], by rw [e, ha, hb]⟩

/-- On sorted input the value returned is `std::merge`.  The entry points of the model supply
fuel exceeding the total length. -/
theorem mergeRec_terminates {lt : α → α → Bool} (sw : StrictWeak lt) {T fuel : Nat}
    {l1 l2 : List α} (hT : 2 ≤ T) (h1 : SortedBy lt l1) (h2 : SortedBy lt l2)
    (hf : l1.length + l2.length < fuel) :
    mergeRecO T lt fuel l1 l2 = some (mergeSeq lt l1 l2) := by
  obtain ⟨r, hO, hr⟩ := mergeRec_terminates_any lt l1 l2 hT hf
  rw [hO, ← hr, mergeRec_eq_mergeSeq sw hT h1 h2 (Nat.le_of_lt hf)]

example : mergeRecO 2 keyLt 8 [(1,0),(2,1),(2,2),(4,6)] [(0,3),(2,4),(3,5)] =
    some (mergeSeq keyLt [(1,0),(2,1),(2,2),(4,6)] [(0,3),(2,4),(3,5)]) :=
  mergeRec_terminates strictWeak_keyLt (by decide) (by decide) (by decide) (by decide)

/-- **Finding (hypothetical thresholds only; `kSeqThreshold = 10000`).**  With `T = 1`,
`mergeRec([1],[0])` takes the right pivot `0`, `upper_bound([1],0) = 0`, and the second
`parallel_invoke` branch is `mergeRec([1],[0])` again: no amount of fuel suffices. -/
theorem mergeRec_diverges_T1 (fuel : Nat) : mergeRecO 1 natLt fuel [1] [0] = none := by
  induction fuel with
  | zero => rfl
  | succ fuel ih =>
    unfold mergeRecO
    simp [upperBound, natLt] at ih ⊢
    rw [ih]
    split <;> simp_all

theorem mergeRec_self_call_T1 (fuel : Nat) :
    mergeRec 1 natLt (fuel + 1) [1] [0] = [] ++ mergeRec 1 natLt fuel [1] [0] := by
  have h0 : mergeRec 1 natLt fuel [] [] = [] := by cases fuel <;> simp [mergeRec]
  conv => lhs; unfold mergeRec
  simp [upperBound, natLt] at h0 ⊢
  rw [h0]

example : mergeRecO 1 natLt 1000 [1] [0] = none := mergeRec_diverges_T1 1000

/-! ## 4. `details::mergeSortRec` / `stable_sort(Par, …, comp)` -/

theorem mergeSortRec_eq_stableSort {lt : α → α → Bool} (sw : StrictWeak lt) {T fuel : Nat}
    {xs : List α} (_hT : 2 ≤ T) (_hf : xs.length ≤ fuel) :
    mergeSortRec T lt fuel xs = stableSort lt xs := by
  clear _hT _hf
  induction fuel generalizing xs with
  | zero => simp [mergeSortRec]
  | succ fuel ih =>
    unfold mergeSortRec
    split
    · rfl
    · simp only []
      rw [ih, ih, Par.mergeRec_eq_mergeSeq sw T _ (stableSort_sorted sw _) (stableSort_sorted sw _),
        mergeSeq_stableSort sw, List.take_append_drop]

example : mergeSortRec 2 keyLt 9 [(2,0),(1,1),(2,2),(0,3),(1,4),(2,5),(0,6),(1,7),(3,8)] =
    stableSort keyLt [(2,0),(1,1),(2,2),(0,3),(1,4),(2,5),(0,6),(1,7),(3,8)] :=
  mergeSortRec_eq_stableSort strictWeak_keyLt (by decide) (by decide)

theorem parStableSort_eq_stableSort {lt : α → α → Bool} (sw : StrictWeak lt) {T : Nat}
    (_hT : 2 ≤ T) (xs : List α) : parStableSort T lt xs = stableSort lt xs :=
  mergeSortRec_eq_stableSort sw _hT (Nat.le_succ _)

example : parStableSort 2 keyLt [(2,0),(1,1),(2,2),(0,3),(1,4),(2,5),(0,6),(1,7),(3,8)] =
    [(0,3),(0,6),(1,1),(1,4),(1,7),(2,0),(2,2),(2,5),(3,8)] :=
  (parStableSort_eq_stableSort strictWeak_keyLt (by decide) _).trans (by decide)

example : parStableSort 2 keyLt [(2,0),(1,1),(2,2),(0,3),(1,4),(2,5),(0,6),(1,7),(3,8)] =
    stableSort keyLt [(2,0),(1,1),(2,2),(0,3),(1,4),(2,5),(0,6),(1,7),(3,8)] :=
  parStableSort_eq_stableSort strictWeak_keyLt (by decide) _

/-- **Termination of `details::mergeSortRec`** including the `mergeRec` calls it makes:
with the fuel supplied by `parStableSort` (`xs.length + 1`) no fall-back is reached. -/
theorem mergeSortRec_terminates {lt : α → α → Bool} (sw : StrictWeak lt) {T fuel : Nat}
    (hT : 2 ≤ T) (xs : List α) (hf : xs.length < fuel) :
    mergeSortRecO T lt fuel xs = some (stableSort lt xs) := by
  induction fuel generalizing xs with
  | zero => omega
  | succ fuel ih =>
    unfold mergeSortRecO
    split
    · rfl
    · simp only []
      rw [ih (xs.take (xs.length / 2)) (by simp only [List.length_take]; omega),
        ih (xs.drop (xs.length / 2)) (by simp only [List.length_drop]; omega)]
      simp only []
      rw [mergeRec_terminates sw hT (stableSort_sorted sw _) (stableSort_sorted sw _)
            (by rw [(stableSort_perm sw _).length_eq, (stableSort_perm sw _).length_eq,
                  ← List.length_append, List.take_append_drop]; omega),
          mergeSeq_stableSort sw, List.take_append_drop]

example : mergeSortRecO 2 keyLt 10 [(2,0),(1,1),(2,2),(0,3),(1,4),(2,5),(0,6),(1,7),(3,8)] =
    some (stableSort keyLt [(2,0),(1,1),(2,2),(0,3),(1,4),(2,5),(0,6),(1,7),(3,8)]) :=
  mergeSortRec_terminates strictWeak_keyLt (by decide) _ (by decide)

/-- with `T = 0` a one-element range is split into `[]` and itself -/
theorem mergeSortRec_diverges_T0 (lt : α → α → Bool) (x : α) (fuel : Nat) :
    mergeSortRecO 0 lt fuel [x] = none := by
  induction fuel with
  | zero => rfl
  | succ fuel ih => unfold mergeSortRecO; simp [ih]

example : mergeSortRecO 0 natLt 50 [7] = none := mergeSortRec_diverges_T0 _ _ _

/-! ## 5. LSB radix sort -/

/-- one `shuffle` pass is the stable sort by byte `k` (`byteLt k a b := byteOf k a < byteOf k b`) -/
theorem shufflePass_eq_stableSort (k : Nat) (xs : List Nat) :
    shufflePass k xs = stableSort (byteLt k) xs :=
  eq_stableSort (strictWeak_byteLt k) (shufflePass_sortedBy k xs) (shufflePass_stable k xs)

theorem shufflePass_perm (k : Nat) (xs : List Nat) : (shufflePass k xs).Perm xs := by
  rw [shufflePass_eq_stableSort]; exact stableSort_perm (strictWeak_byteLt k) xs

example : shufflePass 0 [770, 3, 513, 258, 3, 2] = [513, 770, 258, 2, 3, 3] :=
  (shufflePass_eq_stableSort _ _).trans (by decide)
example : shufflePass 0 [770, 3, 513, 258, 3, 2] = stableSort (byteLt 0) [770, 3, 513, 258, 3, 2] :=
  shufflePass_eq_stableSort _ _

/-- loop invariant: after the passes for bytes `< n` the array is a permutation of the input
sorted by the low `n` bytes -/
theorem radixLoop_inv (xs : List Nat) : ∀ n : Nat,
    (radixLoop xs n).Perm xs ∧
    (radixLoop xs n).Pairwise fun x y => x % 256 ^ n ≤ y % 256 ^ n
  | 0 => by
    refine ⟨by simp [radixLoop], List.pairwise_of_forall ?_⟩
    intro x y; simp [Nat.mod_one]
  | n + 1 => by
    obtain ⟨hp, hs⟩ := radixLoop_inv xs n
    rw [radixLoop_succ]
    split
    · next hc =>
      obtain ⟨b, hb⟩ := canSkip_const hc
      refine ⟨hp, hs.imp_of_mem ?_⟩
      intro x y hx hy hxy
      have ex := hb x (hp.mem_iff.mp hx)
      have ey := hb y (hp.mem_iff.mp hy)
      exact mod_pow_succ_le (by omega) (fun _ => hxy)
    · exact ⟨(shufflePass_perm n _).trans hp, shufflePass_step n _ hs⟩

theorem lsbRadix_sorted_perm {nb : Nat} {xs : List Nat} (hk : ∀ x ∈ xs, x < 256 ^ nb) :
    (lsbRadix nb xs).Perm xs ∧ (lsbRadix nb xs).Pairwise (· ≤ ·) := by
  unfold lsbRadix
  split
  · next h => exact ⟨List.Perm.refl _, (isSortedAdj_iff _).mp h⟩
  · obtain ⟨hp, hs⟩ := radixLoop_inv xs nb
    refine ⟨hp, hs.imp_of_mem ?_⟩
    intro x y hx hy hxy
    rw [Nat.mod_eq_of_lt (hk x (hp.mem_iff.mp hx)), Nat.mod_eq_of_lt (hk y (hp.mem_iff.mp hy))] at hxy
    exact hxy

theorem lsbRadix_eq_sort {nb : Nat} {xs : List Nat} (hk : ∀ x ∈ xs, x < 256 ^ nb) :
    lsbRadix nb xs = stableSort natLt xs :=
  eq_stableSort_natLt (lsbRadix_sorted_perm hk).2 (lsbRadix_sorted_perm hk).1

/-- the specification against core's `List.mergeSort` -/
theorem stableSort_natLt_eq_mergeSort (xs : List Nat) : stableSort natLt xs = xs.mergeSort := by
  rw [stableSort_eq_mergeSort strictWeak_natLt]
  exact congrArg (fun le => xs.mergeSort le) (decide_le_eq_not_decide_lt id).symm

theorem lsbRadix_eq_mergeSort {nb : Nat} {xs : List Nat} (hk : ∀ x ∈ xs, x < 256 ^ nb) :
    lsbRadix nb xs = xs.mergeSort :=
  (lsbRadix_eq_sort hk).trans (stableSort_natLt_eq_mergeSort xs)

example : lsbRadix 2 [770, 3, 513, 258, 3, 2] = [2, 3, 3, 258, 513, 770] :=
  (lsbRadix_eq_sort (by decide)).trans (by decide)
example : lsbRadix 2 [770, 3, 513, 258, 3, 2] = stableSort natLt [770, 3, 513, 258, 3, 2] :=
  lsbRadix_eq_sort (by decide)

/-- the skip rule is exercised: byte 1 of every key is 1, the input is not sorted, so the
loop runs, skips `k = 1`, and the result is still sorted -/
example : canSkip 1 [259, 258, 257] = true ∧ canSkip 0 [259, 258, 257] = false ∧
    lsbRadix 2 [259, 258, 257] = [257, 258, 259] :=
  ⟨by decide +kernel, by decide +kernel, (lsbRadix_eq_sort (by decide)).trans (by decide)⟩
example : lsbRadix 2 [259, 258, 257] = stableSort natLt [259, 258, 257] :=
  lsbRadix_eq_sort (by decide)

/-! ## 6. `SortedRange::join`, `radix_sort` -/

/-- `SortedRange::join` keeps its range sorted, for every threshold -/
theorem sortedJoin_spec (T : Nat) {a b : List Nat}
    (ha : a.Pairwise (· ≤ ·)) (hb : b.Pairwise (· ≤ ·)) :
    (sortedJoin T a b).Pairwise (· ≤ ·) ∧ (sortedJoin T a b).Perm (a ++ b) := by
  unfold sortedJoin
  cases hx : a.getLast? with
  | none =>
    rw [List.getLast?_eq_none_iff] at hx; subst hx
    simpa using hb
  | some x =>
    cases hy : b.head? with
    | none =>
      rw [List.head?_eq_none_iff] at hy; subst hy
      simpa using ha
    | some y =>
      simp only []
      split
      · have sa := sortedBy_natLt_iff.mpr ha
        have sb := sortedBy_natLt_iff.mpr hb
        have := Par.mergeRec_eq_mergeSeq strictWeak_natLt T (a.length + b.length + 1) sa sb
        unfold natLt at this
        rw [this]
        exact ⟨sortedBy_natLt_iff.mp (mergeSeq_sorted strictWeak_natLt sa sb), mergeSeq_perm _ a b⟩
      · next hgt =>
        refine ⟨?_, List.Perm.refl _⟩
        obtain ⟨a', rfl⟩ := List.getLast?_eq_some_iff.mp hx
        obtain ⟨b', rfl⟩ := List.head?_eq_some_iff.mp hy
        rw [List.pairwise_append]
        refine ⟨ha, hb, ?_⟩
        intro u hu v hv
        have hux : u ≤ x := by
          rcases List.mem_append.mp hu with m | m
          · exact (List.pairwise_append.mp ha).2.2 u m x (by simp)
          · simp at m; omega
        have hyv : y ≤ v := by
          rcases List.mem_cons.mp hv with e | m
          · omega
          · exact (List.pairwise_cons.mp hb).1 v m
        omega

theorem sortedJoin_sorted_perm {T : Nat} (_hT : 2 ≤ T) {a b : List Nat}
    (ha : a.Pairwise (· ≤ ·)) (hb : b.Pairwise (· ≤ ·)) :
    (sortedJoin T a b).Pairwise (· ≤ ·) ∧ (sortedJoin T a b).Perm (a ++ b) :=
  sortedJoin_spec T ha hb

example : sortedJoin 2 [1, 4, 4, 9] [0, 4, 5] = [0, 1, 4, 4, 4, 5, 9] :=
  have h := sortedJoin_spec 2 (a := [1, 4, 4, 9]) (b := [0, 4, 5]) (by decide) (by decide)
  (eq_stableSort_natLt h.1 h.2).trans (by decide)
example : (sortedJoin 2 [1, 4, 4, 9] [0, 4, 5]).Pairwise (· ≤ ·) ∧
    (sortedJoin 2 [1, 4, 4, 9] [0, 4, 5]).Perm ([1, 4, 4, 9] ++ [0, 4, 5]) :=
  sortedJoin_sorted_perm (by decide) (by decide) (by decide)

/-- the body of `radix_sort`'s parallel_reduce -/
def radixLeaf (T nb : Nat) (acc c : List Nat) : List Nat :=
  if acc.isEmpty then lsbRadix nb c else sortedJoin T acc (lsbRadix nb c)

theorem radixLeaf_sorted_perm (T : Nat) {nb : Nat} {acc c : List Nat}
    (ha : acc.Pairwise (· ≤ ·)) (hk : ∀ x ∈ c, x < 256 ^ nb) :
    (radixLeaf T nb acc c).Pairwise (· ≤ ·) ∧ (radixLeaf T nb acc c).Perm (acc ++ c) := by
  obtain ⟨hp, hs⟩ := lsbRadix_sorted_perm hk
  unfold radixLeaf
  split
  · next he => simp at he; subst he; simpa using ⟨hs, hp⟩
  · obtain ⟨hs', hp'⟩ := sortedJoin_spec T ha hs
    exact ⟨hs', hp'.trans (hp.append_left acc)⟩

/-- invariant of the reduce: whatever the schedule, a body that starts with a sorted range
`v` and walks `xs` ends with a sorted permutation of `v ++ xs` -/
theorem radixReduce_sorted_perm (T nb : Nat) (t : Sched) (v xs : List Nat)
    (hv : v.Pairwise (· ≤ ·)) (hk : ∀ x ∈ xs, x < 256 ^ nb) :
    (reduceGoG (radixLeaf T nb) (sortedJoin T) [] t v xs).Pairwise (· ≤ ·) ∧
    (reduceGoG (radixLeaf T nb) (sortedJoin T) [] t v xs).Perm (v ++ xs) := by
  fun_induction reduceGoG (radixLeaf T nb) (sortedJoin T) [] t v xs with
  | case1 v xs => exact radixLeaf_sorted_perm T hv hk
  | case2 k l r v xs ihl ihr =>
    obtain ⟨s1, p1⟩ := ihl hv fun x hx => hk x (List.mem_of_mem_take hx)
    obtain ⟨s2, p2⟩ := ihr s1 fun x hx => hk x (List.mem_of_mem_drop hx)
    refine ⟨s2, p2.trans ?_⟩
    simpa [List.append_assoc] using p1.append_right (xs.drop k)
  | case3 k l r v xs ihl ihr =>
    obtain ⟨s1, p1⟩ := ihl hv fun x hx => hk x (List.mem_of_mem_take hx)
    obtain ⟨s2, p2⟩ := ihr List.Pairwise.nil fun x hx => hk x (List.mem_of_mem_drop hx)
    obtain ⟨s3, p3⟩ := sortedJoin_spec T s1 s2
    refine ⟨s3, p3.trans ?_⟩
    simpa [List.append_assoc] using p1.append p2

/-- **`radix_sort` = sequential stable sort**, for every threshold, every schedule (any split
tree, any pattern of steals) and every input with keys below `256 ^ nb`. -/
theorem parRadixSort_eq_sort {T nb : Nat} {t : Sched} {xs : List Nat} (_hT : 2 ≤ T)
    (_hv : t.Valid xs.length) (hk : ∀ x ∈ xs, x < 256 ^ nb) :
    parRadixSort T nb t xs = stableSort natLt xs := by
  have hdef : parRadixSort T nb t xs =
      if xs.isEmpty then [] else reduceGoG (radixLeaf T nb) (sortedJoin T) [] t [] xs := rfl
  rw [hdef]
  split
  · next he => simp at he; subst he; rfl
  · obtain ⟨s, p⟩ := radixReduce_sorted_perm T nb t [] xs List.Pairwise.nil hk
    exact eq_stableSort_natLt s (by simpa using p)

theorem parRadixSort_eq_mergeSort {T nb : Nat} {t : Sched} {xs : List Nat} (_hT : 2 ≤ T)
    (_hv : t.Valid xs.length) (hk : ∀ x ∈ xs, x < 256 ^ nb) :
    parRadixSort T nb t xs = xs.mergeSort := by
  rw [parRadixSort_eq_sort _hT _hv hk, stableSort_natLt_eq_mergeSort]

example : parRadixSort 2 2 (.node 4 true (.node 2 false .leaf .leaf) (.node 1 true .leaf .leaf))
    [770, 3, 513, 258, 3, 2, 600] = [2, 3, 3, 258, 513, 600, 770] := by
  rw [parRadixSort_eq_sort (by decide) (by simp [Sched.Valid]) (by decide)]
  decide

example : parRadixSort 2 2 (.node 4 true (.node 2 false .leaf .leaf) (.node 1 true .leaf .leaf))
    [770, 3, 513, 258, 3, 2, 600] = stableSort natLt [770, 3, 513, 258, 3, 2, 600] :=
  parRadixSort_eq_sort (by decide) (by simp [Sched.Valid]) (by decide)

end MV.C13b

