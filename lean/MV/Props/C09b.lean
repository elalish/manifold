import MV.Props.C09
import MV.Props.C01a
import MV.Proof.HalfedgeGate
/-!
# C09b: the joint between C09 (malformed input gives an error, never undefined behaviour) and
# C01 (every Manifold is a closed oriented 2-manifold or an empty error)

After the validation ladder of `Impl(MeshGLP)` (C09, `MV.Ingest.ingest`) has accepted a MeshGL it
hands an ARBITRARY triangle soup to

    CreateHalfedges(triProp, triVert);                       // impl.h:532, impl.cpp:373-567
    if (!IsManifold()) { MakeEmpty(NotManifold); return; }   // impl.h:533, properties.cpp:76-111

The soup is only known to have indices below `NumVert()`, no triangle with a repeated vertex and an
even number of triangles (`MV.Ingest.ingest_ok_inv`); it may be unbalanced, have edges used 3 or 4
times, be oriented inconsistently.  The theorems below are about the checked transliteration
(`MV.Halfedge.createHalfedges`, `MV.Halfedge.isManifold`: every `x[k]` a checked primitive, every
`while (1)` with fuel) and hold for EVERY triangle list with an even number of triangles: they do
not even need the index bound or non-degeneracy (those matter for the ORDER the sort produces, not
for safety; nothing below depends on the order).

What the gate is: `IsManifold()` is `all_of(CheckHalfedges)` only.  The duplicate-edge test lives in
`Is2Manifold()`, which the constructor does not call, so `NoError` does NOT imply `NoDupEdge`: an
even-manifold (an undirected edge with four triangles whose directed copies pair up, e.g.
`MV.C01a.twoTetraEdge`) passes and is handed to `CleanupTopology()` (SplitPinchedVerts +
DedupeEdges, impl.h:544).  `gate_sound` therefore delivers `PairInv` (the hypothesis from which the
C01b theorems about the editing primitives start); where `ClosedOriented ts` is concluded
(`gate_sound_closed`), that the directed edges of the INPUT are pairwise distinct,
`(dirEdges ts).Nodup`, is an explicit extra hypothesis.
-/
namespace MV.C09b
open MV.Mesh MV.Halfedge MV.Ingest List

/-- **CreateHalfedges is total and memory-safe on every even soup.**  No checked read / write
faults and no loop runs out of the fuel the entry point gives it:
* `search` (the `while (1)` over `k`, impl.cpp:460-496) gets `numHalfedge + 1 - k₀` and needs at most
  `numHalfedge - k₀` iterations;
* `outer` (impl.cpp:480-489) gets `numHalfedge + 2` and needs at most `|k - (i + numEdge)| + 1`;
* `stepA`/`stepB` (the two `do … while`, impl.cpp:481-487) get `numHalfedge + 2` each and need at
  most `|a - (i + numEdge)| + 1`, resp. `|b - a|`.
Moreover (`SoupResult`) `ids` ends as a permutation of `[0, numHalfedge)`, so the final pairing
writes every slot of `halfedge_` (left uninitialised by `resize_nofill`) exactly once; a removed
halfedge is a complete tombstone `(-1, -1, 0)`; a kept halfedge has the start / prop vertex of the
input and is paired, mutually, with another kept halfedge. -/
theorem createHalfedges_total_safe (ts : List Tri) (heven : ts.length % 2 = 0) :
    ∃ s o, removalState ts = .ok s ∧ createHalfedges ts = .ok o ∧ SoupResult ts s o := by
  obtain ⟨M, hM⟩ : ∃ M, 3 * ts.length = 2 * M := ⟨3 * ts.length / 2, by omega⟩
  obtain ⟨s, o, hs, hc, inv, fq⟩ := createHalfedges_slots ts M hM
  refine ⟨s, o, hs, hc, by rw [fq.ssize, hM], by rw [fq.psize, hM], by rw [fq.qsize, hM],
    by rw [inv.rsz, hM], by rw [hM]; exact inv.perm, fun e he hr => ?_, fun e he hr => ?_⟩
  · obtain ⟨q, hq, rfl⟩ := perm_surj inv.isz inv.perm e (by omega)
    exact (slot_at inv fq hq).dead hr
  · obtain ⟨q, hq, rfl⟩ := perm_surj inv.isz inv.perm e (by omega)
    have sl := slot_at inv fq hq
    obtain ⟨a, b, c, d⟩ := sl.alive hr
    rw [prep_getD ts _ he] at a d
    exact ⟨a, d, _, by have := sl.lt; rw [prep_size] at this; exact this, sl.ne,
      sl.rm_partner.trans hr, b, c⟩

/-- a tetrahedron with one face flipped: accepted by the ladder, not orientable as given -/
def flippedTetra : List Tri := [(0, 2, 1), (0, 1, 3), (1, 2, 3), (0, 2, 3)]
/-- three triangles around the edge {0,1} plus one more: an edge used three times -/
def tripleEdge : List Tri := [(0, 1, 2), (0, 1, 3), (0, 1, 4), (1, 0, 5)]
/-- every triangle ascending: all 12 halfedges... 8 forward, 4 backward -/
def allAscending : List Tri := [(0, 1, 2), (0, 1, 3), (0, 2, 3), (1, 2, 3)]

example : flippedTetra.length % 2 = 0 ∧ tripleEdge.length % 2 = 0 ∧ allAscending.length % 2 = 0 := by decide +kernel

/-- **IsManifold is memory-safe on whatever CreateHalfedges produced** (the three reads through
`pair`, properties.cpp:91-94, are guarded by nothing but `pair != -1`), and its verdict is exactly
`PairInv`. -/
theorem isManifold_total_safe (ts : List Tri) (heven : ts.length % 2 = 0) (o : Out)
    (hc : createHalfedges ts = .ok o) :
    ∃ b, isManifold o = .ok b ∧ (b = true ↔ PairInv o.start o.paired) := by
  obtain ⟨s, o', _, hc', r⟩ := createHalfedges_total_safe ts heven
  rw [hc] at hc'; cases hc'
  exact isManifold_spec (by rw [r.psize, r.ssize]) r.pairRange

/-- the gate as a whole never faults -/
theorem importGate_total_safe (ts : List Tri) (heven : ts.length % 2 = 0) :
    ∃ o b, createHalfedges ts = .ok o ∧ importGate ts = .ok b ∧
      (b = true ↔ PairInv o.start o.paired) := by
  obtain ⟨s, o, _, hc, r⟩ := createHalfedges_total_safe ts heven
  obtain ⟨b, hb, hbi⟩ := isManifold_total_safe ts heven o hc
  refine ⟨o, b, hc, ?_, hbi⟩
  unfold importGate; simp only [hc, bind, Except.bind]; exact hb

theorem ids_flippedTetra : sortIds (prep flippedTetra) = #[2, 5, 11, 1, 8, 3, 0, 9, 6, 4, 7, 10] :=
  sortIds_eq _ [2, 5, 11, 1, 8, 3, 0, 9, 6, 4, 7, 10] (by decide +kernel) (by decide +kernel)
example : (importGate flippedTetra).toOption = some false := by
  simp only [importGate, createHalfedges, removalState, ids_flippedTetra]; decide +kernel
theorem ids_tripleEdge : sortIds (prep tripleEdge) = #[9, 2, 5, 8, 11, 0, 3, 6, 10, 1, 4, 7] :=
  sortIds_eq _ [9, 2, 5, 8, 11, 0, 3, 6, 10, 1, 4, 7] (by decide +kernel) (by decide +kernel)
example : (importGate tripleEdge).toOption = some false := by
  simp only [importGate, createHalfedges, removalState, ids_tripleEdge]; decide +kernel
theorem ids_allAscending : sortIds (prep allAscending) = #[2, 5, 8, 11, 0, 3, 6, 1, 9, 4, 7, 10] :=
  sortIds_eq _ [2, 5, 8, 11, 0, 3, 6, 1, 9, 4, 7, 10] (by decide +kernel) (by decide +kernel)
example : (importGate allAscending).toOption = some false := by
  simp only [importGate, createHalfedges, removalState, ids_allAscending]; decide +kernel
theorem ids_tetra : sortIds (prep MV.C01a.tetra) = #[2, 9, 5, 1, 8, 11, 3, 0, 10, 6, 4, 7] :=
  sortIds_eq _ [2, 9, 5, 1, 8, 11, 3, 0, 10, 6, 4, 7] (by decide +kernel) (by decide +kernel)
example : (importGate MV.C01a.tetra).toOption = some true := by
  simp only [importGate, createHalfedges, removalState, ids_tetra]; decide +kernel

/-- **The gate is sound.**  If the constructor goes past `IsManifold()` then the halfedge
structure satisfies `PairInv` (every kept halfedge has exactly one partner, `paired` is an
involution joining opposite directed edges, no triangle repeats a vertex), tombstones are exactly
the halfedges `CreateHalfedges` removed and come by whole triangles, and every kept halfedge `e`
still carries the directed edge of the input and is paired with a kept halfedge carrying the
reversed edge of the input.  So no structure violating `PairInv` escapes with `NoError`. -/
theorem gate_sound (ts : List Tri) (heven : ts.length % 2 = 0) (hg : importGate ts = .ok true) :
    ∃ s o, removalState ts = .ok s ∧ createHalfedges ts = .ok o ∧ PairInv o.start o.paired ∧
      ∀ e, e < 3 * ts.length →
        (s.removed.getD e false = true →
          Tomb o.start o.paired e ∧ s.removed.getD (nextHalfedge e) false = true) ∧
        (s.removed.getD e false = false → ¬ Tomb o.start o.paired e ∧
          s.removed.getD (nextHalfedge e) false = false ∧
          o.start[e]! = ((edgeAt ts e).1 : Int) ∧ endOf o.start e = ((edgeAt ts e).2 : Int) ∧
          ∃ e', e' < 3 * ts.length ∧ e' ≠ e ∧ s.removed.getD e' false = false ∧
            o.paired[e]! = (e' : Int) ∧ o.paired[e']! = (e : Int) ∧
            edgeAt ts e' = ((edgeAt ts e).2, (edgeAt ts e).1)) := by
  obtain ⟨s, o, hs, hc, r⟩ := createHalfedges_total_safe ts heven
  obtain ⟨b, hb, hbi⟩ := isManifold_total_safe ts heven o hc
  have : b = true := by
    unfold importGate at hg; simp only [hc, bind, Except.bind] at hg
    rw [hb] at hg; cases hg; rfl
  have hpi := hbi.1 this
  exact ⟨s, o, hs, hc, hpi, fun e he => r.of_pairInv hpi e he⟩

/-- **Nothing removed + no repeated directed edge = `ClosedOriented`.**  When the gate passes, no
halfedge was removed and no directed edge occurs twice in the INPUT (`(dirEdges ts).Nodup`), the
input soup itself is `ClosedOriented ts`. -/
theorem gate_sound_closed (ts : List Tri) (heven : ts.length % 2 = 0) (hg : importGate ts = .ok true)
    (o : Out) (hc : createHalfedges ts = .ok o) (hnd : (dirEdges ts).Nodup)
    (hnt : ∀ e, e < 3 * ts.length → ¬ Tomb o.start o.paired e) : ClosedOriented ts := by
  obtain ⟨s, o', hs, hc', hpi, hall⟩ := gate_sound ts heven hg
  rw [hc] at hc'; cases hc'
  obtain ⟨_, o'', _, hc'', r⟩ := createHalfedges_total_safe ts heven
  rw [hc] at hc''; cases hc''
  have hlen := length_dirEdges ts
  have alive : ∀ e, e < 3 * ts.length → s.removed.getD e false = false := by
    intro e he
    cases hr : s.removed.getD e false
    · rfl
    · exact absurd ((hall e he).1 hr).1 (hnt e he)
  have edge_mem : ∀ e, e < 3 * ts.length → edgeAt ts e ∈ dirEdges ts := by
    intro e he
    unfold edgeAt
    rw [List.getD_eq_getElem?_getD, List.getElem?_eq_getElem (by omega)]
    exact List.getElem_mem _
  have mem_edge : ∀ d ∈ dirEdges ts, ∃ e, e < 3 * ts.length ∧ edgeAt ts e = d := by
    intro d hd
    obtain ⟨e, he, hed⟩ := List.getElem_of_mem hd
    refine ⟨e, by omega, ?_⟩
    unfold edgeAt
    rw [List.getD_eq_getElem?_getD, List.getElem?_eq_getElem he]; exact hed
  rw [closedOriented_iff_edges]
  refine ⟨?_, hnd, ?_⟩
  · intro d hd
    obtain ⟨e, he, rfl⟩ := mem_edge d hd
    obtain ⟨_, _, h1, h2, _⟩ := (hall e he).2 (alive e he)
    have hg' := (hpi.2.2 e (by rw [r.ssize]; exact he)).resolve_left (hnt e he)
    have := hg'.2.2.2.2.2.1
    rw [h1, h2] at this
    intro heq; apply this; rw [heq]
  · intro a b hab
    obtain ⟨e, he, hed⟩ := mem_edge (a, b) hab
    obtain ⟨_, _, _, _, e', he', _, _, _, _, hrev⟩ := (hall e he).2 (alive e he)
    have := edge_mem e' he'
    rw [hrev, hed] at this
    exact this

/-- non-vacuity of `gate_sound_closed`: the tetrahedron -/
example : MV.C01a.tetra.length % 2 = 0 ∧ (dirEdges MV.C01a.tetra).Nodup := by decide +kernel

/--
FULL STATEMENT (completeness): every non-degenerate `Balanced` soup (an even-manifold: as many
copies of `a→b` as of `b→a`) with indices `< 2^31` passes the gate.  NOT proved: it needs the
counting argument that run `j` of the backward half of the sorted `ids` faces run `j` of the forward
half and that the re-pairing loop keeps the runs aligned (the same gap as
`MV.C01a.createHalfedges_pairInv_partial`).

PROVED (`_partial`): every closed oriented 2-manifold passes (in particular the gate rejects no
mesh that satisfies C01). -/
theorem gate_complete_partial (nV : Nat) (ts : List Tri) (h : Closed2Manifold nV ts)
    (hnV : nV ≤ 2 ^ 31) : importGate ts = .ok true := by
  have heven : ts.length % 2 = 0 := (MV.C01a.closed2Manifold_euler h).2.1
  obtain ⟨o, ho, hpi, _⟩ := MV.C01a.createHalfedges_of_closed2Manifold nV ts h hnV
  obtain ⟨b, hb, hbi⟩ := isManifold_total_safe ts heven o ho
  unfold importGate; simp only [ho, bind, Except.bind]
  rw [hb, hbi.2 hpi]

example : Closed2Manifold 4 MV.C01a.tetra ∧ 4 ≤ 2 ^ 31 := by decide +kernel

/-- **Composition with C09.**  Whatever MeshGL the validation ladder lets through, the
transliterated `CreateHalfedges` + `IsManifold` run to completion without a fault, and the verdict
the C09 model uses (`isManifoldKept`, stated with `decide PairInv`) IS the verdict of the
transliterated `IsManifold()`: status code 99 of `statusCode` is unreachable. -/
theorem ingest_then_halfedges_safe (sh : MeshShape) (r : Ingested)
    (h : ingest Guards.fixed sh = .ok r) :
    ∃ b, importGate r.kept.triVert.toList = .ok b ∧ isManifoldKept r.kept = some b := by
  have hev : r.kept.triVert.toList.length % 2 = 0 := by
    have := (MV.Ingest.ingest_ok_inv sh r h).2.2.2.2.1
    simpa using this
  obtain ⟨o, b, hc, hg, hbi⟩ := importGate_total_safe _ hev
  refine ⟨b, hg, ?_⟩
  unfold isManifoldKept
  by_cases h0 : r.kept.triVert.size = 0
  · simp only [h0, if_true]
    have : r.kept.triVert.toList = [] := by
      have : r.kept.triVert.toList.length = 0 := by simpa using h0
      exact List.length_eq_zero_iff.1 this
    rw [this] at hg
    have : importGate [] = .ok true := rfl
    rw [this] at hg; cases hg; rfl
  · simp only [h0, if_false, hc]
    congr 1
    cases b
    · have : ¬ PairInv o.start o.paired := fun hp => Bool.noConfusion (hbi.2 hp)
      simp [this]
    · simp [hbi.1 rfl]

theorem statusCode_ne_99 (sh : MeshShape) : (statusCode Guards.fixed sh).1 ≠ 99 := by
  unfold statusCode
  cases h : ingest Guards.fixed sh with
  | err e => cases e <;> simp [Err.code]
  | fault f =>
    have := MV.Ingest.ingest_total_safe sh
    rw [h] at this; exact absurd this (by simp [R.Safe])
  | ok r =>
    obtain ⟨b, _, hk⟩ := ingest_then_halfedges_safe sh r h
    simp only [hk]
    cases b
    · simp
    · simp only [tailCode]; split <;> simp [Err.code]

end MV.C09b
