/-
Property C15 — cancellation is all-or-nothing at every point; progress is monotone, ends at 1.

  "If Cancel() takes effect at any moment of an evaluation observed through an ExecutionContext
   (Status of a deferred tree, Refine*, Hull, Minkowski*, FromMeshGL, Smooth, LevelSet), the call
   returns either the complete result identical to an uncancelled run or an empty Manifold with
   Error::Cancelled that stays Cancelled; no partially built mesh escapes, already evaluated operands
   are untouched, and rebuilding the expression from them with a fresh context gives the correct
   result. During one evaluation Progress() never decreases, never exceeds 1, and equals 1 after an
   uncancelled completion; a cancelled context short-circuits every later evaluation through it."

Model: MV/Model/Progress.lean; MV/Model/CancelSites.lean (the check-after-loop discipline as a decidable
predicate on a table of the source functions). Generated facts: MV/Gen/Phases.lean and the table
MV/Gen/CancelSites.lean (regenerated from the working tree by tools/extract_phases.py and
tools/extract_cancel.py on every run of the check).

What is proved here, for ALL interleavings / expressions / check positions:
* the generated constants and site counts agree, the stores are in the coded order, `ADVANCE_PHASE_OR_RETURN`
  tests before it credits, `GetCsgLeafNode` tops up on completion             (`decide` over MV.Gen.Phases)
* every non-cancelled return of `Boolean3::Result` publishes exactly `kPhasesPerBoolean`; a static
  factory that completes publishes exactly its constant, a cancelled one strictly less
* `progress_monotone_le_one`  : every interleaving of the evaluating thread's atomic counter updates with an
  observer's two loads, under the reset discipline stated at the theorem
* `tree_reductions_eq_leaves_minus_one`, `dag_reductions_le_leaves_minus_one`, `progress_one_at_end`
  (trees: also for the pinned code; DAGs: only with the `fix:` — the 5-node counterexample is an `example`)
* `cancel_all_or_nothing` : for every check index `k`, on one Impl (post-loop check discipline) and on an
  expression (poisoned caches): complete-and-identical or Cancelled; sticky; a fresh context re-evaluates
* `monitor_sound` : what the driver's acceptance of a real counter stream implies

That every ctx-aware loop and every call of an in-place helper in the source IS followed by a later check in
the same function is proved on the generated table (`cancel_sites_guarded`; reviewed exceptions `valueCallees`,
`tailFns` of MV/Model/CancelSites.lean), which discharges the hypothesis `guarded` of `cancel_all_or_nothing`
for those functions (`bodyOk_guarded`, `source_functions_all_or_nothing`); the extraction of the table by
tools/extract_cancel.py is trusted.
NOT proved (checked by fault enumeration on the real code, harness/c15_cancel.cpp): that the C++ functions
otherwise have the shape of the model, that results are bit-identical, and that operands are untouched. The number and the positions of the checks inside an operation are arbitrary in the
model, so the theorems cover every `k`; the tie to the code is the enumeration of every `k` on real programs.
-/
import MV.Proof.Progress
import MV.Model.CancelSites

namespace MV.Progress.C15
open MV.Progress MV.Gen.Phases

/-- `kPhasesPer*` equal the number of sites that credit one phase each. -/
theorem phase_sites_match :
    resultPhaseSites = kPhasesPerBoolean ∧
    meshCtorAdvanceSites = kPhasesPerFromMesh ∧
    kPhasesPerFromMesh + createTangentsAdvanceSites = kPhasesPerSmooth ∧
    createLevelSetAdvanceSites = kPhasesPerLevelSet := by decide

/-- Both resets store the numerators before the denominators (the coded order of the model). -/
theorem reset_order_numerators_first (b t : Nat) :
    resetOfOrder resetOrderCsg b t = resetCoded b t ∧ resetOfOrder resetOrderFactory b t = resetCoded b t := by
  constructor <;> rfl

/-- `ADVANCE_PHASE_OR_RETURN` tests the flag, then credits exactly one phase; `phase()` credits then tests and
`PhaseBalance` tops up to the constant unless cancelled; `GetCsgLeafNode` tops the numerators up after an
uncancelled `ToLeafNode` (the `fix:` for defect 2 — `false` on the pinned tree, where this theorem fails). -/
theorem credit_discipline :
    advanceChecksBeforeCredit = true ∧ advanceCredit = 1 ∧ phaseCreditsBeforeCheck = true ∧
    balanceTopsUpToK = true ∧ csgTopsUpOnCompletion = true := by decide

example : resetCoded 3 33 = [.stDoneB 0, .stDoneP 0, .stTotalB 3, .stTotalP 33] := rfl

/-- Every non-cancelled return path of `Boolean3::Result` publishes exactly `kPhasesPerBoolean` phases
(an early return can have passed at most all the sites); a cancelled one at most that. -/
theorem boolean_publishes_exactly_k (p : ResultPath) :
    (∀ j, p = .early j → j ≤ resultPhaseSites → published resultPhaseSites kPhasesPerBoolean p = kPhasesPerBoolean) ∧
    (p = .full → published resultPhaseSites kPhasesPerBoolean p = kPhasesPerBoolean) ∧
    (∀ j, p = .cancelled j → j ≤ resultPhaseSites → published resultPhaseSites kPhasesPerBoolean p ≤ kPhasesPerBoolean) := by
  have h := phase_sites_match.1
  refine ⟨?_, ?_, ?_⟩
  · intro j hp hj; subst hp; simp only [published]; omega
  · intro hp; subst hp; simp only [published]; exact h
  · intro j hp hj; subst hp; simp only [published]; omega

example : published resultPhaseSites kPhasesPerBoolean (.early 1) = 11 := by decide

/-- the same statement shows why the counts must match: with one site more than the constant the full path
publishes 12 of 11 -/
example : published 12 11 .full = 12 := rfl

/-- A static factory that completes has `donePhases = totalPhases`; one cancelled at its `i`-th phase boundary
has strictly less ("credit is published only after a phase completes"). For each of the three factories. -/
theorem factory_progress (i : Nat) :
    factoryRun meshCtorAdvanceSites advanceChecksBeforeCredit none = (kPhasesPerFromMesh, false) ∧
    factoryRun (meshCtorAdvanceSites + createTangentsAdvanceSites) advanceChecksBeforeCredit none = (kPhasesPerSmooth, false) ∧
    factoryRun createLevelSetAdvanceSites advanceChecksBeforeCredit none = (kPhasesPerLevelSet, false) ∧
    (∀ sites, (factoryRun sites advanceChecksBeforeCredit (some i)).2 = true →
      (factoryRun sites advanceChecksBeforeCredit (some i)).1 < sites) := by
  refine ⟨by decide, by decide, by decide, ?_⟩
  intro sites h
  have hc : advanceChecksBeforeCredit = true := by decide
  rw [hc] at h ⊢
  simp only [factoryRun] at h ⊢
  by_cases hi : 1 ≤ i ∧ i ≤ sites
  · rw [if_pos hi]; simp only [if_true]; omega
  · rw [if_neg hi] at h; simp at h

/-- the mutation "credit before the cancel test": a run cancelled at the last boundary shows 100 % -/
example : factoryRun 6 false (some 6) = (6, true) := by decide
example : factoryRun 6 true (some 6) = (5, true) := by decide

/-- **Progress() is monotone and never exceeds 1, for every interleaving.**

Setting: one evaluating thread performing atomic operations on the four counters, one observer thread whose
`Progress()` is two separate relaxed loads (`totalPhases`, then `donePhases`); `evs` is ANY interleaving of the
two, and `St.run {} evs = some s` says the evaluating thread kept the reset discipline of the code:
a reset is the four stores in the coded order `doneBooleans, donePhases, totalBooleans, totalPhases`
(`reset_order_numerators_first`), and between two resets the phases credited stay within the denominator
(`csg_credits_within_budget`, `factory_progress`), optionally ending with the top-up.
Then
* every value returned is `≤ 1`, except possibly for an observer that slept, between its two loads, through a
  denominator store AND a later positive credit (`dirty`) — for that reader no store order can help;
* two values whose loads all lie inside the same evaluation (after its reset completed and before the next one
  began: `clean`, same `gen`) are ordered like the reads. -/
theorem progress_monotone_le_one (evs : List Ev) (s : St) (h : St.run {} evs = some s) :
    (∀ o ∈ s.log, o.dirty = false → fracLe o.frac (1, 1)) ∧
    s.log.Pairwise (fun newer older =>
      older.clean = true → newer.clean = true → older.gen = newer.gen → fracLe older.frac newer.frac) := by
  have inv := run_inv evs inv_init h
  constructor
  · intro o ho hd
    have := inv.logLe o ho hd
    unfold fracLe Obs.frac
    split <;> simp only <;> omega
  · refine inv.logMono.imp ?_
    intro newer older hR hc hn hg
    obtain ⟨ht, hdn⟩ := hR hc hn hg
    unfold fracLe Obs.frac
    rw [ht]
    split
    · simp
    · simp only
      exact Nat.mul_le_mul_right _ hdn

/-- at every micro step of a disciplined run the numerator is within the denominator -/
theorem done_le_total_always (evs : List Ev) (s : St) (h : St.run {} evs = some s) :
    s.c.donePhases ≤ s.c.totalPhases := done_le_total (run_inv evs inv_init h)

/-- non-vacuity: a context reused for a second evaluation, the observer reading inside the reset window
(0/22, the "may briefly read 0") and across it (22/22 → 0/11 → 4/11) -/
example :
    (St.run {} ((resetCoded 2 22).map .w ++ [.w (.addDoneP 22), .loadTotal, .loadDone,
        .w (.stDoneB 0), .w (.stDoneP 0), .loadTotal, .w (.stTotalB 1), .loadDone, .w (.stTotalP 11),
        .loadTotal, .loadDone, .w (.addDoneP 4), .loadTotal, .loadDone])).map
      (fun s => s.log.reverse.map (fun o => (o.done, o.total, o.clean))) =
    some [(22, 22, true), (0, 22, false), (0, 11, true), (4, 11, true)] := by decide

/-- the mutation "totals stored before dones": an observer reading between the two pairs of stores sees
22/11 although no credit happened between its loads -/
example :
    rawObserve { totalPhases := 22, donePhases := 22, totalBooleans := 2, doneBooleans := 2 } none
      ([.w (.stTotalB 1), .w (.stTotalP 11), .loadTotal, .loadDone, .w (.stDoneB 0), .w (.stDoneP 0)]) = [(22, 11)] := by
  decide

/-- the discipline rejects that order -/
example : St.run { c := { totalPhases := 22, donePhases := 22 }, ph := .run 0 } ((resetSwapped 1 11).map .w) = none := by
  decide

/-- `BatchBoolean` on `k` operands performs exactly `k - 1` `SimpleBoolean`s, whatever the heap order. -/
theorem batchBoolean_reductions (k : Nat) : batchBooleanCount k = k - 1 := batchBooleanCount_eq k

/-- `BatchUnion` on `n` children is credited exactly `n - 1` reductions for every sequence of partitions into
pairwise-disjoint sets (`Compose` of a set of size `s` credits `s - 1`, the sets are then `BatchBoolean`ed). -/
theorem batchUnion_reductions (n : Nat) (rounds : List (List Nat)) (c : Nat)
    (h : batchUnionCredits n rounds = some c) : c = n - 1 := batchUnionCredits_eq rounds n c h

example : batchUnionCredits 7 [[3, 2, 1, 1]] = some 6 := by decide

/-- **A tree with `n` leaves is reduced by exactly `n - 1` leaf reductions**, whatever the grouping: every
collapse annotation (`use_count`-dependent), every operation mix, negative-list routing of `Subtract`
included. -/
theorem tree_reductions_eq_leaves_minus_one (t : Csg) (memo : List Nat) (o : Out)
    (hw : t.wf = true) (ht : t.isTree = true) (h : t.evalRoot memo = some o) :
    o.credits + 1 = t.numLeaves memo := by
  obtain ⟨sp, hpos, hneg⟩ := Csg.evalRoot_spec t memo o hw h
  have := (sp.eq ht).1
  omega

/-- **On a DAG the reductions performed are at most the unfolded count** (`NumLeaves` walks the unfolded
expression, evaluation reduces a shared `impl_` once): the numerators never pass the denominators. -/
theorem dag_reductions_le_leaves_minus_one (t : Csg) (memo : List Nat) (o : Out)
    (hw : t.wf = true) (h : t.evalRoot memo = some o) :
    o.credits + 1 ≤ t.numLeaves memo := by
  obtain ⟨sp, hpos, hneg⟩ := Csg.evalRoot_spec t memo o hw h
  have := sp.le
  omega

/-- the phases credited by an uncancelled evaluation fit the denominator set by `GetCsgLeafNode`
(this is the budget of the discipline in `progress_monotone_le_one`) -/
theorem csg_credits_within_budget (K : Nat) (t : Csg) (memo : List Nat) (o : Out)
    (hw : t.wf = true) (h : t.evalRoot memo = some o) :
    o.credits * K ≤ (t.numLeaves memo - 1) * K :=
  Nat.mul_le_mul_right K (by have := dag_reductions_le_leaves_minus_one t memo o hw h; omega)

/-- **Progress() equals 1 after an uncancelled completion**: for trees already on the pinned code, for
every expression (DAGs included) on the code with the top-up. Both counter pairs. -/
theorem progress_one_at_end (K : Nat) (topUp : Bool) (t : Csg) (memo : List Nat) (dP tP dB tB : Nat)
    (hw : t.wf = true) (hshape : t.isTree = true ∨ topUp = true)
    (h : csgFinalCounters K topUp memo t = some (dP, tP, dB, tB)) : dP = tP ∧ dB = tB := by
  unfold csgFinalCounters at h
  cases he : t.evalRoot memo with
  | none => simp [he] at h
  | some o =>
    simp only [he] at h
    cases topUp with
    | true =>
      simp only [if_true, Option.some.injEq, Prod.mk.injEq] at h
      obtain ⟨h1, h2, h3, h4⟩ := h
      omega
    | false =>
      have ht : t.isTree = true := by rcases hshape with h1 | h1 <;> simp_all
      have := tree_reductions_eq_leaves_minus_one t memo o hw ht he
      have hp : 0 < t.numLeaves memo := by omega
      simp only [Bool.false_eq_true, if_false, hp, if_true, Option.some.injEq, Prod.mk.injEq] at h
      obtain ⟨h1, h2, h3, h4⟩ := h
      have : o.credits = t.numLeaves memo - 1 := by omega
      subst h1 h2 h3 h4
      rw [this]
      exact ⟨rfl, rfl⟩

/-- the instance for the code as it is now: with the generated `csgTopsUpOnCompletion`, for DAGs too -/
theorem progress_one_at_end_dag (t : Csg) (memo : List Nat) (dP tP dB tB : Nat) (hw : t.wf = true)
    (h : csgFinalCounters kPhasesPerBoolean csgTopsUpOnCompletion memo t = some (dP, tP, dB, tB)) :
    dP = tP ∧ dB = tB :=
  progress_one_at_end _ _ t memo dP tP dB tB hw (Or.inr credit_discipline.2.2.2.2) h

/-- and the numerators stay within the denominators until then, top-up or not -/
theorem csg_done_le_total (K : Nat) (t : Csg) (memo : List Nat) (o : Out) (hw : t.wf = true)
    (h : t.evalRoot memo = some o) :
    o.credits * K ≤ (if 0 < t.numLeaves memo then t.numLeaves memo - 1 else 0) * K := by
  have := dag_reductions_le_leaves_minus_one t memo o hw h
  have hp : 0 < t.numLeaves memo := by omega
  simp only [hp, if_true]
  exact Nat.mul_le_mul_right K (by omega)

/-- **the DAG counterexample on the pinned code** (DESIGN.md section 7, defect 2):
`s = (a+b)-c ; root = s + s.Translate(..).Rotate(..)` : `NumLeaves` = 6, so `totalPhases = 5·11`, but `s` is
evaluated once: `donePhases = 3·11`, `Progress()` ends at 0.6 -/
example : dagExample.wf = true ∧ dagExample.numLeaves [] = 6 ∧
    csgFinalCounters 11 false [] dagExample = some (33, 55, 3, 5) := by decide +kernel

/-- the same expression with the top-up -/
example : csgFinalCounters 11 true [] dagExample = some (55, 55, 5, 5) := by decide +kernel

/-- non-vacuity of the tree theorem: `(a + b) - (c + d) - e` with and without collapsing -/
example :
    let t (col : Bool) : Csg := .node .subtract false none
      (.cons (.node .subtract col none (.cons (.node .add col none (.cons .leaf (.cons .leaf .nil)))
        (.cons (.node .add col none (.cons .leaf (.cons .leaf .nil))) .nil))) (.cons .leaf .nil))
    (t true).wf = true ∧ (t true).isTree = true ∧ ((t true).evalRoot []).map (·.credits) = some 4 ∧
    ((t false).evalRoot []).map (·.credits) = some 4 ∧ (t true).numLeaves [] = 5 := by decide +kernel

/-- **all-or-nothing on one Impl, for every check index**: if every ctx-aware loop is followed by a later
check (`guarded`, the invariant written at src/sort.cpp:243), then for every fuel — i.e. Cancel() taking effect
at the `k`-th check for every `k`, or never — the operation returns `Cancelled` or exactly the value of the
uncancelled run; that value never contains a cut-short loop. -/
theorem cancel_all_or_nothing (p : List Stmt) (hg : guarded p = true) (f : Fuel) (b : Built)
    (hb : b.partialOutput = false) :
    ((exec p f b).1 = .cancelled ∨ (exec p f b).1 = (exec p none b).1) ∧
    ∃ b', (exec p none b).1 = .value b' ∧ b'.partialOutput = false := by
  refine ⟨exec_all_or_nothing p hg f b, ?_⟩
  obtain ⟨b', h1, h2⟩ := exec_none_not_partial p b
  exact ⟨b', h1, by rw [h2, hb]⟩

/-- `SortGeometry`-like body inside `Refine` as on the pinned tree (no check after the last loop): a cancel
at the 2nd check lets a partial mesh out with status NoError — found on the real code, repaired by a `fix:` -/
example :
    let refinePinned : List Stmt := [.work 0, .check, .loop 1 3, .work 2]
    guarded refinePinned = false ∧
    (exec refinePinned (some 1) {}).1 = .value { items := [2, 1, 0], partialOutput := true } := by decide

/-- with the post-loop check: cancelled at every `k ≤ 4`, complete afterwards -/
example :
    let refineFixed : List Stmt := [.work 0, .check, .loop 1 3, .check, .work 2]
    guarded refineFixed = true ∧ checksOf refineFixed = 5 ∧
    (List.range 5).all (fun k => (exec refineFixed (some k) {}).1 = .cancelled) = true ∧
    (exec refineFixed (some 5) {}).1 = (exec refineFixed none {}).1 := by decide

/-- **all-or-nothing on an expression, for every check index.** For an expression without poisoned nodes
whose `done` marks are truthful (in particular a freshly built one), and every fuel:
* not cancelled ⇒ the final state of every node is the one of the uncancelled run, everything evaluated;
* cancelled ⇒ the flag is set, the root's `cache_` is poisoned, and `done` still marks only completely
  evaluated sub-expressions (poisoning touches nodes on the stack only). -/
theorem cancel_all_or_nothing_tree (t : CTree) (f : Fuel) (hc : t.clean = true) (hd : t.doneClosed = true) :
    ((t.eval f).1 = false → (t.eval f).2.2 = (t.eval none).2.2 ∧ (t.eval f).2.2.allDone = true) ∧
    ((t.eval f).1 = true → (t.eval f).2.1 = some 0 ∧ (t.eval f).2.2.cacheOf = .cancelled ∧
      (t.eval f).2.2.doneClosed = true) :=
  ⟨(CTree.eval_spec t f hc hd).1, (CTree.eval_spec t f hc hd).2.1⟩

/-- **Cancelled stays Cancelled**: a poisoned expression returns Cancelled through every context, fresh ones
included, without doing anything. -/
theorem cancelled_stays_cancelled (t : CTree) (h : t.cacheOf = .cancelled) (f : Fuel) :
    t.eval f = (true, f, t) := by
  cases t with
  | leaf => simp [CTree.cacheOf] at h
  | node c n kids => simp only [CTree.cacheOf] at h; subst h; simp [CTree.eval]

mutual
theorem rebuild_fresh : ∀ t : CTree, t.rebuild.clean = true ∧ t.rebuild.doneClosed = true
  | .leaf => by simp [CTree.rebuild, CTree.clean, CTree.doneClosed]
  | .node c n kids => by
    have := rebuild_fresh_kids kids
    simp [CTree.rebuild, CTree.clean, CTree.doneClosed, this.1, this.2]
theorem rebuild_fresh_kids : ∀ ks : CKids, ks.rebuild.clean = true ∧ ks.rebuild.doneClosed = true
  | .nil => by simp [CKids.rebuild, CKids.clean, CKids.doneClosed]
  | .cons t ks => by
    have h1 := rebuild_fresh t
    have h2 := rebuild_fresh_kids ks
    simp [CKids.rebuild, CKids.clean, CKids.doneClosed, h1.1, h1.2, h2.1, h2.2]
end

/-- **A fresh context re-evaluates correctly**: the expression rebuilt from its leaves, and every
sub-expression handle of the cancelled one that is not poisoned, evaluate completely when never cancelled. -/
theorem fresh_context_reevaluates (t : CTree) :
    ((t.rebuild.eval none).1 = false ∧ (t.rebuild.eval none).2.2.allDone = true) ∧
    (t.clean = true → t.doneClosed = true → (t.eval none).1 = false ∧ (t.eval none).2.2.allDone = true) := by
  have key : ∀ u : CTree, u.clean = true → u.doneClosed = true →
      (u.eval none).1 = false ∧ (u.eval none).2.2.allDone = true := by
    intro u hc hd
    obtain ⟨h1, _, h3, _⟩ := CTree.eval_spec u none hc hd
    exact ⟨h3, (h1 h3).2⟩
  exact ⟨key _ (rebuild_fresh t).1 (rebuild_fresh t).2, key t⟩

/-- non-vacuity: `(x + y) + z` with 2, 3 and 1 inner checks; cancel at the 5th check poisons the root and
the node being finalized, leaves the finished node `done`, and the rebuilt expression evaluates -/
example :
    let t : CTree := .node .empty 1 (.cons (.node .empty 2 .nil) (.cons (.node .empty 3 .nil) .nil))
    t.clean = true ∧ t.doneClosed = true ∧
    t.eval (some 4) = (true, some 0, .node .cancelled 1 (.cons (.node .done 2 .nil) (.cons (.node .cancelled 3 .nil) .nil))) ∧
    (t.eval (some 9)).1 = false ∧ (t.eval (some 8)).1 = true ∧
    ((t.eval (some 4)).2.2.rebuild.eval none).1 = false := by decide

/-- adjacent elements of a list are related -/
def Adjacent {α : Type} (R : α → α → Prop) : List α → Prop
  | [] => True
  | [_] => True
  | a :: b :: rest => R a b ∧ Adjacent R (b :: rest)

theorem chainOk_sound (m : Mode) : ∀ l : List Sample, chainOk m l = true →
    (∀ s ∈ l, s.ok m = true) ∧
    Adjacent (fun a b => a.stepOk m b = true ∨ (m = .multi ∧ a.resetOk b = true)) l
  | [], _ => by simp [Adjacent]
  | [a], h => by simp only [chainOk] at h; simp [Adjacent, h]
  | a :: b :: rest, h => by
    simp only [chainOk, Bool.and_eq_true, Bool.or_eq_true, decide_eq_true_eq] at h
    obtain ⟨⟨ha, hab⟩, hr⟩ := h
    obtain ⟨h1, h2⟩ := chainOk_sound m (b :: rest) hr
    refine ⟨?_, hab, h2⟩
    intro s hs
    simp only [List.mem_cons] at hs
    rcases hs with rfl | hs
    · exact ha
    · exact h1 s (by simpa using hs)

theorem Sample.ok_le_one {m : Mode} {s : Sample} (h : s.ok m = true) : fracLe s.frac (1, 1) := by
  simp only [Sample.ok, Bool.and_eq_true, decide_eq_true_eq] at h
  unfold fracLe Sample.frac
  split <;> simp only <;> omega

theorem Sample.stepOk_mono {m : Mode} {a b : Sample} (h : a.stepOk m b = true) : fracLe a.frac b.frac := by
  simp only [Sample.stepOk, Bool.and_eq_true, decide_eq_true_eq] at h
  obtain ⟨⟨⟨⟨ht, _⟩, hd⟩, _⟩, _⟩ := h
  unfold fracLe Sample.frac
  rw [ht]
  split
  · simp
  · simp only; exact Nat.mul_le_mul_right _ hd

theorem adjacent_pairwise {α : Type} {R : α → α → Prop} (htr : ∀ a b c, R a b → R b c → R a c) :
    ∀ l : List α, Adjacent R l → l.Pairwise R
  | [], _ => List.Pairwise.nil
  | [a], _ => by simp
  | a :: b :: rest, h => by
    obtain ⟨hab, hr⟩ := h
    have ih := adjacent_pairwise htr (b :: rest) hr
    refine List.pairwise_cons.mpr ⟨?_, ih⟩
    intro c hc
    rw [List.pairwise_cons] at ih
    simp only [List.mem_cons] at hc
    rcases hc with rfl | hc
    · exact hab
    · exact htr a b c hab (ih.1 c hc)

theorem adjacent_imp {α : Type} {R S : α → α → Prop} (himp : ∀ a b, R a b → S a b) :
    ∀ l : List α, Adjacent R l → Adjacent S l
  | [], _ => trivial
  | [_], _ => trivial
  | a :: b :: rest, h => ⟨himp a b h.1, adjacent_imp himp (b :: rest) h.2⟩

/-- **Soundness of the monitor.** If `progressMonitor` accepts the segments recorded from one context
(each: the counters sampled at every `IsCancelled` check of one eager call, in order, and after it returned), then
in every call
1. every sampled `Progress()` is `≤ 1`;
2. consecutive samples never decrease, except at a step where a new evaluation began inside a Minkowski call
   (`multi`; the counters were reset); in every other kind of call ALL samples are ordered, not only neighbours;
3. a call that was not cancelled ends with `Progress() = 1` exactly (`donePhases = totalPhases`) and
   `doneBooleans = totalBooleans`; a cancelled static factory ends strictly below 1;
and 4. once a call returned Cancelled every later call through the context did. -/
theorem monitor_sound (gs : List Segment) (h : progressMonitor gs = true) :
    (∀ g ∈ gs,
      (∀ s ∈ g.all, fracLe s.frac (1, 1)) ∧
      Adjacent (fun a b => fracLe a.frac b.frac ∨ (g.mode = .multi ∧ a.resetOk b = true)) g.all ∧
      (g.mode ≠ .multi → g.all.Pairwise (fun a b => fracLe a.frac b.frac)) ∧
      (g.cancelled = false → g.last.dP = g.last.tP ∧ g.last.dB = g.last.tB ∧ g.last.frac.1 = g.last.frac.2) ∧
      (g.cancelled = true → g.mode.factoryTotal.isSome = true → g.last.dP < g.last.tP)) ∧
    suffixCancelled gs = true := by
  simp only [progressMonitor, Bool.and_eq_true, List.all_eq_true] at h
  refine ⟨?_, h.2⟩
  intro g hg
  have hacc := h.1 g hg
  simp only [Segment.accept, Bool.and_eq_true] at hacc
  obtain ⟨hch, hend⟩ := hacc
  obtain ⟨hok, hadj⟩ := chainOk_sound g.mode g.all hch
  refine ⟨fun s hs => Sample.ok_le_one (hok s hs), ?_, ?_, ?_, ?_⟩
  · exact adjacent_imp (fun a b hab => hab.imp Sample.stepOk_mono id) _ hadj
  · intro hm
    -- same denominator and ordered numerators is transitive
    have hadj' : Adjacent (fun a b : Sample => a.tP = b.tP ∧ a.dP ≤ b.dP) g.all := by
      refine adjacent_imp (fun a b hab => ?_) _ hadj
      rcases hab with hs | ⟨hmm, _⟩
      · simp only [Sample.stepOk, Bool.and_eq_true, decide_eq_true_eq] at hs
        exact ⟨hs.1.1.1.1, hs.1.1.2⟩
      · exact absurd hmm hm
    have hp := adjacent_pairwise (R := fun a b : Sample => a.tP = b.tP ∧ a.dP ≤ b.dP)
      (fun a b c h1 h2 => ⟨h1.1.trans h2.1, Nat.le_trans h1.2 h2.2⟩) _ hadj'
    refine hp.imp ?_
    intro a b hab
    unfold fracLe Sample.frac
    rw [hab.1]
    split
    · simp
    · simp only; exact Nat.mul_le_mul_right _ hab.2
  · intro hc
    simp only [Segment.endOk, hc, Bool.false_eq_true, if_false, Bool.and_eq_true, decide_eq_true_eq] at hend
    refine ⟨hend.1, hend.2, ?_⟩
    unfold Sample.frac
    split
    · rfl
    · exact hend.1
  · intro hc hf
    simp only [Segment.endOk, hc, if_true] at hend
    cases hft : g.mode.factoryTotal with
    | none => simp [hft] at hf
    | some k => simpa [hft] using hend

/-- non-vacuity: the stream of `s + s.Translate(..)` on the repaired code is accepted, the pinned one
(ending at 33/55) is rejected, a decrease is rejected, a cancelled factory at 6/6 is rejected -/
example :
    progressMonitor [{ mode := .tree, obs := [⟨0, 55, 0, 5⟩, ⟨11, 55, 1, 5⟩, ⟨33, 55, 3, 5⟩], cancelled := false, last := ⟨55, 55, 5, 5⟩ }] = true ∧
    progressMonitor [{ mode := .tree, obs := [⟨0, 55, 0, 5⟩, ⟨11, 55, 1, 5⟩, ⟨33, 55, 3, 5⟩], cancelled := false, last := ⟨33, 55, 3, 5⟩ }] = false ∧
    progressMonitor [{ mode := .tree, obs := [⟨11, 55, 1, 5⟩, ⟨10, 55, 1, 5⟩], cancelled := true, last := ⟨10, 55, 1, 5⟩ }] = false ∧
    progressMonitor [{ mode := .fromMesh, obs := [⟨0, 6, 0, 0⟩, ⟨5, 6, 0, 0⟩], cancelled := true, last := ⟨6, 6, 0, 0⟩ }] = false ∧
    progressMonitor [{ mode := .multi, obs := [⟨0, 0, 0, 0⟩, ⟨0, 11, 0, 1⟩, ⟨11, 11, 1, 1⟩, ⟨0, 22, 0, 2⟩], cancelled := false, last := ⟨22, 22, 2, 2⟩ }] = true := by
  decide

section sites
open MV.CancelSites MV.Gen.CancelSites

theorem contains_check_toStmts (rest : List Item) (hr : rest.contains .check = true) :
    (toStmts rest).contains Stmt.check = true := by
  induction rest with
  | nil => cases hr
  | cons x xs ih =>
    cases x with
    | check => simp [toStmts]
    | loop => simpa [toStmts] using ih (by simpa using hr)
    | work => simpa [toStmts] using ih (by simpa using hr)
    | call c =>
      have := ih (by simpa using hr)
      simp only [toStmts]
      split <;> simpa using this

theorem mem_check_toStmts (rest : List Item) (hr : Item.check ∈ rest) : Stmt.check ∈ toStmts rest := by
  simpa using contains_check_toStmts rest (by simpa using hr)

/-- the syntactic discipline implies the hypothesis `guarded` of `cancel_all_or_nothing` for the
translated program: every item that can leave partial state behind has a later check -/
theorem bodyOk_guarded (items : List Item) (h : bodyOk items = true) : guarded (toStmts items) = true := by
  induction items with
  | nil => rfl
  | cons it rest ih =>
    simp only [bodyOk, Bool.and_eq_true] at h
    obtain ⟨h1, h2⟩ := h
    have ihr := ih h2
    cases it with
    | loop =>
      have h1' : rest.contains .check = true := by simpa [needsCheck] using h1
      simp only [toStmts, guarded, Bool.and_eq_true]
      exact ⟨contains_check_toStmts rest h1', ihr⟩
    | call c =>
      simp only [toStmts]
      cases hv : valueCallees.contains c with
      | true =>
        simpa [guarded] using ihr
      | false =>
        have hnc : needsCheck (Item.call c) = true := by
          show (!valueCallees.contains c) = true
          rw [hv]; rfl
        have h1' : rest.contains .check = true := by rw [hnc] at h1; simpa using h1
        simp only [Bool.false_eq_true, if_false, guarded, Bool.and_eq_true]
        exact ⟨contains_check_toStmts rest h1', ihr⟩
    | check => simpa [toStmts, guarded] using ihr
    | work => simpa [toStmts, guarded] using ihr

/-- **the discipline holds for every function of the current source**: each context-aware loop and each
call of an in-place helper is followed by a later `IsCancelled` check in the same function, except in the
reviewed tail helpers, all of which are called (so their call sites carry the obligation).  Kernel
evaluation over the GENERATED table. -/
theorem cancel_sites_guarded : fns.all fnOk = true ∧ tailLive fns = true := by decide +kernel

/-- hence `cancel_all_or_nothing` applies to the program of every function of the source that is not a reviewed tail helper or entry-checked producer: for
every cancellation point it returns Cancelled or exactly the uncancelled value, never a cut-short loop -/
theorem source_functions_all_or_nothing (f : Fn) (hf : f ∈ fns) (ht : exempt f = false)
    (fuel : Fuel) (b : Built) (hb : b.partialOutput = false) :
    ((exec (toStmts f.body) fuel b).1 = .cancelled ∨ (exec (toStmts f.body) fuel b).1 = (exec (toStmts f.body) none b).1) ∧
    ∃ b', (exec (toStmts f.body) none b).1 = .value b' ∧ b'.partialOutput = false := by
  have hall := cancel_sites_guarded.1
  have hok : fnOk f = true := List.all_eq_true.mp hall f hf
  have hb' : bodyOk f.body = true := by
    simp only [exempt, Bool.or_eq_false_iff] at ht
    simp only [fnOk, fnOkIn, Bool.or_eq_true] at hok
    rcases hok with (h | h) | h
    · rw [ht.1] at h; cases h
    · exact h
    · exfalso
      have hn := ht.2
      rw [List.any_eq_false] at hn
      obtain ⟨p, hp, hq⟩ := List.any_eq_true.mp h
      have := hn p hp
      simp only [Bool.and_eq_true] at hq
      simp [hq.1] at this
  exact cancel_all_or_nothing _ (bodyOk_guarded _ hb') fuel b hb

/-- non-vacuity and sensitivity: `SortGeometry` is in the table and guarded; the shape of the repaired
Refine defect (`SortGeometry(ctx)` as the last context-aware item, no check behind it) is rejected -/
example : fns.any (fun f => f.name == "SortGeometry" && bodyOk f.body) = true := by decide +kernel
example : bodyOk [.work, .check, .work, .call "SortGeometry", .work] = false := by decide +kernel
example : bodyOk [.work, .check, .work, .call "SortGeometry", .check, .work] = true := by decide +kernel

end sites

end MV.Progress.C15
