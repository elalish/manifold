import MV.Proof.PropInterpBary
import MV.Proof.PropInterpDedup
/-!
# C07b — the property-interpolation half of C07

"… each of its vertex property values equals the source's interpolated property field at that
position whenever that field is affine across the face … and zero for channels the source lacks."

The theorems are about `MV.PropInterp.getBarycentric` (transliteration of `GetBarycentric`,
/repo/src/shared.h:150-196) and `MV.PropInterp.createProperties` / `runCorners` / `cornerStep`
(transliteration of `Barycentric` and `CreateProperties`, /repo/src/boolean_result.cpp:588-744).
`checks/c07.py` runs THE SAME definitions at `Float` against the real functions, bit for bit
(`harness/c07_props.cpp`: `GetBarycentric` called directly, `CreateProperties` observed through the
hook `onCreateProps`).

* arithmetic theorems (`barycentric_*`, `interp_*`, `retained_corner_exact`): at any linearly ordered
  field `F` (instance `fieldScalar F`: every operation exact);
* combinatorial theorems (`createProperties_*`, `zero_fill`): for EVERY `Scalar`, `Float` included.

What is NOT here: rounding (the `Float` run is tied to the code, not to the field theorems), and the
property paths of `CollapseEdge` / `SwapEdge` (edge_op.cpp), which stay oracle-only.
-/
namespace MV.C07b
open MV.PropInterp

section Barycentric
variable {F : Type} [Field F] [LinearOrder F] [IsStrictOrderedRing F]

omit [IsStrictOrderedRing F] in
/-- SNAP TO A VERTEX: a point within tolerance of a vertex (squared distance, as the code
computes it, below `tol²`) gets exactly the unit vector of the FIRST such vertex. -/
theorem barycentric_snap_vertex (v t0 t1 t2 : V3 F) (tol : F) :
    (dist2 v t0 < tol * tol → getBarycentric v t0 t1 t2 tol = ⟨1, 0, 0⟩) ∧
    (¬ dist2 v t0 < tol * tol → dist2 v t1 < tol * tol →
      getBarycentric v t0 t1 t2 tol = ⟨0, 1, 0⟩) ∧
    (¬ dist2 v t0 < tol * tol → ¬ dist2 v t1 < tol * tol → dist2 v t2 < tol * tol →
      getBarycentric v t0 t1 t2 tol = ⟨0, 0, 1⟩) := by
  refine ⟨fun h => ?_, fun h0 h => ?_, fun h0 h1 h => ?_⟩
  · exact gb_vert0 v t0 t1 t2 tol (decide_eq_true h)
  · exact gb_vert1 v t0 t1 t2 tol (decide_eq_false h0) (decide_eq_true h)
  · exact gb_vert2 v t0 t1 t2 tol (decide_eq_false h0) (decide_eq_false h1) (decide_eq_true h)

/-- non-vacuity: the point (1/10, 0, 0) is within 1/2 of the first vertex of a unit right triangle -/
example : getBarycentric (⟨1/10, 0, 0⟩ : V3 ℚ) ⟨0, 0, 0⟩ ⟨1, 0, 0⟩ ⟨0, 1, 0⟩ (1/2) = ⟨1, 0, 0⟩ :=
  (barycentric_snap_vertex _ _ _ _ _).1 (by decide +kernel)

omit [IsStrictOrderedRing F] in
/-- every input falls in one of the branches of `GetBarycentric` (the four cases are exhaustive, not
exclusive) -/
theorem branches (v t0 t1 t2 : V3 F) (tol : F) :
    (∃ i, i < 3 ∧ getBarycentric v t0 t1 t2 tol = unitV i) ∨
    (NoVertex v t0 t1 t2 tol ∧ getBarycentric v t0 t1 t2 tol = ⟨1, 0, 0⟩) ∨
    TriBranch v t0 t1 t2 tol ∨
    (NoVertex v t0 t1 t2 tol ∧ ∃ alpha : F,
      getBarycentric v t0 t1 t2 tol = ⟨0, 1 - alpha, alpha⟩ ∨
      getBarycentric v t0 t1 t2 tol = ⟨alpha, 0, 1 - alpha⟩ ∨
      getBarycentric v t0 t1 t2 tol = ⟨1 - alpha, alpha, 0⟩) := by
  cases h0 : Scalar.lt (dist2 v t0) (Scalar.mul tol tol) with
  | true => exact Or.inl ⟨0, by omega, gb_vert0 v t0 t1 t2 tol h0⟩
  | false =>
    cases h1 : Scalar.lt (dist2 v t1) (Scalar.mul tol tol) with
    | true => exact Or.inl ⟨1, by omega, gb_vert1 v t0 t1 t2 tol h0 h1⟩
    | false =>
      cases h2 : Scalar.lt (dist2 v t2) (Scalar.mul tol tol) with
      | true => exact Or.inl ⟨2, by omega, gb_vert2 v t0 t1 t2 tol h0 h1 h2⟩
      | false =>
        have hv : NoVertex v t0 t1 t2 tol := ⟨h0, h1, h2⟩
        cases hp : Scalar.lt (dLong t0 t1 t2) (Scalar.mul tol tol) with
        | true => exact Or.inr (Or.inl ⟨hv, gb_point v t0 t1 t2 tol hv hp⟩)
        | false =>
          cases ht : Scalar.lt (Scalar.mul (dLong t0 t1 t2) (Scalar.mul tol tol)) (area2of t0 t1 t2) with
          | true => exact Or.inr (Or.inr (Or.inl ⟨hv, hp, ht⟩))
          | false => exact Or.inr (Or.inr (Or.inr ⟨hv, gb_line v t0 t1 t2 tol hv hp ht⟩))

/-- THE WEIGHTS SUM TO ONE — for ALL inputs (degenerate triangles, any tolerance) with exactly one
exception, which is real (see `barycentric_all_snapped_exists`): the triangle branch is taken and
all three edge tests fire; the code then divides 0 by 0 in every component (`⟨0,0,0⟩` in a field,
`NaN` at `Float`).  In particular the sum is 1 whenever at most two edge tests fire. -/
theorem barycentric_sum_one (v t0 t1 t2 : V3 F) (tol : F) :
    (getBarycentric v t0 t1 t2 tol).x + (getBarycentric v t0 t1 t2 tol).y +
        (getBarycentric v t0 t1 t2 tol).z = 1 ∨
    (TriBranch v t0 t1 t2 tol ∧ AllSnapped v t0 t1 t2 tol ∧
      getBarycentric v t0 t1 t2 tol = ⟨0, 0, 0⟩) := by
  rcases branches v t0 t1 t2 tol with ⟨i, hi, h⟩ | ⟨_, h⟩ | h | ⟨_, alpha, h | h | h⟩
  · left
    rw [h]
    have : i = 0 ∨ i = 1 ∨ i = 2 := by omega
    rcases this with rfl | rfl | rfl <;> simp only [unitV, sc_zero, sc_one, add_zero, zero_add]
  · left; rw [h]; simp only [add_zero]
  · by_cases ha : AllSnapped v t0 t1 t2 tol
    · exact Or.inr ⟨h, ha, (tri_all_snapped v t0 t1 t2 tol h ha).1⟩
    · exact Or.inl (tri_sum_one v t0 t1 t2 tol h ha)
  · left; rw [h]; ring
  · left; rw [h]; ring
  · left; rw [h]; ring

/-- the exception of `barycentric_sum_one` is inhabited by a NON-DEGENERATE triangle and a point
within tolerance of no vertex: triangle (0,0,0) (4,0,0) (2,3,0), point (2,1,0), tolerance 3/2
(the point is 1, 4/√13, 4/√13 from the three edge lines, 2 or more from the vertices; the smallest
altitude is 3).  The harness observes `NaN` from the real function in this regime. -/
theorem barycentric_all_snapped_exists :
    TriBranch (⟨2, 1, 0⟩ : V3 ℚ) ⟨0, 0, 0⟩ ⟨4, 0, 0⟩ ⟨2, 3, 0⟩ (3/2) ∧
    AllSnapped (⟨2, 1, 0⟩ : V3 ℚ) ⟨0, 0, 0⟩ ⟨4, 0, 0⟩ ⟨2, 3, 0⟩ (3/2) := by
  decide +kernel

/-- SNAP TO AN EDGE: in the triangle branch, a point within tolerance of the line of edge `i`
(`|edges[i] × (v − triPos[i+1])|² < |edges[i]|² tol²`) gets weight EXACTLY 0 for the opposite
vertex `i`, and the other two weights sum to 1 (unless all three edge tests fire). -/
theorem barycentric_snap_edge (v t0 t1 t2 : V3 F) (tol : F) (h : TriBranch v t0 t1 t2 tol)
    (hn : ¬ AllSnapped v t0 t1 t2 tol) :
    let r := getBarycentric v t0 t1 t2 tol
    (Snap0 v t0 t1 t2 tol → r.x = 0 ∧ r.y + r.z = 1) ∧
    (Snap1 v t0 t1 t2 tol → r.y = 0 ∧ r.x + r.z = 1) ∧
    (Snap2 v t0 t1 t2 tol → r.z = 0 ∧ r.x + r.y = 1) := by
  intro r
  have hsum : r.x + r.y + r.z = 1 := tri_sum_one v t0 t1 t2 tol h hn
  have hr : r = _ := gb_tri_field v t0 t1 t2 tol h
  refine ⟨fun s => ?_, fun s => ?_, fun s => ?_⟩
  · have : r.x = 0 := by rw [hr]; simp only; rw [raw_x, if_pos s, zero_div]
    rw [this, zero_add] at hsum
    exact ⟨this, hsum⟩
  · have : r.y = 0 := by rw [hr]; simp only; rw [raw_y, if_pos s, zero_div]
    rw [this, add_zero] at hsum
    exact ⟨this, hsum⟩
  · have : r.z = 0 := by rw [hr]; simp only; rw [raw_z, if_pos s, zero_div]
    rw [this, add_zero] at hsum
    exact ⟨this, hsum⟩

/-- non-vacuity: (1/2, 1/100, 0) is within 1/10 of the edge y = 0 of the unit right triangle -/
example : (getBarycentric (⟨1/2, 1/100, 0⟩ : V3 ℚ) ⟨0, 0, 0⟩ ⟨1, 0, 0⟩ ⟨0, 1, 0⟩ (1/10)).z = 0 := by
  exact ((barycentric_snap_edge _ _ _ _ _ (by decide +kernel) (by decide +kernel)).2.2
    (by decide +kernel)).1

/-- two edge tests firing (but not the third): the point is a RETAINED VERTEX — the unit vector
of the vertex where the two edges meet -/
theorem barycentric_two_edges_unit (v t0 t1 t2 : V3 F) (tol : F) (h : TriBranch v t0 t1 t2 tol) :
    (Snap0 v t0 t1 t2 tol → Snap1 v t0 t1 t2 tol → ¬ Snap2 v t0 t1 t2 tol →
      getBarycentric v t0 t1 t2 tol = ⟨0, 0, 1⟩) ∧
    (Snap0 v t0 t1 t2 tol → ¬ Snap1 v t0 t1 t2 tol → Snap2 v t0 t1 t2 tol →
      getBarycentric v t0 t1 t2 tol = ⟨0, 1, 0⟩) ∧
    (¬ Snap0 v t0 t1 t2 tol → Snap1 v t0 t1 t2 tol → Snap2 v t0 t1 t2 tol →
      getBarycentric v t0 t1 t2 tol = ⟨1, 0, 0⟩) := by
  refine ⟨fun s0 s1 s2 => ?_, fun s0 s1 s2 => ?_, fun s0 s1 s2 => ?_⟩
  all_goals
    have hn : ¬ AllSnapped v t0 t1 t2 tol := fun ha => by
      first | exact s2 ha.2.2 | exact s1 ha.2.1 | exact s0 ha.1
    have hs := rawSum_ne_zero v t0 t1 t2 tol h hn
    rw [gb_tri_field v t0 t1 t2 tol h]
    unfold rawSum at hs ⊢
    rw [raw_x, raw_y, raw_z] at hs ⊢
    simp only [s0, s1, s2, if_true, if_false, zero_add, add_zero, zero_div] at hs ⊢
    rw [div_self hs]

/-- the reconstruction below, read through any covector `k` -/
theorem barycentric_reconstruct_dot (v t0 t1 t2 k : V3 F) (tol : F) (h : TriBranch v t0 t1 t2 tol)
    (s0 : ¬ Snap0 v t0 t1 t2 tol) (s1 : ¬ Snap1 v t0 t1 t2 tol) (s2 : ¬ Snap2 v t0 t1 t2 tol) :
    let r := getBarycentric v t0 t1 t2 tol
    r.x * dot t0 k + r.y * dot t1 k + r.z * dot t2 k =
      dot v k - zeta v t0 t1 t2 / area2of t0 t1 t2 * dot (crossPof t0 t1 t2) k := by
  intro r
  have ha : area2of t0 t1 t2 ≠ 0 := ne_of_gt (triFacts v t0 t1 t2 tol h).a_pos
  have hr : r = _ := gb_tri_field v t0 t1 t2 tol h
  have hsum : rawSum v t0 t1 t2 tol = area2of t0 t1 t2 := by
    unfold rawSum; rw [raw_x, raw_y, raw_z, if_neg s0, if_neg s1, if_neg s2]; exact U_sum v t0 t1 t2
  rw [hr]
  simp only [hsum]
  rw [raw_x, raw_y, raw_z, if_neg s0, if_neg s1, if_neg s2]
  field_simp
  linear_combination U_reconstruct v t0 t1 t2 k

/-- RECONSTRUCTION (triangle branch, no edge test fires): the weights are `Uᵢ / area2` and place
the point at the orthogonal projection of `v` onto the plane of the triangle:
`Σ rᵢ tᵢ = v − (ζ / area2) · crossP`, `ζ = (v − t0)·crossP`. -/
theorem barycentric_reconstruct (v t0 t1 t2 : V3 F) (tol : F) (h : TriBranch v t0 t1 t2 tol)
    (s0 : ¬ Snap0 v t0 t1 t2 tol) (s1 : ¬ Snap1 v t0 t1 t2 tol) (s2 : ¬ Snap2 v t0 t1 t2 tol) :
    let r := getBarycentric v t0 t1 t2 tol
    let k := zeta v t0 t1 t2 / area2of t0 t1 t2
    r.x * t0.x + r.y * t1.x + r.z * t2.x = v.x - k * (crossPof t0 t1 t2).x ∧
    r.x * t0.y + r.y * t1.y + r.z * t2.y = v.y - k * (crossPof t0 t1 t2).y ∧
    r.x * t0.z + r.y * t1.z + r.z * t2.z = v.z - k * (crossPof t0 t1 t2).z := by
  have e := fun c => barycentric_reconstruct_dot v t0 t1 t2 c tol h s0 s1 s2
  exact ⟨by simpa [dot_eq] using e ⟨1, 0, 0⟩, by simpa [dot_eq] using e ⟨0, 1, 0⟩,
    by simpa [dot_eq] using e ⟨0, 0, 1⟩⟩

/-- an affine field `f(p) = a·p + b` -/
def affine (a : V3 F) (b : F) (p : V3 F) : F := a.x * p.x + a.y * p.y + a.z * p.z + b

omit [LinearOrder F] [IsStrictOrderedRing F] in
/-- interpolation with weights summing to 1 commutes with affine fields:
`dot(uvw, f(corners)) = f(Σ uvwᵢ cornerᵢ)` — the interpolated value is the field's value at the
point the weights reconstruct (snapped or not) -/
theorem interp_affine_commutes (a : V3 F) (b : F) (r t0 t1 t2 : V3 F) (hs : r.x + r.y + r.z = 1) :
    r.x * affine a b t0 + r.y * affine a b t1 + r.z * affine a b t2 =
      affine a b ⟨r.x * t0.x + r.y * t1.x + r.z * t2.x, r.x * t0.y + r.y * t1.y + r.z * t2.y,
        r.x * t0.z + r.y * t1.z + r.z * t2.z⟩ := by
  simp only [affine]
  linear_combination b * hs

/-- INTERPOLATION OF AN AFFINE FIELD IS EXACT (un-snapped interior case): for `f(p) = a·p + b`
sampled at the corners, `dot(uvw, f(corners)) = f(v) − (ζ / area2) (a·crossP)`; in particular
`= f(v)` for a point in the plane of the triangle (`ζ = 0`).  `dot` is the model's `la::dot`. -/
theorem interp_affine_exact (a : V3 F) (b : F) (v t0 t1 t2 : V3 F) (tol : F)
    (h : TriBranch v t0 t1 t2 tol)
    (s0 : ¬ Snap0 v t0 t1 t2 tol) (s1 : ¬ Snap1 v t0 t1 t2 tol) (s2 : ¬ Snap2 v t0 t1 t2 tol) :
    dot (getBarycentric v t0 t1 t2 tol) ⟨affine a b t0, affine a b t1, affine a b t2⟩ =
      affine a b v - zeta v t0 t1 t2 / area2of t0 t1 t2 * dot a (crossPof t0 t1 t2) ∧
    (zeta v t0 t1 t2 = 0 →
      dot (getBarycentric v t0 t1 t2 tol) ⟨affine a b t0, affine a b t1, affine a b t2⟩ =
        affine a b v) := by
  have hsum := tri_sum_one v t0 t1 t2 tol h (fun ha => s0 ha.1)
  have hrec := barycentric_reconstruct_dot v t0 t1 t2 a tol h s0 s1 s2
  have main : dot (getBarycentric v t0 t1 t2 tol) ⟨affine a b t0, affine a b t1, affine a b t2⟩ =
      affine a b v - zeta v t0 t1 t2 / area2of t0 t1 t2 * dot a (crossPof t0 t1 t2) := by
    -- the weights sum to 1, so the constant `b` passes through; the linear part is the reconstruction
    simp only [dot_eq, affine] at hrec ⊢
    linear_combination hrec + b * hsum
  refine ⟨main, fun hz0 => ?_⟩
  rw [main, hz0, zero_div, zero_mul, sub_zero]

/-- non-vacuity: an interior point of the unit right triangle, in its plane, far from the edges -/
example : dot (getBarycentric (⟨1/4, 1/4, 0⟩ : V3 ℚ) ⟨0, 0, 0⟩ ⟨1, 0, 0⟩ ⟨0, 1, 0⟩ (1/100))
    ⟨affine ⟨2, 3, 5⟩ 7 ⟨0, 0, 0⟩, affine ⟨2, 3, 5⟩ 7 ⟨1, 0, 0⟩, affine ⟨2, 3, 5⟩ 7 ⟨0, 1, 0⟩⟩ =
    affine ⟨2, 3, 5⟩ 7 (⟨1/4, 1/4, 0⟩ : V3 ℚ) :=
  (interp_affine_exact ⟨2, 3, 5⟩ 7 _ _ _ _ _ (by decide +kernel) (by decide +kernel) (by decide +kernel)
    (by decide +kernel)).2 (by decide +kernel)

end Barycentric

/-! ## `CreateProperties`: the de-duplication never merges what the key distinguishes -/
section Create
variable {α : Type} [Scalar α]

/-- KEYS ARE SOUND AND COMPLETE (every `Scalar`), for `runCorners` (the corner loop of the model) on
any corner list `cs` in which every corner's vertex is a vertex of the output (`hv`: `vert ≠ idMiss`,
`idMiss` = `NumVert()`): two output corners get the same property vertex IF AND ONLY IF
their keys `(PQ, idMiss | vert, propVert | min | -1, max | -1)` are equal. -/
theorem createProperties_keys_sound (P Q : Src α) (invertQ : Bool) (idMiss : Nat)
    (cs : List (Corner α)) (hv : ∀ c ∈ cs, c.vert ≠ idMiss) (m n : Nat) (c c' : Corner α)
    (hm : cs[m]? = some c) (hn : cs[n]? = some c') :
    let st := runCorners P Q invertQ idMiss cs
    (∃ i, st.out[m]? = some i ∧ st.out[n]? = some i) ↔
      cornerKey P Q idMiss c = cornerKey P Q idMiss c' := by
  intro st
  have inv := inv_run P Q invertQ idMiss cs hv
  obtain ⟨i, hi, hfi⟩ := inv.seen m c hm
  obtain ⟨j, hj, hfj⟩ := inv.seen n c' hn
  have wc := cornerKey_wf P Q idMiss c (hv c (List.mem_of_getElem? hm))
  have wc' := cornerKey_wf P Q idMiss c' (hv c' (List.mem_of_getElem? hn))
  constructor
  · rintro ⟨k, hk1, hk2⟩
    have e1 : i = k := by
      have : st.out[m]? = some i := hi
      rw [this] at hk1; exact Option.some.inj hk1
    have e2 : j = k := by
      have : st.out[n]? = some j := hj
      rw [this] at hk2; exact Option.some.inj hk2
    subst e1; subst e2
    exact inv.inj _ _ _ wc wc' hfi hfj
  · intro he
    rw [he] at hfi
    rw [hfi] at hfj
    have : i = j := Option.some.inj hfj
    subst this
    exact ⟨i, hi, hj⟩

/-- what equal keys mean, case by case (both corners' vertices are output vertices): the corners
agree on the operand `PQ`, and, when that operand has property channels,
* a RETAINED corner (some `uvw[j] == 1`) only meets retained corners with the SAME source
  property vertex;
* an EDGE corner (no 1, some 0) only meets edge corners at the SAME output vertex with the same
  UNORDERED pair of source property vertices;
* an INTERIOR corner only meets interior corners at the SAME output vertex — the key does NOT
  contain the source triangle (see the module doc of the check: such merges across different
  source triangles are counted by the harness on the real code). -/
theorem key_eq_meaning (P Q : Src α) (idMiss : Nat) (c c' : Corner α) (hv : c.vert ≠ idMiss)
    (hv' : c'.vert ≠ idMiss) (he : cornerKey P Q idMiss c = cornerKey P Q idMiss c') :
    c.pq = c'.pq ∧
    (0 < (srcOf P Q c.pq).numProp →
      match classify c.uvw with
      | .retained j => ∃ j', classify c'.uvw = .retained j' ∧
          (srcOf P Q c.pq).propAt c.face j = (srcOf P Q c.pq).propAt c'.face j'
      | .edge j => ∃ j', classify c'.uvw = .edge j' ∧ c.vert = c'.vert ∧
          min ((srcOf P Q c.pq).propAt c.face (next3 j)) ((srcOf P Q c.pq).propAt c.face (prev3 j)) =
            min ((srcOf P Q c.pq).propAt c'.face (next3 j')) ((srcOf P Q c.pq).propAt c'.face (prev3 j')) ∧
          max ((srcOf P Q c.pq).propAt c.face (next3 j)) ((srcOf P Q c.pq).propAt c.face (prev3 j)) =
            max ((srcOf P Q c.pq).propAt c'.face (next3 j')) ((srcOf P Q c.pq).propAt c'.face (prev3 j'))
      | .interior => classify c'.uvw = .interior ∧ c.vert = c'.vert) := by
  have hpq : c.pq = c'.pq := by
    have := congrArg Key.x he
    rwa [cornerKey_x, cornerKey_x] at this
  refine ⟨hpq, fun hp => ?_⟩
  have hp' : 0 < (srcOf P Q c'.pq).numProp := hpq ▸ hp
  unfold cornerKey at he
  simp only [gt_iff_lt, hp, hp', if_true] at he
  rw [← hpq] at he
  cases hc : classify c.uvw with
  | retained j =>
    rw [hc] at he
    cases hc' : classify c'.uvw with
    | retained j' =>
      rw [hc'] at he
      simp only [Key.mk.injEq, Int.ofNat_eq_natCast, Int.natCast_inj, true_and, and_true] at he
      exact ⟨j', rfl, he⟩
    | edge j' =>
      rw [hc'] at he
      simp only [Key.mk.injEq] at he
      exact absurd he.2.1.symm hv'
    | interior =>
      rw [hc'] at he
      simp only [Key.mk.injEq] at he
      exact absurd he.2.1.symm hv'
  | edge j =>
    rw [hc] at he
    cases hc' : classify c'.uvw with
    | retained j' =>
      rw [hc'] at he
      simp only [Key.mk.injEq] at he
      exact absurd he.2.1 hv
    | edge j' =>
      rw [hc'] at he
      simp only [Key.mk.injEq, Int.ofNat_eq_natCast, Int.natCast_inj, true_and] at he
      exact ⟨j', rfl, he.1, he.2.1, he.2.2⟩
    | interior =>
      rw [hc'] at he
      simp only [Key.mk.injEq, Int.ofNat_eq_natCast] at he
      omega
  | interior =>
    rw [hc] at he
    cases hc' : classify c'.uvw with
    | retained j' =>
      rw [hc'] at he
      simp only [Key.mk.injEq] at he
      exact absurd he.2.1 hv
    | edge j' =>
      rw [hc'] at he
      simp only [Key.mk.injEq, Int.ofNat_eq_natCast] at he
      omega
    | interior =>
      rw [hc'] at he
      simp only [Key.mk.injEq, true_and, and_true] at he
      exact ⟨rfl, he⟩

/-- EVERY CORNER'S ROW (every `Scalar`; `runCorners` on any corner list with `vert ≠ idMiss`
throughout): the property vertex of corner `n` is a valid row index, and
that row is `interpRow` — `dot(uvw, oldProps)` per channel, negated normals, zero fill — of the
FIRST corner `m ≤ n` carrying the same key, computed from THAT corner's own source triangle and
weights; for a corner that is the first with its key (`m = n`) it is its own interpolation. -/
theorem createProperties_rows (P Q : Src α) (invertQ : Bool) (idMiss : Nat)
    (cs : List (Corner α)) (hv : ∀ c ∈ cs, c.vert ≠ idMiss) (n : Nat) (c : Corner α)
    (hn : cs[n]? = some c) :
    let st := runCorners P Q invertQ idMiss cs
    ∃ i m c0, st.out[n]? = some i ∧ m ≤ n ∧ cs[m]? = some c0 ∧
      cornerKey P Q idMiss c0 = cornerKey P Q idMiss c ∧
      (∀ m' c', m' < m → cs[m']? = some c' → cornerKey P Q idMiss c' ≠ cornerKey P Q idMiss c) ∧
      st.rows[i]? = some (interpRow P Q invertQ (max P.numProp Q.numProp) c0) := by
  intro st
  have inv := inv_run P Q invertQ idMiss cs hv
  obtain ⟨i, hi, hfi⟩ := inv.seen n c hn
  have wc := cornerKey_wf P Q idMiss c (hv c (List.mem_of_getElem? hn))
  obtain ⟨m, c0, hm, hkey, hfirst, hrow, _⟩ := inv.first _ i wc hfi
  refine ⟨i, m, c0, hi, ?_, hm, hkey, hfirst, hrow⟩
  by_contra hlt
  exact hfirst n c (by omega) hn rfl

/-- ZERO FILL (every `Scalar`): channels the corner's source lacks are `Scalar.zero` (`+0.0`). -/
theorem zero_fill (P Q : Src α) (invertQ : Bool) (numProp : Nat) (c : Corner α) (p : Nat)
    (hp : p < numProp) (hs : (srcOf P Q c.pq).numProp ≤ p) :
    (interpRow P Q invertQ numProp c)[p]? = some Scalar.zero := by
  unfold interpRow
  simp only [List.getElem?_map, List.getElem?_range hp, Option.map_some]
  rw [if_neg (by omega)]

/-- … and through the de-duplication (`runCorners` on any corner list with `vert ≠ idMiss`
throughout): the row an output corner points at has zeros in every channel its source lacks
(corners sharing a row share `PQ`, hence the source) -/
theorem zero_fill_corner (P Q : Src α) (invertQ : Bool) (idMiss : Nat)
    (cs : List (Corner α)) (hv : ∀ c ∈ cs, c.vert ≠ idMiss) (n : Nat) (c : Corner α)
    (hn : cs[n]? = some c) (p : Nat) (hp : p < max P.numProp Q.numProp)
    (hs : (srcOf P Q c.pq).numProp ≤ p) :
    let st := runCorners P Q invertQ idMiss cs
    ∃ i row, st.out[n]? = some i ∧ st.rows[i]? = some row ∧ row[p]? = some Scalar.zero := by
  intro st
  obtain ⟨i, m, c0, hi, _, hm, hkey, _, hrow⟩ := createProperties_rows P Q invertQ idMiss cs hv n c hn
  have hpq : c0.pq = c.pq :=
    (key_eq_meaning P Q idMiss c0 c (hv c0 (List.mem_of_getElem? hm)) (hv c (List.mem_of_getElem? hn)) hkey).1
  exact ⟨i, _, hi, hrow, zero_fill P Q invertQ _ c0 p hp (hpq ▸ hs)⟩

/-- the row length is `numProp = max(numPropP, numPropQ)` -/
theorem interpRow_length (P Q : Src α) (invertQ : Bool) (numProp : Nat) (c : Corner α) :
    (interpRow P Q invertQ numProp c).length = numProp := by
  rw [interpRow, List.length_map, List.length_range]

end Create

section Retained
variable {F : Type} [Field F] [LinearOrder F]

/-- RETAINED CORNER (exact arithmetic): ASSUMING `c.uvw = unitV j` (`hu`), the unit vector of corner
`j`, every channel the
source has is the source row's value itself (negated for channels 0..2 of a subtracted Q triangle
with normals).  (At `Float`, `1·a + 0·b + 0·c` is `a` bit for bit for finite `b, c` up to the sign
of zero; the harness checks `==` on the real output.) -/
theorem retained_corner_exact (P Q : Src F) (invertQ : Bool) (numProp : Nat) (c : Corner F) (j : Nat)
    (hj : j < 3) (hu : c.uvw = unitV j) (p : Nat) (hp : p < numProp)
    (hs : p < (srcOf P Q c.pq).numProp) :
    (interpRow P Q invertQ numProp c)[p]? =
      let s := srcOf P Q c.pq
      let val := s.props.getD (s.numProp * s.propAt c.face j + p) 0
      some (if negateNormals Q invertQ c && decide (p < 3) then -val else val) := by
  unfold interpRow
  simp only [List.getElem?_map, List.getElem?_range hp, Option.map_some]
  rw [if_pos hs, hu]
  have : j = 0 ∨ j = 1 ∨ j = 2 := by omega
  rcases this with rfl | rfl | rfl <;>
    simp only [unitV, dot_eq, sc_zero, sc_one, sc_neg, one_mul, zero_mul, add_zero, zero_add]

example : (interpRow (⟨1, 2, #[10, 20], #[0, 1, 1], #[0, 1, 2], #[]⟩ : Src ℚ) ⟨0, 0, #[], #[], #[], #[]⟩
    false 1 ⟨true, 0, false, 5, unitV 1⟩)[0]? = some 20 := by
  rw [retained_corner_exact _ _ _ _ _ 1 (by omega) rfl 0 (by omega) (by simp [srcOf])]
  simp [srcOf, Src.propAt, negateNormals]

end Retained

/-! ## non-vacuity of the de-duplication theorems: a concrete run -/

/-- P: one triangle with two channels and property vertices 0,1,2; Q: no channels.
Corners: a retained corner of P twice (same property vertex), an interior corner of P at output
vertex 7, a corner of Q (no channels) -/
def exP : Src Nat := ⟨2, 3, #[1, 2, 3, 4, 5, 6], #[0, 1, 2], #[0, 1, 2], #[]⟩
def exQ : Src Nat := ⟨0, 3, #[], #[0, 1, 2], #[0, 1, 2], #[]⟩
instance : Scalar Nat := ⟨0, 1, (· + ·), (· - ·), (· * ·), (· / ·), id, fun a b => decide (a < b), fun a b => a == b⟩
def exCorners : List (Corner Nat) :=
  [⟨true, 0, false, 3, ⟨0, 1, 0⟩⟩, ⟨true, 0, false, 3, ⟨0, 1, 0⟩⟩, ⟨true, 0, false, 7, ⟨2, 3, 4⟩⟩,
   ⟨false, 0, false, 7, ⟨2, 3, 4⟩⟩]
theorem exCorners_verts : ∀ c ∈ exCorners, c.vert ≠ 9 := by simp [exCorners]

example := createProperties_keys_sound exP exQ false 9 exCorners exCorners_verts 0 1 _ _ rfl rfl
example := createProperties_rows exP exQ false 9 exCorners exCorners_verts 2 _ rfl
example := zero_fill_corner exP exQ false 9 exCorners exCorners_verts 3 _ rfl 1 (by decide) (by decide)
/-- the run itself: corners 0 and 1 share row 0 (= source row 1), the interior corner gets row 1,
Q's corner row 2 (all zeros) -/
example : (runCorners exP exQ false 9 exCorners).out = #[0, 0, 1, 2] ∧
    (runCorners exP exQ false 9 exCorners).rows = #[[3, 4], [2 * 1 + 3 * 3 + 4 * 5, 2 * 2 + 3 * 4 + 4 * 6], [0, 0]] := by
  decide

end MV.C07b
