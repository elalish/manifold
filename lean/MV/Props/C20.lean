/-
C20 — the C binding is a faithful, memory-safe image of the C++ API.

Full statement (properties.jsonl): "Every function of the C FFI returns the value, mesh or cross-section
that the C++ call it names returns for the same arguments (same argument order, units, defaults and error
codes), objects are constructed in exactly the caller-supplied storage of the advertised size, and every
object can be destructed or deleted exactly once without leak, double free or use of freed memory.
Callbacks receive the user context pointer unchanged."

What is proved here, and about what.
* Part 1 (table theorems, closed by `decide +kernel`): facts about `MV.Gen.CBind`, the tables that
  tools/extract_cbind.py regenerates from the clang AST of bindings/c/*.cpp on every run.  They say, for
  EVERY exported wrapper: which C++ declaration it forwards to, that each C parameter reaches the C++
  parameter in the declaration's order (packing of x,y,z / matrices / pointer+length checked component by
  component; names checked against the C++ declaration modulo the reviewed table
  `MV.CBind.exceptions`), that defaults are only the declared ones, that enum conversions are bijections
  that round-trip, that constructor wrappers placement-new exactly into their `void* mem` and return it,
  that `manifold_X_size` is `sizeof` of exactly the type constructed, that alloc/destruct/delete agree on
  that type, and that callbacks get `ctx` as the bound last argument.
  These theorems do NOT contain a semantics of C++: that the extracted forwarding expression is all the
  wrapper does is the translator's claim (it rejects wrapper bodies it cannot classify), and equality of
  results is checked by paired C / C++ execution under ASan+LSan (harness/c20_cbind.cpp).
* Part 2 (`lifecycle_safe`, a general theorem by induction over programs): every program of
  alloc / buffer / construct / use / destruct / delete / release operations that follows the header's
  protocol runs on the concrete memory model without any fault — no double destruct, no use after free,
  no double free, no construction over a live object — and when every object is finished nothing is
  leaked (`ctors = dtors`, `allocs = frees`, no live object, no heap storage held).
-/
import MV.Gen.CBind
import MV.Model.CBindExceptions
import MV.Model.CBindLifecycle

namespace MV.Props.C20
open MV.CBind MV.Gen.CBind

/-- conv.cpp enum switches: every enumerator of the source enum has its own `case` (no `default:`), the map is a
bijection onto the target enum, paired enumerators have the same numeric value (error codes survive a cast),
and names correspond (`MANIFOLD_[<ENUM>_]<NAME>` ↔ `Name`) up to `exceptions.enumNames`. -/
theorem enum_tables :
    ∀ m ∈ enumMaps, m.total = true ∧ m.bijective = true ∧ m.valuesAgree = true ∧ m.namesOK exceptions = true := by
  decide +kernel

/-- `from_c ∘ to_c = id` and `to_c ∘ from_c = id` on every enumerator, for every enum converted in both directions -/
theorem enum_roundtrip :
    ∀ f ∈ enumMaps, ∀ g ∈ enumMaps, f.src = g.dst → f.dst = g.src →
      ∀ x ∈ f.srcAll, ∃ y, lookup f.pairs x = some y ∧ lookup g.pairs y = some x := by
  decide +kernel

/-- both directions exist for at least one enum (OpType), so `enum_roundtrip` is not vacuous -/
example : ∃ f ∈ enumMaps, ∃ g ∈ enumMaps, f.src = g.dst ∧ f.dst = g.src ∧ f.srcAll.length = 3 := by decide +kernel

/-- the opaque-pointer overloads of `to_c` / `from_c` are mutually inverse bijections between C types and C++ types;
the by-value converters pass the components in declaration order x, y, z, w -/
theorem conversions_inverse :
    ptrConvsInverse ptrConvs = true ∧ ∀ v ∈ valConvs, valConvOK cStructs v = true := by
  decide +kernel

/-- **args_in_order.**  For every wrapper and every C++ call / field assignment / aggregate it forwards to:
the receiver and the arguments are built from the wrapper's C parameters in the order of the C parameter
list (`Call.orderOK`: strictly increasing positions), one argument per declared C++ parameter with only
declared defaults omitted (`Call.arityOK`), packed arguments take their components in the order x, y, z(, w)
and matrices column by column (`Arg.compsOK`), each non-object argument carries the C++ parameter's name
(`Call.namesOK`, modulo `exceptions.argNames`; unnamed header parameters are skipped), and no C parameter is
dropped (`Wrapper.allUsed`). -/
theorem args_in_order : ∀ w ∈ wrappers, w.argsOK exceptions = true := by
  decide +kernel

example : ∃ w ∈ wrappers, w.name = c!"manifold_cylinder" ∧
    (w.calls.map (fun c => c.args.map (·.srcs))) = [[[c!"height"], [c!"radius_low"], [c!"radius_high"], [c!"circular_segments"], [c!"center"]]] ∧
    (w.calls.map (·.cppParams)) = [[c!"height", c!"radiusLow", c!"radiusHigh", c!"circularSegments", c!"center"]] := by
  decide +kernel

/-- the checker rejects a swapped pair: `Cylinder(height, radius_high, radius_low, …)` -/
example :
    Call.ok exceptions [⟨c!"mem", c!"void *"⟩, ⟨c!"height", c!"double"⟩, ⟨c!"radius_low", c!"double"⟩, ⟨c!"radius_high", c!"double"⟩]
      { kind := c!"static", callee := c!"manifold::Manifold::Cylinder", recv := [],
        args := [⟨[c!"height"], [], [], c!"param"⟩, ⟨[c!"radius_high"], [], [], c!"param"⟩, ⟨[c!"radius_low"], [], [], c!"param"⟩],
        cppParams := [c!"height", c!"radiusLow", c!"radiusHigh"], cppDefaults := [false, true, true], defaultsUsed := 0, via := c!"" } = false := by
  decide +kernel

/-- … and a permuted vector: `vec3(x, z, y)` -/
example : Arg.compsOK ⟨[c!"x", c!"z", c!"y"], [], [3], c!"vec"⟩ = false ∧ Arg.compsOK ⟨[c!"x", c!"y", c!"z"], [], [3], c!"vec"⟩ = true := by
  decide +kernel

/-- every definition is declared in manifoldc.h with the same return type and parameter types, parameter names agree
(or the type alone pins the position), and the `manifold_*` declarations of the header are exactly the defined
wrappers (`headerDecls` lists them in definition order, undefined ones last) -/
theorem header_matches :
    (∀ w ∈ wrappers, w.headerOK exceptions = true) ∧ headerDecls = wrappers.map (·.name) := by
  decide +kernel

/-- **placement_in_mem.**  Every constructor-like wrapper placement-news exactly once per leading `void* mem…`
parameter, directly into that parameter, an object of the C++ type its return type stands for, and returns that
pointer; the array accessors `copy_data` into `mem` and return it; no other wrapper touches a `void* mem`. -/
theorem placement_in_mem : ∀ w ∈ wrappers, w.placementOK ptrConvs = true := by
  decide +kernel

example : ((wrappers.filter (fun w => w.placements.length > 0)).length ≥ 100) = true := by decide +kernel

/-- the generated summary `sizes` of the `manifold_X_size` functions (X normalised, type whose `sizeof` is returned)
IS what the wrapper table says -/
theorem sizes_eq : sizeTable wrappers = sizes := by decide +kernel

/-- **size_table.**  For every placement-new of a type `T` anywhere in the binding, the `manifold_X_size` function of the
opaque type standing for `T` exists and returns `sizeof(T)` for exactly that `T`; sizeof/alloc/destruct/delete
appear only in the functions named for them. -/
theorem size_table :
    (∀ w ∈ wrappers, w.sizeOK ptrConvs sizes = true) ∧ (∀ w ∈ wrappers, w.noStrayLifecycle = true) := by
  decide +kernel

/-- **lifecycle_table.**  For every opaque type `C` (standing for the C++ type `T`): `manifold_C_size` returns `sizeof(T)`,
`manifold_alloc_C` returns raw storage for a `T` as `C*`, `manifold_destruct_C(p)` runs `~T` on `p` and nothing else,
`manifold_delete_C(p)` is `delete (T*)p`.  These are the `alloc` / `destruct` / `delete` operations of Part 2. -/
theorem lifecycle_table : ∀ c ∈ ptrConvs, c.fn = c!"to_c" → familyOK wrappers c = true := by
  decide +kernel

/-- **callbacks_ctx.**  Every function-pointer parameter is invoked with the wrapper's `void*` context parameter as its
last argument, passed through unchanged (`std::bind(fun, _1, …, _k, ctx)` with the placeholders in order, or a
direct call `fun(…, ctx)`). -/
theorem callbacks_ctx : ∀ w ∈ wrappers, w.callbacksOK = true := by
  decide +kernel

example : ((wrappers.filter (fun w => w.callbacks.length > 0)).length ≥ 9) = true := by decide +kernel

/-- structs returned by value are filled field by field in the order of the C declaration -/
theorem returned_structs : ∀ w ∈ wrappers, w.retFieldsOK cStructs = true := by
  decide +kernel

/-- the C++ declaration a wrapper forwards to is the one its name says (normalised C++ name occurs in the C name),
or the pair is listed in `exceptions.calleeAliases` -/
theorem callee_named : ∀ w ∈ wrappers, w.calleeOK exceptions = true := by
  decide +kernel

namespace Life
open MV.CBind.Life

/-- the storage a protocol state stands for -/
def stor : St → Storage
  | .fresh => .none
  | .raw true | .constructed true | .destructed true => .heap
  | .raw false | .constructed false | .destructed false => .caller
  | .freed => .gone

/-- … and whether an object lives in it -/
def live : St → Bool
  | .constructed _ => true
  | _ => false

/-- simulation relation between a protocol state and a concrete cell -/
def Rel (s : St) (c : Cell) : Prop :=
  c.storage = stor s ∧ c.alive = live s ∧ c.ctors = c.dtors + (if live s then 1 else 0) ∧
    c.allocs = c.frees + (if stor s = .heap then 1 else 0)

/-- one protocol step of one object is a fault-free step of the concrete cell, and the relation is kept -/
theorem cell_sim {s s' : St} {c : Cell} {op : Op} (h : Rel s c) (hs : stStep s op = some s') :
    ∃ c', cellStep c op = .ok c' ∧ Rel s' c' := by
  obtain ⟨st, al, ct, dt, as, fr⟩ := c
  dsimp only [Rel] at h
  obtain ⟨rfl, rfl, rfl, rfl⟩ := h
  rcases s with _ | (_ | _) | (_ | _) | (_ | _) | _ <;> cases op <;> simp only [stStep, reduceCtorEq] at hs <;>
    cases hs <;> simp [cellStep, Rel, stor, live]

theorem step_sim {σ σ' : Abs} {m : Mem} {s : Op × Obj} (h : ∀ o, Rel (σ o) (m o)) (hs : astep σ s = some σ') :
    ∃ m', cstep m s = .ok m' ∧ ∀ o, Rel (σ' o) (m' o) := by
  unfold astep at hs
  cases hst : stStep (σ s.2) s.1 with
  | none => simp [hst] at hs
  | some st' =>
    simp [hst] at hs
    obtain ⟨c', hc, hr⟩ := cell_sim (h s.2) hst
    refine ⟨upd m s.2 c', by simp [cstep, hc], ?_⟩
    intro o
    subst hs
    by_cases ho : o = s.2
    · simp [upd, ho, hr]
    · simp [upd, ho, h o]

theorem run_sim : ∀ (p : Prog) {σ σ' : Abs} {m : Mem}, (∀ o, Rel (σ o) (m o)) → arun σ p = some σ' →
    ∃ m', crun m p = .ok m' ∧ ∀ o, Rel (σ' o) (m' o)
  | [], σ, σ', m, h, hr => by
    simp [arun] at hr; subst hr; exact ⟨m, rfl, h⟩
  | s :: rest, σ, σ', m, h, hr => by
    cases hs : astep σ s with
    | none => simp [arun, hs] at hr
    | some σ1 =>
      simp [arun, hs] at hr
      obtain ⟨m1, hm1, h1⟩ := step_sim h hs
      obtain ⟨m2, hm2, h2⟩ := run_sim rest h1 hr
      exact ⟨m2, by simp [crun, hm1, hm2], h2⟩

theorem rel_init : ∀ o : Obj, Rel ((fun _ => St.fresh) o) ((fun _ => Cell.init) o) := by
  intro o; simp [Rel, Cell.init, stor, live]

/-- a finished object is not alive and holds no heap storage -/
theorem done_clean {s : St} {c : Cell} (h : Rel s c) (hd : s.done = true) : c.clean := by
  obtain ⟨h1, h2, h3, h4⟩ := h
  have : live s = false ∧ stor s ≠ .heap := by
    rcases s with _ | (_ | _) | (_ | _) | (_ | _) | _ <;> simp [St.done] at hd <;> simp [live, stor]
  rw [this.1] at h2 h3
  rw [if_neg this.2] at h4
  exact ⟨h2, h1 ▸ this.2, h3, h4⟩

end Life

open MV.CBind.Life in
/-- **lifecycle_safe.**  Every program that follows the header's protocol (`arun` accepts it from the all-fresh state)
executes on the concrete memory model without ANY fault — in particular no `doubleDestruct`, no `useAfterFree`
(hence no double free), no `badFree`, no `overwriteLive` — and in the final memory every object has run exactly as
many destructors as constructors (one more constructor iff it is still alive) and has freed exactly as many
allocations as it made (one more allocation iff heap storage is still held).  If in addition every object is
finished (`St.done`: deleted, or destructed in / never constructed in a caller buffer), nothing is leaked. -/
theorem lifecycle_safe (p : Prog) (σ : Abs) (h : arun (fun _ => St.fresh) p = some σ) :
    ∃ m, crun (fun _ => Cell.init) p = .ok m ∧
      (∀ o, (m o).ctors = (m o).dtors + (if (m o).alive then 1 else 0) ∧
            (m o).allocs = (m o).frees + (if (m o).storage = .heap then 1 else 0)) ∧
      ((∀ o, (σ o).done = true) → ∀ o, (m o).clean) := by
  obtain ⟨m, hm, hr⟩ := Life.run_sim p Life.rel_init h
  refine ⟨m, hm, fun o => ?_, fun hd o => Life.done_clean (hr o) (hd o)⟩
  obtain ⟨h1, h2, h3, h4⟩ := hr o
  rw [h1, h2]
  exact ⟨h3, h4⟩

open MV.CBind.Life in
/-- a protocol-following program: heap object 0 (alloc, construct, use, delete) and caller-buffer object 1
(buffer, construct, destruct, re-construct, destruct, release) -/
example : (arun (fun _ => St.fresh)
    [(.alloc, 0), (.buffer, 1), (.construct, 0), (.construct, 1), (.use, 0), (.destruct, 1), (.construct, 1),
     (.delete, 0), (.destruct, 1), (.release, 1)]).isSome = true := by decide

open MV.CBind.Life in
/-- the concrete machine is not trivially fault-free: double delete, destruct-then-delete, delete of a caller buffer and
use after delete are all faults (and are all rejected by the protocol) -/
example :
    (crun (fun _ => Cell.init) [(.alloc, 0), (.construct, 0), (.delete, 0), (.delete, 0)] matches .error .useAfterFree) ∧
    (crun (fun _ => Cell.init) [(.alloc, 0), (.construct, 0), (.destruct, 0), (.delete, 0)] matches .error .doubleDestruct) ∧
    (crun (fun _ => Cell.init) [(.buffer, 0), (.construct, 0), (.delete, 0)] matches .error .badFree) ∧
    (crun (fun _ => Cell.init) [(.alloc, 0), (.construct, 0), (.delete, 0), (.use, 0)] matches .error .useAfterFree) ∧
    (crun (fun _ => Cell.init) [(.alloc, 0), (.construct, 0), (.construct, 0)] matches .error .overwriteLive) ∧
    arun (fun _ => St.fresh) [(.alloc, 0), (.construct, 0), (.delete, 0), (.delete, 0)] = none ∧
    arun (fun _ => St.fresh) [(.alloc, 0), (.construct, 0), (.destruct, 0), (.delete, 0)] = none := by
  refine ⟨rfl, rfl, rfl, rfl, rfl, rfl, rfl⟩

end MV.Props.C20
