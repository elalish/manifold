import MV.Proof.Mesh
import MV.Proof.Halfedge
/-!
# C01 (part a): the mesh vocabulary

"A Manifold's exported mesh, after applying its merge vectors, is a closed oriented 2-manifold:
every directed edge occurs exactly once and is matched by exactly one opposite edge, no triangle
repeats a vertex, every index is in range, every vertex is referenced, and
NumVert/NumEdge/NumTri/Genus agree with that mesh."

This file fixes what that sentence means (`MV.Mesh.Closed2Manifold`), proves that the
executable checker used by the differential harness decides exactly that predicate, and proves
the invariances that let the checker be applied to any of the equivalent presentations of a mesh
(triangle order, corner rotation, vertex renumbering / compaction).
Its second half states what `CreateHalfedges` (impl.cpp:373-567) makes of a triangle list: the
duplicate-free case in full, the case of repeated directed edges as far as it is proved.
-/
namespace MV.C01a
open MV.Mesh List

/-! ## sample meshes -/

/-- a tetrahedron -/
def tetra : List Tri := [(0, 2, 1), (0, 1, 3), (1, 2, 3), (2, 0, 3)]
/-- two tetrahedra glued along the edge {0,1}, both oriented outward, both containing the
directed edge 0→1: every directed edge is matched, but 0→1 and 1→0 occur twice -/
def twoTetraEdge : List Tri :=
  [(0, 1, 2), (1, 0, 3), (0, 2, 3), (2, 1, 3), (0, 1, 4), (1, 0, 5), (0, 4, 5), (4, 1, 5)]
/-- two opposed triangles ("pillow"): a closed oriented 2-manifold (a sphere with V=3,E=3,F=2) -/
def pillow : List Tri := [(0, 1, 2), (1, 0, 2)]
/-- a tetrahedron with an extra pair of opposed triangles glued on one face -/
def tetraPlusOpposed : List Tri := tetra ++ [(0, 1, 2), (1, 0, 2)]

/-! ## the checker -/

/-- SOUNDNESS AND COMPLETENESS of the executable checker. -/
theorem checkMesh_iff (nV : Nat) (ts : List Tri) :
    checkMesh nV ts = .ok () ↔ Closed2Manifold nV ts :=
  checkMesh_iff' nV ts

/-- the same with an exemption set for the "every vertex referenced" clause (used by
`checkmerge`, where the merged-from vertices stay in the buffer unreferenced) -/
theorem checkMeshEx_iff (nV : Nat) (ex : Nat → Bool) (ts : List Tri) :
    checkMeshEx nV ex ts = .ok () ↔ Closed2ManifoldEx nV ex ts :=
  MV.Mesh.checkMeshEx_iff nV ex ts

example : Closed2Manifold 4 tetra := by decide +kernel
example : checkMesh 4 tetra = .ok () := (checkMesh_iff _ _).2 (by decide +kernel)
example : Closed2Manifold 3 pillow := by decide +kernel
example : ¬ Closed2Manifold 6 twoTetraEdge := by decide +kernel
example : checkMesh 6 twoTetraEdge ≠ .ok () := fun h => absurd ((checkMesh_iff _ _).1 h) (by decide +kernel)
example : ¬ Closed2Manifold 5 tetra := by decide +kernel   -- vertex 4 unreferenced
example : Closed2ManifoldEx 5 (fun v => v == 4) tetra := by decide +kernel

/-! ## invariance under permutation of the triangle list and rotation of corners -/

/-- The predicate depends only on the multiset of directed edges. -/
theorem closed2Manifold_of_dirEdges_perm {nV : Nat} {ts ts' : List Tri}
    (h : dirEdges ts ~ dirEdges ts') : Closed2Manifold nV ts ↔ Closed2Manifold nV ts' :=
  MV.Mesh.closed2Manifold_of_dirEdges_perm h

/-- Invariant under any permutation of the triangle list followed by any rotation of the three
indices of each triangle (`Rotated ts₁ ts'`: position-wise `t' ∈ {t, rot t, rot² t}`). -/
theorem closed2Manifold_perm {nV : Nat} {ts ts₁ ts' : List Tri}
    (hp : ts ~ ts₁) (hr : Rotated ts₁ ts') :
    Closed2Manifold nV ts ↔ Closed2Manifold nV ts' :=
  MV.Mesh.closed2Manifold_of_dirEdges_perm ((dirEdges_perm hp).trans (dirEdges_rot hr))

example : Closed2Manifold 4 [(1, 3, 0), (2, 1, 0), (3, 1, 2), (3, 2, 0)] := by
  refine (closed2Manifold_perm (ts := tetra) (ts₁ := [(0, 1, 3), (0, 2, 1), (1, 2, 3), (2, 0, 3)])
    ?_ ?_).1 (by decide +kernel)
  · exact Perm.swap ..
  · exact .cons (by decide +kernel) (.cons (by decide +kernel) (.cons (by decide +kernel) (.cons (by decide +kernel) .nil)))

/-! ## invariance under renumbering of the vertices -/

/-- Let `f` rename the vertices, injective on the used ones, onto `[0,nV')`.  Then the renamed
mesh is a closed 2-manifold over `nV'` vertices iff the original is closed and oriented (the
index-free clauses).  This is what `SortVerts` (a permutation) and the compaction of
`RemoveUnreferencedVerts` / of merged-from vertices do. -/
theorem closed2Manifold_relabel (f : Nat → Nat) (nV' : Nat) (ts : List Tri)
    (hinj : ∀ u v, Used ts u → Used ts v → f u = f v → u = v)
    (hlt : ∀ v, Used ts v → f v < nV')
    (hsurj : ∀ w, w < nV' → ∃ v, Used ts v ∧ f v = w) :
    Closed2Manifold nV' (ts.map (mapTri f)) ↔ ClosedOriented ts := by
  rw [closed2Manifold_iff_ex, closed2ManifoldEx_iff_edges, closedOriented_iff_edges, dirEdges_map]
  have hs : ∀ {e : Nat × Nat}, e ∈ dirEdges ts → Used ts e.1 := fun {e} he =>
    used_iff_start.2 ⟨e.2, he⟩
  have he : ∀ {e : Nat × Nat}, e ∈ dirEdges ts → Used ts e.2 := fun {e} he =>
    used_iff_end.2 ⟨e.1, he⟩
  have ginj : ∀ x ∈ dirEdges ts, ∀ y ∈ dirEdges ts,
      (fun e : Nat × Nat => (f e.1, f e.2)) x = (fun e : Nat × Nat => (f e.1, f e.2)) y → x = y := by
    intro x hx y hy h
    simp only [Prod.mk.injEq] at h
    exact Prod.ext (hinj _ _ (hs hx) (hs hy) h.1) (hinj _ _ (he hx) (he hy) h.2)
  unfold EdgeSpec
  rw [nodup_map_iff_of_injOn ginj]
  simp only [mem_map, forall_exists_index, and_imp]
  constructor
  · rintro ⟨_, hnd, hno, hm, _⟩
    refine ⟨?_, hno, ?_⟩
    · intro e hemem heq
      exact hnd _ e hemem rfl (by simp only [heq])
    · intro a b hab
      obtain ⟨e', he', heq⟩ := hm (f a) (f b) (a, b) hab rfl
      simp only [Prod.mk.injEq] at heq
      have h1 := hinj _ _ (hs he') (he hab) heq.1
      have h2 := hinj _ _ (he he') (hs hab) heq.2
      have : e' = (b, a) := Prod.ext h1 h2
      rw [← this]; exact he'
  · rintro ⟨hnd, hno, hm⟩
    refine ⟨?_, ?_, hno, ?_, ?_⟩
    · rintro _ e hemem rfl; exact hlt _ (hs hemem)
    · rintro _ e hemem rfl h
      exact hnd e hemem (hinj _ _ (hs hemem) (he hemem) h)
    · intro a b e hemem heq
      simp only [Prod.mk.injEq] at heq
      refine ⟨(e.2, e.1), hm _ _ hemem, ?_⟩
      simp only [Prod.mk.injEq]; exact ⟨heq.2, heq.1⟩
    · intro w hw _
      obtain ⟨v, hv, rfl⟩ := hsurj w hw
      obtain ⟨b, hb⟩ := used_iff_start.1 hv
      exact ⟨f b, (v, b), hb, rfl⟩

/-- Special case: a bijection `[0,nV) → [0,nV)` (SortVerts) preserves `Closed2Manifold nV`. -/
theorem closed2Manifold_relabel_perm (f : Nat → Nat) (nV : Nat) (ts : List Tri)
    (hinj : ∀ u v, u < nV → v < nV → f u = f v → u = v)
    (hlt : ∀ v, v < nV → f v < nV)
    (hsurj : ∀ w, w < nV → ∃ v, v < nV ∧ f v = w)
    (h : Closed2Manifold nV ts) : Closed2Manifold nV (ts.map (mapTri f)) := by
  have hu : ∀ v, Used ts v → v < nV := by
    rintro v ⟨t, ht, hv⟩
    have := h.1 t ht
    rcases mem_triVerts.1 hv with rfl | rfl | rfl
    · exact this.1
    · exact this.2.1
    · exact this.2.2
  refine (closed2Manifold_relabel f nV ts (fun u v hu' hv' => hinj u v (hu u hu') (hu v hv'))
    (fun v hv => hlt v (hu v hv)) ?_).2 h.closedOriented
  intro w hw
  obtain ⟨v, hv, rfl⟩ := hsurj w hw
  exact ⟨v, h.2.2.2.2 v hv, rfl⟩

/-- Compaction after the merge: if the merged mesh passes `checkMeshEx` with the merged-from
vertices exempt, then ANY renumbering that is injective on the used vertices and onto `[0,nV')`
gives a `Closed2Manifold nV'`. -/
theorem closed2Manifold_compact (f : Nat → Nat) (nV nV' : Nat) (ex : Nat → Bool) (ts : List Tri)
    (hinj : ∀ u v, Used ts u → Used ts v → f u = f v → u = v)
    (hlt : ∀ v, Used ts v → f v < nV')
    (hsurj : ∀ w, w < nV' → ∃ v, Used ts v ∧ f v = w)
    (h : checkMeshEx nV ex ts = .ok ()) : Closed2Manifold nV' (ts.map (mapTri f)) :=
  (closed2Manifold_relabel f nV' ts hinj hlt hsurj).2 ((checkMeshEx_iff nV ex ts).1 h).closedOriented

/-- a tetrahedron on the vertices 0,2,5,7 of an 8-vertex buffer, compacted onto 0..3 -/
example : Closed2Manifold 4
    ([(0, 5, 2), (0, 2, 7), (2, 5, 7), (5, 0, 7)].map (mapTri fun v => if v = 0 then 0 else if v = 2 then 1 else if v = 5 then 2 else 3)) := by
  decide

example : ClosedOriented [(0, 5, 2), (0, 2, 7), (2, 5, 7), (5, 0, 7)] := by decide +kernel

/-! ## merge vectors -/

/-- `applyMerge` (the O(n) table used by the driver) reads every index through the
specification function `mergeFun`: `mergeFrom[i] ↦ mergeTo[i]`, the last `i` wins, no chaining,
identity elsewhere (this is `prop2vert` of the importer, /repo/src/impl.h:378-391). -/
theorem applyMerge_eq (mf mt : List Nat) (ts : List Tri) :
    applyMerge mf mt ts = ts.map (mapTri (mergeFun mf mt)) :=
  MV.Mesh.applyMerge_eq mf mt ts

/-- a tetrahedron whose vertex 2 is split into 2 and 4 (vertex 4 merged into 2) -/
example : applyMerge [4] [2] [(0, 4, 1), (0, 1, 3), (1, 2, 3), (4, 0, 3)] = tetra := by decide +kernel
example : checkMeshEx 5 (fun v => v == 4) (applyMerge [4] [2] [(0, 4, 1), (0, 1, 3), (1, 2, 3), (4, 0, 3)])
    = .ok () := (checkMeshEx_iff _ _ _).2 (by decide +kernel)

/-! ## Euler count -/

/-- For a closed oriented mesh `3·F = 2·E` with `E` the number of undirected edges
(= number of forward directed edges).  Hence `F` is even, `NumEdge() = 3F/2 = E`, and
`V − E + F = V − F/2`. -/
theorem closed2Manifold_euler {nV : Nat} {ts : List Tri} (h : Closed2Manifold nV ts) :
    3 * ts.length = 2 * numUndirected ts ∧
    ts.length % 2 = 0 ∧
    numEdge ts = numUndirected ts ∧
    (nV : Int) - (numEdge ts : Int) + (ts.length : Int) = (nV : Int) - ((ts.length / 2 : Nat) : Int) ∧
    eulerGenus nV ts = 1 - Int.tdiv ((nV : Int) - ((ts.length / 2 : Nat) : Int)) 2 := by
  have h1 := euler_edges h.closedOriented
  have h2 : numEdge ts = numUndirected ts := by unfold numEdge; omega
  have h3 : (nV : Int) - (numEdge ts : Int) + (ts.length : Int) = (nV : Int) - ((ts.length / 2 : Nat) : Int) := by
    rw [h2]; omega
  refine ⟨h1, by omega, h2, h3, ?_⟩
  unfold eulerGenus; rw [h3]

example : numUndirected tetra = 6 ∧ numEdge tetra = 6 ∧ eulerGenus 4 tetra = 0 := by decide +kernel


/-! # `CreateHalfedges` builds the pairing -/

section halfedge
open MV.Halfedge

/-- the directed-edge multiset is balanced: as many copies of `a→b` as of `b→a` -/
def Balanced (ts : List Tri) : Prop :=
  ∀ a b, (dirEdges ts).count (a, b) = (dirEdges ts).count (b, a)

theorem balanced_iff_bounded (ts : List Tri) :
    Balanced ts ↔ ∀ e ∈ dirEdges ts, (dirEdges ts).count e = (dirEdges ts).count (e.2, e.1) := by
  constructor
  · intro h e _; exact h e.1 e.2
  · intro h a b
    by_cases h1 : (a, b) ∈ dirEdges ts
    · exact h (a, b) h1
    · by_cases h2 : (b, a) ∈ dirEdges ts
      · exact (h (b, a) h2).symm
      · rw [count_eq_zero.2 h1, count_eq_zero.2 h2]

instance (ts : List Tri) : Decidable (Balanced ts) :=
  decidable_of_iff _ (balanced_iff_bounded ts).symm

theorem closedOriented_of_balanced {ts : List Tri} (hnd : ∀ t ∈ ts, TriNondeg t)
    (hno : (dirEdges ts).Nodup) (hb : Balanced ts) : ClosedOriented ts := by
  refine ⟨hnd, hno, ?_⟩
  intro a b hab
  have h1 : 0 < (dirEdges ts).count (a, b) := count_pos_iff.2 hab
  rw [hb a b] at h1
  exact count_pos_iff.1 h1

/--
GENERAL STATEMENT (NOT proved in full, see `createHalfedges_pairInv_partial`):

  for every `ts` with `∀ t ∈ ts, TriNondeg t`, `Balanced ts` and all indices `< 2^31`,
  `∃ s o, removalState ts = .ok s ∧ createHalfedges ts = .ok o` (no `ids[k]` read is out of range,
  no loop runs out of fuel), `PairInv o.start o.paired`, tombstones come by whole triangles
  (`Tomb (next e) ↔ Tomb e`), every removed triangle `(a,b,c)` is matched with a removed triangle
  `(b,a,c)` (up to rotation), and the surviving triangles' directed-edge multiset is balanced.

PROVED of it, for every `ts` with an even number of triangles (Proof/HalfedgeSoupA-C, stated as
`MV.C09b.createHalfedges_total_safe`): the invariant of the in-place reordering loop of `ids`
(impl.cpp:473-490), hence no out-of-range access and no fuel exhaustion; `ids` ends as a
permutation, tombstones are complete, kept halfedges are paired mutually.
NOT proved: that for a balanced soup with repeated directed edges the facing positions `j` and
`j + numEdge` of the final `ids` carry reversed edges (which gives `PairInv`), and the counting
argument that the k-th copy of an oriented triangle is removed on all of its three edges or on none.
That part was tested instead: on 3000 random balanced triangle soups with duplicated edges
and opposed pairs the model's output is identical to the C++
`Impl::CreateHalfedges` (serial build) and satisfies `PairInv`; the two examples below run the
model, including the reordering loop, inside the kernel.

PROVED: the duplicate-free case.  If moreover every directed edge occurs exactly once, then
`createHalfedges` terminates without any out-of-range access, the output satisfies `PairInv` and
`NoDupEdge`, removal is by whole triangles, a halfedge is removed iff its partner lies in the
opposed triangle (so removed triangles come in opposed pairs `(a,b,c)`/`(b,a,c)`; since every
directed edge is unique these are exactly the isolated two-triangle "pillow" components), and the
surviving halfedges keep their start/prop vertices.  The survivors are balanced because
`PairInv` pairs each surviving halfedge with a surviving reversed one. -/
theorem createHalfedges_pairInv_partial (ts : List Tri)
    (hnd : ∀ t ∈ ts, TriNondeg t) (hb : Balanced ts) (hr : ∀ t ∈ ts, TriInRange (2 ^ 31) t)
    (hno : (dirEdges ts).Nodup) :
    ∃ s o, removalState ts = .ok s ∧ s.ids = sortIds (prep ts) ∧
      createHalfedges ts = .ok o ∧ NodupResult ts o :=
  createHalfedges_nodup ts (closedOriented_of_balanced hnd hno hb) hr

example : (∀ t ∈ tetra, TriNondeg t) ∧ Balanced tetra ∧ (∀ t ∈ tetra, TriInRange (2 ^ 31) t) ∧
    (dirEdges tetra).Nodup := by decide +kernel

/-- the pillow: duplicate-free, balanced, and both triangles ARE removed -/
example : ∃ o, createHalfedges pillow = .ok o ∧ PairInv o.start o.paired ∧
    ∀ e, e < 6 → Tomb o.start o.paired e := by
  obtain ⟨s, o, _, _, ho, r⟩ := createHalfedges_pairInv_partial pillow (by decide +kernel) (by decide +kernel)
    (by decide +kernel) (by decide +kernel)
  refine ⟨o, ho, r.pairInv, ?_⟩
  intro e he
  exact (r.tomb_iff e he).2 (by revert e; decide)

/-- hypotheses of the GENERAL statement on a mesh with a repeated directed edge
(two tetrahedra sharing the edge 0→1) ... -/
example : (∀ t ∈ twoTetraEdge, TriNondeg t) ∧ Balanced twoTetraEdge ∧
    ¬ (dirEdges twoTetraEdge).Nodup := by decide +kernel

theorem ids_twoTetraEdge : sortIds (prep twoTetraEdge) =
    #[3, 15, 2, 8, 14, 20, 9, 5, 21, 17, 11, 23, 0, 12, 6, 4, 18, 16, 1, 10, 13, 22, 7, 19] :=
  sortIds_eq _ [3, 15, 2, 8, 14, 20, 9, 5, 21, 17, 11, 23, 0, 12, 6, 4, 18, 16, 1, 10, 13, 22, 7, 19]
    (by decide +kernel) (by decide +kernel)

/-- ... and the model evaluated on it inside the kernel: its output satisfies `PairInv`, nothing
is removed, but `NoDupEdge` fails (the mesh is not a 2-manifold along the shared edge). -/
example : ∃ o, createHalfedges twoTetraEdge = .ok o ∧ PairInv o.start o.paired ∧
    ¬ NoDupEdge o.start o.paired ∧ readBack o.start = twoTetraEdge := by
  have h : (createHalfedges twoTetraEdge).toOption = some
      { start := #[0, 1, 2, 1, 0, 3, 0, 2, 3, 2, 1, 3, 0, 1, 4, 1, 0, 5, 0, 4, 5, 4, 1, 5],
        paired := #[3, 9, 6, 0, 8, 10, 2, 11, 4, 1, 5, 7, 15, 21, 18, 12, 20, 22, 14, 23, 16, 13, 17, 19],
        prop := #[0, 1, 2, 1, 0, 3, 0, 2, 3, 2, 1, 3, 0, 1, 4, 1, 0, 5, 0, 4, 5, 4, 1, 5] } := by
    simp only [createHalfedges, removalState, ids_twoTetraEdge]
    decide +kernel
  cases hc : createHalfedges twoTetraEdge with
  | error e => rw [hc] at h; cases h
  | ok o =>
    rw [hc] at h
    cases h
    exact ⟨_, rfl, by decide +kernel, by decide +kernel, by decide +kernel⟩

/-- a pair of opposed triangles glued into a tetrahedron: hypotheses of the general statement -/
example : (∀ t ∈ tetraPlusOpposed, TriNondeg t) ∧ Balanced tetraPlusOpposed ∧
    ¬ (dirEdges tetraPlusOpposed).Nodup := by decide +kernel

theorem ids_tetraPlusOpposed : sortIds (prep tetraPlusOpposed) =
    #[2, 15, 9, 14, 5, 1, 17, 8, 11, 3, 12, 0, 16, 10, 6, 13, 4, 7] :=
  sortIds_eq _ [2, 15, 9, 14, 5, 1, 17, 8, 11, 3, 12, 0, 16, 10, 6, 13, 4, 7]
    (by decide +kernel) (by decide +kernel)

/-- the model evaluated inside the kernel (this run executes the reordering loop of `ids`):
triangle 0 = (0,2,1) and triangle 4 = (0,1,2) are removed as an opposed pair, the surviving
mesh is the tetrahedron with (1,0,2) in place of (0,2,1), `PairInv` and `NoDupEdge` hold. -/
example : ∃ s o, removalState tetraPlusOpposed = .ok s ∧ s.ids ≠ sortIds (prep tetraPlusOpposed) ∧
    createHalfedges tetraPlusOpposed = .ok o ∧ PairInv o.start o.paired ∧
    NoDupEdge o.start o.paired ∧
    readBack o.start = [(0, 1, 3), (1, 2, 3), (2, 0, 3), (1, 0, 2)] := by
  have hs : (removalState tetraPlusOpposed).toOption = some
      { ids := #[2, 15, 9, 14, 5, 1, 17, 8, 11, 12, 3, 16, 0, 10, 13, 6, 4, 7],
        removed := #[true, true, true, false, false, false, false, false, false, false, false, false,
          true, true, true, false, false, false] } := by
    simp only [removalState, ids_tetraPlusOpposed]
    decide +kernel
  cases hr : removalState tetraPlusOpposed with
  | error e => rw [hr] at hs; cases hs
  | ok s =>
    rw [hr] at hs
    cases hs
    -- the final pairing, evaluated on the removal state found above
    have h : (createHalfedges tetraPlusOpposed).toOption = some
        { start := #[-1, -1, -1, 0, 1, 3, 1, 2, 3, 2, 0, 3, -1, -1, -1, 1, 0, 2],
          paired := #[-1, -1, -1, 15, 8, 10, 17, 11, 4, 16, 5, 7, -1, -1, -1, 3, 9, 6],
          prop := #[0, 0, 0, 0, 1, 3, 1, 2, 3, 2, 0, 3, 0, 0, 0, 1, 0, 2] } := by
      simp only [createHalfedges, hr]
      decide +kernel
    cases hc : createHalfedges tetraPlusOpposed with
    | error e => rw [hc] at h; cases h
    | ok o =>
      rw [hc] at h
      cases h
      refine ⟨_, _, rfl, ?_, rfl, by decide +kernel, by decide +kernel, by decide +kernel⟩
      rw [ids_tetraPlusOpposed]; decide +kernel

/-- CORRECTED form of "if every directed edge occurs exactly once nothing is removed".
As stated that sentence is FALSE: the pillow `[(0,1,2),(1,0,2)]` is a `Closed2Manifold 3` with all
six directed edges distinct, and `CreateHalfedges` removes both triangles (example above).
The extra hypothesis needed is `NoOpposed ts` (no two triangles on the same vertex triple with
opposite orientation).  Then: no out-of-range access, nothing is removed, `PairInv` and
`NoDupEdge` hold, and the mesh read back from `start` is exactly the input, `prop = start`. -/
theorem createHalfedges_2manifold (nV : Nat) (ts : List Tri) (h : Closed2Manifold nV ts)
    (hnV : nV ≤ 2 ^ 31) (hopp : NoOpposed ts) :
    ∃ o, createHalfedges ts = .ok o ∧ PairInv o.start o.paired ∧ NoDupEdge o.start o.paired ∧
      (∀ e, e < 3 * ts.length → ¬ Tomb o.start o.paired e) ∧
      readBack o.start = ts ∧ o.prop = o.start := by
  have hr : ∀ t ∈ ts, TriInRange (2 ^ 31) t := by
    intro t ht; have := h.1 t ht
    exact ⟨by have := this.1; omega, by have := this.2.1; omega, by have := this.2.2; omega⟩
  obtain ⟨s, o, _, _, ho, r⟩ := createHalfedges_nodup ts h.closedOriented hr
  have hnt : ∀ e, e < 3 * ts.length → ¬ Tomb o.start o.paired e := by
    intro e he ht
    exact noOpposed_not_opposedAt hopp he ((r.tomb_iff e he).1 ht)
  refine ⟨o, ho, r.pairInv, r.noDup, hnt, ?_, ?_⟩
  · exact readBack_eq ts o.start r.ssize (fun e he => (r.alive e he (hnt e he)).1)
  · apply Array.ext
    · rw [r.qsize, r.ssize]
    · intro i h1 h2
      have hi : i < 3 * ts.length := by rw [← r.ssize]; exact h2
      have := r.alive i hi (hnt i hi)
      have e1 : o.prop[i]! = o.prop[i] := getElem!_pos o.prop i h1
      have e2 : o.start[i]! = o.start[i] := getElem!_pos o.start i h2
      rw [← e1, ← e2, this.1, this.2]

/-- Without `NoOpposed`: a `Closed2Manifold` input still yields `PairInv ∧ NoDupEdge`
(pillow components are tombstoned as whole triangles). -/
theorem createHalfedges_of_closed2Manifold (nV : Nat) (ts : List Tri) (h : Closed2Manifold nV ts)
    (hnV : nV ≤ 2 ^ 31) :
    ∃ o, createHalfedges ts = .ok o ∧ PairInv o.start o.paired ∧ NoDupEdge o.start o.paired ∧
      ∀ e, e < 3 * ts.length → (Tomb o.start o.paired e ↔ OpposedAt ts e) := by
  have hr : ∀ t ∈ ts, TriInRange (2 ^ 31) t := by
    intro t ht; have := h.1 t ht
    exact ⟨by have := this.1; omega, by have := this.2.1; omega, by have := this.2.2; omega⟩
  obtain ⟨s, o, _, _, ho, r⟩ := createHalfedges_nodup ts h.closedOriented hr
  exact ⟨o, ho, r.pairInv, r.noDup, r.tomb_iff⟩

example : Closed2Manifold 4 tetra ∧ 4 ≤ 2 ^ 31 ∧ NoOpposed tetra := by decide +kernel
example : Closed2Manifold 3 pillow ∧ ¬ NoOpposed pillow := by decide +kernel

end halfedge

end MV.C01a
