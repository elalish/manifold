import MV.Model.Csg
/-
Algebra used by property C03.  Commutative monoids and sums over lists: the vocabulary in which
"nothing dropped, nothing duplicated" (`N` = multisets as count functions) and "denotes the union"
(`N` = solids under `∪`) are the same statement about `BatchUnion` / `BatchBoolean`, and in which
the children loop of the evaluator adds up what it pushes.  Then `⋃` / `⋂` of lists of solids,
and bracketings: whatever partition into groups, bracketing and order `BatchUnion` /
`BatchBoolean` use (bounding-box partition, `Compose`, the size-ordered heap, 4-way task groups),
a bracketing evaluates to the sum of its leaves (`Bracket.eval_eq_msum`, whence `batch_eq_fold` of
`MV/Props/C03.lean`).  Core Lean only.
-/
set_option autoImplicit false
namespace MV.CsgBatch

/-- a commutative monoid; exactly the laws used -/
class CMon (N : Type) where
  add : N → N → N
  zero : N
  add_assoc : ∀ a b c, add (add a b) c = add a (add b c)
  add_comm : ∀ a b, add a b = add b a
  add_zero : ∀ a, add a zero = a

open CMon

variable {N : Type} [CMon N]

instance : Std.Associative (α := N) add := ⟨add_assoc⟩
instance : Std.Commutative (α := N) add := ⟨add_comm⟩

theorem CMon.zero_add (a : N) : add zero a = a := by rw [add_comm, add_zero]

/-- the sum of a list -/
def msum (l : List N) : N := l.foldr add zero

@[simp] theorem msum_nil : msum ([] : List N) = zero := rfl
@[simp] theorem msum_cons (a : N) (l : List N) : msum (a :: l) = add a (msum l) := rfl

theorem msum_singleton (a : N) : msum [a] = a := by simp [add_zero]

theorem msum_append (a b : List N) : msum (a ++ b) = add (msum a) (msum b) := by
  induction a with
  | nil => simp [CMon.zero_add]
  | cons x xs ih => simp [ih, add_assoc]

theorem msum_perm {a b : List N} (h : a.Perm b) : msum a = msum b := by
  induction h with
  | nil => rfl
  | cons x _ ih => simp [ih]
  | swap x y l =>
    simp only [msum_cons]
    rw [← add_assoc, add_comm y x, add_assoc]
  | trans _ _ ih1 ih2 => exact ih1.trans ih2

theorem msum_flatten (ls : List (List N)) : msum (ls.map msum) = msum ls.flatten := by
  induction ls with
  | nil => rfl
  | cons l ls ih => simp [msum_append, ih]

/-- the sum of `f` over a list of lists, taken list by list, is the sum over the flattening -/
theorem msum_map_flatten {β : Type} (f : β → N) (ls : List (List β)) :
    msum (ls.map fun l => msum (l.map f)) = msum (ls.flatten.map f) := by
  induction ls with
  | nil => rfl
  | cons l ls ih => simp [msum_append, ih]

/-- an associative commutative operation with a unit adjoined is a commutative monoid -/
@[reducible] def optCMon {α : Type} (f : α → α → α) [ha : Std.Associative f]
    [hc : Std.Commutative f] : CMon (Option α) where
  add a b := match a, b with
    | none, b => b
    | a, none => a
    | some a, some b => some (f a b)
  zero := none
  add_assoc := by
    intro a b c
    cases a <;> cases b <;> cases c <;> simp [ha.assoc]
  add_comm := by
    intro a b
    cases a <;> cases b <;> simp [hc.comm]
  add_zero := by intro a; cases a <;> rfl

theorem optCMon_msum {α : Type} (f : α → α → α) [ha : Std.Associative f]
    [hc : Std.Commutative f]
    (l : List α) (x : α) : @msum _ (optCMon f) ((x :: l).map some) = some (l.foldl f x) := by
  induction l generalizing x with
  | nil => rfl
  | cons y ys ih =>
    have h := ih y
    rw [List.map_cons, @msum_cons _ (optCMon f), h, List.foldl_cons, List.foldl_assoc]
    rfl

end MV.CsgBatch

namespace MV.Csg
open SolidAlg XfAct

variable {M S : Type}

/-! ## algebra of folds -/
section Alg
variable [SolidAlg S]

instance : Std.Associative (α := S) union := ⟨union_assoc⟩
instance : Std.Commutative (α := S) union := ⟨union_comm⟩
instance : Std.Associative (α := S) inter := ⟨inter_assoc⟩
instance : Std.Commutative (α := S) inter := ⟨inter_comm⟩

theorem empty_union (a : S) : union empty a = a := by rw [union_comm, union_empty]

@[simp] theorem bigU_nil : bigU ([] : List S) = empty := rfl
@[simp] theorem bigU_cons (a : S) (l : List S) : bigU (a :: l) = union a (bigU l) := rfl

theorem bigU_append (a b : List S) : bigU (a ++ b) = union (bigU a) (bigU b) := by
  induction a with
  | nil => simp [empty_union]
  | cons x xs ih => simp [ih, union_assoc]

theorem bigU_singleton (a : S) : bigU [a] = a := by simp [union_empty]

/-- `Option S` with `none` as unit of intersection -/
def oInter : Option S → Option S → Option S
  | none, b => b
  | a, none => a
  | some a, some b => some (inter a b)

theorem oInter_none_right (a : Option S) : oInter a none = a := by cases a <;> rfl
theorem oInter_none_left (a : Option S) : oInter none a = a := rfl

theorem oInter_comm (a b : Option S) : oInter a b = oInter b a := by
  cases a <;> cases b <;> simp [oInter, inter_comm]

theorem oInter_assoc (a b c : Option S) : oInter (oInter a b) c = oInter a (oInter b c) := by
  cases a <;> cases b <;> cases c <;> simp [oInter, inter_assoc]

instance : Std.Associative (α := Option S) oInter := ⟨oInter_assoc⟩
instance : Std.Commutative (α := Option S) oInter := ⟨oInter_comm⟩

@[simp] theorem bigIo_nil : bigIo ([] : List S) = none := rfl
theorem bigIo_cons (a : S) (l : List S) : bigIo (a :: l) = oInter (some a) (bigIo l) := by
  simp only [bigIo]; cases bigIo l <;> rfl

theorem bigIo_append (a b : List S) : bigIo (a ++ b) = oInter (bigIo a) (bigIo b) := by
  induction a with
  | nil => simp [oInter]
  | cons x xs ih => simp [bigIo_cons, ih, oInter_assoc]

theorem bigIo_singleton (a : S) : bigIo [a] = some a := rfl

theorem bigIo_ne_nil {l : List S} {v : S} (h : bigIo l = some v) : l ≠ [] := by
  rintro rfl; simp at h

theorem opSem_singleton (o : Op) (x : S) : opSem o [x] = x := by
  cases o <;> simp [opSem, union_empty, bigI, bigIo, diff_empty]

end Alg

section Act
variable [One M] [Mul M] [SolidAlg S] [XfAct M S]

theorem act_bigU (m : M) (l : List S) : act m (bigU l) = bigU (l.map (act m)) := by
  induction l with
  | nil => simp [act_empty]
  | cons x xs ih => simp [act_union, ih]

theorem act_bigIo (m : M) (l : List S) : (bigIo l).map (act m) = bigIo (l.map (act m)) := by
  induction l with
  | nil => rfl
  | cons x xs ih =>
    simp only [List.map_cons, bigIo_cons, ← ih]
    cases bigIo xs <;> simp [oInter, act_inter]

theorem Val.leaf_transform (L : Val S) (l : Leaf M) (m : M) :
    L.leaf (l.transform m) = act m (L.leaf l) := by
  simp [Val.leaf, Leaf.transform, act_mul]

end Act
end MV.Csg

namespace MV.CsgBatch.C03b
open MV.CsgBatch MV.Csg CMon

/-- solids under union form a commutative monoid -/
instance instCMonSolid (S : Type) [SolidAlg S] : CMon S where
  add := SolidAlg.union
  zero := SolidAlg.empty
  add_assoc := SolidAlg.union_assoc
  add_comm := SolidAlg.union_comm
  add_zero := SolidAlg.union_empty

end MV.CsgBatch.C03b

namespace MV.Csg

/-- an arbitrary bracketing of operands -/
inductive Bracket (α : Type) where
  | one (a : α)
  | op (l r : Bracket α)

variable {α : Type}

def Bracket.eval (f : α → α → α) : Bracket α → α
  | .one a => a
  | .op l r => f (l.eval f) (r.eval f)

def Bracket.leaves : Bracket α → List α
  | .one a => [a]
  | .op l r => l.leaves ++ r.leaves

section
variable (f : α → α → α) [ha : Std.Associative f] [hc : Std.Commutative f]

open CsgBatch in
/-- in `Option α`, with `none` adjoined as unit, a bracketing evaluates to the sum of its leaves -/
theorem Bracket.eval_eq_msum (t : Bracket α) :
    some (t.eval f) = @msum _ (optCMon f) (t.leaves.map some) := by
  induction t with
  | one a => rfl
  | op l r ihl ihr =>
    rw [Bracket.leaves, List.map_append, @msum_append _ (optCMon f), ← ihl, ← ihr]
    rfl

end

open SolidAlg

variable {S : Type} [SolidAlg S]

theorem foldl_union_eq (x : S) (l : List S) : l.foldl union x = bigU (x :: l) := by
  induction l generalizing x with
  | nil => simp [union_empty]
  | cons y ys ih => simp only [List.foldl_cons, ih, bigU_cons, union_assoc]

theorem foldl_inter_eq (x : S) (l : List S) : l.foldl inter x = bigI (x :: l) := by
  induction l generalizing x with
  | nil => rfl
  | cons y ys ih =>
    simp only [List.foldl_cons, ih, bigI, bigIo_cons, ← oInter_assoc]
    rfl

end MV.Csg
