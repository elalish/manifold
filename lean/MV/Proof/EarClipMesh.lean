import MV.Proof.Extrude
import MV.Proof.PartitionCheck
import MV.Props.C01a
/-!
From the vocabulary of the triangulator and the constructors (`net`, `TriLt`, `TriHas`) to the mesh
specification: a triangle list whose net is 0 on every edge is a closed oriented 2-manifold as soon
as no triangle repeats a vertex and no directed edge occurs twice.  The last condition is stated
through `MV.Partition.insertAll`, which inserts the edge codes `a * n + b` into a bit mask and
fails on the first repetition, so that it can be evaluated on a concrete mesh in linear time.
-/
namespace MV.EarClip
open MV.Extrude (TriLt TriHas)
open MV.Mesh (checkMesh)

theorem checkMesh_of_net_zero (n : Nat) (ts : List Tri)
    (hrange : ∀ t ∈ ts, TriLt n t) (hdist : ∀ t ∈ ts, MV.Mesh.TriNondeg t)
    (hcodes : (MV.Partition.insertAll ((triEdges ts).map fun e => e.1 * n + e.2) 0).isSome = true)
    (hnet : ∀ a b, net (triEdges ts) a b = 0)
    (hused : ∀ v, v < n → ∃ t ∈ ts, TriHas v t) : checkMesh n ts = .ok () := by
  obtain ⟨m, hm⟩ := Option.isSome_iff_exists.1 hcodes
  refine (MV.C01a.checkMesh_iff n ts).2 ⟨hrange, hdist, (MV.Partition.insertAll_spec _ _ _ hm).1.of_map _, ?_, ?_⟩
  · -- an edge that occurs has positive count; net 0 gives its reverse the same count
    intro a b hab
    have h := hnet a b
    unfold net at h
    have : 0 < (triEdges ts).count (a, b) := List.count_pos_iff.2 hab
    exact List.count_pos_iff.1 (show 0 < (triEdges ts).count (b, a) by omega)
  · intro v hv
    obtain ⟨t, ht, h⟩ := hused v hv
    refine ⟨t, ht, ?_⟩
    simp only [MV.Mesh.triVerts, List.mem_cons, List.not_mem_nil, or_false]
    rcases h with h | h | h
    · exact Or.inl h.symm
    · exact Or.inr (Or.inl h.symm)
    · exact Or.inr (Or.inr h.symm)

end MV.EarClip
