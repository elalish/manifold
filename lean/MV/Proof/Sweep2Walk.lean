import MV.Model.Sweep2
/-! OutEdgesToPolygons (C11 (e)): in a balanced directed multigraph every walk closes; PushSimpleLoops hands out
vertex-simple loops of at least three vertices. -/
namespace MV.Sweep2

/-- unvisited out-degree and in-degree -/
def outU (es : Graph) (vis : List Nat) (v : Nat) : Nat :=
  (List.range es.length).countP fun e => es.v0 e == v && !vis.contains e
def inU (es : Graph) (vis : List Nat) (v : Nat) : Nat :=
  (List.range es.length).countP fun e => es.v1 e == v && !vis.contains e

theorem countP_remove_notmem (l : List Nat) (f : Nat → Bool) (vis : List Nat) (c : Nat) (hc : c ∉ l) :
    l.countP (fun e => f e && !vis.contains e) = l.countP (fun e => f e && !(c :: vis).contains e) := by
  apply List.countP_congr
  intro x hx
  have : x ≠ c := fun e => hc (e ▸ hx)
  simp [this]

/-- consuming the unvisited edge `c` takes one from the count of unvisited edges with end (`f` = tail or head) `f c` -/
theorem countP_consume (f : Nat → Nat) (vis : List Nat) (c : Nat) (hcv : c ∉ vis) (v : Nat) (l : List Nat)
    (hn : l.Nodup) (hc : c ∈ l) :
    l.countP (fun e => f e == v && !vis.contains e)
      = l.countP (fun e => f e == v && !(c :: vis).contains e) + (if v = f c then 1 else 0) := by
  induction l with
  | nil => cases hc
  | cons x l ih =>
    have hnd := List.nodup_cons.mp hn
    rw [List.countP_cons, List.countP_cons]
    by_cases hx : x = c
    · subst hx
      rw [← countP_remove_notmem l (f · == v) vis x hnd.1]
      by_cases h : v = f x
      · simp [hcv, h]
      · simp [hcv, h, Ne.symm h]
    · rw [ih hnd.2 ((List.mem_cons.mp hc).resolve_left (Ne.symm hx))]
      have : (c :: vis).contains x = vis.contains x := by simp [hx]
      rw [this]; omega

theorem outU_consume (es : Graph) (vis : List Nat) (c : Nat) (hc : c < es.length) (hcv : c ∉ vis) (v : Nat) :
    outU es vis v = outU es (c :: vis) v + (if v = es.v0 c then 1 else 0) :=
  countP_consume es.v0 vis c hcv v _ List.nodup_range (List.mem_range.mpr hc)

theorem inU_consume (es : Graph) (vis : List Nat) (c : Nat) (hc : c < es.length) (hcv : c ∉ vis) (v : Nat) :
    inU es vis v = inU es (c :: vis) v + (if v = es.v1 c then 1 else 0) :=
  countP_consume es.v1 vis c hcv v _ List.nodup_range (List.mem_range.mpr hc)

/-- residual imbalance: the unvisited graph is balanced except for one surplus out-edge at `a`
    and one surplus in-edge at `s` (`a = s`: balanced) -/
def Imbalance (es : Graph) (vis : List Nat) (a s : Nat) : Prop :=
  ∀ v, outU es vis v + (if v = s then 1 else 0) = inU es vis v + (if v = a then 1 else 0)

theorem mem_cands {es : Graph} {vis : List Nat} {v e : Nat} :
    e ∈ cands es vis v ↔ e < es.length ∧ es.v0 e = v ∧ e ∉ vis := by
  simp [cands, List.mem_filter, List.mem_range]

theorem cands_length (es : Graph) (vis : List Nat) (v : Nat) : (cands es vis v).length = outU es vis v := by
  unfold cands outU; rw [List.countP_eq_length_filter]

theorem sanitize_mem (choose : Nat → List Nat → Nat) (cur : Nat) (cs : List Nat) (h : cs ≠ []) :
    sanitize choose cur cs ∈ cs := by
  unfold sanitize
  by_cases hc : cs.contains (choose cur cs) = true
  · simp only [hc, if_true]; simpa using hc
  · simp only [hc, if_false, Bool.false_eq_true]
    cases cs with
    | nil => exact absurd rfl h
    | cons x _ => simp

theorem walkFromTo_snoc (es : Graph) (a : Nat) (p : List Nat) (b e : Nat)
    (h : WalkFromTo es a p b) (he : es.v0 e = b) : WalkFromTo es a (p ++ [e]) (es.v1 e) := by
  induction p generalizing a with
  | nil =>
    simp only [WalkFromTo] at h
    simp only [List.nil_append, WalkFromTo]
    exact ⟨by omega, trivial⟩
  | cons x p ih =>
    simp only [WalkFromTo, List.cons_append] at h ⊢
    exact ⟨h.1, ih _ h.2⟩

/-- the specification of one inner `while` loop -/
structure WalkOk (es : Graph) (s cur : Nat) (vis acc : List Nat) (r : WalkResult) : Prop where
  closed : r.closed = true
  path : ∃ p, r.loop = acc.reverse ++ (cur :: p) ∧ r.visited = (cur :: p).reverse ++ vis
  walk : WalkFromTo es s r.loop s
  nodup : r.visited.Nodup
  bound : ∀ e ∈ r.visited, e < es.length
  balanced : ∀ v, outU es r.visited v = inU es r.visited v

/-- the visited edges are distinct edge ids, so there are at most `es.length` of them: fuel for the rest suffices -/
theorem walk_spec (es : Graph) (choose : Nat → List Nat → Nat) (s : Nat) :
    ∀ (fuel cur : Nat) (vis acc : List Nat),
      cur < es.length → cur ∉ vis → vis.Nodup → (∀ e ∈ vis, e < es.length) →
      Imbalance es vis (es.v0 cur) s → WalkFromTo es s acc.reverse (es.v0 cur) →
      es.length ≤ vis.length + fuel →
      WalkOk es s cur vis acc (walk es choose s fuel cur vis acc) := by
  intro fuel
  induction fuel with
  | zero =>
    intro cur vis acc hcur hcv hnd hb _ _ hf
    have := (List.nodup_cons.mpr ⟨hcv, hnd⟩).length_le_of_subset (l₂ := List.range es.length)
      fun e he => List.mem_range.mpr ((List.mem_cons.mp he).elim (· ▸ hcur) (hb e))
    rw [List.length_cons, List.length_range] at this
    omega
  | succ fuel ih =>
    intro cur vis acc hcur hcv hnd hb hinv hw hf
    have hnd' : (cur :: vis).Nodup := List.nodup_cons.mpr ⟨hcv, hnd⟩
    have hb' : ∀ e ∈ cur :: vis, e < es.length := List.forall_mem_cons.mpr ⟨hcur, hb⟩
    have hinv' : Imbalance es (cur :: vis) (es.v1 cur) s := by
      intro v
      have h0 := hinv v
      have h1 := outU_consume es vis cur hcur hcv v
      have h2 := inU_consume es vis cur hcur hcv v
      omega
    have hw' : WalkFromTo es s (cur :: acc).reverse (es.v1 cur) := by
      rw [List.reverse_cons]; exact walkFromTo_snoc es s _ _ cur hw rfl
    have hf' : es.length ≤ (cur :: vis).length + fuel := by rw [List.length_cons]; omega
    unfold walk
    by_cases hd : es.v1 cur = s
    · simp only [hd, if_true]
      refine ⟨rfl, ⟨[], by simp, by simp⟩, ?_, hnd', hb', ?_⟩
      · rw [hd] at hw'; exact hw'
      · show ∀ v, outU es (cur :: vis) v = inU es (cur :: vis) v
        intro v
        have := hinv' v
        rw [hd] at this
        omega
    · simp only [hd, if_false]
      have hpos : 0 < (cands es (cur :: vis) (es.v1 cur)).length := by
        rw [cands_length]
        have := hinv' (es.v1 cur)
        simp only [hd, ↓reduceIte] at this
        omega
      have hne : cands es (cur :: vis) (es.v1 cur) ≠ [] := List.ne_nil_of_length_pos hpos
      rw [List.isEmpty_eq_false_iff.mpr hne, if_neg Bool.false_ne_true]
      obtain ⟨hn1, hn2, hn3⟩ := mem_cands.mp (sanitize_mem choose cur _ hne)
      -- the chosen edge leaves the vertex just reached
      rw [← hn2] at hinv' hw'
      have r := ih _ (cur :: vis) (cur :: acc) hn1 hn3 hnd' hb' hinv' hw' hf'
      obtain ⟨p, hp1, hp2⟩ := r.path
      refine ⟨r.closed, ⟨sanitize choose cur (cands es (cur :: vis) (es.v1 cur)) :: p, ?_, ?_⟩,
        r.walk, r.nodup, r.bound, r.balanced⟩
      · rw [hp1]; simp
      · rw [hp2]; simp

/-- invariant of the outer `for` loop -/
structure ExtractOk (es : Graph) (st : Extract) : Prop where
  allClosed : st.allClosed = true
  nodup : st.visited.Nodup
  bound : ∀ e ∈ st.visited, e < es.length
  balanced : ∀ v, outU es st.visited v = inU es st.visited v
  loops : ∀ l ∈ st.loops, l ≠ [] ∧ ∃ s, WalkFromTo es s l s
  perm : st.loops.flatten.Perm st.visited

theorem extractFrom_spec (es : Graph) (choose : Nat → List Nat → Nat) :
    ∀ (starts : List Nat) (st : Extract), (∀ e ∈ starts, e < es.length) → ExtractOk es st →
      ExtractOk es (extractFrom es choose starts st)
        ∧ (∀ e ∈ starts, e ∈ (extractFrom es choose starts st).visited)
        ∧ (∀ e ∈ st.visited, e ∈ (extractFrom es choose starts st).visited) := by
  intro starts
  induction starts with
  | nil =>
    intro st _ h
    simp only [extractFrom]
    exact ⟨h, by simp, fun e he => he⟩
  | cons start more ih =>
    intro st hs hok
    have hmore : ∀ e ∈ more, e < es.length := fun e he => hs e (by simp [he])
    unfold extractFrom
    by_cases hv : st.visited.contains start = true
    · simp only [hv, if_true]
      obtain ⟨h1, h2, h3⟩ := ih st hmore hok
      exact ⟨h1, List.forall_mem_cons.mpr ⟨h3 _ (by simpa using hv), h2⟩, h3⟩
    · simp only [hv, if_false, Bool.false_eq_true]
      have hsv : start ∉ st.visited := by simpa using hv
      have hsl : start < es.length := hs start (by simp)
      have hinv : Imbalance es st.visited (es.v0 start) (es.v0 start) := by
        intro v; have := hok.balanced v; omega
      have r := walk_spec es choose (es.v0 start) (es.length + 1) start st.visited []
        hsl hsv hok.nodup hok.bound hinv (by simp [WalkFromTo]) (by omega)
      generalize walk es choose (es.v0 start) (es.length + 1) start st.visited [] = w at r ⊢
      obtain ⟨p, hp1, hp2⟩ := r.path
      simp only [List.reverse_nil, List.nil_append] at hp1
      have hok' : ExtractOk es
          ⟨if w.closed = true then st.loops ++ [w.loop] else st.loops, st.allClosed && w.closed, w.visited⟩ := by
        refine ⟨by simp [hok.allClosed, r.closed], r.nodup, r.bound, r.balanced, ?_, ?_⟩
        · intro l hl
          simp only [r.closed, if_true, List.mem_append, List.mem_singleton] at hl
          rcases hl with hl | rfl
          · exact hok.loops l hl
          · exact ⟨by rw [hp1]; simp, _, r.walk⟩
        · simp only [r.closed, if_true, List.flatten_append, List.flatten_cons, List.flatten_nil,
            List.append_nil]
          rw [hp1, hp2]
          exact (hok.perm.append (List.reverse_perm (start :: p)).symm).trans List.perm_append_comm
      obtain ⟨h1, h2, h3⟩ := ih _ hmore hok'
      have hold : ∀ x, x = start ∨ x ∈ st.visited → x ∈ w.visited := by
        intro x hx; rw [hp2]; simpa using Or.inr hx
      exact ⟨h1, List.forall_mem_cons.mpr ⟨h3 _ (hold _ (.inl rfl)), h2⟩, fun e he => h3 e (hold e (.inr he))⟩

theorem firstRepeat_spec (rest seen : List Nat) (hs : seen.Nodup) :
    (firstRepeat rest seen = none → (seen ++ rest).Nodup)
    ∧ (∀ j i, firstRepeat rest seen = some (j, i) →
        j < i ∧ i < (seen ++ rest).length ∧ ((seen ++ rest).take i).Nodup) := by
  induction rest generalizing seen with
  | nil => simp [firstRepeat, hs]
  | cons x rest ih =>
    unfold firstRepeat
    by_cases hc : seen.contains x = true
    · have hx : x ∈ seen := by simpa using hc
      simp only [hc, if_true]
      refine ⟨by simp, ?_⟩
      intro j i h
      simp only [Option.some.injEq, Prod.mk.injEq] at h
      obtain ⟨rfl, rfl⟩ := h
      refine ⟨List.idxOf_lt_length_of_mem hx, by simp, ?_⟩
      simp [hs]
    · have hx : x ∉ seen := by simpa using hc
      simp only [hc, if_false, Bool.false_eq_true]
      have hs' : (seen ++ [x]).Nodup := by
        rw [List.nodup_append]
        refine ⟨hs, by simp, ?_⟩
        intro a ha b hb
        simp only [List.mem_singleton] at hb
        subst hb
        intro e; exact hx (e ▸ ha)
      have := ih (seen ++ [x]) hs'
      simpa [List.append_assoc] using this

theorem findSplit_none {l : List Nat} (h : findSplit l = none) : l.Nodup := by
  have := (firstRepeat_spec l [] List.nodup_nil).1 h
  simpa using this

theorem findSplit_some {l : List Nat} {j i : Nat} (h : findSplit l = some (j, i)) :
    j < i ∧ i < l.length ∧ (l.take i).Nodup := by
  have := (firstRepeat_spec l [] List.nodup_nil).2 j i h
  simpa using this

/-- `PushLoopIfNondegenerate` of a repeat-free loop -/
theorem push_simple {out : List (List Nat)} (ho : ∀ x ∈ out, x.Nodup ∧ 3 ≤ x.length) {l : List Nat} (hn : l.Nodup) :
    ∀ x ∈ (if l.length ≥ 3 then out ++ [l] else out), x.Nodup ∧ 3 ≤ x.length := by
  intro x hx
  by_cases h3 : l.length ≥ 3
  · rw [if_pos h3] at hx
    rcases List.mem_append.mp hx with hx | hx
    · exact ho x hx
    · rw [List.mem_singleton.mp hx]; exact ⟨hn, h3⟩
  · rw [if_neg h3] at hx; exact ho x hx

theorem pushSimpleLoops_simple (fuel : Nat) (l : List Nat) (out : List (List Nat))
    (hf : l.length ≤ fuel) (ho : ∀ x ∈ out, x.Nodup ∧ 3 ≤ x.length) :
    ∀ x ∈ pushSimpleLoops fuel l out, x.Nodup ∧ 3 ≤ x.length := by
  induction fuel generalizing l out with
  | zero =>
    have : l = [] := List.eq_nil_of_length_eq_zero (by omega)
    subst this
    exact push_simple ho List.nodup_nil
  | succ fuel ih =>
    unfold pushSimpleLoops
    cases hfs : findSplit l with
    | none => exact push_simple ho (findSplit_none hfs)
    | some ji =>
      obtain ⟨j, i⟩ := ji
      simp only
      obtain ⟨hji, hil, hnd⟩ := findSplit_some hfs
      -- the loop cut out between the two occurrences lies inside the repeat-free prefix
      have hsimple : ((l.drop j).take (i - j)).Nodup := by
        rw [← List.drop_take]
        exact List.Nodup.sublist (List.drop_sublist _ _) hnd
      apply ih _ _ _ (push_simple ho hsimple)
      simp only [List.length_append, List.length_take, List.length_drop]; omega

end MV.Sweep2
