import MV.Model.PartitionCheck
import MV.Proof.Partition
import Mathlib.Data.List.Nodup
/-!
Soundness of the executable pattern checker: `checkTopo … = true → TopoValid …` and
`checkGeom … = true ↔ GeomValid …` (the `Prop`-level statements the table theorems of C19 are
read through), and the triangle count of a valid pattern.
-/
namespace MV.Partition

/-- What "the topological pattern uses each of its vertices and tiles its triangle / quad" means
combinatorially, for a pattern over vertices `0 … nV-1` with sorted divisions `n`. -/
structure TopoValid (n : I4) (nV : Nat) (ts : List Tri) : Prop where
  /-- every triangle index is a vertex of the pattern -/
  inRange : ∀ t ∈ ts, ∀ v ∈ triList t, 0 ≤ v ∧ v < Int.ofNat nV
  /-- no triangle repeats a vertex -/
  nondeg : ∀ t ∈ ts, t.1 ≠ t.2.1 ∧ t.2.1 ≠ t.2.2 ∧ t.2.2 ≠ t.1
  /-- every directed edge is used by at most one triangle -/
  edgesOnce : (dirEdges ts).Nodup
  /-- the boundary is exactly the subdivided outer edges, traversed in order, each by one triangle -/
  boundary : ∀ e ∈ cycleEdges (boundaryCycle n), e ∈ dirEdges ts ∧ (e.2, e.1) ∉ dirEdges ts
  /-- every other directed edge has its reverse exactly once -/
  interiorPaired : ∀ e ∈ dirEdges ts, e ∈ cycleEdges (boundaryCycle n) ∨ (e.2, e.1) ∈ dirEdges ts
  /-- every vertex of the pattern is referenced -/
  allUsed : ∀ v : Nat, v < nV → ∃ e ∈ dirEdges ts, e.1 = Int.ofNat v
  /-- Euler characteristic of a disk: `F + b + 2 = 2 V` -/
  euler : ts.length + (boundaryCycle n).length + 2 = 2 * nV

/-! ### bit-mask lemmas -/

theorem testBit_or_one_shiftLeft (m c x : Nat) : (m ||| (1 <<< c)).testBit x = (m.testBit x || decide (x = c)) := by
  rw [Nat.testBit_or, Nat.one_shiftLeft, Nat.testBit_two_pow, decide_eq_decide.2 eq_comm]

theorem maskOf_go (codes : List Nat) (m0 x : Nat) :
    (codes.foldl (fun m c => m ||| (1 <<< c)) m0).testBit x = (m0.testBit x || decide (x ∈ codes)) := by
  induction codes generalizing m0 with
  | nil => simp
  | cons c cs ih =>
    simp only [List.foldl, ih, testBit_or_one_shiftLeft, List.mem_cons, Bool.decide_or, Bool.or_assoc]

theorem testBit_maskOf (codes : List Nat) (x : Nat) : (maskOf codes).testBit x = decide (x ∈ codes) := by
  rw [maskOf, maskOf_go, Nat.zero_testBit, Bool.false_or]

theorem insertAll_none (codes : List Nat) : codes.foldl insStep (none : Option Nat) = none := by
  induction codes with
  | nil => rfl
  | cons c cs ih => simpa [insStep] using ih

theorem insertAll_spec (codes : List Nat) (m0 m : Nat) (h : insertAll codes m0 = some m) :
    codes.Nodup ∧ (∀ c ∈ codes, m0.testBit c = false) ∧
    ∀ x, m.testBit x = (m0.testBit x || decide (x ∈ codes)) := by
  induction codes generalizing m0 with
  | nil =>
    simp only [insertAll, List.foldl, Option.some.injEq] at h
    subst h
    simp
  | cons c cs ih =>
    unfold insertAll at h
    simp only [List.foldl] at h
    by_cases hc : m0.testBit c = true
    · simp only [insStep, hc, ↓reduceIte] at h
      rw [insertAll_none] at h
      cases h
    · simp only [insStep, hc, Bool.false_eq_true, ↓reduceIte] at h
      obtain ⟨hnd, hfresh, hbits⟩ := ih (m0 ||| (1 <<< c)) h
      simp only [testBit_or_one_shiftLeft, Bool.or_eq_false_iff, decide_eq_false_iff_not] at hfresh
      refine ⟨List.nodup_cons.mpr ⟨fun hmem => (hfresh c hmem).2 rfl, hnd⟩, ?_, fun x => ?_⟩
      · intro x hx
        rcases List.mem_cons.mp hx with rfl | hx
        · simpa using hc
        · exact (hfresh x hx).1
      · simp only [hbits x, testBit_or_one_shiftLeft, List.mem_cons, Bool.decide_or, Bool.or_assoc]

/-! ### edge codes -/

theorem edgeCode_inj (nV : Nat) (e f : Int × Int) (he1 : 0 ≤ e.1) (he2 : 0 ≤ e.2 ∧ e.2 < Int.ofNat nV)
    (hf1 : 0 ≤ f.1) (hf2 : 0 ≤ f.2 ∧ f.2 < Int.ofNat nV) (h : edgeCode nV e = edgeCode nV f) : e = f := by
  obtain ⟨a, b⟩ := e
  obtain ⟨c, d⟩ := f
  simp only [edgeCode, Int.ofNat_eq_natCast] at he1 he2 hf1 hf2 h
  have hb : b.toNat < nV := by omega
  have hd : d.toNat < nV := by omega
  -- quotient and remainder by `nV`
  have h1 := congrArg (· / nV) h
  have h2 := congrArg (· % nV) h
  simp only [Nat.mul_comm _ nV, Nat.mul_add_div (Nat.zero_lt_of_lt hb), Nat.mul_add_mod, Nat.div_eq_of_lt hb,
    Nat.div_eq_of_lt hd, Nat.mod_eq_of_lt hb, Nat.mod_eq_of_lt hd, Nat.add_zero] at h1 h2
  rw [← Int.toNat_of_nonneg he1, ← Int.toNat_of_nonneg he2.1, h1, h2, Int.toNat_of_nonneg hf1, Int.toNat_of_nonneg hf2.1]

theorem mem_dirEdges_inRange (nV : Nat) (ts : List Tri) (hr : ts.all (inRangeTri nV) = true) (e : Int × Int)
    (he : e ∈ dirEdges ts) : (0 ≤ e.1 ∧ e.1 < Int.ofNat nV) ∧ (0 ≤ e.2 ∧ e.2 < Int.ofNat nV) := by
  simp only [dirEdges, List.mem_flatMap] at he
  obtain ⟨t, ht, hm⟩ := he
  have := List.all_eq_true.mp hr t ht
  simp only [inRangeTri, Bool.and_eq_true, decide_eq_true_eq] at this
  simp only [List.mem_cons, List.not_mem_nil, or_false] at hm
  rcases hm with rfl | rfl | rfl <;> simp only [] <;> omega

theorem mem_cycleEdges_inRange (nV : Nat) (l : List Int)
    (hr : l.all (fun v => decide (0 ≤ v) && decide (v < Int.ofNat nV)) = true) (e : Int × Int)
    (he : e ∈ cycleEdges l) : (0 ≤ e.1 ∧ e.1 < Int.ofNat nV) ∧ (0 ≤ e.2 ∧ e.2 < Int.ofNat nV) := by
  cases l with
  | nil => simp [cycleEdges] at he
  | cons x xs =>
    have g : ∀ v ∈ x :: xs, 0 ≤ v ∧ v < Int.ofNat nV := fun v hv => by simpa using List.all_eq_true.mp hr v hv
    have h1 := List.of_mem_zip he
    refine ⟨g _ h1.1, g _ ?_⟩
    rcases List.mem_append.1 h1.2 with h | h
    · exact List.mem_cons_of_mem _ h
    · rw [List.mem_singleton.1 h]; exact List.mem_cons_self ..

/-- among in-range edges the code of an edge occurs among the codes exactly when the edge occurs -/
theorem edgeCode_mem_map (nV : Nat) (es : List (Int × Int))
    (hes : ∀ f ∈ es, (0 ≤ f.1 ∧ f.1 < Int.ofNat nV) ∧ (0 ≤ f.2 ∧ f.2 < Int.ofNat nV)) (e : Int × Int)
    (he : (0 ≤ e.1 ∧ e.1 < Int.ofNat nV) ∧ (0 ≤ e.2 ∧ e.2 < Int.ofNat nV)) :
    edgeCode nV e ∈ es.map (edgeCode nV) ↔ e ∈ es := by
  rw [List.mem_map]
  constructor
  · rintro ⟨f, hf, hfe⟩
    rwa [← edgeCode_inj nV f e (hes f hf).1.1 (hes f hf).2 he.1.1 he.2 hfe]
  · exact fun h => ⟨e, h, rfl⟩

/-! ### soundness of the combinatorial half -/

theorem checkTopo_sound (n : I4) (nV : Nat) (ts : List Tri) (h : checkTopo n nV ts = true) : TopoValid n nV ts := by
  unfold checkTopo at h
  simp only [Bool.and_eq_true] at h
  obtain ⟨⟨⟨⟨⟨hr, hnd⟩, hbc⟩, hm⟩, hused⟩, heul⟩ := h
  have hrange := mem_dirEdges_inRange nV ts hr
  have hbrange := mem_cycleEdges_inRange nV (boundaryCycle n) hbc
  split at hm
  · cases hm
  · rename_i m hins
    obtain ⟨hnodup, -, hbits⟩ := insertAll_spec _ _ _ hins
    simp only [Nat.zero_testBit, Bool.false_or] at hbits
    simp only [Bool.and_eq_true] at hm
    obtain ⟨hb, hi⟩ := hm
    have hcode : ∀ e : Int × Int, (0 ≤ e.1 ∧ e.1 < Int.ofNat nV) ∧ (0 ≤ e.2 ∧ e.2 < Int.ofNat nV) →
        (m.testBit (edgeCode nV e) = true ↔ e ∈ dirEdges ts) := fun e her => by
      rw [hbits, decide_eq_true_eq, edgeCode_mem_map nV _ hrange e her]
    refine
      { inRange := ?_, nondeg := ?_, edgesOnce := List.Nodup.of_map _ hnodup, boundary := ?_, interiorPaired := ?_,
        allUsed := ?_, euler := by simpa using heul }
    · intro t ht v hv
      have := List.all_eq_true.mp hr t ht
      simp only [inRangeTri, Bool.and_eq_true, decide_eq_true_eq] at this
      simp only [triList, List.mem_cons, List.not_mem_nil, or_false] at hv
      rcases hv with rfl | rfl | rfl <;> omega
    · intro t ht
      have := List.all_eq_true.mp hnd t ht
      simpa [nondegTri, and_assoc] using this
    · intro e he
      have her := hbrange e he
      have hb' := List.all_eq_true.mp hb e he
      simp only [Bool.and_eq_true, Bool.not_eq_true'] at hb'
      refine ⟨(hcode e her).mp hb'.1, fun hrev => ?_⟩
      have := (hcode (e.2, e.1) ⟨her.2, her.1⟩).mpr hrev
      rw [hb'.2] at this
      cases this
    · intro e he
      have her := hrange e he
      have := List.all_eq_true.mp hi e he
      simp only [Bool.or_eq_true] at this
      rcases this with hbm | hrev
      · left
        rwa [testBit_maskOf, decide_eq_true_eq, edgeCode_mem_map nV _ hbrange e her] at hbm
      · right
        exact (hcode (e.2, e.1) ⟨her.2, her.1⟩).mp hrev
    · intro v hv
      have hmask : (maskOf ((dirEdges ts).map fun e => e.1.toNat)).testBit v = true := by
        have : maskOf ((dirEdges ts).map fun e => e.1.toNat) = 2 ^ nV - 1 := by simpa using hused
        rw [this, Nat.testBit_two_pow_sub_one]
        simpa using hv
      rw [testBit_maskOf] at hmask
      simp only [decide_eq_true_eq, List.mem_map] at hmask
      obtain ⟨e, he, hev⟩ := hmask
      refine ⟨e, he, ?_⟩
      have := (hrange e he).1
      simp only [Int.ofNat_eq_natCast] at this ⊢
      omega

/-! ### the geometric half -/

/-- Exact-arithmetic statement of "tiles its triangle or quad": barycentric vectors are convex
combinations, the boundary vertices sit at the exact fractions `j / n[i]` of their edge, every
sub-triangle is positively oriented and the signed areas add up to the whole (doubled areas:
1 for the triangle, 2 for the unit square). -/
structure GeomValid (n : I4) (nV : Nat) (ts : List Tri) (bary : List (V4 Rat)) : Prop where
  len : bary.length = nV
  convex : ∀ b ∈ bary, 0 ≤ b.x ∧ 0 ≤ b.y ∧ 0 ≤ b.z ∧ 0 ≤ b.w ∧ b.x + b.y + b.z + b.w = 1
  corners : ∀ i, i < numCorners n → bary.getD i zero4 = unit4 i
  edgePts : ∀ i, i < numCorners n → ∀ j, j < (n.get i).toNat - 1 →
    bary.getD (canonEdgeOffset n i + Int.ofNat j).toNat zero4 = edgePoint (numCorners n) i j (n.get i)
  oriented : ∀ t ∈ ts, 0 < triArea2 (decide (n.d > 0)) bary t
  areaSum : (ts.map (triArea2 (decide (n.d > 0)) bary)).foldl (· + ·) 0 = if n.d > 0 then 2 else 1

theorem checkGeom_sound (n : I4) (nV : Nat) (ts : List Tri) (bary : List (V4 Rat))
    (h : checkGeom n nV ts bary = true) : GeomValid n nV ts bary := by
  unfold checkGeom at h
  simp only [Bool.and_eq_true, decide_eq_true_eq] at h
  obtain ⟨⟨⟨⟨hl, hc⟩, hb⟩, ho⟩, ha⟩ := h
  refine { len := hl, convex := ?_, corners := ?_, edgePts := ?_, oriented := ?_, areaSum := ?_ }
  · intro b hb'
    have := List.all_eq_true.mp hc b hb'
    simpa [convex4, and_assoc] using this
  · intro i hi
    have := List.all_eq_true.mp hb i (List.mem_range.mpr hi)
    simp only [Bool.and_eq_true, decide_eq_true_eq] at this
    exact this.1
  · intro i hi j hj
    have := List.all_eq_true.mp hb i (List.mem_range.mpr hi)
    simp only [Bool.and_eq_true, decide_eq_true_eq] at this
    have := List.all_eq_true.mp this.2 j (List.mem_range.mpr hj)
    simpa using this
  · intro t ht
    have := List.all_eq_true.mp ho t ht
    simpa using this
  · by_cases hq : n.d > 0
    · simpa [hq] using ha
    · simpa [hq] using ha

/-- the geometric half of the checker is complete as well: it decides `GeomValid` -/
theorem checkGeom_complete {n : I4} {nV : Nat} {ts : List Tri} {bary : List (V4 Rat)}
    (h : GeomValid n nV ts bary) : checkGeom n nV ts bary = true := by
  unfold checkGeom
  simp only [Bool.and_eq_true, decide_eq_true_eq, List.all_eq_true]
  refine ⟨⟨⟨⟨h.len, fun b hb => ?_⟩, ?_⟩, fun t ht => h.oriented t ht⟩, ?_⟩
  · obtain ⟨h1, h2, h3, h4, h5⟩ := h.convex b hb
    simp only [convex4, Bool.and_eq_true, decide_eq_true_eq]
    exact ⟨⟨⟨⟨h1, h2⟩, h3⟩, h4⟩, h5⟩
  · unfold checkBoundaryPos
    simp only [List.all_eq_true, List.mem_range, Bool.and_eq_true, decide_eq_true_eq]
    exact fun i hi => ⟨h.corners i hi, fun j hj => h.edgePts i hi j hj⟩
  · rw [h.areaSum]

/-- A pattern accepted by the checker.  `fuel` holds `p.ok = true`: the recursion of `partitionQuad` did not
run out of fuel while building `p`. -/
structure PatternValid (p : Part) : Prop where
  fuel : p.ok = true
  topo : TopoValid p.sorted p.nV p.tris
  geom : GeomValid p.sorted p.nV p.tris (evalBary (α := Rat) p.recs)

theorem checkPart_sound (p : Part) (h : checkPart p = true) : PatternValid p := by
  unfold checkPart at h
  simp only [Bool.and_eq_true] at h
  exact ⟨h.1.1, checkTopo_sound _ _ _ h.1.2, checkGeom_sound _ _ _ _ h.2⟩

/-! ### triangle count -/

/-- A valid pattern with `b` boundary vertices and `i = V - b` interior vertices has
`b + 2 i - 2` triangles (stated without subtraction). -/
theorem count_from_euler (n : I4) (nV : Nat) (ts : List Tri) (h : TopoValid n nV ts) (b i : Nat)
    (hb : (boundaryCycle n).length = b) (hi : nV = b + i) : ts.length + 2 = b + 2 * i := by
  have := h.euler
  omega

theorem boundaryCycle_length_tri (n0 n1 n2 : Nat) (h0 : 1 ≤ n0) (h1 : 1 ≤ n1) (h2 : 1 ≤ n2) :
    (boundaryCycle ⟨Int.ofNat n0, Int.ofNat n1, Int.ofNat n2, 0⟩).length = n0 + n1 + n2 := by
  simp [boundaryCycle, numCorners, List.range_succ, I4.get]
  omega

theorem boundaryCycle_length_quad (n0 n1 n2 n3 : Nat) (h0 : 1 ≤ n0) (h1 : 1 ≤ n1) (h2 : 1 ≤ n2) (h3 : 1 ≤ n3) :
    (boundaryCycle ⟨Int.ofNat n0, Int.ofNat n1, Int.ofNat n2, Int.ofNat n3⟩).length = n0 + n1 + n2 + n3 := by
  have h4 : 0 < n3 := by omega
  simp [boundaryCycle, numCorners, h4, List.range_succ, I4.get]
  omega

/-! ### cache keys -/

theorem mem_sortedTriplesFrom {lo hi : Nat} {n : I4} :
    n ∈ sortedTriplesFrom lo hi ↔ lo < n.a ∧ n.a ≤ hi ∧ n.b ≤ n.a ∧ 1 ≤ n.c ∧ n.c ≤ n.b ∧ n.d = 0 := by
  simp only [sortedTriplesFrom, sortedTriples, List.mem_filter, List.mem_flatMap, List.mem_map, List.mem_range,
    decide_eq_true_eq, Int.ofNat_eq_natCast]
  constructor
  · rintro ⟨⟨i, hi, j, hj, k, hk, rfl⟩, h⟩
    dsimp only at h ⊢
    omega
  · intro h
    obtain ⟨a, b, c, e⟩ := n
    dsimp only at h
    refine ⟨⟨(a - 1).toNat, by omega, (b - 1).toNat, by omega, (c - 1).toNat, by omega, ?_⟩, h.1⟩
    simp only [I4.mk.injEq]
    omega

theorem sortedTriplesFrom_chunk (lo mid hi : Nat) {n : I4} (h : n ∈ sortedTriplesFrom lo hi) :
    n ∈ sortedTriplesFrom lo mid ∨ n ∈ sortedTriplesFrom mid hi := by
  have h := mem_sortedTriplesFrom.1 h
  by_cases hm : n.a ≤ mid
  · exact Or.inl (mem_sortedTriplesFrom.2 ⟨h.1, hm, h.2.2⟩)
  · exact Or.inr (mem_sortedTriplesFrom.2 ⟨Int.not_le.1 hm, h.2⟩)

theorem mem_allQuads {N : Nat} {r : I4} :
    r ∈ allQuads N ↔ (1 ≤ r.a ∧ r.a ≤ N) ∧ (1 ≤ r.b ∧ r.b ≤ N) ∧ (1 ≤ r.c ∧ r.c ≤ N) ∧ (1 ≤ r.d ∧ r.d ≤ N) := by
  simp only [allQuads, List.mem_flatMap, List.mem_map, List.mem_range, Int.ofNat_eq_natCast]
  constructor
  · rintro ⟨i, hi, j, hj, k, hk, l, hl, rfl⟩
    dsimp only
    omega
  · intro h
    obtain ⟨a, b, c, e⟩ := r
    dsimp only at h
    refine ⟨(a - 1).toNat, by omega, (b - 1).toNat, by omega, (c - 1).toNat, by omega, (e - 1).toNat, by omega, ?_⟩
    simp only [I4.mk.injEq]
    omega

theorem mem_canonQuads {N : Nat} {r : I4} : r ∈ canonQuads N ↔ r ∈ allQuads N ∧ (sortDivisions r).1 = r := by
  simp [canonQuads]

/-- the sorted divisions of a triple with entries in `1..N` are a key -/
theorem sortDivisions_mem_sortedTriples (N : Nat) (a b c : Int) (ha : 1 ≤ a ∧ a ≤ N) (hb : 1 ≤ b ∧ b ≤ N)
    (hc : 1 ≤ c ∧ c ≤ N) : (sortDivisions ⟨a, b, c, 0⟩).1 ∈ sortedTriplesFrom 0 N := by
  rw [sortDivisions_tri _ rfl]
  obtain ⟨h1, h2, h3, -, hp, ea, -, ec⟩ := sortTri_spec ⟨a, b, c, 0⟩
  generalize sortTri ⟨a, b, c, 0⟩ = r at *
  obtain ⟨⟨x, y, z, w⟩, t⟩ := r
  simp only at h1 h2 h3 hp ea ec
  -- the largest and the smallest entry are entries of the input
  have hx : x ≤ N := by
    rcases hp with h | h | h | h | h | h <;> (rw [h.1] at ea; simp [I4.get] at ea; omega)
  have hz : 1 ≤ z := by
    rcases hp with h | h | h | h | h | h <;> (rw [h.2.2] at ec; simp [I4.get] at ec; omega)
  exact mem_sortedTriplesFrom.2 (by dsimp only; omega)

/-- an entry of `d` read through any index lies wherever all four entries lie -/
theorem I4.get_mem (d : I4) (i : Nat) (P : Int → Prop) (h : P d.a ∧ P d.b ∧ P d.c ∧ P d.d) : P (d.get i) := by
  unfold I4.get
  split
  · exact h.1
  · exact h.2.1
  · exact h.2.2.1
  · exact h.2.2.2

theorem rotQuad_zero (r : I4) : (rotQuad r 0).1 = r := rfl

theorem rotQuad_mem_allQuads {N : Nat} {d : I4} (m : Nat) (h : d ∈ allQuads N) : (rotQuad d m).1 ∈ allQuads N := by
  have hg := fun i => I4.get_mem d i (fun v => 1 ≤ v ∧ v ≤ N) (mem_allQuads.1 h)
  exact mem_allQuads.2 ⟨hg _, hg _, hg _, hg _⟩

/-- the rotated divisions of a quad with entries in `1..N` are a key: a quad with entries in
`1..N` that `GetPartition` leaves alone -/
theorem sortDivisions_mem_canonQuads (N : Nat) (d : I4) (h : d ∈ allQuads N) : (sortDivisions d).1 ∈ canonQuads N := by
  have hk := rotQuad_mem_allQuads (quadMinIdx d) h
  have hd := (mem_allQuads.1 h).2.2.2
  have hr := (mem_allQuads.1 hk).2.2.2
  rw [sortDivisions_quad d (by omega)]
  refine mem_canonQuads.2 ⟨hk, ?_⟩
  rw [sortDivisions_quad _ (by omega), quadMinIdx_rotQuad]
  exact rotQuad_zero _

/-- a key either has all entries `≤ lo` or one of its last three entries is larger (the first
entry is a smallest one) -/
theorem canonQuads_chunk (lo hi : Nat) (r : I4) (h : r ∈ canonQuads hi) :
    r ∈ canonQuads lo ∨ (lo < r.b ∨ lo < r.c ∨ lo < r.d) := by
  obtain ⟨hall, hfix⟩ := mem_canonQuads.1 h
  have hr := mem_allQuads.1 hall
  by_cases hb : lo < r.b ∨ lo < r.c ∨ lo < r.d
  · exact Or.inr hb
  · left
    have hab : r.a ≤ r.b := by
      rw [sortDivisions_quad r (by omega)] at hfix
      have e : r.get (quadMinIdx r) = r.a := by
        have h0 : (0 + quadMinIdx r) % 4 = quadMinIdx r := by have := quadMinIdx_lt r; omega
        have := congrArg I4.a hfix
        rwa [(rotQuad_spec r _).1, h0] at this
      have := quadMinIdx_min r 1 (by omega)
      rw [e] at this
      have e1 : r.get 1 = r.b := rfl
      omega
    exact mem_canonQuads.2 ⟨mem_allQuads.2 (by omega), hfix⟩

/-- a quad key with divisions up to 4 has all of them up to 3, or a division 4 behind the first one -/
theorem canonQuads_four {r : I4} (h : r ∈ canonQuads 4) :
    r ∈ canonQuads 3 ∨ r ∈ (canonQuads 4).filter fun d => decide (d.b = 4 ∨ d.c = 4 ∨ d.d = 4) := by
  refine (canonQuads_chunk 3 4 r h).imp_right fun hlt => List.mem_filter.2 ⟨h, ?_⟩
  have := mem_allQuads.1 (mem_canonQuads.1 h).1
  simp only [decide_eq_true_eq]
  omega

end MV.Partition
