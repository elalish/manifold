import MV.Proof.CrossOpsField
/-!
Convex hull, part C: list combinatorics.  A cyclic triple of a ring `l` is a consecutive triple of
`l ++ l`; for a ring `X ++ Y` glued from two chains `X ++ [y0]`, `Y ++ [x0]` (`X = x0 :: _`,
`Y = y0 :: _`) it is consecutive in one of the two chains or sits at a joint.  A cyclic pair is the
front of a cyclic triple.
-/
namespace MV.CrossOps

variable {β : Type}

theorem zip_triple_decomp (a b c : β) :
    ∀ (l r1 r2 m : List β), l <+: m → r1 <+: m.tail → r2 <+: m.tail.tail →
      (a, b, c) ∈ l.zip (r1.zip r2) → ∃ l1 l2, m = l1 ++ a :: b :: c :: l2 := by
  intro l
  induction l with
  | nil => intro r1 r2 m _ _ _ h; simp at h
  | cons x l ih =>
    intro r1 r2 m hl h1 h2 hmem
    cases m with
    | nil => simp at hl
    | cons x' m' =>
      obtain ⟨rfl, hl'⟩ := List.cons_prefix_cons.1 hl
      cases r1 with
      | nil => simp at hmem
      | cons y r1' =>
        cases r2 with
        | nil => simp at hmem
        | cons z r2' =>
          cases m' with
          | nil => simp at h1
          | cons y' m'' =>
            simp only [List.tail_cons] at h1 h2
            obtain ⟨rfl, h1'⟩ := List.cons_prefix_cons.1 h1
            cases m'' with
            | nil => simp at h2
            | cons z' m''' =>
              obtain ⟨rfl, h2'⟩ := List.cons_prefix_cons.1 h2
              simp only [List.zip_cons_cons, List.mem_cons, Prod.mk.injEq] at hmem
              rcases hmem with ⟨rfl, rfl, rfl⟩ | hmem
              · exact ⟨[], m''', rfl⟩
              · obtain ⟨l1, l2, e⟩ := ih r1' r2' (y :: z :: m''') hl' (by simpa using h1')
                  (by simpa using h2') hmem
                exact ⟨x :: l1, l2, by rw [e]; rfl⟩

theorem cyclicTriples_decomp {l : List β} (h2 : 2 ≤ l.length) {t : β × β × β}
    (ht : t ∈ cyclicTriples l) : ∃ l1 l2, l ++ l = l1 ++ t.1 :: t.2.1 :: t.2.2 :: l2 := by
  match l, h2 with
  | x :: y :: l'', _ =>
    refine zip_triple_decomp t.1 t.2.1 t.2.2 (x :: y :: l'') (y :: l'' ++ [x]) (l'' ++ [x, y]) _
      (List.prefix_append _ _) ?_ ?_ ?_
    · exact ⟨y :: l'', by simp⟩
    · exact ⟨l'', by simp⟩
    · simpa [cyclicTriples] using ht

/-- a cyclic pair is the front of a cyclic triple -/
theorem exists_cyclicTriple {l : List β} {e : β × β} (he : e ∈ cyclicPairs l) :
    ∃ c, (e.1, e.2, c) ∈ cyclicTriples l := by
  obtain ⟨i, hi⟩ := List.mem_iff_getElem?.1 he
  unfold cyclicPairs at hi
  rw [List.getElem?_zip_eq_some] at hi
  have hlt : i < (l.drop 2 ++ l.take 2).length := by
    have := (List.getElem?_eq_some_iff.1 hi.1).1
    simp only [List.length_append, List.length_drop, List.length_take]
    omega
  refine ⟨(l.drop 2 ++ l.take 2)[i], List.mem_iff_getElem?.2 ⟨i, ?_⟩⟩
  unfold cyclicTriples
  rw [List.getElem?_zip_eq_some, List.getElem?_zip_eq_some]
  exact ⟨hi.1, hi.2, List.getElem?_eq_getElem hlt⟩

theorem triple_split (a b c m : β) (S' l2 : List β) :
    ∀ (P l1 : List β), P ++ m :: S' = l1 ++ a :: b :: c :: l2 →
      (∃ l2', P ++ [m] = l1 ++ a :: b :: c :: l2') ∨
      (∃ P' S'', P = P' ++ [a] ∧ b = m ∧ S' = c :: S'') ∨
      (∃ l1', m :: S' = l1' ++ a :: b :: c :: l2) := by
  intro P
  induction P with
  | nil => intro l1 h; exact Or.inr (Or.inr ⟨l1, by simpa using h⟩)
  | cons x P' ih =>
    intro l1 h
    cases l1 with
    | nil =>
      simp only [List.cons_append, List.nil_append, List.cons.injEq] at h
      obtain ⟨rfl, h⟩ := h
      cases P' with
      | nil =>
        simp only [List.nil_append, List.cons.injEq] at h
        obtain ⟨rfl, h⟩ := h
        exact Or.inr (Or.inl ⟨[], l2, rfl, rfl, h⟩)
      | cons y P'' =>
        simp only [List.cons_append, List.cons.injEq] at h
        obtain ⟨rfl, h⟩ := h
        cases P'' with
        | nil =>
          simp only [List.nil_append, List.cons.injEq] at h
          obtain ⟨rfl, _⟩ := h
          exact Or.inl ⟨[], rfl⟩
        | cons z P''' =>
          simp only [List.cons_append, List.cons.injEq] at h
          obtain ⟨rfl, _⟩ := h
          exact Or.inl ⟨P''' ++ [m], rfl⟩
    | cons w l1' =>
      simp only [List.cons_append, List.cons.injEq] at h
      obtain ⟨rfl, h⟩ := h
      rcases ih l1' h with ⟨l2', e⟩ | ⟨P'', S'', e1, e2, e3⟩ | r
      · exact Or.inl ⟨l2', by simp only [List.cons_append, e]⟩
      · exact Or.inr (Or.inl ⟨x :: P'', S'', by rw [e1]; rfl, e2, e3⟩)
      · exact Or.inr (Or.inr r)

/-- a consecutive triple of the doubled ring lies in one of the two chains or at a joint -/
theorem ring_triples {x0 y0 a b c : β} {X' Y' l1 l2 : List β}
    (h : ((x0 :: X') ++ (y0 :: Y')) ++ ((x0 :: X') ++ (y0 :: Y')) = l1 ++ a :: b :: c :: l2) :
    (∃ k1 k2, (x0 :: X') ++ [y0] = k1 ++ a :: b :: c :: k2) ∨
    (∃ k1 k2, (y0 :: Y') ++ [x0] = k1 ++ a :: b :: c :: k2) ∨
    (∃ P R, x0 :: X' = P ++ [a] ∧ b = y0 ∧ (y0 :: Y') ++ [x0] = y0 :: c :: R) ∨
    (∃ P R, y0 :: Y' = P ++ [a] ∧ b = x0 ∧ (x0 :: X') ++ [y0] = x0 :: c :: R) := by
  have h1 : (x0 :: X') ++ y0 :: (Y' ++ ((x0 :: X') ++ (y0 :: Y'))) = l1 ++ a :: b :: c :: l2 := by
    rw [← h]; simp
  rcases triple_split a b c y0 _ l2 _ l1 h1 with ⟨k2, e⟩ | ⟨P, S'', e1, e2, e3⟩ | ⟨l1', h2⟩
  · exact Or.inl ⟨l1, k2, e⟩
  · refine Or.inr (Or.inr (Or.inl ?_))
    cases Y' with
    | nil =>
      simp only [List.nil_append, List.cons_append, List.cons.injEq] at e3
      exact ⟨P, [], e1, e2, by rw [e3.1]; rfl⟩
    | cons y1 Y'' =>
      simp only [List.cons_append, List.cons.injEq] at e3
      exact ⟨P, Y'' ++ [x0], e1, e2, by rw [e3.1]; rfl⟩
  · have h2' : (y0 :: Y') ++ x0 :: (X' ++ (y0 :: Y')) = l1' ++ a :: b :: c :: l2 := by
      rw [← h2]; simp
    rcases triple_split a b c x0 _ l2 _ l1' h2' with ⟨k2, e⟩ | ⟨P, S'', e1, e2, e3⟩ | ⟨l1'', h3⟩
    · exact Or.inr (Or.inl ⟨l1', k2, e⟩)
    · refine Or.inr (Or.inr (Or.inr ?_))
      cases X' with
      | nil =>
        simp only [List.nil_append, List.cons.injEq] at e3
        exact ⟨P, [], e1, e2, by rw [e3.1]; rfl⟩
      | cons x1 X'' =>
        simp only [List.cons_append, List.cons.injEq] at e3
        exact ⟨P, X'' ++ [y0], e1, e2, by rw [e3.1]; rfl⟩
    · have h3' : (x0 :: X') ++ y0 :: Y' = l1'' ++ a :: b :: c :: l2 := by
        rw [← h3]; simp
      rcases triple_split a b c y0 _ l2 _ l1'' h3' with ⟨k2, e⟩ | ⟨P, S'', e1, e2, e3⟩ | ⟨k1, h4⟩
      · exact Or.inl ⟨l1'', k2, e⟩
      · exact Or.inr (Or.inr (Or.inl ⟨P, S'' ++ [x0], e1, e2, by rw [e3]; rfl⟩))
      · exact Or.inr (Or.inl ⟨k1, l2 ++ [x0], by rw [h4]; simp⟩)

end MV.CrossOps
