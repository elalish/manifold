import MV.Proof.Sweep2Order
/-! PolySet2: canonical form, extensionality, permutation invariance (C11 (c)). -/
namespace MV.Sweep2

/-- what a `std::map` with erase-on-zero is: keys strictly increasing, no zero entry -/
def Canon (ps : PolySet) : Prop :=
  ps.Pairwise (fun a b => pairLexLess a.1 b.1 = true) ∧ ∀ e ∈ ps, e.2 ≠ 0

theorem canon_nil : Canon [] := ⟨List.Pairwise.nil, by simp⟩

theorem Canon.tail {e : Key × Int} {ps : PolySet} (h : Canon (e :: ps)) : Canon ps :=
  ⟨(List.pairwise_cons.mp h.1).2, fun x hx => h.2 x (by simp [hx])⟩

theorem bump_eq_upsert (ps : PolySet) (k : Key) (m : Int) :
    bump ps k m = upsert pairLexLess m (fun v => if v + m = 0 then none else some (v + m)) ps k := by
  induction ps with
  | nil => rfl
  | cons e rest ih =>
    obtain ⟨k', v⟩ := e
    rw [bump, upsert, ih]
    by_cases hz : v + m = 0 <;> simp only [hz, if_true, if_false]

theorem mult_eq_dsum (ps : PolySet) (k : Key) : mult ps k = dsum (· = k) ps := by
  induction ps with
  | nil => rfl
  | cons e rest ih => rw [mult, ih, dsum_cons]

theorem mult_bump (ps : PolySet) (k : Key) (m : Int) (k' : Key) :
    mult (bump ps k m) k' = mult ps k' + (if k = k' then m else 0) := by
  rw [mult_eq_dsum, mult_eq_dsum, bump_eq_upsert]
  exact dsum_upsert _ pairLexLess_order (fun v => by split <;> simp_all) ps k

theorem mem_bump_key {ps : PolySet} {k : Key} {m : Int} {e : Key × Int} (h : e ∈ bump ps k m) :
    e.1 = k ∨ e ∈ ps := by
  rw [bump_eq_upsert] at h
  exact mem_upsert_key pairLexLess_order h

theorem canon_bump {ps : PolySet} (hc : Canon ps) (k : Key) (m : Int) (hm : m ≠ 0) :
    Canon (bump ps k m) := by
  rw [bump_eq_upsert]
  refine ⟨pairwise_upsert pairLexLess_order k hc.1, fun e he => ?_⟩
  rcases mem_upsert pairLexLess_order he with h | ⟨_, h | ⟨v, _, hg⟩⟩
  · exact hc.2 e h
  · rw [h]; exact hm
  · -- an updated value is a non-zero sum
    split at hg
    · cases hg
    · next hz => rw [← Option.some.inj hg]; exact hz

theorem canon_polySetAdd {ps : PolySet} (hc : Canon ps) (a b : Pt) (m : Int) :
    Canon (polySetAdd ps a b m) := by
  unfold polySetAdd
  by_cases h : a = b ∨ m = 0
  · simp [h, hc]
  · have hm : m ≠ 0 := fun e => h (Or.inr e)
    simp only [h, if_false]
    by_cases hl : lexLess b a = true
    · simp only [hl, if_true]; exact canon_bump hc _ _ (by omega)
    · simp only [hl, if_false, Bool.false_eq_true]; exact canon_bump hc _ _ hm

/-- what one directed edge contributes to the stored multiplicity of key `k` -/
def contrib (e : DEdge) (k : Key) : Int :=
  if e.1 = e.2.1 then 0
  else if lexLess e.2.1 e.1 then (if (e.2.1, e.1) = k then -e.2.2 else 0)
  else (if (e.1, e.2.1) = k then e.2.2 else 0)

theorem mult_polySetAdd (ps : PolySet) (a b : Pt) (m : Int) (k : Key) :
    mult (polySetAdd ps a b m) k = mult ps k + contrib (a, b, m) k := by
  unfold polySetAdd contrib
  by_cases hab : a = b
  · simp [hab]
  · by_cases hm : m = 0
    · subst hm; simp [hab]
    · simp only [hab, hm, or_self, if_false]
      by_cases hl : lexLess b a = true
      · simp only [hl, if_true, mult_bump]
      · simp only [hl, if_false, mult_bump, Bool.false_eq_true]

theorem foldl_polySetAdd_canon (es : List DEdge) (ps : PolySet) (hc : Canon ps) :
    Canon (es.foldl (fun ps e => polySetAdd ps e.1 e.2.1 e.2.2) ps) :=
  List.foldlRecOn es _ hc fun _ h _ _ => canon_polySetAdd h _ _ _

theorem foldl_polySetAdd_mult (es : List DEdge) (ps : PolySet) (k : Key) :
    mult (es.foldl (fun ps e => polySetAdd ps e.1 e.2.1 e.2.2) ps) k
      = mult ps k + (es.map (contrib · k)).sum := by
  induction es generalizing ps with
  | nil => simp
  | cons e es ih =>
    obtain ⟨a, b, m⟩ := e
    simp only [List.foldl_cons, ih, mult_polySetAdd, List.map_cons, List.sum_cons]
    omega

theorem canon_ofEdges (es : List DEdge) : Canon (ofEdges es) :=
  foldl_polySetAdd_canon es [] canon_nil

theorem mult_ofEdges (es : List DEdge) (k : Key) : mult (ofEdges es) k = (es.map (contrib · k)).sum := by
  unfold ofEdges; rw [foldl_polySetAdd_mult]; simp [mult]

theorem mult_eq_zero_of_lt {ps : PolySet} {k : Key}
    (h : ∀ e ∈ ps, pairLexLess k e.1 = true) : mult ps k = 0 := by
  rw [mult_eq_dsum]
  refine dsum_eq_zero _ fun e he (heq : e.1 = k) => ?_
  have := h e he
  rw [heq, pairLexLess_order.irrefl] at this
  cases this

theorem mult_head {k : Key} {v : Int} {ps : PolySet} (h : Canon ((k, v) :: ps)) : mult ((k, v) :: ps) k = v := by
  rw [mult, if_pos rfl, mult_eq_zero_of_lt (List.pairwise_cons.mp h.1).1, Int.add_zero]

/-- of two canonical lists with the same multiplicities, neither starts below the other: the smaller head key
    would have multiplicity zero in the other list -/
theorem head_not_lt {kp kq : Key} {vp vq : Int} {ps qs : PolySet} (hp : Canon ((kp, vp) :: ps))
    (hq : Canon ((kq, vq) :: qs)) (h : ∀ k, mult ((kp, vp) :: ps) k = mult ((kq, vq) :: qs) k) :
    pairLexLess kp kq = false := by
  cases hlt : pairLexLess kp kq
  · rfl
  · have hz : mult ((kq, vq) :: qs) kp = 0 := mult_eq_zero_of_lt fun e he => by
      rcases List.mem_cons.mp he with rfl | he
      · exact hlt
      · exact pairLexLess_order.trans hlt ((List.pairwise_cons.mp hq.1).1 e he)
    have := h kp
    rw [mult_head hp, hz] at this
    exact absurd this (hp.2 _ List.mem_cons_self)

theorem canon_ext {ps qs : PolySet} (hp : Canon ps) (hq : Canon qs)
    (h : ∀ k, mult ps k = mult qs k) : ps = qs := by
  induction ps generalizing qs with
  | nil =>
    cases qs with
    | nil => rfl
    | cons e rest =>
      obtain ⟨ke, v⟩ := e
      have := h ke
      rw [mult_head hq] at this
      exact absurd this.symm (hq.2 _ List.mem_cons_self)
  | cons e ps ih =>
    obtain ⟨kp, vp⟩ := e
    cases qs with
    | nil =>
      have := h kp
      rw [mult_head hp] at this
      exact absurd this (hp.2 _ List.mem_cons_self)
    | cons e' qs =>
      obtain ⟨kq, vq⟩ := e'
      have hk : kp = kq := pairLexLess_order.tri (head_not_lt hp hq h) (head_not_lt hq hp fun k => (h k).symm)
      subst hk
      have hv : vp = vq := by
        have := h kp
        rwa [mult_head hp, mult_head hq] at this
      subst hv
      rw [ih hp.tail hq.tail fun k => by have := h k; simp only [mult] at this; omega]

theorem ofEdges_ext {es fs : List DEdge}
    (h : ∀ k, (es.map (contrib · k)).sum = (fs.map (contrib · k)).sum) : ofEdges es = ofEdges fs :=
  canon_ext (canon_ofEdges es) (canon_ofEdges fs) (fun k => by rw [mult_ofEdges, mult_ofEdges, h k])

theorem contrib_reverse (a b : Pt) (m : Int) (k : Key) : contrib (b, a, -m) k = contrib (a, b, m) k := by
  unfold contrib
  by_cases hab : a = b
  · subst hab; simp
  · have hba : ¬ b = a := fun e => hab e.symm
    simp only [hab, hba, if_false]
    by_cases h1 : lexLess b a = true
    · have h2 := lexLess_order.asymm h1
      simp [h1, h2]
    · have h1' : lexLess b a = false := by simpa using h1
      have h2 : lexLess a b = true := lexLess_order.lt_of_ne hab h1'
      simp [h1', h2]

theorem contrib_neg (a b : Pt) (m : Int) (k : Key) : contrib (a, b, -m) k = - contrib (a, b, m) k := by
  unfold contrib
  by_cases hab : a = b
  · simp [hab]
  · simp only [hab, if_false]
    by_cases h1 : lexLess b a = true
    · simp only [h1, if_true]; split <;> omega
    · simp only [h1, if_false, Bool.false_eq_true]; split <;> omega

theorem contrib_degenerate (a : Pt) (m : Int) (k : Key) : contrib (a, a, m) k = 0 := by
  simp [contrib]

theorem contrib_zero (a b : Pt) (k : Key) : contrib (a, b, 0) k = 0 := by
  simp only [contrib, Int.neg_zero, ite_self]

end MV.Sweep2
