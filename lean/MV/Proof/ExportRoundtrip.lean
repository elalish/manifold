import MV.Proof.ExportRuns
/-! The importer's run loop applied to an exported run table (`runs_roundtrip`, C08b), and the export
of the re-imported state (`reexport_eq`). -/
namespace MV.Export
open List

variable {τ : Type}

theorem foldl_set_range (g : Nat → TriRef) : ∀ (len lo : Nat) (a : Array TriRef),
    ((List.range' lo len).foldl (fun a tri => a.setIfInBounds tri (g tri)) a).size = a.size ∧
    ∀ t, ((List.range' lo len).foldl (fun a tri => a.setIfInBounds tri (g tri)) a)[t]? =
      if lo ≤ t ∧ t < lo + len ∧ t < a.size then some (g t) else a[t]? := by
  refine fun len lo a => ⟨Array.foldl_setIfInBounds_size g _ a, fun t => ?_⟩
  rw [Array.foldl_setIfInBounds_getElem? g]
  simp only [List.mem_range'_1]
  by_cases h : lo ≤ t ∧ t < lo + len
  · by_cases hs : t < a.size
    · rw [if_pos h, if_pos hs, if_pos ⟨h.1, h.2, hs⟩]
    · rw [if_pos h, if_neg hs, if_neg fun h' => hs h'.2.2, Array.getElem?_eq_none (Nat.le_of_not_lt hs)]
  · rw [if_neg h, if_neg fun h' => h ⟨h'.1, h'.2.1⟩]

theorem importRunTris_spec (a : Array TriRef) (faceID : List Int) (meshID originalID : Int) (lo hi : Nat) :
    (importRunTris a faceID meshID originalID lo hi).size = a.size ∧
    ∀ t, (importRunTris a faceID meshID originalID lo hi)[t]? =
      if lo ≤ t ∧ t < hi ∧ t < a.size then
        some ⟨meshID, originalID, if faceID.isEmpty then -1 else faceID.getD t 0, t⟩
      else a[t]? := by
  obtain ⟨h1, h2⟩ := foldl_set_range
    (fun tri => ⟨meshID, originalID, if faceID.isEmpty then -1 else faceID.getD tri 0, tri⟩) (hi - lo) lo a
  refine ⟨h1, fun t => ?_⟩
  unfold importRunTris
  rw [h2 t]
  exact ite_congr (propext (by omega)) (fun _ => rfl) (fun _ => rfl)

theorem relFlags_back (r : Rel τ) : (relFlags r % 2 == 1) = r.backSide := by
  unfold relFlags; cases r.backSide <;> cases r.hasNormals <;> rfl

theorem relFlags_normals (r : Rel τ) : (relFlags r / 2 % 2 == 1) = r.hasNormals := by
  unfold relFlags; cases r.backSide <;> cases r.hasNormals <;> rfl

/-! ## importing an exported run table -/

/-- what the importer has written after runs `0..i-1` -/
structure ImpInv (rt : RunTable τ) (startID : Int) (nx : Nat) (i : Nat)
    (a : Array TriRef) (mp : RelMap τ) : Prop where
  size : a.size = rt.numTri
  dflt : ∀ t, nxt rt.runs i rt.numTri ≤ t → t < rt.numTri → a[t]? = some default
  done : ∀ k run, k < i → rt.runs[k]? = some run → ∀ t, nxt rt.runs k rt.numTri ≤ t →
    t < nxt rt.runs (k + 1) rt.numTri →
    a[t]? = some ⟨startID + (k : Nat), run.rel.originalID,
      if rt.faceID.isEmpty then -1 else rt.faceID.getD t 0, t⟩
  map : mp = (rt.runs.take i).zipIdx.map (fun rk =>
    (startID + (rk.2 : Nat), { rk.1.rel with hasNormals := rk.1.rel.hasNormals && decide (3 ≤ nx) }))

/-- run `i` of the table: its triangles are written, its relation is appended under `startID + i` -/
theorem ImpInv.step {rt : RunTable τ} {startID : Int} {nx i : Nat} {a : Array TriRef} {mp : RelMap τ}
    (inv : ImpInv rt startID nx i a mp)
    (hp : (rt.runs.map (·.start) ++ [rt.numTri]).Pairwise (· ≤ ·)) (hi : i < rt.runs.length) :
    ImpInv rt startID nx (i + 1)
      (importRunTris a rt.faceID (startID + (i : Nat)) (rt.runs[i]).rel.originalID
        (nxt rt.runs i rt.numTri) (nxt rt.runs (i + 1) rt.numTri))
      (RelMap.insert mp (startID + (i : Nat))
        { (rt.runs[i]).rel with hasNormals := (rt.runs[i]).rel.hasNormals && decide (3 ≤ nx) }) := by
  have hmono : nxt rt.runs i rt.numTri ≤ nxt rt.runs (i + 1) rt.numTri :=
    nxt_mono hp (Nat.le_succ i) hi
  have hle : nxt rt.runs (i + 1) rt.numTri ≤ rt.numTri := by
    have := nxt_mono hp hi (Nat.le_refl _)
    rwa [nxt_of_ge (Nat.le_refl _)] at this
  obtain ⟨hsz, hspec⟩ := importRunTris_spec a rt.faceID (startID + (i : Nat)) (rt.runs[i]).rel.originalID
    (nxt rt.runs i rt.numTri) (nxt rt.runs (i + 1) rt.numTri)
  refine ⟨?_, ?_, ?_, ?_⟩
  · rw [hsz]; exact inv.size
  · intro t h1 h2
    rw [hspec t, if_neg (fun h => Nat.not_lt.2 h1 h.2.1)]
    exact inv.dflt t (Nat.le_trans hmono h1) h2
  · intro k run hk hrun t h1 h2
    rw [hspec t]
    rcases Nat.lt_or_ge k i with hki | hki
    · have := nxt_mono hp hki (Nat.le_of_lt hi)
      rw [if_neg (fun h => Nat.not_lt.2 (Nat.le_trans this h.1) h2)]
      exact inv.done k run hki hrun t h1 h2
    · have e : k = i := Nat.le_antisymm (Nat.le_of_lt_succ hk) hki
      subst e
      rw [getElem?_eq_getElem hi] at hrun
      cases hrun
      rw [if_pos ⟨h1, h2, inv.size ▸ Nat.lt_of_lt_of_le h2 hle⟩]
  · rw [inv.map, RelMap.insert_eq_append_of_lt, take_add_one, getElem?_eq_getElem hi]
    · rw [Option.toList_some, zipIdx_append, map_append, length_take, Nat.min_eq_left (Nat.le_of_lt hi)]
      simp only [Nat.zero_add, zipIdx_cons, zipIdx_nil, map_cons, map_nil]
    · intro k' hk'
      simp only [RelMap.keys, map_map, mem_map, Function.comp] at hk'
      obtain ⟨rk, hrk, rfl⟩ := hk'
      have := snd_lt_of_mem_zipIdx hrk
      simp only [length_take] at this
      omega

theorem normRunIndex_ofExport (rt : RunTable τ) (hne : rt.runs ≠ []) :
    normRunIndex rt.runIndex rt.runOriginalID.length (3 * rt.numTri) = rt.runIndex := by
  have hl : rt.runs.length ≠ 0 := fun h => hne (length_eq_zero_iff.1 h)
  unfold normRunIndex
  have h1 : rt.runIndex.isEmpty = false := by simp [RunTable.runIndex]
  have h2 : rt.runIndex.length = rt.runs.length + 1 := by simp [RunTable.runIndex]
  have h3 : rt.runOriginalID.length = rt.runs.length := by simp [RunTable.runOriginalID]
  rw [h1, h2, h3]
  simp only [Bool.false_eq_true, if_false]
  rw [if_neg (by omega), if_neg (by omega)]

/-- On an exported table the importer's loop body is `ImpInv.step`: `runIndex[i]/3` is the start of
run `i`, the transforms are present (the state is not an original), and the flags decode to the
relation's two bits. -/
theorem importRuns_ofExport (idT : τ) (rt : RunTable τ) (startID : Int) (nx : Nat)
    (ho : rt.isOriginal = false) (hne : rt.runs ≠ [])
    (hp : (rt.runs.map (·.start) ++ [rt.numTri]).Pairwise (· ≤ ·)) :
    ∃ a mp, ImpInv rt startID nx rt.runs.length a mp ∧
      importRuns idT startID nx (ImportIn.ofExport rt) = (a.toList, mp) := by
  refine ⟨_, _, ?_, rfl⟩
  have hemp : (ImportIn.ofExport rt).runOriginalID.isEmpty = false := by
    cases h : rt.runs with
    | nil => exact absurd h hne
    | cons a l => simp [ImportIn.ofExport, RunTable.runOriginalID, h]
  have hnorm : normRunIndex (ImportIn.ofExport rt).runIndex (ImportIn.ofExport rt).runOriginalID.length
      (3 * (ImportIn.ofExport rt).numTri) = rt.runIndex := normRunIndex_ofExport rt hne
  have htr : (rt.runs.map (·.rel.transform)).isEmpty = false := by
    cases h : rt.runs with
    | nil => exact absurd h hne
    | cons a l => rfl
  rw [hemp, hnorm]
  simp only [Bool.false_eq_true, if_false]
  have hl : ((ImportIn.ofExport rt).runOriginalID.zipIdx.map fun oi => (oi.2, oi.1)) =
      rt.runs.zipIdx.map (fun rk => (rk.2, rk.1.rel.originalID)) := by
    simp only [ImportIn.ofExport, RunTable.runOriginalID, zipIdx_map, map_map]
    rfl
  rw [hl, foldl_map]
  rw [← Nat.zero_add rt.runs.length]
  refine foldl_zipIdx_inv _ (fun i (st : Array TriRef × RelMap τ) => ImpInv rt startID nx i st.1 st.2) rt.runs 0 _
    ⟨by simp [ImportIn.ofExport],
     fun t _ ht => by simp [ImportIn.ofExport, ht],
     fun k run hk => absurd hk (Nat.not_lt_zero k),
     by simp⟩
    (fun i hi st inv => ?_)
  simp only [Nat.zero_add] at inv ⊢
  have hlo : rt.runIndex.getD i 0 / 3 = nxt rt.runs i rt.numTri := by
    rw [runIndex_getD rt i (Nat.le_of_lt hi)]; exact Nat.mul_div_cancel_left _ (by decide)
  have hhi : rt.runIndex.getD (i + 1) 0 / 3 = nxt rt.runs (i + 1) rt.numTri := by
    rw [runIndex_getD rt (i + 1) hi]; exact Nat.mul_div_cancel_left _ (by decide)
  simp only [ImportIn.ofExport, hlo, hhi]
  simp only [RunTable.runTransform, ho, Bool.false_eq_true, if_false, htr, RunTable.runFlags, getD_eq_getElem?_getD, getElem?_map, getElem?_eq_getElem hi, Option.map_some,
    Option.getD_some, relFlags_back, relFlags_normals]
  exact inv.step hp hi

/-! ## the exported table of a consistent state: every triangle's run -/

section roundtrip
variable (idT : τ) (refs : List TriRef) (m : RelMap τ)

theorem ref_run (hid : ∀ r ∈ refs, r.meshID ≠ -1) (hc : Consistent refs m) (t : Nat) (r : TriRef)
    (hr : (sortedOf false refs)[t]? = some r) :
    ∃ k run, (loopOf false idT refs m).1[k]? = some run ∧
      nxt (exportRuns false idT refs m).runs k refs.length ≤ t ∧
      t < nxt (exportRuns false idT refs m).runs (k + 1) refs.length ∧
      run.meshID = r.meshID ∧ run.rel.originalID = r.originalID ∧
      (exportRuns false idT refs m).runMeshID.idxOf r.meshID = k := by
  have htn : t < refs.length := by
    rw [← sortedOf_length false refs]; exact (List.getElem?_eq_some_iff.1 hr).1
  obtain ⟨k, hk, h1, h2⟩ := exists_block (fun k => nxt (exportRuns false idT refs m).runs k refs.length)
    (exportRuns false idT refs m).runs.length t
    (by simp only [exportRuns_nxt_zero false idT refs m hid]; exact Nat.zero_le _)
    (by simp only [nxt_of_ge (Nat.le_refl _)]; exact htn)
  have hkp : k < (loopOf false idT refs m).1.length := by
    rcases Nat.lt_or_ge k (loopOf false idT refs m).1.length with h | h
    · exact h
    · rw [exportRuns_nxt, nxt_of_ge h] at h1; omega
  have hrun : (loopOf false idT refs m).1[k]? = some (loopOf false idT refs m).1[k] := getElem?_eq_getElem hkp
  refine ⟨k, _, hrun, h1, h2, ?_⟩
  have hcov : r.meshID = ((loopOf false idT refs m).1[k]).meshID := by
    rw [exportRuns_nxt] at h1 h2
    exact loop_cover false idT refs m hrun h1 h2 hr
  obtain ⟨r0, hr0, hm0, _, ho0⟩ := loop_run_spec idT refs m hid hc _ (getElem_mem hkp)
  refine ⟨hcov.symm, ?_, ?_⟩
  · rw [ho0]
    exact consistent_orig m (consistent_sortedOf refs m hc false) r0 (mem_of_getElem? hr0) r
      (mem_of_getElem? hr) (by rw [hm0, hcov])
  · rw [hcov]; exact idxOf_loop idT refs m hid hc k hkp

end roundtrip

/-- the refs the importer writes (first component of `runs_roundtrip`) -/
def reRefs (startID : Int) (rt : RunTable τ) : List TriRef :=
  rt.sorted.zipIdx.map (fun rt' =>
    ⟨startID + (rt.runMeshID.idxOf rt'.1.meshID : Nat), rt'.1.originalID, exportFaceID rt'.1, rt'.2⟩)

/-- the relation of a run after the round trip -/
def reRel (nx : Nat) (r : Rel τ) : Rel τ := { r with hasNormals := r.hasNormals && decide (3 ≤ nx) }

/-- the relation table the importer writes (second component of `runs_roundtrip`) -/
def reMap (startID : Int) (nx : Nat) (rt : RunTable τ) : RelMap τ :=
  rt.runs.zipIdx.map (fun rk => (startID + (rk.2 : Nat), reRel nx rk.1.rel))

/-- a run after the round trip: same start, meshID `startID + index`, relation through `reRel` -/
def reRun (startID : Int) (nx : Nat) (rk : Run τ × Nat) : Run τ :=
  ⟨rk.1.start, startID + (rk.2 : Nat), reRel nx rk.1.rel⟩

theorem reMap_sorted (startID : Int) (nx : Nat) (rt : RunTable τ) : RelMap.Sorted (reMap startID nx rt) := by
  unfold RelMap.Sorted reMap
  rw [map_map, pairwise_map]
  have h : (rt.runs.zipIdx.map (·.2)).Pairwise (· < ·) := by
    rw [zipIdx_map_snd]; exact pairwise_lt_range'
  exact (pairwise_map.1 h).imp (fun h => by simp only [Function.comp]; omega)

theorem reMap_lookup (startID : Int) (nx : Nat) (rt : RunTable τ) (k : Nat) (run : Run τ)
    (h : rt.runs[k]? = some run) :
    RelMap.lookup (reMap startID nx rt) (startID + (k : Nat)) = some (reRel nx run.rel) := by
  apply RelMap.lookup_eq_some_of_mem _ _ _ (reMap_sorted startID nx rt)
  exact mem_map.2 ⟨(run, k), mk_mem_zipIdx_iff_getElem?.2 h, rfl⟩

theorem reRefs_hid (startID : Int) (rt : RunTable τ) (hs : 0 ≤ startID) :
    ∀ r ∈ reRefs startID rt, r.meshID ≠ -1 := by
  intro r hr
  obtain ⟨a, _, rfl⟩ := mem_map.1 hr
  simp only
  omega

section reexport
variable (idT : τ) (refs : List TriRef) (m : RelMap τ) (startID : Int) (nx : Nat)

/-- the renaming `ρ` preserves the run sort key order (third clause of `runs_roundtrip`) -/
theorem rho_preserves (hid : ∀ r ∈ refs, r.meshID ≠ -1) (hc : Consistent refs m) :
    ∀ a ∈ refs, ∀ b ∈ refs,
      runLE { a with meshID := startID + ((exportRuns false idT refs m).runMeshID.idxOf a.meshID : Nat) }
        { b with meshID := startID + ((exportRuns false idT refs m).runMeshID.idxOf b.meshID : Nat) } =
      runLE a b := by
  intro a ha b hb
  obtain ⟨ta, hta⟩ := getElem?_of_mem (sortedOf_mem.2 ha : a ∈ sortedOf false refs)
  obtain ⟨tb, htb⟩ := getElem?_of_mem (sortedOf_mem.2 hb : b ∈ sortedOf false refs)
  obtain ⟨ka, ra, hra, _, _, hma, hoa, hia⟩ := ref_run idT refs m hid hc ta a hta
  obtain ⟨kb, rb, hrb, _, _, hmb, hob, hib⟩ := ref_run idT refs m hid hc tb b htb
  have hkey := loop_pairwise_key idT refs m hid hc
  have c1 : ka < kb → RunKeyLT ra rb := fun h => pairwise_getElem? hkey hra hrb h
  have c2 : kb < ka → RunKeyLT rb ra := fun h => pairwise_getElem? hkey hrb hra h
  have c3 : ka = kb → a.meshID = b.meshID := fun h => by
    rw [h, hrb] at hra
    rw [← hma, ← hmb, Option.some.inj hra]
  refine runLE_rename (fun id => startID + ((exportRuns false idT refs m).runMeshID.idxOf id : Nat)) a b
    fun e => ?_
  simp only [hia, hib]
  unfold RunKeyLT at c1 c2
  rw [hma, hmb, hoa, hob] at c1 c2
  omega

theorem reRefs_pairwise (hid : ∀ r ∈ refs, r.meshID ≠ -1) (hc : Consistent refs m) :
    (reRefs startID (exportRuns false idT refs m)).Pairwise (fun a b => runLE a b = true) := by
  unfold reRefs
  rw [pairwise_map, exportRuns_sorted]
  have h0 := pairwise_zipIdx_fst (sortIdx_sorted refs)
  refine h0.imp_of_mem ?_
  intro a b ha hb hab
  have := rho_preserves idT refs m startID hid hc a.1 (sortedOf_mem.1 (fst_mem_of_mem_zipIdx ha))
    b.1 (sortedOf_mem.1 (fst_mem_of_mem_zipIdx hb))
  rw [hab] at this
  exact this

theorem reRefs_consistent (hid : ∀ r ∈ refs, r.meshID ≠ -1) (hc : Consistent refs m) :
    Consistent (reRefs startID (exportRuns false idT refs m)) (reMap startID nx (exportRuns false idT refs m)) := by
  intro r2 hr2
  obtain ⟨a, ha, rfl⟩ := mem_map.1 hr2
  rw [exportRuns_sorted] at ha
  have hat : (sortedOf false refs)[a.2]? = some a.1 := mem_zipIdx_iff_getElem?.1 ha
  obtain ⟨k, run, hrun, _, _, _, ho, hidx⟩ := ref_run idT refs m hid hc a.2 a.1 hat
  refine ⟨reRel nx run.rel, ?_, ho⟩
  simp only [hidx]
  exact reMap_lookup startID nx _ k run (exportRuns_runs_getElem? false idT refs m hrun)

theorem sortIdx_reRefs (hid : ∀ r ∈ refs, r.meshID ≠ -1) (hc : Consistent refs m) :
    sortIdx false (reRefs startID (exportRuns false idT refs m)) =
      (reRefs startID (exportRuns false idT refs m)).zipIdx :=
  sortIdx_of_sorted (reRefs_pairwise idT refs m startID hid hc)

theorem sortedOf_reRefs (hid : ∀ r ∈ refs, r.meshID ≠ -1) (hc : Consistent refs m) :
    sortedOf false (reRefs startID (exportRuns false idT refs m)) =
      reRefs startID (exportRuns false idT refs m) := by
  rw [sortedOf, sortIdx_reRefs idT refs m startID hid hc, zipIdx_map_fst]

theorem loop2_fst (hs : 0 ≤ startID) (hid : ∀ r ∈ refs, r.meshID ≠ -1) (hc : Consistent refs m) :
    (loopOf false idT (reRefs startID (exportRuns false idT refs m))
        (reMap startID nx (exportRuns false idT refs m))).1 =
      (loopOf false idT refs m).1.zipIdx.map (reRun startID nx) := by
  have hid2 := reRefs_hid startID (exportRuns false idT refs m) hs
  have hc2 := reRefs_consistent idT refs m startID nx hid hc
  have hren := runsFrom_changes (Rel.dflt idT) (sortedOf false (reRefs startID (exportRuns false idT refs m))) 0
    (-1) (reMap startID nx (exportRuns false idT refs m))
  have hids : (sortedOf false (reRefs startID (exportRuns false idT refs m))).map (·.meshID) =
      ((sortedOf false refs).map (·.meshID)).map
        (fun id => startID + ((exportRuns false idT refs m).runMeshID.idxOf id : Nat)) := by
    rw [sortedOf_reRefs idT refs m startID hid hc, reRefs, map_map, map_map, exportRuns_sorted]
    conv => rhs; rw [← zipIdx_map_fst 0 (sortedOf false refs), map_map]
    rfl
  rw [hids,
    changes_map _ _ (-1) (-1) 0
    (by
      intro x hx y _ h
      have hx' : x ∈ (exportRuns false idT refs m).runMeshID := by
        obtain ⟨r, hr, rfl⟩ := mem_map.1 hx
        have := (loop_mem_meshIDs idT refs m false hid r.meshID).2 (mem_map.2 ⟨r, sortedOf_mem.1 hr, rfl⟩)
        rw [RunTable.runMeshID, exportRuns_runs, map_append]
        exact mem_append_left _ this
      have h' : startID + ((exportRuns false idT refs m).runMeshID.idxOf x : Nat) =
          startID + ((exportRuns false idT refs m).runMeshID.idxOf y : Nat) := h
      exact idxOf_inj hx' (by omega))
    (by
      intro x hx
      obtain ⟨r, hr, rfl⟩ := mem_map.1 hx
      have := hid r (sortedOf_mem.1 hr)
      constructor
      · intro h
        have h' : startID + ((exportRuns false idT refs m).runMeshID.idxOf r.meshID : Nat) = -1 := h
        omega
      · intro h; exact absurd h this),
    ← runsFrom_changes (Rel.dflt idT) (sortedOf false refs) 0 (-1) m, map_map] at hren
  have hlen : (loopOf false idT (reRefs startID (exportRuns false idT refs m))
      (reMap startID nx (exportRuns false idT refs m))).1.length = (loopOf false idT refs m).1.length := by
    have := congrArg length hren
    simpa using this
  apply ext_getElem (by simp [hlen])
  intro k hk1 hk2
  have hk : k < (loopOf false idT refs m).1.length := by rw [← hlen]; exact hk1
  have hpair := congrArg (fun l => l[k]?) hren
  simp only [getElem?_map, getElem?_eq_getElem hk1, getElem?_eq_getElem hk, Option.map_some, Function.comp,
    Option.some.injEq, Prod.mk.injEq, idxOf_loop idT refs m hid hc k hk] at hpair
  obtain ⟨h1, h2⟩ := hpair
  obtain ⟨_, _, _, hl, _⟩ := loop_run_spec idT _ _ hid2 hc2 _ (getElem_mem hk1)
  rw [h2, reMap_lookup startID nx _ k _
    (exportRuns_runs_getElem? false idT refs m (getElem?_eq_getElem hk))] at hl
  rw [getElem_map, getElem_zipIdx, Nat.zero_add, reRun]
  generalize (loopOf false idT (reRefs startID (exportRuns false idT refs m))
      (reMap startID nx (exportRuns false idT refs m))).1[k] = run2 at h1 h2 hl
  cases run2
  simp only at h1 h2 hl
  rw [h1, h2, ← Option.some.inj hl]

theorem reRefs_length : (reRefs startID (exportRuns false idT refs m)).length = refs.length := by
  rw [reRefs, length_map, length_zipIdx, exportRuns_sorted, sortedOf_length]

theorem reexport_runs (hs : 0 ≤ startID) (hid : ∀ r ∈ refs, r.meshID ≠ -1) (hc : Consistent refs m) :
    (exportRuns false idT (reRefs startID (exportRuns false idT refs m))
        (reMap startID nx (exportRuns false idT refs m))).runs =
      (exportRuns false idT refs m).runs.zipIdx.map (reRun startID nx) := by
  have h1 := loop2_fst idT refs m startID nx hs hid hc
  rw [exportRuns_runs, reRefs_length]
  have h2 := runsFrom_snd (Rel.dflt idT) (sortedOf false (reRefs startID (exportRuns false idT refs m))) 0 (-1)
    (reMap startID nx (exportRuns false idT refs m))
  rw [loopOf, h2]
  rw [loopOf] at h1
  rw [h1, map_map]
  conv => rhs; rw [exportRuns_runs, zipIdx_append, map_append]
  congr 1
  rw [reMap, exportRuns_runs, zipIdx_append, map_append, filter_append]
  -- the relations of the non-empty runs were used up by the loop, those of the trailing runs were not
  refine (congrArg _ (congr (congrArg (· ++ ·) (filter_eq_nil_iff.2 ?_)) (filter_eq_self.2 ?_))).trans ?_
  · intro a ha
    obtain ⟨rk, hrk, rfl⟩ := mem_map.1 ha
    simp only [Bool.not_eq_true', Bool.not_eq_false, contains_iff_mem]
    exact mem_map.2 ⟨rk, hrk, rfl⟩
  · intro a ha
    obtain ⟨rk, hrk, rfl⟩ := mem_map.1 ha
    have hge := le_snd_of_mem_zipIdx hrk
    simp only [Bool.not_eq_true', ← Bool.not_eq_true, contains_iff_mem]
    intro hmem
    obtain ⟨rk', hrk', e⟩ := mem_map.1 hmem
    have hlt := snd_lt_of_mem_zipIdx hrk'
    simp only [Function.comp, reRun] at e
    omega
  rw [nil_append, map_map]
  apply map_congr_left
  intro rk hrk
  have : rk.1.start = refs.length := by
    obtain ⟨kv, _, e⟩ := mem_map.1 (fst_mem_of_mem_zipIdx hrk)
    rw [← e]
  simp only [Function.comp, reRun, this]

theorem lookup_mem {k : Int} {v : Rel τ} (h : RelMap.lookup m k = some v) : ∃ kv ∈ m, kv.2 = v := by
  unfold RelMap.lookup at h
  cases hf : m.find? (fun kv => kv.1 == k) with
  | none => rw [hf] at h; simp at h
  | some kv =>
    rw [hf] at h
    exact ⟨kv, mem_of_find?_eq_some hf, Option.some.inj h⟩

theorem reRel_eq (hm : RelMap.Sorted m) (hid : ∀ r ∈ refs, r.meshID ≠ -1) (hc : Consistent refs m)
    (hn : 3 ≤ nx ∨ ∀ kv ∈ m, kv.2.hasNormals = false) :
    ∀ run ∈ (exportRuns false idT refs m).runs, reRel nx run.rel = run.rel := by
  intro run hr
  have hb : (run.rel.hasNormals && decide (3 ≤ nx)) = run.rel.hasNormals := by
    rcases hn with hn | hn
    · rw [decide_eq_true hn, Bool.and_true]
    · obtain ⟨kv, hkv, e⟩ := lookup_mem m (exportRuns_run_lookup idT refs m hm hid hc run hr)
      rw [← e, hn kv hkv]; rfl
  unfold reRel
  rw [hb]

theorem reexport_fields (hm : RelMap.Sorted m) (hs : 0 ≤ startID) (hid : ∀ r ∈ refs, r.meshID ≠ -1)
    (hc : Consistent refs m) (hn : 3 ≤ nx ∨ ∀ kv ∈ m, kv.2.hasNormals = false) :
    (exportRuns false idT (reRefs startID (exportRuns false idT refs m))
        (reMap startID nx (exportRuns false idT refs m))).runs.map (fun r => (r.start, r.rel)) =
      (exportRuns false idT refs m).runs.map (fun r => (r.start, r.rel)) := by
  rw [reexport_runs idT refs m startID nx hs hid hc, map_map]
  conv => rhs; rw [← zipIdx_map_fst 0 (exportRuns false idT refs m).runs, map_map]
  apply map_congr_left
  intro rk hrk
  simp only [Function.comp, reRun, reRel_eq idT refs m nx hm hid hc hn rk.1 (fst_mem_of_mem_zipIdx hrk)]

theorem reexport_faceID (hid : ∀ r ∈ refs, r.meshID ≠ -1) (hc : Consistent refs m)
    (hf : ∀ r ∈ refs, 0 ≤ exportFaceID r) :
    (exportRuns false idT (reRefs startID (exportRuns false idT refs m))
        (reMap startID nx (exportRuns false idT refs m))).faceID = (exportRuns false idT refs m).faceID := by
  rw [RunTable.faceID, RunTable.faceID, exportRuns_sorted, sortedOf_reRefs idT refs m startID hid hc,
    reRefs, map_map, exportRuns_sorted]
  conv => rhs; rw [← zipIdx_map_fst 0 (sortedOf false refs), map_map]
  apply map_congr_left
  intro a ha
  have h0 := hf a.1 (sortedOf_mem.1 (fst_mem_of_mem_zipIdx ha))
  simp only [Function.comp]
  show (if 0 ≤ exportFaceID a.1 then exportFaceID a.1 else (a.2 : Int)) = exportFaceID a.1
  rw [if_pos h0]

theorem reexport_triNew2Old (hid : ∀ r ∈ refs, r.meshID ≠ -1) (hc : Consistent refs m) :
    (exportRuns false idT (reRefs startID (exportRuns false idT refs m))
        (reMap startID nx (exportRuns false idT refs m))).triNew2Old = List.range refs.length := by
  rw [exportRuns_triNew2Old, sortIdx_reRefs idT refs m startID hid hc, zipIdx_map_snd,
    reRefs_length, range_eq_range']

end reexport

end MV.Export
