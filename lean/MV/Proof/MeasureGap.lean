/-
Lemmas for property C18: `MinGap` (boxes farther apart than the search length contain no
pair of points within it; the clamped minimum over a complete candidate set is the clamped minimum
over all pairs).
-/
import MV.Proof.Measure
import Mathlib.Tactic.Linarith
import Mathlib.Order.MinMax

namespace MV.Measure
open MV.Bool3 Exact

section Field
variable {F : Type} [Field F] [LinearOrder F] [IsStrictOrderedRing F]

/-! ## boxes -/

structure BoxF (F : Type) where
  min : V3 F
  max : V3 F

/-- the point lies in the closed box -/
def BoxF.Has (b : BoxF F) (p : V3 F) : Prop :=
  b.min.x ≤ p.x ∧ p.x ≤ b.max.x ∧ b.min.y ≤ p.y ∧ p.y ≤ b.max.y ∧ b.min.z ≤ p.z ∧ p.z ≤ b.max.z

/-- `Box(box.min - vec3(searchLength), box.max + vec3(searchLength))` (properties.cpp:493-497) -/
def BoxF.inflate (b : BoxF F) (L : F) : BoxF F :=
  ⟨⟨b.min.x - L, b.min.y - L, b.min.z - L⟩, ⟨b.max.x + L, b.max.y + L, b.max.z + L⟩⟩

/-- `Box::DoesOverlap(const Box&)` (common.h:436): closed intervals on all three axes -/
def BoxF.Overlaps (a b : BoxF F) : Prop :=
  a.min.x ≤ b.max.x ∧ a.min.y ≤ b.max.y ∧ a.min.z ≤ b.max.z ∧
  b.min.x ≤ a.max.x ∧ b.min.y ≤ a.max.y ∧ b.min.z ≤ a.max.z

/-- squared Euclidean distance -/
def dist2 (p q : V3 F) : F :=
  (p.x - q.x) * (p.x - q.x) + (p.y - q.y) * (p.y - q.y) + (p.z - q.z) * (p.z - q.z)

omit [LinearOrder F] [IsStrictOrderedRing F] in
theorem dist2_comm (p q : V3 F) : dist2 p q = dist2 q p := by unfold dist2; ring

/-- two numbers in intervals more than `L` apart are more than `L` apart, squared -/
theorem sq_lt_of_sep {L p q lo hi lo' hi' : F} (hL : 0 ≤ L) (hp : lo ≤ p ∧ p ≤ hi) (hq : lo' ≤ q ∧ q ≤ hi')
    (h : hi' + L < lo ∨ hi < lo' - L) : L * L < (p - q) * (p - q) := by
  rw [← abs_mul_abs_self (p - q)]
  apply mul_self_lt_mul_self hL
  rw [lt_abs]
  rcases h with h | h
  · left; linarith only [h, hp.1, hq.2]
  · right; linarith only [h, hp.2, hq.1]

/-- **two boxes that do not overlap after inflating one of them by `L ≥ 0` are farther apart
than `L` along some axis, hence every pair of points in them is farther apart than `L`** -/
theorem far_boxes_far_points (a b : BoxF F) (L : F) (hL : 0 ≤ L)
    (h : ¬ a.Overlaps (b.inflate L)) {p q : V3 F} (hp : a.Has p) (hq : b.Has q) :
    L * L < dist2 p q := by
  obtain ⟨p1, p2, p3, p4, p5, p6⟩ := hp
  obtain ⟨q1, q2, q3, q4, q5, q6⟩ := hq
  have hx := mul_self_nonneg (p.x - q.x)
  have hy := mul_self_nonneg (p.y - q.y)
  have hz := mul_self_nonneg (p.z - q.z)
  -- each squared coordinate difference is at most the squared distance
  have hX : (p.x - q.x) * (p.x - q.x) ≤ dist2 p q := le_add_of_le_of_nonneg (le_add_of_nonneg_right hy) hz
  have hY : (p.y - q.y) * (p.y - q.y) ≤ dist2 p q := le_add_of_le_of_nonneg (le_add_of_nonneg_left hx) hz
  have hZ : (p.z - q.z) * (p.z - q.z) ≤ dist2 p q := le_add_of_nonneg_left (add_nonneg hx hy)
  unfold BoxF.Overlaps BoxF.inflate at h
  simp only [not_and_or, not_le] at h
  rcases h with h | h | h | h | h | h
  · exact lt_of_lt_of_le (sq_lt_of_sep hL ⟨p1, p2⟩ ⟨q1, q2⟩ (Or.inl h)) hX
  · exact lt_of_lt_of_le (sq_lt_of_sep hL ⟨p3, p4⟩ ⟨q3, q4⟩ (Or.inl h)) hY
  · exact lt_of_lt_of_le (sq_lt_of_sep hL ⟨p5, p6⟩ ⟨q5, q6⟩ (Or.inl h)) hZ
  · exact lt_of_lt_of_le (sq_lt_of_sep hL ⟨p1, p2⟩ ⟨q1, q2⟩ (Or.inr h)) hX
  · exact lt_of_lt_of_le (sq_lt_of_sep hL ⟨p3, p4⟩ ⟨q3, q4⟩ (Or.inr h)) hY
  · exact lt_of_lt_of_le (sq_lt_of_sep hL ⟨p5, p6⟩ ⟨q5, q6⟩ (Or.inr h)) hZ

/-! ## the clamped minimum -/

omit [IsStrictOrderedRing F] in
theorem stdMin_eq_min (a b : F) : stdMin a b = min a b := by
  rw [min_comm, min_def_lt]
  exact if_congr decide_eq_true_iff rfl rfl

omit [IsStrictOrderedRing F] in
theorem stdMax_eq_max (a b : F) : stdMax a b = max a b := by
  rw [max_def_lt]
  exact if_congr decide_eq_true_iff rfl rfl

omit [IsStrictOrderedRing F] in
/-- C++ `a <= b` at the exact instance -/
theorem le_iff (a b : F) : le a b = true ↔ a ≤ b := by
  show (decide (a < b) || decide (a = b)) = true ↔ a ≤ b
  simp [le_iff_lt_or_eq]

omit [IsStrictOrderedRing F] in
theorem lt_iff (a b : F) : Scalar.lt a b = true ↔ a < b := by
  show decide (a < b) = true ↔ a < b
  simp

omit [IsStrictOrderedRing F] in
theorem le_fold_stdMin_iff {ι : Type} (D : ι → F) (S : List ι) (i0 x : F) :
    x ≤ S.foldl (fun md p => stdMin md (D p)) i0 ↔ x ≤ i0 ∧ ∀ p ∈ S, x ≤ D p := by
  induction S generalizing i0 with
  | nil => simp
  | cons a S ih =>
    rw [List.foldl_cons, ih, stdMin_eq_min, le_min_iff]
    constructor
    · rintro ⟨⟨h1, h2⟩, h3⟩
      exact ⟨h1, fun p hp => by
        rcases List.mem_cons.1 hp with rfl | hp
        · exact h2
        · exact h3 p hp⟩
    · rintro ⟨h1, h2⟩
      exact ⟨⟨h1, h2 a (by simp)⟩, fun p hp => h2 p (List.mem_cons_of_mem _ hp)⟩

omit [IsStrictOrderedRing F] in
/-- if every pair left out of the candidate list is at least `c` apart, clamping at `c` hides
the difference between the candidate list and the full list -/
theorem clamped_fold_eq {ι : Type} (D : ι → F) (cand all : List ι) (i0 c : F)
    (hsub : ∀ p ∈ cand, p ∈ all) (hfar : ∀ p ∈ all, p ∉ cand → c ≤ D p) :
    stdMin (cand.foldl (fun md p => stdMin md (D p)) i0) c =
      stdMin (all.foldl (fun md p => stdMin md (D p)) i0) c := by
  rw [stdMin_eq_min, stdMin_eq_min]
  apply le_antisymm
  · rw [le_min_iff, le_fold_stdMin_iff]
    refine ⟨⟨?_, ?_⟩, min_le_right _ _⟩
    · exact le_trans (min_le_left _ _) ((le_fold_stdMin_iff D cand i0 _).1 (le_refl _)).1
    · intro p hp
      by_cases hc : p ∈ cand
      · exact le_trans (min_le_left _ _) (((le_fold_stdMin_iff D cand i0 _).1 (le_refl _)).2 p hc)
      · exact le_trans (min_le_right _ _) (hfar p hp hc)
  · rw [le_min_iff, le_fold_stdMin_iff]
    refine ⟨⟨?_, ?_⟩, min_le_right _ _⟩
    · exact le_trans (min_le_left _ _) ((le_fold_stdMin_iff D all i0 _).1 (le_refl _)).1
    · intro p hp
      exact le_trans (min_le_left _ _) (((le_fold_stdMin_iff D all i0 _).1 (le_refl _)).2 p (hsub p hp))

omit [IsStrictOrderedRing F] in
theorem mem_allPairs {n k : Nat} {p : Nat × Nat} : p ∈ allPairs n k ↔ p.1 < n ∧ p.2 < k := by
  unfold allPairs
  simp only [List.mem_flatMap, List.mem_range, List.mem_map]
  constructor
  · rintro ⟨i, hi, j, hj, rfl⟩; exact ⟨hi, hj⟩
  · rintro ⟨h1, h2⟩; exact ⟨p.1, h1, p.2, h2, rfl⟩

/-! ## RayCast: the order of the hits (the sort itself is in `MeasureSort.lean`) -/

/-- sorted by the distance key -/
def SortedHits (l : List (Hit F)) : Prop := l.Pairwise fun a b => a.t ≤ b.t

end Field
end MV.Measure
