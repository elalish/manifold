import Mathlib.Tactic.Ring
import Mathlib.Tactic.LinearCombination
/-!
Affine algebra behind `Translate/Rotate/Scale/Mirror/Transform` (property C17), over an
arbitrary commutative ring `R` (the statements are polynomial identities, so they hold in ℝ and
in ℚ; floating-point rounding is outside).

  `Aff R`     a `mat3x4` of linalg.h: four COLUMNS `c0 c1 c2 c3` (`m[0..3]`), the last one the translation
  `Aff.apply` `m * vec4(p, 1.0)`                       (impl.cpp `Transform4x3`)
  `Aff.comp`  `m * Mat4(n)`                            (csg_tree.cpp:119, 613; impl.cpp:614)
  `rotX/Y/Z`  the three `mat3` literals of `CsgNode::Rotate` (csg_tree.cpp:74-82), column by column
  `tetVol`    6 × signed volume of the tetrahedron `(a, b, c, d)`; a closed mesh's `Volume()` is
              `Σ_tri tetVol(o, v0, v1, v2) / 6` for any apex `o`
-/
namespace MV.Affine

structure V3 (R : Type) where
  x : R
  y : R
  z : R
deriving DecidableEq, Repr

structure Aff (R : Type) where
  c0 : V3 R
  c1 : V3 R
  c2 : V3 R
  c3 : V3 R
deriving DecidableEq, Repr

variable {R : Type}

@[ext] theorem V3.ext' {a b : V3 R} (hx : a.x = b.x) (hy : a.y = b.y) (hz : a.z = b.z) : a = b := by
  cases a; cases b; simp_all

@[ext] theorem Aff.ext' {m n : Aff R} (h0 : m.c0 = n.c0) (h1 : m.c1 = n.c1) (h2 : m.c2 = n.c2)
    (h3 : m.c3 = n.c3) : m = n := by
  cases m; cases n; simp_all

variable [CommRing R]

def V3.add (a b : V3 R) : V3 R := ⟨a.x + b.x, a.y + b.y, a.z + b.z⟩
def V3.sub (a b : V3 R) : V3 R := ⟨a.x - b.x, a.y - b.y, a.z - b.z⟩

/-- linear part times a vector: `c0 * v.x + c1 * v.y + c2 * v.z` -/
def Aff.lin (m : Aff R) (v : V3 R) : V3 R :=
  ⟨m.c0.x * v.x + m.c1.x * v.y + m.c2.x * v.z,
   m.c0.y * v.x + m.c1.y * v.y + m.c2.y * v.z,
   m.c0.z * v.x + m.c1.z * v.y + m.c2.z * v.z⟩

/-- `m * vec4(p, 1)` -/
def Aff.apply (m : Aff R) (p : V3 R) : V3 R := (m.lin p).add m.c3

/-- `m * Mat4(n)`: column `j` of the product is `m` applied to column `j` of `Mat4(n)`
    (whose fourth row is `0 0 0 1`) -/
def Aff.comp (m n : Aff R) : Aff R := ⟨m.lin n.c0, m.lin n.c1, m.lin n.c2, (m.lin n.c3).add m.c3⟩

def Aff.id : Aff R := ⟨⟨1, 0, 0⟩, ⟨0, 1, 0⟩, ⟨0, 0, 1⟩, ⟨0, 0, 0⟩⟩

/-- `la::determinant(mat3(m))` -/
def Aff.det (m : Aff R) : R :=
  m.c0.x * (m.c1.y * m.c2.z - m.c2.y * m.c1.z) - m.c1.x * (m.c0.y * m.c2.z - m.c2.y * m.c0.z)
    + m.c2.x * (m.c0.y * m.c1.z - m.c1.y * m.c0.z)

def det3 (u v w : V3 R) : R :=
  u.x * (v.y * w.z - w.y * v.z) - v.x * (u.y * w.z - w.y * u.z) + w.x * (u.y * v.z - v.y * u.z)

/-- six times the signed volume of the tetrahedron with apex `a` over the triangle `(b, c, d)` -/
def tetVol (a b c d : V3 R) : R := det3 (b.sub a) (c.sub a) (d.sub a)

def dot (u v : V3 R) : R := u.x * v.x + u.y * v.y + u.z * v.z

/-- the linear part has orthonormal columns -/
def Aff.Orthogonal (m : Aff R) : Prop :=
  dot m.c0 m.c0 = 1 ∧ dot m.c1 m.c1 = 1 ∧ dot m.c2 m.c2 = 1 ∧
  dot m.c0 m.c1 = 0 ∧ dot m.c0 m.c2 = 0 ∧ dot m.c1 m.c2 = 0

/-- `mat3 rX({1, 0, 0}, {0, cosd x, sind x}, {0, -sind x, cosd x})` etc. (columns), no translation -/
def rotX (s c : R) : Aff R := ⟨⟨1, 0, 0⟩, ⟨0, c, s⟩, ⟨0, -s, c⟩, ⟨0, 0, 0⟩⟩
def rotY (s c : R) : Aff R := ⟨⟨c, 0, -s⟩, ⟨0, 1, 0⟩, ⟨s, 0, c⟩, ⟨0, 0, 0⟩⟩
def rotZ (s c : R) : Aff R := ⟨⟨c, s, 0⟩, ⟨-s, c, 0⟩, ⟨0, 0, 1⟩, ⟨0, 0, 0⟩⟩

/-- `mat3x4 transform(rZ * rY * rX, vec3())` -/
def rotate (sx cx sy cy sz cz : R) : Aff R := ((rotZ sz cz).comp (rotY sy cy)).comp (rotX sx cx)

/-- `Translate`: identity with `transform[3] += t` -/
def translate (t : V3 R) : Aff R := ⟨⟨1, 0, 0⟩, ⟨0, 1, 0⟩, ⟨0, 0, 1⟩, t⟩
/-- `Scale`: `transform[i][i] = v[i]` -/
def scale (v : V3 R) : Aff R := ⟨⟨v.x, 0, 0⟩, ⟨0, v.y, 0⟩, ⟨0, 0, v.z⟩, ⟨0, 0, 0⟩⟩
/-- `Mirror` over the plane with UNIT normal `n`: `identity - 2 * outerprod(n, n)` -/
def mirror (n : V3 R) : Aff R :=
  ⟨⟨1 - 2 * n.x * n.x, -2 * n.y * n.x, -2 * n.z * n.x⟩, ⟨-2 * n.x * n.y, 1 - 2 * n.y * n.y, -2 * n.z * n.y⟩,
   ⟨-2 * n.x * n.z, -2 * n.y * n.z, 1 - 2 * n.z * n.z⟩, ⟨0, 0, 0⟩⟩

/-! ## theorems

Everything about products goes through `Aff.lin`: it is additive, and `lin_lin` says the linear part
of `m.comp n` is the composite.  The one determinant identity is `det3_lin`. -/

theorem V3.add_assoc (u v w : V3 R) : (u.add v).add w = u.add (v.add w) := by
  ext <;> exact _root_.add_assoc ..

theorem lin_add (m : Aff R) (u v : V3 R) : m.lin (u.add v) = (m.lin u).add (m.lin v) := by
  ext <;> simp only [Aff.lin, V3.add] <;> ring

theorem lin_lin (m n : Aff R) (v : V3 R) : (m.comp n).lin v = m.lin (n.lin v) := by
  ext <;> simp only [Aff.comp, Aff.lin] <;> ring

theorem apply_comp (m n : Aff R) (p : V3 R) : (m.comp n).apply p = m.apply (n.apply p) := by
  simp only [Aff.apply, lin_add, lin_lin, V3.add_assoc]; rfl

/-- the translation column of `m.comp n` is `m.apply n.c3`, so the last component is `apply_comp` -/
theorem comp_assoc (m n k : Aff R) : (m.comp n).comp k = m.comp (n.comp k) :=
  Aff.ext' (lin_lin ..) (lin_lin ..) (lin_lin ..) (apply_comp m n k.c3)

theorem comp_id (m : Aff R) : m.comp Aff.id = m ∧ Aff.id.comp m = m := by
  obtain ⟨⟨a0, a1, a2⟩, ⟨b0, b1, b2⟩, ⟨c0, c1, c2⟩, ⟨d0, d1, d2⟩⟩ := m
  simp only [Aff.comp, Aff.lin, V3.add, Aff.id, mul_one, mul_zero, add_zero, zero_add, one_mul,
    zero_mul, and_self]

theorem det3_lin (m : Aff R) (u v w : V3 R) :
    det3 (m.lin u) (m.lin v) (m.lin w) = m.det * det3 u v w := by
  simp only [det3, Aff.lin, Aff.det]; ring

theorem det_comp (m n : Aff R) : (m.comp n).det = m.det * n.det := det3_lin m n.c0 n.c1 n.c2

theorem apply_sub (m : Aff R) (a b : V3 R) : (m.apply b).sub (m.apply a) = m.lin (b.sub a) := by
  ext <;> simp only [Aff.apply, Aff.lin, V3.add, V3.sub] <;> ring

theorem tetVol_swap (a b c d : V3 R) : tetVol a b d c = - tetVol a b c d := by
  simp only [tetVol, det3, V3.sub]; ring

theorem rotX_orth (s c : R) (h : s * s + c * c = 1) : (rotX s c).Orthogonal ∧ (rotX s c).det = 1 := by
  simp only [Aff.Orthogonal, rotX, dot, Aff.det]
  exact ⟨⟨by ring1, by linear_combination h, by linear_combination h, by ring1, by ring1, by ring1⟩, by linear_combination h⟩

theorem rotY_orth (s c : R) (h : s * s + c * c = 1) : (rotY s c).Orthogonal ∧ (rotY s c).det = 1 := by
  simp only [Aff.Orthogonal, rotY, dot, Aff.det]
  exact ⟨⟨by linear_combination h, by ring1, by linear_combination h, by ring1, by ring1, by ring1⟩, by linear_combination h⟩

theorem rotZ_orth (s c : R) (h : s * s + c * c = 1) : (rotZ s c).Orthogonal ∧ (rotZ s c).det = 1 := by
  simp only [Aff.Orthogonal, rotZ, dot, Aff.det]
  exact ⟨⟨by linear_combination h, by linear_combination h, by ring1, by ring1, by ring1, by ring1⟩, by linear_combination h⟩

/-- an orthogonal linear part preserves dot products (hence lengths and angles) -/
theorem orth_preserves_dot (m : Aff R) (hm : m.Orthogonal) (u v : V3 R) :
    dot (m.lin u) (m.lin v) = dot u v := by
  obtain ⟨m00, m11, m22, m01, m02, m12⟩ := hm
  simp only [dot] at m00 m11 m22 m01 m02 m12
  simp only [Aff.lin, dot]
  linear_combination u.x * v.x * m00 + u.y * v.y * m11 + u.z * v.z * m22
    + (u.x * v.y + u.y * v.x) * m01 + (u.x * v.z + u.z * v.x) * m02 + (u.y * v.z + u.z * v.y) * m12

/-- orthogonal matrices are closed under the product: the columns of `m.comp n` are the images
    under `m.lin` of the columns of `n` -/
theorem orth_comp (m n : Aff R) (hm : m.Orthogonal) (hn : n.Orthogonal) : (m.comp n).Orthogonal := by
  simp only [Aff.Orthogonal, Aff.comp, orth_preserves_dot m hm]; exact hn

end MV.Affine
