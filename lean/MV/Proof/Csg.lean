import MV.Proof.CsgLoop
import MV.Proof.CsgBuild
/-
Correctness of the evaluator `toLeaf` (`CsgOpNode::ToLeafNode`): big-step lemmas for the stack
machine, the judgement `Eff` (what the complete processing of a frame in a role delivers), the
specification `VisitSpec` of one pending frame and its proof by induction on impl ids (a visit
either collapses the frame, whose children then report in its role, or finalizes it later), then
`toLeaf`, `force` and the independence of the result from extra fuel.
-/
set_option autoImplicit false
namespace MV.Csg
open SolidAlg XfAct

variable {M S : Type} [One M] [Mul M]

/-- `k` iterations lead from `σ` to `σ'`, emitting `ev'`, without undefined behaviour, keeping
the store well-formed -/
structure Big (σ σ' : EvalState M) (k : Nat) (ev' : List (Event M)) : Prop where
  run : run k σ = σ'
  ub : σ'.ub = σ.ub
  evs : σ'.evs = σ.evs ++ ev'
  wf : WFs σ'.st
  ext : Ext σ.st σ'.st

theorem Big.refl {σ : EvalState M} (hwf : WFs σ.st) : Big σ σ 0 [] where
  run := rfl
  ub := rfl
  evs := by simp
  wf := hwf
  ext := Ext.refl _

theorem Big.trans {σ σ1 σ2 : EvalState M} {k1 k2 : Nat} {e1 e2 : List (Event M)}
    (a : Big σ σ1 k1 e1) (b : Big σ1 σ2 k2 e2) : Big σ σ2 (k1 + k2) (e1 ++ e2) where
  run := by rw [run_add, a.run, b.run]
  ub := b.ub.trans a.ub
  evs := by rw [b.evs, a.evs, List.append_assoc]
  wf := b.wf
  ext := a.ext.trans b.ext

variable [SolidAlg S] [XfAct M S]

theorem Respects_nil (L : Val S) : Respects L ([] : List (Event M)) := by
  intro e he; simp at he

theorem Respects_append (L : Val S) (a b : List (Event M)) :
    Respects L (a ++ b) ↔ Respects L a ∧ Respects L b := by
  simp only [Respects, List.mem_append]
  constructor
  · intro h; exact ⟨fun e he => h e (Or.inl he), fun e he => h e (Or.inr he)⟩
  · rintro ⟨h1, h2⟩ e (he | he)
    · exact h1 e he
    · exact h2 e he

/-- the value of what the finalize `switch` stores is the value of the operation, by the laws
when an operand is returned unchanged -/
theorem finalizeResult_sem (L : Val S) (fr : Leaf M) (o : Op) (pos neg : List (Leaf M))
    (hpos : pos ≠ []) :
    (finalizeResult fr o pos neg).2.2 = false ∧
    ((finalizeResult fr o pos neg).2.1 = false →
      L.leaf (finalizeResult fr o pos neg).1 = evSem L o pos neg) := by
  obtain ⟨hub, _, hnf⟩ := finalizeResult_spec fr o pos neg
  refine ⟨Bool.eq_false_iff.2 fun h => hpos (hub h), fun hf => ?_⟩
  rcases hnf hf with ⟨_, h⟩ | ⟨h, hn⟩
  · exact absurd h hpos
  · generalize (finalizeResult fr o pos neg).1 = x at h
    subst h
    cases o
    · simp [evSem, Val.leaves, union_empty]
    · simp [evSem, Val.leaves, union_empty, diff_empty, hn rfl]
    · simp [evSem, Val.leaves, bigI, bigIo]

/-- From `σ` the machine reaches, in at most `bound` iterations and without undefined behaviour, a
state whose stack is `base` after a frame in role `r` has delivered lists `P ≠ []` and `N`, and
under every valuation that respects the events emitted on the way all denotations are kept and
`P`, `N` are operands from which `r.p` computes `v`. -/
def Eff (S : Type) [SolidAlg S] [XfAct M S] (σ : EvalState M) (base : List (Frame M)) (r : Role M)
    (bound : Nat) (v : Val S → S) : Prop :=
  ∃ (k : Nat) (P N : List (Leaf M)) (ev' : List (Event M)) (σ' : EvalState M),
    Big σ σ' k ev' ∧ k ≤ bound ∧ σ'.stack = r.deliver base P N ∧ P ≠ [] ∧
    ∀ L : Val S, Respects L ev' → CacheOK L σ.st →
      SemExt L σ.st σ'.st ∧ CacheOK L σ'.st ∧ evSem L r.p P N = v L

/-- the complete processing of a pending frame whose node has impl id `< r` -/
def VisitSpec (S : Type) [SolidAlg S] [XfAct M S] (r : Nat) : Prop :=
  ∀ (σ : EvalState M) (ρ : Role M) (c : Nat) (rest : List (Frame M)) (i : Nat) (o : Op) (nxf : M)
    (cache : Option Nat),
    σ.stack = ρ.frame c :: rest → WFs σ.st → σ.st.nodes[c]? = some (Node.op i o nxf cache) →
    i < r → ρ.OK rest.length → Eff S σ rest ρ (cost σ.st c) fun L => act ρ.xf (denote L σ.st c)

/-- frames in one role without second pointer (creation order; the last one is on top) -/
theorem frames_homog (r : Nat) (IH : VisitSpec (M := M) S r) (ρ : Role M) (hd2 : ρ.d2 = none)
    (hp : ρ.p ≠ .sub) :
    ∀ (cs : List Nat) (σ : EvalState M) (base : List (Frame M)),
      σ.stack = (cs.map ρ.frame).reverse ++ base → WFs σ.st → ρ.d1.depth < base.length →
      (∀ c ∈ cs, ∃ i o nxf cache, σ.st.nodes[c]? = some (Node.op i o nxf cache) ∧ i < r) →
      ∃ (k : Nat) (Ps : List (List (Leaf M))) (ev' : List (Event M)) (σ' : EvalState M),
        Big σ σ' k ev' ∧ k ≤ (cs.map (cost σ.st)).sum ∧
        σ'.stack = pushAll base ρ.d1 Ps.reverse.flatten ∧ (cs ≠ [] → Ps.reverse.flatten ≠ []) ∧
        ∀ (L : Val S), Respects L ev' → CacheOK L σ.st →
          SemExt L σ.st σ'.st ∧ CacheOK L σ'.st ∧
          All2 (fun c P => P ≠ [] ∧ evSem L ρ.p P [] = act ρ.xf (denote L σ.st c)) cs Ps := by
  intro cs
  induction cs with
  | nil =>
    intro σ base hs hwf _ _
    exact ⟨0, [], [], σ, Big.refl hwf, by simp, by simpa using hs, fun h => absurd rfl h,
      fun L _ hc => ⟨SemExt.refl L _, hc, .nil⟩⟩
  | cons c1 cs' ih =>
    intro σ base hs hwf hd hG
    obtain ⟨i1, o1, nxf1, cache1, hn1, hi1⟩ := hG c1 (by simp)
    obtain ⟨k', Ps', ev1, σ1, big1, hk', hst1, _, hsem1⟩ :=
      ih σ (ρ.frame c1 :: base) (by simpa using hs) hwf (by simp; omega)
        (fun c h => hG c (by simp [h]))
    rw [← List.singleton_append, pushAll_stack _ _ _ _ hd, List.singleton_append] at hst1
    obtain ⟨c1', hn1'⟩ := big1.ext.op.1 ⟨_, hn1⟩
    obtain ⟨k1, P, N, ev2, σ2, big2, hk1, hst2, hP, hsem2⟩ :=
      IH σ1 ρ c1 _ i1 o1 nxf1 c1' hst1 big1.wf hn1' hi1
        ⟨by simpa using hd, fun b hb => (by rw [hd2] at hb; cases hb), fun h => absurd h hp⟩
    refine ⟨k' + k1, P :: Ps', ev1 ++ ev2, σ2, big1.trans big2, ?_, ?_, fun _ => by simp [hP], ?_⟩
    · have := big1.ext.cost c1
      simp only [List.map_cons, List.sum_cons]
      omega
    · rw [hst2, Role.deliver, hd2, pushAllO, ← pushAll_append]
      simp
    · intro L hL hc
      obtain ⟨hL1, hL2⟩ := (Respects_append L _ _).1 hL
      obtain ⟨s1, c1, a1⟩ := hsem1 L hL1 hc
      obtain ⟨s2, c2, a2⟩ := hsem2 L hL2 c1
      refine ⟨SemExt.trans big1.ext.len s1 s2, c2, .cons ⟨hP, ?_⟩ a1⟩
      rw [← s1 _ (List.getElem?_eq_some_iff.1 hn1).1, ← evSem_not_sub L hp P N]
      exact a2

theorem sum_filter_le (l : List Nat) (q : Nat → Bool) (f : Nat → Nat) :
    ((l.filter q).map f).sum ≤ (l.map f).sum := by
  induction l with
  | nil => simp
  | cons x xs ih =>
    simp only [List.filter_cons]
    split <;> simp only [List.map_cons, List.sum_cons] <;> omega

/-- The children loop of a visit of node `n` in role `ρ` over the stack `base`, followed by the
complete processing of all the child frames. -/
theorem children_big (r : Nat) (IH : VisitSpec (M := M) S r)
    (σ : EvalState M) (n i : Nat) (o : Op) (nxf : M) (cache : Option Nat) (hwf : WFs σ.st)
    (hn : σ.st.nodes[n]? = some (Node.op i o nxf cache)) (hi : i ≤ r)
    (base : List (Frame M)) (ρ : Role M) (hρ : ρ.OK base.length) (ho : ρ.p = o)
    (hstep : step σ =
      { σ with stack := (addChildren σ.st o ρ.xf (some ρ.d1) ρ.d2 (σ.st.impls.getD i []) true
                          (base, σ.ub)).1,
               ub := (addChildren σ.st o ρ.xf (some ρ.d1) ρ.d2 (σ.st.impls.getD i []) true
                          (base, σ.ub)).2,
               orc := σ.orc.tail, used := σ.used + 1 }) :
    Eff S σ base ρ (1 + ((σ.st.impls.getD i []).map (cost σ.st)).sum)
      fun L => act ρ.xf (opSem o ((σ.st.impls.getD i []).map (denote L σ.st))) := by
  have himpl := hwf.impl_get hn
  generalize σ.st.impls.getD i [] = cs at himpl hstep
  have hex : ∀ c ∈ cs, σ.st.nodes[c]? ≠ none := by
    intro c hc
    rcases hwf.child himpl c hc with ⟨l, hl⟩ | ⟨_, _, _, _, hl, _⟩ <;> simp [hl]
  have hne : cs ≠ [] := by
    rcases hwf.shape himpl with h2 | ⟨c, l, rfl, _⟩
    · intro h; simp [h] at h2
    · simp
  -- the visit when it treats children `cs'` alike, in a role `ρ'`, over frames `top` that it
  -- leaves alone, followed by the complete processing of the child frames
  have loop : ∀ (ρ' : Role M) (cs' : List Nat) (top base0 : List (Frame M)),
      ρ'.d2 = none → ρ'.p ≠ .sub → ρ'.d1.depth < base0.length → (∀ c ∈ cs', c ∈ cs) →
      step σ =
        { σ with stack := (cs'.foldl (fun acc c => addChild σ.st acc c ρ'.p ρ'.xf (some ρ'.d1) ρ'.d2)
                            (top ++ base0, σ.ub)).1,
                 ub := (cs'.foldl (fun acc c => addChild σ.st acc c ρ'.p ρ'.xf (some ρ'.d1) ρ'.d2)
                            (top ++ base0, σ.ub)).2,
                 orc := σ.orc.tail, used := σ.used + 1 } →
      ∃ (k : Nat) (Ps : List (List (Leaf M))) (ev' : List (Event M)) (σ' : EvalState M),
        Big σ σ' (1 + k) ev' ∧ k ≤ (cs'.map (cost σ.st)).sum ∧
        σ'.stack = top ++ pushAll base0 ρ'.d1
          ((σ.st.leafKids cs').map (·.transform ρ'.xf) ++ Ps.reverse.flatten) ∧
        (σ.st.opKids cs' ≠ [] → Ps.reverse.flatten ≠ []) ∧
        ∀ (L : Val S), Respects L ev' → CacheOK L σ.st →
          SemExt L σ.st σ'.st ∧ CacheOK L σ'.st ∧
          All2 (fun c P => P ≠ [] ∧ evSem L ρ'.p P [] = act ρ'.xf (denote L σ.st c))
            (σ.st.opKids cs') Ps := by
    intro ρ' cs' top base0 h2 hp hd hsub hstep
    have hex' : ∀ c ∈ cs', σ.st.nodes[c]? ≠ none := fun c hc => hex c (hsub c hc)
    rw [foldl_addChild σ.st ρ' cs' top base0 σ.ub hex' hd] at hstep
    have hst : (step σ).st = σ.st := by rw [hstep]
    have big1 : Big σ (step σ) 1 [] :=
      ⟨run_one σ, by rw [hstep], by rw [hstep, List.append_nil], hst ▸ hwf, hst ▸ Ext.refl _⟩
    obtain ⟨k, Ps, ev', σ', big, hk, hst', hP, hsem⟩ :=
      frames_homog (S := S) r IH ρ' h2 hp (σ.st.opKids cs') (step σ) _ (by rw [hstep, List.append_assoc])
        (hst ▸ hwf)
        (by rw [List.length_append, pushAll_length]; exact Nat.lt_of_lt_of_le hd (Nat.le_add_left _ _)) (by
          intro c hc
          rw [hst]
          simp only [Store.opKids, List.mem_filter] at hc
          rcases hwf.child himpl c (hsub c hc.1) with ⟨l, hl⟩ | ⟨i', o', m', k', hl, hlt⟩
          · simp [Store.isLeaf, hl] at hc
          · exact ⟨i', o', m', k', hl, Nat.lt_of_lt_of_le hlt hi⟩)
    rw [hst] at hk hsem
    rw [pushAll_stack _ _ _ _ (by rw [pushAll_length]; exact hd), ← pushAll_append] at hst'
    exact ⟨k, Ps, ev', σ', big1.trans big, Nat.le_trans hk (sum_filter_le _ _ _), hst', hP, hsem⟩
  by_cases hsub : o = .sub
  · -- a Subtract: the first child in role `ρ`, the others in the role of a union towards `b`
    subst hsub
    obtain ⟨b, hb⟩ := hρ.sub ho
    obtain ⟨hblt, hbne⟩ := hρ.d2 b hb
    cases cs with
    | nil => exact absurd rfl hne
    | cons c0 cs' =>
      have hex' : ∀ c ∈ cs', σ.st.nodes[c]? ≠ none := fun c' h' => hex c' (List.mem_cons_of_mem _ h')
      simp only [addChildren_true, addChildren_false, ↓reduceIte, hb] at hstep
      have tail := fun top base0 (hd : b.depth < base0.length) =>
        loop ⟨.add, ρ.xf, b, none⟩ cs' top base0 rfl (fun h => Op.noConfusion h) hd
          fun c h => List.mem_cons_of_mem _ h
      have hunion := fun (L : Val S) Ps => kids_union L σ.st ρ.xf cs' hex' Ps
      generalize (σ.st.leafKids cs').map (·.transform ρ.xf) = Y at tail hunion
      cases hn0 : σ.st.nodes[c0]? with
      | none => exact absurd hn0 (hex c0 List.mem_cons_self)
      | some nd0 =>
        cases nd0 with
        | leaf l0 =>
          have e0 : addChild σ.st (base, σ.ub) c0 .sub ρ.xf (some ρ.d1) (some b) =
              ([] ++ pushDest base ρ.d1 (l0.transform ρ.xf), σ.ub) := by
            simp only [addChild, hn0]; rfl
          rw [e0] at hstep
          obtain ⟨k, Ps, ev', σ', big, hk, hst', _, hsem⟩ :=
            tail [] _ (by rw [pushDest_length]; exact hblt) hstep
          refine ⟨1 + k, [l0.transform ρ.xf], Y ++ Ps.reverse.flatten ++ [], ev', σ', big,
            Nat.add_le_add_left (Nat.le_trans hk (Nat.le_add_left _ _)) 1,
            ?_, List.cons_ne_nil _ _, fun L hL hc => ?_⟩
          · rw [hst', List.append_nil, Role.deliver, hb]; rfl
          · obtain ⟨s1, c1, hF⟩ := hsem L hL hc
            refine ⟨s1, c1, ?_⟩
            rw [ho]
            exact sub_sem L ρ.xf [l0.transform ρ.xf] [] _ (denote L σ.st c0)
              (cs'.map (denote L σ.st))
              (by rw [evSem_single, Val.leaf_transform, denote_leaf L hn0])
              (hunion L Ps (hF.imp fun _ _ _ h => h.2))
        | op i0 o0 m0 k0 =>
          have e0 : addChild σ.st (base, σ.ub) c0 .sub ρ.xf (some ρ.d1) (some b) =
              ([ρ.frame c0] ++ base, σ.ub) := by
            simp only [addChild, hn0]
            rw [Role.frame, ho, hb]; rfl
          rw [e0] at hstep
          obtain ⟨k, Ps, ev', σ1, big1, hk, hs1, _, hsem⟩ := tail [ρ.frame c0] base hblt hstep
          replace hs1 : σ1.stack = ρ.frame c0 :: pushAll base b (Y ++ Ps.reverse.flatten) := hs1
          obtain ⟨c0', hn0'⟩ := big1.ext.op.1 ⟨_, hn0⟩
          have hi0 : i0 < r := by
            rcases hwf.child himpl c0 List.mem_cons_self with ⟨l, hl⟩ | ⟨_, _, _, _, hl, hlt⟩
            · rw [hl] at hn0; cases hn0
            · rw [hl] at hn0; cases hn0; exact Nat.lt_of_lt_of_le hlt hi
          obtain ⟨k0, P0, N0, ev0, σ2, big2, hk0, hst2, hP0, hsem0⟩ :=
            IH σ1 ρ c0 _ i0 o0 m0 c0' hs1 big1.wf hn0' hi0
              ⟨by rw [pushAll_length]; exact hρ.d1,
               fun b' hb' => by rw [pushAll_length]; exact hρ.d2 b' hb', hρ.sub⟩
          refine ⟨1 + k + k0, P0, (Y ++ Ps.reverse.flatten) ++ N0, ev' ++ ev0, σ2, big1.trans big2,
            ?_, by rw [hst2, ρ.deliver_comm hρ hb], hP0, fun L hL hc => ?_⟩
          · have := big1.ext.cost c0
            simp only [List.map_cons, List.sum_cons]
            omega
          · obtain ⟨hL1, hL2⟩ := (Respects_append L _ _).1 hL
            obtain ⟨s1, c1, hF⟩ := hsem L hL1 hc
            obtain ⟨s2, c2, hv⟩ := hsem0 L hL2 c1
            refine ⟨SemExt.trans big1.ext.len s1 s2, c2, ?_⟩
            replace hv : evSem L .sub P0 N0 = act ρ.xf (denote L σ.st c0) := by
              rw [← ho, ← s1 c0 (List.getElem?_eq_some_iff.1 hn0).1]; exact hv
            rw [ho]
            exact sub_sem L ρ.xf P0 N0 _ (denote L σ.st c0) (cs'.map (denote L σ.st)) hv
              (hunion L Ps (hF.imp fun _ _ _ h => h.2))
  · -- an Add or Intersect: all children in role `ρ` without its second pointer
    obtain ⟨c0, cs', rfl⟩ := List.exists_cons_of_ne_nil hne
    rw [addChildren_true, addChildren_false, if_neg hsub, if_neg hsub, if_neg hsub,
      ← List.foldl_cons (f := fun acc c => addChild σ.st acc c o ρ.xf (some ρ.d1) none),
      ← List.nil_append base] at hstep
    obtain ⟨k, Ps, ev', σ', big, hk, hst', hPne, hsem⟩ :=
      loop ⟨o, ρ.xf, ρ.d1, none⟩ (c0 :: cs') [] base rfl hsub hρ.d1 (fun c h => h) hstep
    refine ⟨1 + k, (σ.st.leafKids (c0 :: cs')).map (·.transform ρ.xf) ++ Ps.reverse.flatten, [], ev',
      σ', big, Nat.add_le_add_left hk 1, ?_, ?_, fun L hL hc => ?_⟩
    · rw [hst', Role.deliver]
      cases ρ.d2 <;> rfl
    · cases hn0 : σ.st.nodes[c0]? with
      | none => exact absurd hn0 (hex c0 List.mem_cons_self)
      | some nd0 =>
        cases nd0 with
        | leaf l0 => simp [Store.leafKids, Store.leafAt?, hn0]
        | op i0 o0 m0 k0 =>
          have := hPne (by simp [Store.opKids, Store.isLeaf, hn0])
          simp [this]
    · obtain ⟨s1, c1, hF⟩ := hsem L hL hc
      refine ⟨s1, c1, ?_⟩
      rw [ho, evSem_not_sub L hsub]
      exact homog_sem L σ.st ρ.xf (c0 :: cs') hex Ps o hsub hF

/-- A frame that is not collapsed: visit, all child frames, finalize.  Also used for the root
frame (`posDest = none`). -/
theorem noncollapse_big (r : Nat) (IH : VisitSpec (M := M) S r)
    (σ : EvalState M) (G : Frame M) (rest : List (Frame M)) (i : Nat) (o : Op) (nxf : M)
    (cache : Option Nat)
    (hs : σ.stack = G :: rest) (hwf : WFs σ.st)
    (hn : σ.st.nodes[G.node]? = some (Node.op i o nxf cache)) (hi : i ≤ r)
    (hfin : G.finalize = false) (hpos : G.pos = []) (hneg : G.neg = [])
    (hcc : canCollapse G o (σ.orc.headD false) (σ.st.impls.getD i []).length = false) :
    ∃ (k : Nat) (ev' : List (Event M)) (σ' : EvalState M) (c : Nat) (cl : Leaf M),
      Big σ σ' k ev' ∧ k ≤ cost σ.st G.node ∧
      σ'.stack = pushO rest G.posDest (cl.transform G.xf) ∧
      σ'.st.nodes[G.node]? = some (Node.op i o nxf (some c)) ∧
      σ'.st.nodes[c]? = some (Node.leaf cl) ∧
      ∀ (L : Val S), Respects L ev' → CacheOK L σ.st →
        SemExt L σ.st σ'.st ∧ CacheOK L σ'.st ∧ L.leaf cl = denote L σ.st G.node := by
  generalize hF1 : ({ G with finalize := true } : Frame M) = F1
  have hstep := step_visit hs hn hfin
  simp only [hcc, Bool.false_eq_true, if_false, hF1] at hstep
  obtain ⟨k2, P, N, ev2, σ2, big2, hk2, hst2, hposne, hsem2⟩ :=
    children_big r IH σ G.node i o nxf cache hwf hn hi (F1 :: rest)
      ⟨o, 1, ⟨rest.length, false⟩, some ⟨rest.length, true⟩⟩
      ⟨by simp, by rintro b ⟨rfl⟩; simp, fun _ => ⟨_, rfl⟩⟩ rfl hstep
  replace hk2 : k2 + 1 ≤ cost σ.st G.node := by have := cost_op hwf hn; omega
  simp only [Role.deliver, pushAllO, pushAll_head] at hst2
  obtain ⟨c2, hn2⟩ := big2.ext.op.1 ⟨_, hn⟩
  -- the frame on top is now in finalize state, holding what was pushed to it
  generalize hF2 : ({ F1 with pos := F1.pos ++ P, neg := F1.neg ++ N } : Frame M)
    = F2 at hst2
  obtain ⟨eN, eF, eP, eX, eFpos, eFneg⟩ :
      F2.node = G.node ∧ F2.finalize = true ∧ F2.posDest = G.posDest ∧ F2.xf = G.xf ∧
      F2.pos = P ∧ F2.neg = N := by
    rw [← hF2, ← hF1]; simp [hpos, hneg]
  rw [← eN] at hn2
  cases c2 with
  | some c =>
    -- the cache was set in the meantime: just push it
    obtain ⟨⟨cl, hcl⟩, _⟩ := big2.wf.cache hn2
    have hstep3 := step_finalize_cached hst2 hn2 eF
    simp only [leafAt_of_node hcl, eP, eX] at hstep3
    refine ⟨k2 + 1, ev2 ++ [],
      { σ2 with stack := pushO rest G.posDest (cl.transform G.xf) }, c, cl,
      big2.trans ⟨by rw [run_one, hstep3], rfl, by simp, big2.wf, Ext.refl _⟩, hk2, rfl,
      by rw [← eN]; exact hn2, hcl, ?_⟩
    intro L hL hc
    rw [List.append_nil] at hL
    obtain ⟨s2, c2', _⟩ := hsem2 L hL hc
    refine ⟨s2, c2', ?_⟩
    rw [← denote_leaf L hcl, c2' hn2, eN, s2 _ (List.getElem?_eq_some_iff.1 hn).1]
  | none =>
    have hstep3 := step_finalize_compute hst2 hn2 eF
    rw [eP, eX, eN, eFpos, eFneg] at hstep3
    rw [eN] at hn2
    have hres := fun L : Val S => finalizeResult_sem L (⟨.res σ2.st.nextRes, 1⟩ : Leaf M) o
      P N hposne
    generalize finalizeResult (⟨.res σ2.st.nextRes, 1⟩ : Leaf M) o P N = rr
      at hstep3 hres
    obtain ⟨res, fresh, ub'⟩ := rr
    simp only at hstep3 hres
    have hub : ub' = false := (hres ⟨fun _ => empty, fun _ => empty⟩).1
    subst hub
    have big3 : Big σ2 (step σ2) 1 [⟨o, P, N, res, fresh⟩] :=
      ⟨run_one σ2, by rw [hstep3]; simp, by rw [hstep3], by rw [hstep3]; exact finStore_wfs big2.wf hn2,
        by rw [hstep3]; exact finStore_ext big2.wf hn2⟩
    refine ⟨k2 + 1, _, step σ2, σ2.st.nodes.length + 1, res.transform nxf, big2.trans big3, hk2,
      by rw [hstep3], by rw [hstep3]; exact finStore_n (List.getElem?_eq_some_iff.1 hn2).1,
      by rw [hstep3]; exact finStore_len1, ?_⟩
    rw [hstep3]
    intro L hL hc
    obtain ⟨hL2, hL3⟩ := (Respects_append L _ _).1 hL
    obtain ⟨s2, c2', hW⟩ := hsem2 L hL2 hc
    -- the stored result has the value of the operation on the children
    have hval : L.leaf res = opSem o ((σ.st.impls.getD i []).map (denote L σ.st)) := by
      have h2 := hW
      simp only [act_one] at h2
      rw [← h2]
      cases hfr : fresh with
      | true => exact hL3 _ (List.mem_singleton.2 rfl) hfr
      | false => exact (hres L).2 hfr
    have hresAll : ∀ {k : Nat} {o' : Op} {m : M} {c' : Option Nat},
        σ2.st.nodes[k]? = some (Node.op i o' m c') → denote L σ2.st k = act m (L.leaf res) := by
      intro k o' m c' hk
      obtain ⟨c0, hk0⟩ := big2.ext.op.2 ⟨_, hk⟩
      have : o' = o := hwf.op_same hk0 hn
      subst this
      rw [s2 k (List.getElem?_eq_some_iff.1 hk0).1, denote_op L hwf hk0, hval]
    have s3 := finStore_sem (fresh := fresh) L big2.wf hn2 @hresAll
    refine ⟨SemExt.trans big2.ext.len s2 s3, finStore_cacheOK L big2.wf hn2 c2' (hresAll hn2) s3, ?_⟩
    rw [Val.leaf_transform, denote_op L hwf hn, hval]

/-- a frame that pushes one leaf with the value of its node -/
theorem Eff.single {σ σ' : EvalState M} {rest : List (Frame M)} {ρ : Role M} {k bound : Nat}
    {ev' : List (Event M)} {l : Leaf M} {v : Val S → S} (big : Big σ σ' k ev') (hk : k ≤ bound)
    (hst : σ'.stack = pushDest rest ρ.d1 l)
    (hsem : ∀ L : Val S, Respects L ev' → CacheOK L σ.st →
      SemExt L σ.st σ'.st ∧ CacheOK L σ'.st ∧ L.leaf l = v L) : Eff S σ rest ρ bound v :=
  ⟨k, [l], [], ev', σ', big, hk, by rw [hst, ρ.deliver_single], by simp, fun L hL hc => by
    rw [evSem_single]; exact hsem L hL hc⟩

theorem visit_step (r : Nat) (IH : VisitSpec (M := M) S r) : VisitSpec (M := M) S (r + 1) := by
  intro σ ρ c rest i o nxf cache hs hwf hn hi hρ
  by_cases hcc : canCollapse (ρ.frame c) o (σ.orc.headD false) (σ.st.impls.getD i []).length = true
  · -- the frame is collapsed: its children report in its role
    have himpl := hwf.impl_get hn
    have hcost := cost_op hwf hn
    have hden := fun L : Val S => denote_op L hwf hn
    have hstep := step_visit hs hn rfl
    simp only [hcc, if_true] at hstep
    generalize hcs : σ.st.impls.getD i [] = cs at himpl hcc hcost hstep hden
    rcases hwf.shape himpl with h2 | ⟨c', lf, rfl, hlf⟩
    · have hop : ρ.p = o := by
        simp only [canCollapse, Bool.and_eq_true, Bool.or_eq_true, beq_iff_eq] at hcc
        rcases hcc.2 with h | h
        · exact h.1.symm
        · omega
      rw [← hcs] at hstep
      obtain ⟨k, P, N, ev', σ', big, hk, hst, hP, hsem⟩ :=
        children_big r IH σ c i o nxf cache hwf hn (by omega) rest ⟨ρ.p, ρ.xf * nxf, ρ.d1, ρ.d2⟩
          ⟨hρ.d1, hρ.d2, hρ.sub⟩ hop hstep
      rw [hcs] at hk
      refine ⟨k, P, N, ev', σ', big, by omega, hst, hP, fun L hL hc => ?_⟩
      obtain ⟨s2, c2, hW⟩ := hsem L hL hc
      refine ⟨s2, c2, ?_⟩
      dsimp only at hW
      rw [hcs, act_mul, ← hden L] at hW
      exact hW
    · -- a single (leaf) child: push it transformed
      have hstep' : step σ = { σ with stack := pushDest rest ρ.d1 (lf.transform (ρ.xf * nxf)),
                                      orc := σ.orc.tail, used := σ.used + 1 } := by
        rw [hstep]
        simp [addChildren, addChild, hlf, Role.frame]
      refine Eff.single (k := 1) (ev' := []) (l := lf.transform (ρ.xf * nxf))
        (σ' := { σ with stack := pushDest rest ρ.d1 (lf.transform (ρ.xf * nxf)),
                        orc := σ.orc.tail, used := σ.used + 1 })
        ⟨by rw [run_one, hstep'], rfl, by simp, hwf, Ext.refl _⟩ (by omega) rfl fun L _ hc => ?_
      refine ⟨SemExt.refl L _, hc, ?_⟩
      rw [hden L, Val.leaf_transform, act_mul]
      simp [opSem_singleton, denote_leaf L hlf]
  · -- the frame is finalized later and pushes its (transformed) cache
    obtain ⟨k, ev', σ', c', cl, big, hk, hst, _, _, hsem⟩ :=
      noncollapse_big r IH σ (ρ.frame c) rest i o nxf cache hs hwf hn (by omega) rfl rfl rfl
        (by simpa using hcc)
    refine Eff.single big hk hst fun L hL hc => ?_
    obtain ⟨s, c'', hv⟩ := hsem L hL hc
    exact ⟨s, c'', by rw [Val.leaf_transform, hv]; rfl⟩

theorem visit_all : ∀ r, VisitSpec (M := M) S r := by
  intro r
  induction r with
  | zero => intro σ ρ c rest i o nxf cache _ _ _ hi; omega
  | succ r ih => exact visit_step r ih

/-- what a call of the evaluator on node `n` of the store `s` returns -/
structure Evald (S : Type) [SolidAlg S] [XfAct M S] (s : Store M) (n : Nat) (r : EvalResult M) :
    Prop where
  ok : r.ok = true
  ub : r.ub = false
  wf : WFs r.st
  leaf : ∃ l, r.st.nodes[r.ret]? = some (Node.leaf l)
  mono : s.nodes.length ≤ r.st.nodes.length
  built : ∀ L : Val S, Respects L r.evs → CacheOK L s → Built L s r.st r.ret (denote L s n)

/-- `ToLeafNode` on any existing node of a well-formed store, with any oracle and enough fuel -/
theorem toLeaf_evald (s : Store M) (hwf : WFs s) (n : Nat) (hn : n < s.nodes.length)
    (orc : List Bool) (fuel : Nat) (hfuel : cost s n ≤ fuel) :
    Evald S s n (toLeaf s n orc fuel) := by
  cases hnd : s.nodes[n]? with
  | none => rw [List.getElem?_eq_getElem hn] at hnd; cases hnd
  | some nd =>
    cases nd with
    | leaf l =>
      have e : toLeaf s n orc fuel =
          { st := (s.addNode (.leaf l)).1, ret := (s.addNode (.leaf l)).2, evs := [],
            orc := orc, used := 0, ok := true, ub := false } := by
        simp only [toLeaf, hnd]
      rw [e]
      refine ⟨rfl, rfl, ?_, ?_, by simp [Store.addNode], ?_⟩
      · rw [addNode_eq]
        exact grow_wfs hwf ⟨fun h => (by cases h), fun _ h => (by simp at h)⟩
      · rw [addNode_eq]; exact ⟨l, grow_node_new⟩
      · intro L _ hc
        have := addLeaf_built L s hwf hc l
        rw [← denote_leaf L hnd] at this
        exact this
    | op i o nxf cache =>
      cases cache with
      | some c =>
        have e : toLeaf s n orc fuel =
            { st := s, ret := c, evs := [], orc := orc, used := 0, ok := true, ub := false } := by
          simp only [toLeaf, hnd]
        rw [e]
        obtain ⟨⟨l, hl⟩, _⟩ := hwf.cache hnd
        refine ⟨rfl, rfl, hwf, ⟨l, hl⟩, Nat.le_refl _, ?_⟩
        intro L _ hc
        exact ⟨hwf, SemExt.refl L s, hc, hc hnd, (List.getElem?_eq_some_iff.1 hl).1,
          Nat.le_refl _⟩
      | none =>
        obtain ⟨σ0, hσ0⟩ : ∃ σ0 : EvalState M, σ0 =
          { st := s, stack := [{ finalize := false, parentOp := o, xf := 1, posDest := none,
                                 negDest := none, node := n }],
            orc := orc, used := 0, evs := [], ub := false } := ⟨_, rfl⟩
        obtain ⟨k, ev', σ', c, cl, big, hk, hst, hnc, hcl, hsem⟩ :=
          noncollapse_big (S := S) i (visit_all i) σ0
            { finalize := false, parentOp := o, xf := 1, posDest := none, negDest := none, node := n }
            [] i o nxf none (by rw [hσ0]) (by rw [hσ0]; exact hwf) (by rw [hσ0]; exact hnd)
            (Nat.le_refl _) rfl rfl rfl (by simp [canCollapse])
        have hst' : σ'.stack = [] := hst
        have hrun : run fuel σ0 = σ' := by
          have hk' : k ≤ fuel := by
            have : cost σ0.st n = cost s n := by rw [hσ0]
            simp only at hk
            omega
          obtain ⟨j, rfl⟩ := Nat.exists_eq_add_of_le hk'
          rw [run_add, big.run, run_nil hst']
        have hσ0st : σ0.st = s := by rw [hσ0]
        have hev : σ'.evs = ev' := by rw [big.evs, hσ0]; rfl
        have hub : σ'.ub = false := by rw [big.ub, hσ0]
        have hres : toLeaf s n orc fuel =
            { st := σ'.st, ret := c, evs := σ'.evs, orc := σ'.orc, used := σ'.used,
              ok := σ'.stack.isEmpty, ub := σ'.ub } := by
          simp only [toLeaf, hnd]
          rw [← hσ0, hrun]
          simp only at hnc
          rw [hnc]
        rw [hres]
        have hlen := (hσ0st ▸ big.ext).len
        refine ⟨by simp [hst'], hub, big.wf, ⟨cl, hcl⟩, hlen, fun L hL hc => ?_⟩
        simp only at hL ⊢
        rw [hev] at hL
        obtain ⟨s1, c1, hv⟩ := hsem L hL (by rw [hσ0st]; exact hc)
        rw [hσ0st] at s1 hv
        exact ⟨big.wf, s1, c1, by rw [denote_leaf L hcl]; exact hv,
          (List.getElem?_eq_some_iff.1 hcl).1, hlen⟩

/-- `GetCsgLeafNode` -/
theorem force_evald (s : Store M) (hwf : WFs s) (n : Nat) (hn : n < s.nodes.length)
    (orc : List Bool) : Evald S s n (force s n orc) := by
  simp only [force]
  split
  · rename_i hleaf
    simp only [Store.isLeaf] at hleaf
    split at hleaf
    · rename_i l hl
      exact ⟨rfl, rfl, hwf, ⟨l, hl⟩, Nat.le_refl _, fun L _ hc =>
        ⟨hwf, SemExt.refl L s, hc, rfl, hn, Nat.le_refl _⟩⟩
    · cases hleaf
  · exact toLeaf_evald s hwf n hn orc _ (Nat.le_refl _)


end MV.Csg

namespace MV.Csg
variable {M : Type} [One M] [Mul M]

/-- Once the loop has terminated within some fuel, more fuel changes nothing: the driver may use
any fuel for which `ok` is reported and gets exactly the result of `force` (which uses
`cost s n`, sufficient by `toLeaf_denotes` of `MV/Props/C03.lean`). -/
theorem toLeaf_fuel_mono (s : Store M) (n : Nat) (orc : List Bool) (f f' : Nat) (h : f ≤ f')
    (hok : (toLeaf s n orc f).ok = true) : toLeaf s n orc f' = toLeaf s n orc f := by
  cases hnd : s.nodes[n]? with
  | none => simp [toLeaf, hnd] at hok
  | some nd =>
    cases nd with
    | leaf l => simp [toLeaf, hnd]
    | op i o nxf cache =>
      cases cache with
      | some c => simp [toLeaf, hnd]
      | none =>
        obtain ⟨d, rfl⟩ := Nat.exists_eq_add_of_le h
        obtain ⟨σ0, hσ0⟩ : ∃ σ0 : EvalState M, σ0 =
          { st := s, stack := [{ finalize := false, parentOp := o, xf := 1, posDest := none,
                                 negDest := none, node := n }],
            orc := orc, used := 0, evs := [], ub := false } := ⟨_, rfl⟩
        simp only [toLeaf, hnd] at hok ⊢
        rw [← hσ0] at hok ⊢
        rw [run_add]
        split at hok
        · rename_i c hc
          have hst : (run f σ0).stack = [] := by simpa using hok
          rw [run_nil hst, hc]
        · cases hok

end MV.Csg
