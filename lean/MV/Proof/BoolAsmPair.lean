/-
Lemmas for the assembly model: `PairUp` (for every conforming `std::partition`), the
libstdc++ partition meets the contract, and the cursor fetches.
-/
import MV.Model.BoolAssembly
import MV.Proof.SortOrder

namespace MV.BoolAsm

theorem strictWeak_edgePos : MV.Par.StrictWeak EdgePos.lt where
  asymm a b := by
    simp only [EdgePos.lt, Bool.or_eq_true, Bool.and_eq_true, decide_eq_true_eq, Bool.or_eq_false_iff,
      Bool.and_eq_false_iff, decide_eq_false_iff_not]
    omega
  negTrans a b c := by
    simp only [EdgePos.lt, Bool.or_eq_false_iff, Bool.and_eq_false_iff, decide_eq_false_iff_not]
    omega

theorem stableSort_perm (l : List EdgePos) : (stableSort l).Perm l := List.mergeSort_perm _ _

theorem stableSort_sorted (l : List EdgePos) :
    (stableSort l).Pairwise (fun a b => EdgePos.le a b = true) :=
  (MV.Par.sortedBy_mergeSort strictWeak_edgePos l).imp (by simp [EdgePos.le])

theorem stableSort_length (l : List EdgePos) : (stableSort l).length = l.length :=
  (stableSort_perm l).length_eq

/-- what `PairUp` computes under its precondition, for every conforming partition -/
theorem pairUpWith_eq (part : List EdgePos → List EdgePos) (hc : PartitionContract part)
    (es : List EdgePos) (hpre : pairUpPre es = true) :
    ∃ S E : List EdgePos,
      part es = S ++ E ∧ S.Perm (es.filter (·.isStart)) ∧ E.Perm (es.filter fun e => !e.isStart) ∧
      S.length = es.length / 2 ∧ E.length = es.length / 2 ∧
      pairUpWith part es = List.zip ((stableSort S).map (·.vert)) ((stableSort E).map (·.vert)) := by
  obtain ⟨hp, heq⟩ := hc es
  unfold pairUpPre at hpre
  simp only [Bool.and_eq_true, beq_iff_eq] at hpre
  obtain ⟨heven, hcnt⟩ := hpre
  have hS0 : ((part es).filter (·.isStart)).Perm (es.filter (·.isStart)) := hp.filter _
  have hE0 : ((part es).filter fun e => !e.isStart).Perm (es.filter fun e => !e.isStart) := hp.filter _
  have hmid : (part es).countP (·.isStart) = es.length / 2 := by rw [hp.countP_eq, hcnt]
  have hlen : (part es).length = es.length := hp.length_eq
  generalize hS : (part es).filter (·.isStart) = S at heq hS0
  generalize hE : (part es).filter (fun e => !e.isStart) = E at heq hE0
  have hSl : S.length = es.length / 2 := by rw [← hS, ← List.countP_eq_length_filter, hmid]
  have hEl : E.length = es.length / 2 := by
    have : (S ++ E).length = es.length := by rw [← heq, hlen]
    simp only [List.length_append] at this; omega
  refine ⟨S, E, heq, hS0, hE0, hSl, hEl, ?_⟩
  simp only [pairUpWith, hmid]
  rw [heq, List.take_left' hSl, List.drop_left' hSl]
  have h1 : (stableSort S).length = es.length / 2 := by rw [stableSort_length, hSl]
  have h2 : (stableSort E).length = es.length / 2 := by rw [stableSort_length, hEl]
  rw [List.take_left' h1, List.drop_left' h1, List.take_of_length_le (Nat.le_of_eq h2)]

theorem splitSuffix_spec {α : Type} (q : α → Bool) (l : List α) :
    l = (splitSuffix q l).1 ++ (splitSuffix q l).2 ∧ (∀ x ∈ (splitSuffix q l).2, q x = true) ∧
    (∀ m x, (splitSuffix q l).1 = m ++ [x] → q x = false) := by
  unfold splitSuffix
  refine ⟨?_, ?_, ?_⟩
  · have := List.takeWhile_append_dropWhile (p := q) (l := l.reverse)
    have h2 := congrArg List.reverse this
    simp only [List.reverse_append, List.reverse_reverse] at h2
    exact h2.symm
  · intro x hx
    simp only [List.mem_reverse] at hx
    exact mem_takeWhile_imp hx
  · intro m x h
    simp only at h
    have h2 := congrArg List.reverse h
    simp only [List.reverse_reverse, List.reverse_append, List.reverse_cons, List.reverse_nil,
      List.nil_append, List.singleton_append] at h2
    have hne : List.dropWhile q l.reverse ≠ [] := by rw [h2]; simp
    have := List.head_dropWhile_not q hne
    simpa [h2] using this

/-- `l = A ++ B` with `p` on all of `A` and on none of `B` -/
def Split {α : Type} (p : α → Bool) (l : List α) : Prop :=
  ∃ A B, l = A ++ B ∧ (∀ x ∈ A, p x = true) ∧ (∀ x ∈ B, p x = false)

/-- `stdPartitionGo` permutes its input and, given fuel for the whole range, leaves every `p`
element in front of every other one.  One round: `l = S ++ ns :: D ++ [st] ++ E` with `p` on `S`
and `st`, not on `ns` and `E`; the round swaps `ns` and `st` and continues on `D`. -/
theorem go_spec {α : Type} [DecidableEq α] (p : α → Bool) :
    ∀ (fuel : Nat) (l : List α), l.length ≤ fuel →
      (stdPartitionGo p fuel l).Perm l ∧ Split p (stdPartitionGo p fuel l) := by
  intro fuel
  induction fuel with
  | zero =>
    intro l hl
    have : l = [] := List.length_eq_zero_iff.1 (by omega)
    subst this
    exact ⟨List.Perm.refl _, [], [], rfl, by simp, by simp⟩
  | succ fuel ih =>
    intro l hlen
    have hl : l = l.takeWhile p ++ l.dropWhile p := List.takeWhile_append_dropWhile.symm
    have hS : ∀ x ∈ l.takeWhile p, p x = true := fun x hx => mem_takeWhile_imp hx
    obtain ⟨hrest, hE, hlast⟩ := splitSuffix_spec (fun x => !p x) (l.dropWhile p)
    simp only [stdPartitionGo]
    generalize (splitSuffix (fun x => !p x) (l.dropWhile p)).1 = mid at hrest hlast
    generalize (splitSuffix (fun x => !p x) (l.dropWhile p)).2 = E at hrest hE
    have hE' : ∀ x ∈ E, p x = false := fun x hx => by simpa using hE x hx
    cases mid with
    | nil =>
      simp only []
      exact ⟨by rw [← List.nil_append E, ← hrest]; exact List.Perm.of_eq hl.symm, _, _, rfl, hS, hE'⟩
    | cons ns tl =>
      simp only []
      have hns : p ns = false := by
        have hne : l.dropWhile p ≠ [] := by rw [hrest]; simp
        have := List.head_dropWhile_not p hne
        simpa [hrest] using this
      cases hgl : tl.getLast? with
      | none =>
        exfalso
        have : tl = [] := List.getLast?_eq_none_iff.1 hgl
        subst this
        have := hlast [] ns rfl
        simp [hns] at this
      | some st =>
        simp only []
        obtain ⟨D, hD⟩ := List.getLast?_eq_some_iff.1 hgl
        have hdl : tl.dropLast = D := by rw [hD]; simp
        rw [hdl]
        have hst : p st = true := by
          have := hlast (ns :: D) st (by rw [hD]; rfl)
          simpa using this
        have hl' : l = l.takeWhile p ++ (ns :: (D ++ [st]) ++ E) := by rw [← hD, ← hrest]; exact hl
        have hDlen : D.length ≤ fuel := by
          have := congrArg List.length hl'
          simp only [List.length_append, List.length_cons, List.length_nil] at this
          omega
        obtain ⟨ihp, A, B, hAB, hA, hB⟩ := ih D hDlen
        refine ⟨?_, l.takeWhile p ++ st :: A, B ++ ns :: E, ?_,
          List.forall_mem_append.2 ⟨hS, List.forall_mem_cons.2 ⟨hst, hA⟩⟩,
          List.forall_mem_append.2 ⟨hB, List.forall_mem_cons.2 ⟨hns, hE'⟩⟩⟩
        · conv => rhs; rw [hl']
          refine List.Perm.append_left _ ?_
          rw [List.perm_iff_count]
          intro a
          have hc := (List.perm_iff_count.1 ihp) a
          simp only [List.count_cons, List.count_append, List.count_nil, hc, List.cons_append]
          omega
        · rw [hAB]; simp

theorem split_filter {α : Type} (p : α → Bool) (l : List α) (h : Split p l) :
    l = l.filter p ++ l.filter (fun x => !p x) := by
  obtain ⟨A, B, rfl, hA, hB⟩ := h
  have h1 : A.filter p = A := List.filter_eq_self.2 hA
  have h2 : B.filter p = [] := List.filter_eq_nil_iff.2 (fun x hx => by simp [hB x hx])
  have h3 : A.filter (fun x => !p x) = [] := List.filter_eq_nil_iff.2 (fun x hx => by simp [hA x hx])
  have h4 : B.filter (fun x => !p x) = B := List.filter_eq_self.2 (fun x hx => by simp [hB x hx])
  simp only [List.filter_append, h1, h2, h3, h4, List.append_nil, List.nil_append]

/-- a cursor bumped at `f` reads one more at `f` and the same elsewhere -/
theorem getD_bump (ptr : List Nat) {f : Nat} (hf : f < ptr.length) (g : Nat) :
    (ptr.set f (ptr.getD f 0 + 1)).getD g 0 = ptr.getD g 0 + if f == g then 1 else 0 := by
  rw [List.getD_set]
  by_cases hg : f = g
  · subst hg; simp [hf]
  · simp [hg]

/-- the exact slot of every fetch: the cursor's initial value plus the number of EARLIER fetches
on the same face; the final cursors; nothing else depends on the order -/
theorem fetch_spec : ∀ (fs : List Nat) (ptr : List Nat), (∀ f ∈ fs, f < ptr.length) →
    (fetch ptr fs).1.length = ptr.length ∧
    (∀ f, (fetch ptr fs).1.getD f 0 = ptr.getD f 0 + fs.count f) ∧
    (fetch ptr fs).2.length = fs.length ∧
    (∀ k, k < fs.length →
      (fetch ptr fs).2.getD k 0 = ptr.getD (fs.getD k 0) 0 + (fs.take k).count (fs.getD k 0)) := by
  intro fs
  induction fs with
  | nil => intro ptr _; simp [fetch]
  | cons f fs ih =>
    intro ptr hlt
    have hf : f < ptr.length := hlt f (List.mem_cons_self ..)
    have ih' := ih (ptr.set f (ptr.getD f 0 + 1)) (fun g hg => by
      rw [List.length_set]; exact hlt g (List.mem_cons_of_mem _ hg))
    obtain ⟨a, b, c, d⟩ := ih'
    simp only [fetch]
    refine ⟨by rw [a, List.length_set], fun g => ?_, by rw [List.length_cons, List.length_cons, c], fun k hk => ?_⟩
    · rw [b g, getD_bump ptr hf, List.count_cons, Nat.add_right_comm, Nat.add_assoc]
    · cases k with
      | zero => simp
      | succ k =>
        rw [List.getD_cons_succ, List.getD_cons_succ, List.take_succ_cons, List.count_cons,
          d k (by simpa using hk), getD_bump ptr hf, Nat.add_right_comm, Nat.add_assoc]

theorem exSum_getD (xs : List Nat) : ∀ (init k : Nat), k ≤ xs.length →
    (exSum init xs).getD k 0 = init + (xs.take k).sum := by
  induction xs with
  | nil => intro init k hk; have : k = 0 := by simpa using hk
           subst this; simp [exSum]
  | cons x xs ih =>
    intro init k hk
    cases k with
    | zero => simp [exSum]
    | succ k =>
      simp only [exSum, List.getD_cons_succ, List.take_succ_cons, List.sum_cons]
      rw [ih (init + x) k (by simpa using hk)]; omega

theorem exSum_length (xs : List Nat) (init : Nat) : (exSum init xs).length = xs.length + 1 := by
  induction xs generalizing init with
  | nil => rfl
  | cons x xs ih => simp [exSum, ih]

theorem exSum_getD_succ (xs : List Nat) (init k : Nat) (hk : k < xs.length) :
    (exSum init xs).getD (k + 1) 0 = (exSum init xs).getD k 0 + xs.getD k 0 := by
  rw [exSum_getD xs init (k + 1) hk, exSum_getD xs init k (Nat.le_of_lt hk), sum_take_succ xs k hk,
    Nat.add_assoc]

theorem exSum_getD_mono (xs : List Nat) (init j k : Nat) (hjk : j ≤ k) (hk : k ≤ xs.length) :
    (exSum init xs).getD j 0 ≤ (exSum init xs).getD k 0 := by
  rw [exSum_getD xs init j (Nat.le_trans hjk hk), exSum_getD xs init k hk]
  exact Nat.add_le_add_left (sum_take_le xs j k hjk) init

end MV.BoolAsm
