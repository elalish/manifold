import MV.Proof.Sweep2Order
/-! MergeVerticals1D on one vertical line (C11 (d)). -/
namespace MV.Sweep2

def DSorted (d : List (Int × Int)) : Prop := d.Pairwise (fun a b => a.1 < b.1)

section
variable (P : Int → Prop) [DecidablePred P]

theorem deltaBump_eq_upsert (d : List (Int × Int)) (k v : Int) :
    deltaBump d k v = upsert (fun a b => decide (a < b)) v (fun c => some (c + v)) d k := by
  induction d with
  | nil => rfl
  | cons e rest ih =>
    obtain ⟨k', c⟩ := e
    rw [deltaBump, upsert, ih]
    simp only [decide_eq_true_eq]

theorem dsum_bump (d : List (Int × Int)) (k v : Int) :
    dsum P (deltaBump d k v) = dsum P d + (if P k then v else 0) := by
  rw [deltaBump_eq_upsert]
  exact dsum_upsert P intLt_order (fun _ => rfl) d k

end

theorem mem_deltaBump {d : List (Int × Int)} {k v : Int} {e : Int × Int} (h : e ∈ deltaBump d k v) :
    e.1 = k ∨ e ∈ d := by
  rw [deltaBump_eq_upsert] at h
  exact mem_upsert_key intLt_order h

theorem dsorted_bump {d : List (Int × Int)} (hs : DSorted d) (k v : Int) : DSorted (deltaBump d k v) := by
  rw [deltaBump_eq_upsert]
  exact (pairwise_upsert intLt_order k (hs.imp decide_eq_true)).imp of_decide_eq_true

/-- the fold of `deltaOf`, from any starting map -/
def deltaFold (d : List (Int × Int)) (segs : List (Int × Int × Int)) : List (Int × Int) :=
  segs.foldl (fun d s => deltaBump (deltaBump d s.1 s.2.2) s.2.1 (-s.2.2)) d

theorem deltaOf_eq (segs : List (Int × Int × Int)) : deltaOf segs = deltaFold [] segs := rfl

theorem dsum_fold (P : Int → Prop) [DecidablePred P] (d : List (Int × Int)) (segs : List (Int × Int × Int)) :
    dsum P (deltaFold d segs)
      = dsum P d + (segs.map fun s => (if P s.1 then s.2.2 else 0) - (if P s.2.1 then s.2.2 else 0)).sum := by
  induction segs generalizing d with
  | nil => simp [deltaFold]
  | cons s segs ih =>
    simp only [deltaFold, List.foldl_cons] at ih ⊢
    rw [ih, dsum_bump, dsum_bump, List.map_cons, List.sum_cons]
    by_cases h1 : P s.2.1 <;> simp only [h1, if_true, if_false] <;> omega

/-- every interval adds and removes its multiplicity: the deltas of `deltaOf` sum to zero -/
theorem dsum_true_deltaOf (segs : List (Int × Int × Int)) : dsum (fun _ => True) (deltaOf segs) = 0 := by
  rw [deltaOf_eq, dsum_fold]
  induction segs with
  | nil => rfl
  | cons s segs ih => rw [List.map_cons, List.sum_cons, if_pos trivial, Int.sub_self, Int.zero_add]; exact ih

theorem dsum_lt_deltaOf (segs : List (Int × Int × Int)) (hwf : ∀ s ∈ segs, s.1 < s.2.1) (y : Int)
    (hy : ∀ s ∈ segs, y ≠ s.1 ∧ y ≠ s.2.1) : dsum (· < y) (deltaOf segs) = cov segs y := by
  -- an interval contributes `+m` from its lower end on and `-m` from its upper end on
  have : ∀ s ∈ segs, ((if s.1 < y then s.2.2 else 0) - (if s.2.1 < y then s.2.2 else 0) : Int)
      = if s.1 < y ∧ y < s.2.1 then s.2.2 else 0 := by
    intro s hs
    have h1 := hwf s hs
    have h2 := hy s hs
    by_cases a : s.1 < y
    · by_cases b : s.2.1 < y
      · rw [if_pos a, if_pos b, if_neg (by omega), Int.sub_self]
      · rw [if_pos a, if_neg b, if_pos ⟨a, by omega⟩, Int.sub_zero]
    · rw [if_neg a, if_neg (by omega), if_neg (fun h => a h.1), Int.sub_zero]
  rw [deltaOf_eq, dsum_fold, List.map_congr_left this]
  exact Int.zero_add _

theorem cov_cons (s : Int × Int × Int) (l : List (Int × Int × Int)) (y : Int) :
    cov (s :: l) y = (if s.1 < y ∧ y < s.2.1 then s.2.2 else 0) + cov l y := by
  simp [cov]

theorem scan_cons (c : Int) (prev : Option Int) (k dk : Int) (rest : List (Int × Int)) :
    scan c prev ((k, dk) :: rest)
      = (match prev with
          | some p => if c ≠ 0 then [(p, k, c)] else []
          | none => []) ++ scan (c + dk) (some k) rest := by
  cases prev with
  | none => rw [scan]; rfl
  | some p => rw [scan]; split <;> rfl

/-- coverage of the intervals emitted by the scan loop when it ends with cover zero: the running cover above `prevY`,
    nothing below.  `have == false` (`prev = none`) only occurs with cover zero. -/
theorem cov_scan (d : List (Int × Int)) (c : Int) (prev : Option Int) (y : Int) (hs : DSorted d)
    (hp : ∀ p ∈ prev, ∀ e ∈ d, p < e.1) (hc : prev = none → c = 0)
    (hyd : ∀ e ∈ d, y ≠ e.1) (ht : c + dsum (fun _ => True) d = 0) :
    cov (scan c prev d) y = if ∀ p ∈ prev, p < y then c + dsum (· < y) d else 0 := by
  induction d generalizing c prev with
  | nil =>
    have : c = 0 := by simpa [dsum] using ht
    simp [scan, cov, dsum, this]
  | cons e rest ih =>
    obtain ⟨k, dk⟩ := e
    have hsp := List.pairwise_cons.mp hs
    have hyk : y ≠ k := hyd (k, dk) (by simp)
    rw [dsum_cons, if_pos trivial] at ht
    have ih' := ih (c + dk) (some k) hsp.2 (fun p hp => by cases hp; exact hsp.1) (fun h => nomatch h)
      (fun e he => hyd e (by simp [he])) (by omega)
    -- below `k` the later breakpoints contribute nothing
    have hz : ¬ k < y → dsum (· < y) rest = 0 := fun hky =>
      dsum_eq_zero _ fun e he => by have := hsp.1 e he; simp only at this; omega
    rw [scan_cons, dsum_cons]
    cases prev with
    | none =>
      rw [hc rfl] at ih' ⊢
      simp only [List.nil_append, ih', Option.mem_def, Option.some.injEq, forall_eq', reduceCtorEq, false_implies,
        implies_true, if_true]
      split
      · omega
      · rw [hz ‹_›]; omega
    | some p =>
      have hpk : p < k := hp p rfl (k, dk) (by simp)
      simp only [Option.mem_def, Option.some.injEq, forall_eq'] at ih' ⊢
      have : cov ((if c ≠ 0 then [(p, k, c)] else []) ++ scan (c + dk) (some k) rest) y
          = (if p < y ∧ y < k then c else 0) + cov (scan (c + dk) (some k) rest) y := by
        by_cases h0 : c ≠ 0
        · rw [if_pos h0]; exact cov_cons _ _ _
        · rw [if_neg h0, Decidable.not_not.mp h0]; simp
      rw [this, ih']
      by_cases hky : k < y
      · have hpy : p < y := by omega
        have : ¬ y < k := by omega
        simp only [hky, hpy, this, and_false, if_false, if_true]; omega
      · have : y < k := by omega
        simp only [hky, this, and_true, if_false, hz hky]
        split <;> omega

/-- intervals emitted by the scan start at `prevY` (only with a non-zero cover on entry) or a later breakpoint, end at a
    breakpoint, are non-degenerate and non-zero, and each ends where or before the next starts -/
theorem scan_shape (d : List (Int × Int)) (c : Int) (prev : Option Int) (hs : DSorted d)
    (hp : ∀ p ∈ prev, ∀ e ∈ d, p < e.1) :
    (∀ s ∈ scan c prev d, (∀ p ∈ prev, p ≤ s.1) ∧ (s.1 ∈ prev ∨ ∃ e ∈ d, s.1 = e.1) ∧ s.1 < s.2.1 ∧ s.2.2 ≠ 0
        ∧ ∃ e ∈ d, s.2.1 = e.1)
      ∧ (scan c prev d).Pairwise (fun a b => a.2.1 ≤ b.1) := by
  induction d generalizing c prev with
  | nil => simp [scan]
  | cons e rest ih =>
    obtain ⟨k, dk⟩ := e
    have hsp := List.pairwise_cons.mp hs
    obtain ⟨ih1, ih2⟩ := ih (c + dk) (some k) hsp.2 (fun p hp => by cases hp; exact hsp.1)
    have hrest : ∀ s ∈ scan (c + dk) (some k) rest,
        (∀ p ∈ prev, p ≤ s.1) ∧ (s.1 ∈ prev ∨ ∃ e ∈ (k, dk) :: rest, s.1 = e.1) ∧ s.1 < s.2.1 ∧ s.2.2 ≠ 0
          ∧ ∃ e ∈ (k, dk) :: rest, s.2.1 = e.1 := by
      intro s hs'
      obtain ⟨h1, h0, h2, h3, e, he, h4⟩ := ih1 s hs'
      have hk : k ≤ s.1 := h1 k rfl
      refine ⟨fun p hpp => by have := hp p hpp (k, dk) (by simp); simp only at this; omega, .inr ?_, h2, h3, e,
        by simp [he], h4⟩
      rcases h0 with h0 | ⟨e0, he0, h0⟩
      · exact ⟨(k, dk), by simp, (Option.some.inj h0).symm⟩
      · exact ⟨e0, by simp [he0], h0⟩
    rw [scan_cons]
    cases prev with
    | none => exact ⟨hrest, ih2⟩
    | some p =>
      dsimp only
      by_cases hc : c ≠ 0
      · rw [if_pos hc]
        refine ⟨fun s hs' => ?_, List.pairwise_cons.mpr ⟨fun s hs' => (ih1 s hs').1 k rfl, ih2⟩⟩
        rcases List.mem_cons.mp hs' with rfl | hs'
        · exact ⟨fun q hq => by cases hq; exact Int.le_refl _, .inl rfl, hp p rfl (k, dk) (by simp), hc, (k, dk),
            by simp, rfl⟩
        · exact hrest s hs'
      · rw [if_neg hc]
        exact ⟨hrest, ih2⟩

theorem dsorted_deltaOf (segs : List (Int × Int × Int)) : DSorted (deltaOf segs) :=
  List.foldlRecOn segs _ List.Pairwise.nil fun _ h _ _ => dsorted_bump (dsorted_bump h _ _) _ _

/-- every breakpoint is an end of an input interval -/
theorem keys_deltaOf (segs : List (Int × Int × Int)) :
    ∀ e ∈ deltaOf segs, ∃ t ∈ segs, e.1 = t.1 ∨ e.1 = t.2.1 := by
  refine List.foldlRecOn (motive := fun d : List (Int × Int) => ∀ e ∈ d, ∃ t ∈ segs, e.1 = t.1 ∨ e.1 = t.2.1) segs _
    (fun _ h => absurd h List.not_mem_nil) fun d ih s hs e he => ?_
  rcases mem_deltaBump he with h | he
  · exact ⟨s, hs, .inr h⟩
  · rcases mem_deltaBump he with h | he
    · exact ⟨s, hs, .inl h⟩
    · exact ih e he

end MV.Sweep2
