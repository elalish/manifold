import MV.Proof.PartitionCheck
import Mathlib.Algebra.Order.Field.Rat
import Mathlib.Data.Nat.Cast.Field
import Mathlib.Tactic.FieldSimp
import Mathlib.Tactic.Ring
/-!
The geometric half of the pattern checker in natural numbers, for evaluation by the kernel.

Every barycentric coordinate of a pattern is a rational whose denominator divides the product `D`
of the denominators of all `lerp` recipes (a `lerp` multiplies the common denominator of its two
arguments by its own).  So the recipes can be replayed on the numerators over `D`: a corner is
`D · eᵢ`, a `lerp` is `(a (den - num) + b num) / den` with an exact division — exactness is checked,
not proved.  `checkGeomN` then states the clauses of `checkGeom` on the numerators, signed areas as
a positive and a negative part, and `checkGeomN_sound` shows that it implies `GeomValid`; since `checkGeom`
decides `GeomValid`, the model's checker accepts whatever this one accepts (`checkCached_of_N`).
-/
namespace MV.Partition

/-- numerators of a barycentric vector over the common denominator -/
structure NV where
  x : Nat
  y : Nat
  z : Nat
  w : Nat
deriving DecidableEq

def NV.toRat (D : Nat) (v : NV) : V4 Rat := ⟨v.x / D, v.y / D, v.z / D, v.w / D⟩

def zeroN : NV := ⟨0, 0, 0, 0⟩

def cornerN (D c : Nat) : NV :=
  ⟨if c == 0 then D else 0, if c == 1 then D else 0, if c == 2 then D else 0, if c == 3 then D else 0⟩

def lerp1 (a b num den : Nat) : Nat := (a * (den - num) + b * num) / den

def exact1 (a b num den : Nat) : Bool := Nat.beq ((a * (den - num) + b * num) % den) 0

def lerpN (a b : NV) (num den : Nat) : NV :=
  ⟨lerp1 a.x b.x num den, lerp1 a.y b.y num den, lerp1 a.z b.z num den, lerp1 a.w b.w num den⟩

/-- `0 < den`, `num ≤ den` and the four divisions of `lerpN` are exact -/
def exactN (a b : NV) (num den : Nat) : Bool :=
  Nat.blt 0 den && Nat.ble num den && exact1 a.x b.x num den && exact1 a.y b.y num den && exact1 a.z b.z num den &&
  exact1 a.w b.w num den

def denProd (recs : List Recipe) : Nat :=
  recs.foldl (fun D r => match r with | Recipe.lerp _ _ _ den => D * den | _ => D) 1

/-- one recipe of `evalBaryRev` on numerators; the flag stays `true` while every division is exact -/
def stepN (D : Nat) (st : List NV × Nat × Bool) (r : Recipe) : List NV × Nat × Bool :=
  match r with
  | Recipe.corner c => (cornerN D c :: st.1, st.2.1 + 1, st.2.2)
  | Recipe.lerp a b num den =>
    let va := st.1.getD (st.2.1 - 1 - a) zeroN
    let vb := st.1.getD (st.2.1 - 1 - b) zeroN
    (lerpN va vb num den :: st.1, st.2.1 + 1, st.2.2 && exactN va vb num den)

def planarN (quad : Bool) (v : NV) : Nat × Nat := if quad then (v.y + v.z, v.z + v.w) else (v.y, v.z)

/-- the positive and the negative terms of `cross2` -/
def crossPos (p q r : Nat × Nat) : Nat := q.1 * r.2 + p.1 * q.2 + r.1 * p.2
def crossNeg (p q r : Nat × Nat) : Nat := q.1 * p.2 + p.1 * r.2 + r.1 * q.2

/-- the positive and the negative part of `D² · triArea2` -/
def areaPos (quad : Bool) (L : List NV) (t : Tri) : Nat :=
  crossPos (planarN quad (L.getD t.1.toNat zeroN)) (planarN quad (L.getD t.2.1.toNat zeroN))
    (planarN quad (L.getD t.2.2.toNat zeroN))
def areaNeg (quad : Bool) (L : List NV) (t : Tri) : Nat :=
  crossNeg (planarN quad (L.getD t.1.toNat zeroN)) (planarN quad (L.getD t.2.1.toNat zeroN))
    (planarN quad (L.getD t.2.2.toNat zeroN))

def checkGeomN (n : I4) (nV : Nat) (ts : List Tri) (recs : List Recipe) : Bool :=
  let D := denProd recs
  let st := recs.foldl (stepN D) ([], 0, true)
  let L := st.1.reverse
  let quad := decide (n.d > 0)
  let k := numCorners n
  let pos := ts.map (areaPos quad L)
  let neg := ts.map (areaNeg quad L)
  st.2.2 && Nat.blt 0 D && Nat.beq L.length nV &&
  L.all (fun v => Nat.beq (v.x + v.y + v.z + v.w) D) &&
  ((List.range k).all fun i =>
    decide (L.getD i zeroN = cornerN D i) &&
    (List.range ((n.get i).toNat - 1)).all fun j =>
      exactN (cornerN D i) (cornerN D ((i + 1) % k)) (j + 1) (n.get i).toNat &&
      decide (L.getD (canonEdgeOffset n i + Int.ofNat j).toNat zeroN =
        lerpN (cornerN D i) (cornerN D ((i + 1) % k)) (j + 1) (n.get i).toNat)) &&
  (List.zip pos neg).all (fun a => Nat.blt a.2 a.1) &&
  Nat.beq pos.sum (neg.sum + (if quad then 2 else 1) * D * D)

theorem NV.toRat_zeroN (D : Nat) : zeroN.toRat D = zero4 := by
  simp [NV.toRat, zeroN, zero4]

theorem NV.toRat_cornerN {D : Nat} (hD : D ≠ 0) (c : Nat) : (cornerN D c).toRat D = unit4 c := by
  have hD' : (D : ℚ) ≠ 0 := Nat.cast_ne_zero.mpr hD
  have h : ∀ b : Bool, ((if b then D else 0 : Nat) : ℚ) / D = BScalar.ofNat (if b then 1 else 0) := by
    intro b; cases b <;> simp [BScalar.ofNat, hD']
  simp only [NV.toRat, cornerN, unit4, h]

theorem lerp1_cast (a b num den D : Nat) (hd : den ≠ 0) (hle : num ≤ den)
    (hex : exact1 a b num den = true) :
    ((lerp1 a b num den : Nat) : ℚ) / D = (a / D : ℚ) * (1 - num / den) + (b / D : ℚ) * (num / den) := by
  have hd' : (den : ℚ) ≠ 0 := Nat.cast_ne_zero.mpr hd
  have hdvd : den ∣ a * (den - num) + b * num := Nat.dvd_of_mod_eq_zero (Nat.eq_of_beq_eq_true hex)
  rw [lerp1, Nat.cast_div hdvd hd']
  push_cast [Nat.cast_sub hle]
  field_simp

theorem NV.toRat_lerpN (D : Nat) (a b : NV) (num den : Nat) (h : exactN a b num den = true) :
    (lerpN a b num den).toRat D =
      lerp4 (a.toRat D) (b.toRat D) (BScalar.div (BScalar.ofNat num) (BScalar.ofNat den)) := by
  simp only [exactN, Bool.and_eq_true, Nat.blt_eq, Nat.ble_eq] at h
  obtain ⟨⟨⟨⟨⟨h0, hle⟩, hx⟩, hy⟩, hz⟩, hw⟩ := h
  have hd : den ≠ 0 := by omega
  simp only [NV.toRat, lerpN, lerp4, BScalar.add, BScalar.sub, BScalar.mul, BScalar.div, BScalar.ofNat, Nat.cast_one,
    lerp1_cast _ _ _ _ D hd hle hx, lerp1_cast _ _ _ _ D hd hle hy, lerp1_cast _ _ _ _ D hd hle hz,
    lerp1_cast _ _ _ _ D hd hle hw]

theorem getD_map {α β : Type} (f : α → β) (l : List α) (i : Nat) (d : α) : (l.map f).getD i (f d) = f (l.getD i d) := by
  simp only [List.getD_eq_getElem?_getD, List.getElem?_map]
  cases l[i]? <;> rfl

/-- the step of `evalBaryRev` -/
def baryStep (st : List (V4 Rat) × Nat) (r : Recipe) : List (V4 Rat) × Nat :=
  ((match r with
    | Recipe.corner c => unit4 c
    | Recipe.lerp a b num den =>
      lerp4 (st.1.getD (st.2 - 1 - a) ⟨BScalar.ofNat 0, BScalar.ofNat 0, BScalar.ofNat 0, BScalar.ofNat 0⟩)
        (st.1.getD (st.2 - 1 - b) ⟨BScalar.ofNat 0, BScalar.ofNat 0, BScalar.ofNat 0, BScalar.ofNat 0⟩)
        (BScalar.div (BScalar.ofNat num) (BScalar.ofNat den))) :: st.1, st.2 + 1)

theorem evalBaryRev_eq_foldl (recs : List Recipe) :
    evalBaryRev (α := Rat) recs = (recs.foldl baryStep ([], 0)).1 := rfl

theorem baryStep_stepN {D : Nat} (hD : D ≠ 0) (st : List NV × Nat × Bool) (r : Recipe) (h : (stepN D st r).2.2 = true) :
    baryStep (st.1.map (NV.toRat D), st.2.1) r = ((stepN D st r).1.map (NV.toRat D), (stepN D st r).2.1) := by
  have hz : (⟨BScalar.ofNat 0, BScalar.ofNat 0, BScalar.ofNat 0, BScalar.ofNat 0⟩ : V4 Rat) = zeroN.toRat D := by
    simp [NV.toRat, zeroN, BScalar.ofNat]
  cases r with
  | corner c => simp only [baryStep, stepN, List.map_cons, NV.toRat_cornerN hD]
  | lerp a b num den =>
    simp only [stepN, Bool.and_eq_true] at h
    simp only [baryStep, stepN, List.map_cons, hz, getD_map, NV.toRat_lerpN D _ _ _ _ h.2]

theorem foldl_stepN {D : Nat} (hD : D ≠ 0) (recs : List Recipe) (st : List NV × Nat × Bool)
    (h : (recs.foldl (stepN D) st).2.2 = true) :
    st.2.2 = true ∧ recs.foldl baryStep (st.1.map (NV.toRat D), st.2.1) =
      ((recs.foldl (stepN D) st).1.map (NV.toRat D), (recs.foldl (stepN D) st).2.1) := by
  induction recs generalizing st with
  | nil => exact ⟨h, rfl⟩
  | cons r rs ih =>
    obtain ⟨h1, h2⟩ := ih (stepN D st r) h
    refine ⟨?_, ?_⟩
    · cases r <;> simp only [stepN, Bool.and_eq_true] at h1
      · exact h1
      · exact h1.1
    · rw [List.foldl_cons, List.foldl_cons, baryStep_stepN hD st r h1, h2]

/-- the numerators over `D` replay the recipes -/
theorem evalBary_eq {D : Nat} (hD : D ≠ 0) (recs : List Recipe)
    (h : (recs.foldl (stepN D) ([], 0, true)).2.2 = true) :
    evalBary (α := Rat) recs = (recs.foldl (stepN D) ([], 0, true)).1.reverse.map (NV.toRat D) := by
  rw [evalBary, evalBaryRev_eq_foldl, List.map_reverse]
  exact congrArg (fun x => x.1.reverse) (foldl_stepN hD recs ([], 0, true) h).2

theorem triArea2_toRat {D : Nat} (hD : D ≠ 0) (quad : Bool) (L : List NV) (t : Tri) :
    triArea2 quad (L.map (NV.toRat D)) t =
      ((areaPos quad L t : ℚ) - areaNeg quad L t) / (D * D) := by
  have hD' : (D : ℚ) ≠ 0 := Nat.cast_ne_zero.mpr hD
  have hp : ∀ v : NV, planar quad (v.toRat D) = (((planarN quad v).1 : ℚ) / D, ((planarN quad v).2 : ℚ) / D) := by
    intro v
    cases quad <;> simp [planar, planarN, NV.toRat, add_div]
  simp only [triArea2, ← NV.toRat_zeroN D, getD_map, hp, cross2, areaPos, areaNeg, crossPos, crossNeg]
  push_cast
  field_simp
  ring

theorem sum_triArea2 {D : Nat} (hD : D ≠ 0) (quad : Bool) (L : List NV) (ts : List Tri) (a : ℚ) :
    (ts.map (triArea2 quad (L.map (NV.toRat D)))).foldl (· + ·) a =
      a + (((ts.map (areaPos quad L)).sum : ℚ) - (ts.map (areaNeg quad L)).sum) / (D * D) := by
  induction ts generalizing a with
  | nil => simp
  | cons t ts ih =>
    rw [List.map_cons, List.foldl_cons, ih, triArea2_toRat hD]
    simp only [List.map_cons, List.sum_cons]
    push_cast
    ring

theorem checkGeomN_sound (n : I4) (nV : Nat) (ts : List Tri) (recs : List Recipe)
    (h : checkGeomN n nV ts recs = true) : GeomValid n nV ts (evalBary (α := Rat) recs) := by
  unfold checkGeomN at h
  simp only [Bool.and_eq_true, Nat.blt_eq, List.zip_map', List.all_map] at h
  obtain ⟨⟨⟨⟨⟨⟨hok, hD⟩, hlen⟩, hconv⟩, hbd⟩, hpos⟩, hsum⟩ := h
  have hD0 : denProd recs ≠ 0 := by omega
  rw [evalBary_eq hD0 recs hok]
  generalize (recs.foldl (stepN (denProd recs)) ([], 0, true)).1.reverse = L at *
  generalize denProd recs = D at *
  have hD' : (D : ℚ) ≠ 0 := Nat.cast_ne_zero.mpr hD0
  have hbd' := fun i hi => List.all_eq_true.mp hbd i (List.mem_range.2 hi)
  simp only [Bool.and_eq_true, decide_eq_true_eq, List.all_eq_true, List.mem_range] at hbd'
  refine { len := by rw [List.length_map, Nat.eq_of_beq_eq_true hlen], convex := ?_, corners := ?_, edgePts := ?_, oriented := ?_, areaSum := ?_ }
  · intro b hb
    obtain ⟨v, hv, rfl⟩ := List.mem_map.1 hb
    have hs : ((v.x : ℚ) + v.y + v.z + v.w) = D := by
      exact_mod_cast Nat.eq_of_beq_eq_true (List.all_eq_true.mp hconv v hv)
    have h0 : ∀ a : Nat, (0 : ℚ) ≤ a / D := fun a => div_nonneg (Nat.cast_nonneg a) (Nat.cast_nonneg D)
    refine ⟨h0 _, h0 _, h0 _, h0 _, ?_⟩
    show (v.x : ℚ) / D + v.y / D + v.z / D + v.w / D = 1
    rw [← add_div, ← add_div, ← add_div, hs, div_self hD']
  · intro i hi
    rw [← NV.toRat_zeroN D, getD_map, (hbd' i hi).1, NV.toRat_cornerN hD0]
  · intro i hi j hj
    obtain ⟨hex, he⟩ := (hbd' i hi).2 j hj
    rw [← NV.toRat_zeroN D, getD_map, he, NV.toRat_lerpN D _ _ _ _ hex, NV.toRat_cornerN hD0, NV.toRat_cornerN hD0]
    simp only [lerp4, edgePoint, BScalar.add, BScalar.sub, BScalar.mul, BScalar.div, BScalar.ofNat, Nat.cast_one]
  · intro t ht
    rw [triArea2_toRat hD0]
    have := List.all_eq_true.mp hpos t ht
    simp only [Function.comp, Nat.blt_eq] at this
    exact div_pos (sub_pos.2 (Nat.cast_lt.2 this)) (mul_pos (Nat.cast_pos.2 hD) (Nat.cast_pos.2 hD))
  · rw [sum_triArea2 hD0, zero_add, Nat.eq_of_beq_eq_true hsum]
    push_cast
    rw [add_sub_cancel_left, mul_assoc, mul_div_assoc, div_self (mul_ne_zero hD' hD'), mul_one]
    simp only [decide_eq_true_eq]

def checkCachedN (n : I4) : Bool :=
  (getCachedPartition Dec.exact n).ok &&
  checkTopo (getCachedPartition Dec.exact n).sorted (getCachedPartition Dec.exact n).nV (getCachedPartition Dec.exact n).tris &&
  checkGeomN (getCachedPartition Dec.exact n).sorted (getCachedPartition Dec.exact n).nV (getCachedPartition Dec.exact n).tris
    (getCachedPartition Dec.exact n).recs

/-- what the checker on numerators accepts, the model's own checker accepts -/
theorem checkCached_of_N {n : I4} (h : checkCachedN n = true) : checkCached n = true := by
  simp only [checkCachedN, Bool.and_eq_true] at h
  simp only [checkCached, checkPart, Bool.and_eq_true]
  exact ⟨h.1, checkGeom_complete (checkGeomN_sound _ _ _ _ h.2)⟩

theorem all_checkCached {l : List I4} (h : l.all checkCachedN = true) : l.all checkCached = true :=
  List.all_eq_true.2 fun n hn => checkCached_of_N (List.all_eq_true.1 h n hn)

end MV.Partition
