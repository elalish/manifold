/-
Soundness of the vector-clock happens-before monitor `hbAccept` (property C06): a trace it
accepts is race free in the sense of `MV/Proof/SyncSpec.lean`.

The invariant `Inv n tr s` relates the monitor state after `s.k` events of the full trace `tr` to the
relation `HB tr`: every clock entry is backed by a happens-before path (`Cov`), every access so far is in
the tables (`Logged`).  Under it an accepted event comes after every earlier one it conflicts with, which
is what `raceFree_of_monitor` asks for.
-/
import MV.Proof.SyncSpec

namespace MV.Sync

theorem vget_nil (t : Nat) : vget [] t = 0 := by simp [vget]

theorem vget_vtab (n : Nat) (f : Nat → Nat) (t : Nat) :
    vget (vtab n f) t = if t < n then f t else 0 := by
  unfold vget vtab
  by_cases h : t < n
  · simp [h, List.getD_eq_getElem?_getD]
  · simp [h, List.getD_eq_getElem?_getD]

theorem vget_vjoin (n : Nat) (a b : VC) (t : Nat) :
    vget (vjoin n a b) t = if t < n then max (vget a t) (vget b t) else 0 :=
  vget_vtab _ _ _

theorem vget_vset (n : Nat) (a : VC) (t c u : Nat) :
    vget (vset n a t c) u = if u < n then (if u = t then c else vget a u) else 0 :=
  vget_vtab _ _ _

theorem vle_iff (n : Nat) (a b : VC) :
    vle n a b = true ↔ ∀ t, t < n → vget a t ≤ vget b t := by
  simp [vle, List.all_eq_true]

theorem vget_tick_self {n : Nat} (s : HbSt) {t : Nat} (hn : t < n) :
    vget (tick n s t) t = s.k + 1 := by
  unfold tick
  rw [vget_vset, if_pos hn, if_pos rfl]

/-- reflexive closure of happens-before -/
def HBe (tr : List Ev) (i j : Nat) : Prop := i = j ∨ HB tr i j

theorem HBe.trans_hb {tr : List Ev} {i j k : Nat} (h1 : HBe tr i j) (h2 : HB tr j k) :
    HB tr i k := by
  rcases h1 with rfl | h1
  · exact h2
  · exact HB.trans h1 h2

/-- among the first `k` events, thread `t` has one at or after (in happens-before) position `i` -/
def Knows (tr : List Ev) (k t i : Nat) : Prop :=
  ∃ j b, j < k ∧ tr[j]? = some b ∧ b.tid = t ∧ HBe tr i j

theorem Knows.mono {tr : List Ev} {k t i : Nat} (h : Knows tr k t i) : Knows tr (k + 1) t i := by
  obtain ⟨j, b, hj, hb, ht, hh⟩ := h
  exact ⟨j, b, Nat.lt_succ_of_lt hj, hb, ht, hh⟩

/-- Every entry of the clock `v` is backed by `P`: an event of thread `u` at a position below `vget v u`
satisfies `P`. -/
def Cov (tr : List Ev) (v : VC) (P : Nat → Prop) : Prop :=
  ∀ u i a, i < vget v u → tr[i]? = some a → a.tid = u → P i

section cov
variable {tr : List Ev} {n : Nat} {a b : VC} {P Q : Nat → Prop}

theorem Cov.nil : Cov tr [] P := fun u i _ hi => by rw [vget_nil] at hi; cases hi

theorem Cov.mono (h : Cov tr a P) (hPQ : ∀ i, P i → Q i) : Cov tr a Q :=
  fun u i e hi he hu => hPQ i (h u i e hi he hu)

theorem Cov.vjoin (ha : Cov tr a P) (hb : Cov tr b P) : Cov tr (vjoin n a b) P := by
  intro u i e hi he hu
  rw [vget_vjoin] at hi
  have : i < vget a u ∨ i < vget b u := by split at hi <;> omega
  exact this.elim (ha u i e · he hu) (hb u i e · he hu)

/-- entry `t` set to `c`: the events of `t` below `c` have to be accounted for -/
theorem Cov.vset {t c : Nat} (ha : Cov tr a P)
    (hc : ∀ i e, i < c → tr[i]? = some e → e.tid = t → P i) : Cov tr (vset n a t c) P := by
  intro u i e hi he hu
  rw [vget_vset] at hi
  by_cases hun : u < n
  · rw [if_pos hun] at hi
    by_cases hut : u = t
    · rw [if_pos hut] at hi; exact hc i e hi he (hu.trans hut)
    · rw [if_neg hut] at hi; exact ha u i e hi he hu
  · rw [if_neg hun] at hi; cases hi

end cov

/-- position `i` is at or before (in happens-before) a release of lock `l` among the first `k` events -/
def Released (tr : List Ev) (k l i : Nat) : Prop :=
  ∃ r t', r < k ∧ tr[r]? = some (.rel t' l) ∧ HBe tr i r

/-- the table `tab` (of last writes: `w = true`, of last reads: `w = false`) covers every such access among
the first `k` events -/
def Logged (tr : List Ev) (k : Nat) (w : Bool) (tab : AMap VC) : Prop :=
  ∀ i a x, i < k → tr[i]? = some a → a.access = some (x, w) → i < vget (tab.getD x []) a.tid

/-- What the monitor state `s` means after `s.k` events of the trace `tr`. -/
structure Inv (n : Nat) (tr : List Ev) (s : HbSt) : Prop where
  c : ∀ t, Cov tr (s.C.getD t []) (Knows tr s.k t)
  l : ∀ l, Cov tr (s.L.getD l []) (Released tr s.k l)
  w : Logged tr s.k true s.W
  r : Logged tr s.k false s.R
  tid : ∀ i a, i < s.k → tr[i]? = some a → a.tid < n

theorem inv_init (n : Nat) (tr : List Ev) : Inv n tr {} :=
  ⟨fun _ => Cov.nil, fun _ => Cov.nil, fun _ _ _ hi => absurd hi (Nat.not_lt_zero _),
    fun _ _ _ hi => absurd hi (Nat.not_lt_zero _), fun _ _ hi => absurd hi (Nat.not_lt_zero _)⟩

section step
variable {n : Nat} {tr : List Ev} {s : HbSt}

/-- the events of the current thread up to the current one -/
theorem self_knows {e : Ev} (he : tr[s.k]? = some e) (i : Nat) (a : Ev) (hi : i < s.k + 1)
    (ha : tr[i]? = some a) (hu : a.tid = e.tid) : HBe tr i s.k := by
  by_cases hik : i = s.k
  · exact Or.inl hik
  · exact Or.inr (HB.po (by omega) ha he hu)

/-- everything in the ticked clock of the thread of event `s.k` happens before (or is) `s.k` -/
theorem tick_knows {e : Ev} (hI : Inv n tr s) (he : tr[s.k]? = some e) :
    Cov tr (tick n s e.tid) (HBe tr · s.k) :=
  Cov.vset ((hI.c e.tid).mono fun _ ⟨_, _, hj, hb, hbt, hij⟩ =>
    Or.inr (hij.trans_hb (HB.po hj hb he hbt))) (self_knows he)

/-- the same for the clock after an acquire -/
theorem acq_knows {t l m : Nat} (hI : Inv n tr s) (he : tr[s.k]? = some (.acq t l m)) :
    Cov tr (vset n (vjoin n (tick n s t) (s.L.getD l [])) t (s.k + 1)) (HBe tr · s.k) :=
  Cov.vset ((tick_knows hI he).vjoin ((hI.l l).mono fun _ ⟨_, _, hr, hrel, hir⟩ =>
    Or.inr (hir.trans_hb (HB.sync hr hrel he)))) (self_knows he)

theorem c_step {e : Ev} (hI : Inv n tr s) (he : tr[s.k]? = some e) {c' : VC}
    (hc : Cov tr c' (HBe tr · s.k)) (t : Nat) :
    Cov tr ((s.C.set e.tid c').getD t []) (Knows tr (s.k + 1) t) := by
  rw [AMap.getD_set]
  by_cases ht : t = e.tid
  · rw [if_pos ht]
    exact hc.mono fun i hi => ⟨s.k, e, Nat.lt_succ_self _, he, ht.symm, hi⟩
  · rw [if_neg ht]
    exact (hI.c t).mono fun _ => Knows.mono

theorem Released.mono {k l i : Nat} : Released tr k l i → Released tr (k + 1) l i :=
  fun ⟨r, t', hr, h1, h2⟩ => ⟨r, t', Nat.lt_succ_of_lt hr, h1, h2⟩

theorem l_keep (hI : Inv n tr s) (l : Nat) : Cov tr (s.L.getD l []) (Released tr (s.k + 1) l) :=
  (hI.l l).mono fun _ => Released.mono

theorem l_rel {t l : Nat} (hI : Inv n tr s) (he : tr[s.k]? = some (.rel t l)) (l' : Nat) :
    Cov tr ((s.L.set l (vjoin n (s.L.getD l []) (tick n s t))).getD l' []) (Released tr (s.k + 1) l') := by
  rw [AMap.getD_set]
  by_cases hl : l' = l
  · rw [if_pos hl, hl]
    exact (l_keep hI l).vjoin ((tick_knows hI he).mono fun i hi => ⟨s.k, t, Nat.lt_succ_self _, he, hi⟩)
  · rw [if_neg hl]; exact l_keep hI l'

/-- an event of another kind leaves the table covering every access so far -/
theorem Logged.keep {e : Ev} {w : Bool} {tab : AMap VC} (h : Logged tr s.k w tab)
    (he : tr[s.k]? = some e) (hne : ∀ x, e.access ≠ some (x, w)) : Logged tr (s.k + 1) w tab := by
  intro i a x hi ha hx
  by_cases hik : i = s.k
  · rw [hik, he] at ha
    cases ha
    exact absurd hx (hne x)
  · exact h i a x (by omega) ha hx

/-- an access by `e.tid` to `x` enters the table at `(x, e.tid)` -/
theorem Logged.set {e : Ev} {w : Bool} {tab : AMap VC} (h : Logged tr s.k w tab) (hI : Inv n tr s)
    (he : tr[s.k]? = some e) {x : Nat} (hx : e.access = some (x, w)) (hn : e.tid < n) :
    Logged tr (s.k + 1) w (tab.set x (vset n (tab.getD x []) e.tid (s.k + 1))) := by
  intro i a x' hi ha hx'
  rw [AMap.getD_set]
  by_cases hik : i = s.k
  · rw [hik, he] at ha
    cases ha
    cases hx.symm.trans hx'
    rw [if_pos rfl, vget_vset, if_pos hn, if_pos rfl]
    omega
  · have hik' : i < s.k := by omega
    by_cases hxx : x' = x
    · rw [if_pos hxx, vget_vset, if_pos (hI.tid i a hik' ha)]
      by_cases hut : a.tid = e.tid
      · rw [if_pos hut]; omega
      · rw [if_neg hut, ← hxx]; exact h i a x' hik' ha hx'
    · rw [if_neg hxx]; exact h i a x' hik' ha hx'

/-- an earlier access that the checked clock covers happens before the current event -/
theorem Logged.covered {w : Bool} {tab : AMap VC} (h : Logged tr s.k w tab) (hI : Inv n tr s)
    {e : Ev} {x : Nat} (he : tr[s.k]? = some e)
    (hle : vle n (tab.getD x []) (tick n s e.tid) = true)
    {i : Nat} {a : Ev} (hi : i < s.k) (ha : tr[i]? = some a) (hx : a.access = some (x, w)) :
    HB tr i s.k := by
  have h4 := h i a x hi ha hx
  have h5 := (vle_iff _ _ _).1 hle a.tid (hI.tid i a hi ha)
  rcases tick_knows hI he a.tid i a (by omega) ha rfl with h | h
  · omega
  · exact h

theorem tid_step {e : Ev} (hI : Inv n tr s) (he : tr[s.k]? = some e) (hn : e.tid < n) :
    ∀ i a, i < s.k + 1 → tr[i]? = some a → a.tid < n := by
  intro i a hi ha
  by_cases hik : i = s.k
  · rw [hik, he] at ha
    cases ha
    exact hn
  · exact hI.tid i a (by omega) ha

/-- One accepted step of the monitor preserves the invariant, and the event it reads comes after every
earlier one it conflicts with. -/
theorem inv_step {e : Ev} {s' : HbSt} (hI : Inv n tr s) (he : tr[s.k]? = some e)
    (hs : hbStep n s e = some s') :
    (Inv n tr s' ∧ s'.k = s.k + 1) ∧
      ∀ i a, i < s.k → tr[i]? = some a → Conflict a e → HB tr i s.k := by
  unfold hbStep at hs
  by_cases hn : e.tid < n
  case neg => rw [if_neg hn] at hs; cases hs
  rw [if_pos hn] at hs
  have none : e.access = none → ∀ i a, i < s.k → tr[i]? = some a → Conflict a e → HB tr i s.k :=
    fun h _ _ _ _ ⟨_, _, _, _, _, h2, _⟩ => by rw [h] at h2; cases h2
  cases e with
  | acq t l m =>
    cases hs
    exact ⟨⟨{ c := c_step hI he (acq_knows hI he), l := l_keep hI, w := hI.w.keep he (fun _ => nofun),
              r := hI.r.keep he (fun _ => nofun), tid := tid_step hI he hn }, rfl⟩, none rfl⟩
  | rel t l =>
    cases hs
    exact ⟨⟨{ c := c_step hI he (tick_knows hI he), l := l_rel hI he, w := hI.w.keep he (fun _ => nofun),
              r := hI.r.keep he (fun _ => nofun), tid := tid_step hI he hn }, rfl⟩, none rfl⟩
  | rd t x g =>
    dsimp only at hs
    split at hs
    case isFalse => cases hs
    rename_i hle
    cases hs
    refine ⟨⟨{ c := c_step hI he (tick_knows hI he), l := l_keep hI, w := hI.w.keep he (fun _ => nofun),
               r := hI.r.set hI he rfl hn,
               tid := tid_step hI he hn }, rfl⟩, fun i a hi ha hc => ?_⟩
    obtain ⟨_, x', wa, _, h1, h2, h3⟩ := hc
    cases h2
    cases h3.resolve_right nofun
    exact hI.w.covered hI he hle hi ha h1
  | wr t x g =>
    dsimp only at hs
    split at hs
    case isFalse => cases hs
    rename_i hle
    simp only [Bool.and_eq_true] at hle
    cases hs
    refine ⟨⟨{ c := c_step hI he (tick_knows hI he), l := l_keep hI,
               w := hI.w.set hI he rfl hn,
               r := hI.r.keep he (fun _ => nofun), tid := tid_step hI he hn }, rfl⟩, fun i a hi ha hc => ?_⟩
    obtain ⟨_, x', wa, _, h1, h2, _⟩ := hc
    cases h2
    cases wa
    · exact hI.r.covered hI he hle.2 hi ha h1
    · exact hI.w.covered hI he hle.1 hi ha h1
  | fadd t o m =>
    cases hs
    exact ⟨⟨{ c := c_step hI he (tick_knows hI he), l := l_keep hI, w := hI.w.keep he (fun _ => nofun),
              r := hI.r.keep he (fun _ => nofun), tid := tid_step hI he hn }, rfl⟩, none rfl⟩

end step

theorem hbRun_cons (n : Nat) (s : HbSt) (e : Ev) (es : List Ev) (sf : HbSt)
    (h : hbRun n s (e :: es) = some sf) : ∃ s', hbStep n s e = some s' ∧ hbRun n s' es = some sf := by
  simp only [hbRun] at h
  split at h
  · exact ⟨_, ‹_›, h⟩
  · cases h

/-- Soundness of the happens-before monitor: a trace it accepts has no data race, i.e. every two
conflicting accesses are ordered by happens-before. `n` = number of threads. -/
theorem hbAccept_sound (n : Nat) (tr : List Ev) (h : hbAccept n tr = true) : RaceFree tr := by
  obtain ⟨sf, hsf⟩ := Option.isSome_iff_exists.1 h
  exact raceFree_of_monitor (hbRun_cons n) (fun k s => Inv n tr s ∧ s.k = k) tr
    (fun k s e s' ⟨hI, hk⟩ he hs => by subst hk; exact inv_step hI he hs)
    ⟨inv_init n tr, rfl⟩ hsf

/-- Non-vacuity: two threads write the same variable under a common lock; accepted. -/
example : hbAccept 2 [.acq 0 7 0, .wr 0 5 8, .rel 0 7, .acq 1 7 0, .wr 1 5 8, .rel 1 7] = true := by
  decide

/-- ... hence race free by the theorem. -/
example : RaceFree [.acq 0 7 0, .wr 0 5 8, .rel 0 7, .acq 1 7 0, .wr 1 5 8, .rel 1 7] :=
  hbAccept_sound 2 _ (by decide)

/-- Two unordered writes of different threads are rejected. -/
example : hbAccept 2 [.wr 0 5 0, .wr 1 5 0] = false := by decide

/-- An unlock → lock pair (here a token, mode 3) between them orders the writes: accepted. -/
example : hbAccept 2 [.wr 0 5 0, .rel 0 9, .acq 1 9 3, .wr 1 5 0] = true := by decide

/-- The acquire must come after the release: the other order is still a race. -/
example : hbAccept 2 [.wr 0 5 0, .acq 1 9 3, .rel 0 9, .wr 1 5 0] = false := by decide

/-- A thread id outside `0 .. n-1` is rejected. -/
example : hbAccept 2 [.wr 2 5 0] = false := by decide

end MV.Sync
