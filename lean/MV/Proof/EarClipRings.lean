import MV.Proof.EarClip
/-!
The explicit cycle decomposition of a well-linked state: the lists `ring s v` read through
`right` pointers from the smallest vert of each ring partition the unclipped verts, so
`net (liveEdges s)` really is the sum of the ring boundaries `bdRing`.  Core Lean only.
-/
namespace MV.EarClip

/-- `k` steps along `right` -/
def iter (s : State) : Nat → Nat → Nat
  | 0, v => v
  | k + 1, v => s.R (iter s k v)

/-- `u` is reachable from `v` through `right` pointers -/
def Orbit (s : State) (v u : Nat) : Prop := ∃ i, iter s i v = u

theorem iter_add (s : State) (j k v : Nat) : iter s (j + k) v = iter s j (iter s k v) := by
  induction j with
  | zero => simp [iter]
  | succ j ih => rw [Nat.succ_add]; simp only [iter, ih]

theorem iter_live (s : State) (h : Linked s) (v : Nat) (hv : v < s.n) (hl : s.live v) (k : Nat) :
    iter s k v < s.n ∧ s.live (iter s k v) := by
  induction k with
  | zero => exact ⟨hv, hl⟩
  | succ k ih => exact ⟨(h.range _ ih.1).2, (h.live _ ih.1 ih.2).2⟩

theorem R_inj (s : State) (x y : Nat) (hx : s.live x) (hy : s.live y) (h : s.R x = s.R y) : x = y := by
  unfold State.live at hx hy; rw [← hx, ← hy, h]

theorem iter_inj (s : State) (h : Linked s) (k x y : Nat) (hx : x < s.n) (hy : y < s.n)
    (hlx : s.live x) (hly : s.live y) (he : iter s k x = iter s k y) : x = y := by
  induction k with
  | zero => exact he
  | succ k ih =>
    exact ih (R_inj s _ _ (iter_live s h x hx hlx k).2 (iter_live s h y hy hly k).2 he)

/-- a walk that meets itself has returned to its start: `right` is injective on unclipped verts -/
theorem iter_return (s : State) (h : Linked s) (v : Nat) (hv : v < s.n) (hl : s.live v) {i j : Nat}
    (hij : i < j) (he : iter s i v = iter s j v) : iter s (j - i) v = v := by
  have e : j = i + (j - i) := by omega
  rw [e, iter_add] at he
  exact (iter_inj s h i v (iter s (j - i) v) hv (iter_live s h v hv hl _).1 hl
    (iter_live s h v hv hl _).2 he).symm

/-- pigeonhole: `n + 1` values below `n` cannot all differ -/
theorem exists_lt_map_eq (n : Nat) (f : Nat → Nat) (hf : ∀ i, i ≤ n → f i < n) :
    ∃ i j, i < j ∧ j ≤ n ∧ f i = f j := by
  false_or_by_contra
  rename_i hno
  exact Nat.lt_irrefl n (pigeon n n f hf fun i j hij hj he => hno ⟨i, j, hij, hj, he⟩)

/-- the walk returns to its start within `n` steps -/
theorem exists_period (s : State) (h : Linked s) (v : Nat) (hv : v < s.n) (hl : s.live v) :
    ∃ k, 0 < k ∧ k ≤ s.n ∧ iter s k v = v := by
  obtain ⟨i, j, hij, hj, he⟩ :=
    exists_lt_map_eq s.n (fun i => iter s i v) (fun i _ => (iter_live s h v hv hl i).1)
  exact ⟨j - i, by omega, by omega, iter_return s h v hv hl hij he⟩

/-- shape of the walk: `m` consecutive iterates, none of which (after the first) is `v`; it
    stops because it closed up or because the fuel ran out -/
theorem ringFrom_shape (s : State) (v : Nat) (f j : Nat) :
    ∃ m, m ≤ f ∧ ringFrom s v f (iter s j v) = (List.range m).map (fun i => iter s (j + i) v) ∧
      (∀ i, 0 < i → i < m → iter s (j + i) v ≠ v) ∧
      ((0 < m ∧ iter s (j + m) v = v) ∨ (m = f ∧ ∀ i, 0 < i → i ≤ m → iter s (j + i) v ≠ v)) := by
  induction f generalizing j with
  | zero => exact ⟨0, by omega, rfl, by intro i h1 h2; omega, Or.inr ⟨rfl, by intro i h1 h2; omega⟩⟩
  | succ f ih =>
    unfold ringFrom
    by_cases hc : s.R (iter s j v) = v
    · refine ⟨1, by omega, by simp [hc], by intro i h1 h2; omega, Or.inl ⟨by omega, hc⟩⟩
    · obtain ⟨m, hm, hlist, hnr, hend⟩ := ih (j + 1)
      have hnr' : ∀ i, 0 < i → i < m + 1 → iter s (j + i) v ≠ v := by
        intro i h1 h2
        by_cases hi : i = 1
        · subst hi; exact hc
        · have := hnr (i - 1) (by omega) (by omega)
          have e : j + 1 + (i - 1) = j + i := by omega
          rwa [e] at this
      refine ⟨m + 1, by omega, ?_, hnr', ?_⟩
      · simp only [hc, if_false]
        have e : s.R (iter s j v) = iter s (j + 1) v := rfl
        rw [e, hlist, List.range_succ_eq_map, List.map_cons, List.map_map]
        congr 1
        apply List.map_congr_left
        intro i _
        show iter s (j + 1 + i) v = iter s (j + (i + 1)) v
        congr 1; omega
      · rcases hend with ⟨h1, h2⟩ | ⟨h1, h2⟩
        · left; refine ⟨by omega, ?_⟩
          have e : j + (m + 1) = j + 1 + m := by omega
          rw [e]; exact h2
        · right; refine ⟨by omega, ?_⟩
          intro i hi1 hi2
          by_cases hi : i = 1
          · subst hi; exact hc
          · have := h2 (i - 1) (by omega) (by omega)
            have e : j + 1 + (i - 1) = j + i := by omega
            rwa [e] at this

/-- the ring through an unclipped `v`: the iterates up to the minimal period -/
theorem ring_shape (s : State) (h : Linked s) (v : Nat) (hv : v < s.n) (hl : s.live v) :
    ∃ m, 0 < m ∧ ring s v = (List.range m).map (fun i => iter s i v) ∧
      iter s m v = v ∧ ∀ i, 0 < i → i < m → iter s i v ≠ v := by
  obtain ⟨m, hm, hlist, hnr, hend⟩ := ringFrom_shape s v s.n 0
  simp only [Nat.zero_add] at hlist hnr hend
  have e0 : iter s 0 v = v := rfl
  rw [e0] at hlist
  rcases hend with ⟨h1, h2⟩ | ⟨h1, h2⟩
  · exact ⟨m, h1, hlist, h2, hnr⟩
  · obtain ⟨k, hk1, hk2, hk3⟩ := exists_period s h v hv hl
    exact absurd hk3 (h2 k hk1 (by omega))

theorem iter_mul_period (s : State) (v m : Nat) (hm : iter s m v = v) (q : Nat) :
    iter s (q * m) v = v := by
  induction q with
  | zero => simp [iter]
  | succ q ih => rw [Nat.succ_mul, iter_add, hm, ih]

theorem mem_ring_iff (s : State) (h : Linked s) (v : Nat) (hv : v < s.n) (hl : s.live v) (u : Nat) :
    u ∈ ring s v ↔ Orbit s v u := by
  obtain ⟨m, hm0, hlist, hclose, _⟩ := ring_shape s h v hv hl
  rw [hlist, List.mem_map]
  constructor
  · rintro ⟨i, _, rfl⟩; exact ⟨i, rfl⟩
  · rintro ⟨i, rfl⟩
    refine ⟨i % m, List.mem_range.2 (Nat.mod_lt _ hm0), ?_⟩
    have e : i = i % m + (i / m) * m := by
      have := Nat.mod_add_div i m; rw [Nat.mul_comm] at this; omega
    conv => rhs; rw [e, iter_add, iter_mul_period s v m hclose]

theorem ring_nodup (s : State) (h : Linked s) (v : Nat) (hv : v < s.n) (hl : s.live v) :
    (ring s v).Nodup := by
  obtain ⟨m, hm0, hlist, hclose, hnr⟩ := ring_shape s h v hv hl
  rw [hlist]
  refine (nodup_map_iff_of_injOn ?_).2 List.nodup_range
  have key : ∀ i j, i < j → j < m → iter s i v = iter s j v → False := fun i j hij hj he =>
    hnr (j - i) (by omega) (by omega) (iter_return s h v hv hl hij he)
  intro x hx y hy he
  rw [List.mem_range] at hx hy
  rcases Nat.lt_trichotomy x y with hlt | heq | hgt
  · exact (key x y hlt hy he).elim
  · exact heq
  · exact (key y x hgt hx he.symm).elim

theorem Orbit.refl (s : State) (v : Nat) : Orbit s v v := ⟨0, rfl⟩

theorem Orbit.trans {s : State} {a b c : Nat} (h1 : Orbit s a b) (h2 : Orbit s b c) : Orbit s a c := by
  obtain ⟨i, rfl⟩ := h1; obtain ⟨j, rfl⟩ := h2
  exact ⟨j + i, iter_add s j i a⟩

theorem Orbit.symm {s : State} (h : Linked s) {v u : Nat} (hv : v < s.n) (hl : s.live v)
    (ho : Orbit s v u) : Orbit s u v := by
  obtain ⟨i, rfl⟩ := ho
  obtain ⟨m, hm0, _, hclose, _⟩ := ring_shape s h v hv hl
  refine ⟨i * m - i, ?_⟩
  rw [← iter_add]
  have : i * m - i + i = i * m := by
    have : i ≤ i * m := Nat.le_mul_of_pos_right i hm0
    omega
  rw [this, iter_mul_period s v m hclose]

theorem Orbit.live {s : State} (h : Linked s) {v u : Nat} (hv : v < s.n) (hl : s.live v)
    (ho : Orbit s v u) : u < s.n ∧ s.live u := by
  obtain ⟨i, rfl⟩ := ho; exact iter_live s h v hv hl i

theorem exists_min_mem (l : List Nat) (hne : l ≠ []) : ∃ v, v ∈ l ∧ ∀ u, u ∈ l → v ≤ u := by
  cases hm : l.min? with
  | none => exact absurd (List.min?_eq_none_iff.mp hm) hne
  | some v => exact ⟨v, List.min?_mem hm, (List.min?_eq_some_iff.mp hm).2⟩

theorem mem_ringReps (s : State) (h : Linked s) (v : Nat) :
    v ∈ ringReps s ↔ (v < s.n ∧ s.live v ∧ ∀ u, Orbit s v u → v ≤ u) := by
  unfold ringReps
  rw [List.mem_filter, mem_liveList]
  constructor
  · rintro ⟨⟨hv, hl⟩, hall⟩
    refine ⟨hv, hl, fun u hu => ?_⟩
    rw [List.all_eq_true] at hall
    have := hall u ((mem_ring_iff s h v hv hl u).2 hu)
    simpa using this
  · rintro ⟨hv, hl, hmin⟩
    refine ⟨⟨hv, hl⟩, ?_⟩
    rw [List.all_eq_true]
    intro u hu
    have := hmin u ((mem_ring_iff s h v hv hl u).1 hu)
    simpa using this

/-- the rings (one per smallest vert) partition the unclipped verts -/
theorem rings_flatten_perm (s : State) (h : Linked s) : (rings s).flatten.Perm (liveList s) := by
  have hflat : (rings s).flatten = (ringReps s).flatMap (ring s) := by
    simp [rings, List.flatMap]
  rw [hflat, List.perm_ext_iff_of_nodup _ (liveList_nodup s)]
  · intro x
    rw [List.mem_flatMap, mem_liveList]
    constructor
    · rintro ⟨v, hv, hx⟩
      rw [mem_ringReps s h] at hv
      exact Orbit.live h hv.1 hv.2.1 ((mem_ring_iff s h v hv.1 hv.2.1 x).1 hx)
    · rintro ⟨hx, hlx⟩
      have hne : ring s x ≠ [] := by
        intro he
        have := (mem_ring_iff s h x hx hlx x).2 (Orbit.refl s x)
        rw [he] at this; cases this
      obtain ⟨v, hv, hmin⟩ := exists_min_mem (ring s x) hne
      have hxv := (mem_ring_iff s h x hx hlx v).1 hv
      have hvl := Orbit.live h hx hlx hxv
      refine ⟨v, ?_, ?_⟩
      · rw [mem_ringReps s h]
        refine ⟨hvl.1, hvl.2, fun u hu => ?_⟩
        exact hmin u ((mem_ring_iff s h x hx hlx u).2 (hxv.trans hu))
      · exact (mem_ring_iff s h v hvl.1 hvl.2 x).2 (Orbit.symm h hx hlx hxv)
  · rw [List.Nodup, List.pairwise_flatMap]
    constructor
    · intro v hv
      rw [mem_ringReps s h] at hv
      exact ring_nodup s h v hv.1 hv.2.1
    · have hnd : (ringReps s).Nodup := List.Nodup.sublist List.filter_sublist (liveList_nodup s)
      apply List.Pairwise.imp_of_mem _ hnd
      intro a b ha hb hab x hx y hy hxy
      subst hxy
      rw [mem_ringReps s h] at ha hb
      have h1 := (mem_ring_iff s h a ha.1 ha.2.1 x).1 hx
      have h2 := (mem_ring_iff s h b hb.1 hb.2.1 x).1 hy
      have hab' : Orbit s a b := h1.trans (Orbit.symm h hb.1 hb.2.1 h2)
      have hba' : Orbit s b a := h2.trans (Orbit.symm h ha.1 ha.2.1 h1)
      have := ha.2.2 b hab'
      have := hb.2.2 a hba'
      exact hab (by omega)

theorem net_flatten (Ls : List (List Edge)) (a b : Nat) :
    net Ls.flatten a b = (Ls.map fun l => net l a b).sum := by
  induction Ls with
  | nil => simp
  | cons l Ls ih => simp only [List.flatten_cons, net_append, ih, List.map_cons, List.sum_cons]

/-- `net (liveEdges s)` is the sum of the boundaries of the rings -/
theorem netLive_eq_sum_rings (s : State) (h : Linked s) (a b : Nat) :
    net (liveEdges s) a b = ((ringReps s).map fun v => bdRing s v a b).sum := by
  have hp := (rings_flatten_perm s h).map (fun v => (s.mesh v, s.mesh (s.R v)))
  have : net (liveEdges s) a b =
      net ((rings s).flatten.map (fun v => (s.mesh v, s.mesh (s.R v)))) a b :=
    (net_perm hp a b).symm
  rw [this, List.map_flatten, net_flatten]
  simp only [rings, List.map_map]
  rfl

/-- the count of unclipped verts is the sum of the ring lengths -/
theorem liveCount_eq_sum_rings (s : State) (h : Linked s) :
    liveCount s = ((ringReps s).map fun v => (ring s v).length).sum := by
  rw [liveCount, ← (rings_flatten_perm s h).length_eq, List.length_flatten, rings, List.map_map]; rfl

/-- `#triangles + #skipped + Σ_rings |ring| = #polygon_` at every moment of every run under the
    C++ guards, from any well-linked state in which it holds -/
theorem run_count_rings {st : State} {ops : List Op} (h : Linked st) (hb : Balanced st)
    (hr : RunOk OpOk st ops) :
    (run st ops).tris.length + (run st ops).skipped
      + ((ringReps (run st ops)).map fun v => (ring (run st ops) v).length).sum
      = st.n + 2 * numJoins ops := by
  obtain ⟨hl, hb'⟩ := RunOk.invariant Balanced.step (Q := fun s => Linked s ∧ Balanced s) ⟨h, hb⟩ hr
  rw [← liveCount_eq_sum_rings _ hl, ← (run_size st ops).1]; exact hb'

theorem ring_allTwo (s : State) (h : Linked s) (hd : ringsAllTwo s = true) (v : Nat)
    (hv : v < s.n) (hl : s.live v) : ring s v = [v, s.R v] := by
  simp only [ringsAllTwo, List.all_eq_true, List.mem_range, Bool.or_eq_true, Bool.and_eq_true,
    beq_iff_eq, State.clipped, bne_iff_ne] at hd
  rcases hd v hv with h1 | h1
  · exact absurd hl h1
  · have h2 : s.R (s.R v) = v := by rw [h1.1]; exact (h.live v hv hl).1
    have h3 := (h.range v hv).2
    obtain ⟨m, hm⟩ : ∃ m, s.n = m + 2 := ⟨s.n - 2, by have := h1.2; omega⟩
    unfold ring
    rw [hm]
    simp [ringFrom, h1.2, h2]

theorem sum_rings_allTwo (s : State) (h : Linked s) (hd : ringsAllTwo s = true) :
    ((ringReps s).map fun v => (ring s v).length).sum = 2 * numRings s := by
  have : ∀ l : List Nat, (∀ v ∈ l, v ∈ ringReps s) → (l.map fun v => (ring s v).length).sum = 2 * l.length := by
    intro l
    induction l with
    | nil => intro _; rfl
    | cons v l ih =>
      intro hl
      have hv := (mem_ringReps s h v).1 (hl v List.mem_cons_self)
      rw [List.map_cons, List.sum_cons, ih fun u hu => hl u (List.mem_cons_of_mem _ hu),
        ring_allTwo s h hd v hv.1 hv.2.1]
      simp only [List.length_cons, List.length_nil]; omega
  exact this _ fun _ hv => hv

end MV.EarClip
