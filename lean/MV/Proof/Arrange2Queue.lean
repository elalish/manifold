import MV.Proof.Arrange2Adj
import MV.Proof.Sweep2Order
import MV.Proof.ListArray
/-!
C11b: `PendingAdd`, `SplitAt`, `TestPair` and the event queue.

Each of the three procedures is described once by the list of ways it can end (`pendingAdd_cases`,
`splitAt_cases`, `testPair_cases`); everything else is read off these.

* `TestPair` / `SplitAt` keep the identity (seq, left end) of every status edge when no constructed crossing
  coincides with a left end, and every issued `TestPair(i, j)` call reaches the pair of edges at positions `i, j`
  of the status after the re-insertion.
* Invariant of `Run()`: `events_` is strictly ascending, every live edge's pending end and every pending edge's far
  end is a queued event, all queued events lie after the event just processed.  As long as every constructed
  crossing lies after the event at which it is found (`ahead`), events are processed in strictly increasing
  lexicographic order.
-/
namespace MV.Arr2
open MV.Sweep2

theorem mem_insertEv (l : List Pt) (q x : Pt) : x ∈ insertEv l q ↔ x = q ∨ x ∈ l := by
  induction l with
  | nil => simp [insertEv]
  | cons y rest ih =>
    unfold insertEv
    split
    · simp
    · split
      · simp only [List.mem_cons, ih]
        exact or_left_comm
      · next h1 h2 =>
        have : q = y := lexLess_order.tri (by simpa using h1) (by simpa using h2)
        subst this
        simp

def EvSorted (l : List Pt) : Prop := l.Pairwise (fun a b => lexLess a b = true)

theorem sorted_insertEv (l : List Pt) (q : Pt) (h : EvSorted l) : EvSorted (insertEv l q) := by
  induction l with
  | nil => simp [insertEv, EvSorted]
  | cons y rest ih =>
    unfold insertEv
    have hy := List.pairwise_cons.mp h
    split
    · next h1 =>
      refine List.pairwise_cons.mpr ⟨?_, h⟩
      intro z hz
      rcases List.mem_cons.mp hz with rfl | hz
      · exact h1
      · exact lexLess_order.trans h1 (hy.1 z hz)
    · split
      · next h1 h2 =>
        refine List.pairwise_cons.mpr ⟨?_, ih hy.2⟩
        intro z hz
        rcases (mem_insertEv rest q z).mp hz with rfl | hz
        · exact h2
        · exact hy.1 z hz
      · exact h

theorem innerBump_eq_upsert (inner : List (Pt × Int)) (b : Pt) (m : Int) :
    innerBump inner b m = upsert lexLess m (fun v => if v + m = 0 then none else some (v + m)) inner b := by
  induction inner with
  | nil => rfl
  | cons e rest ih =>
    obtain ⟨b', v⟩ := e
    rw [innerBump, upsert, ih]
    by_cases hz : v + m = 0 <;> simp only [hz, if_true, if_false]

theorem pendBump_eq_upsert (pd : Pending) (a b : Pt) (m : Int) :
    pendBump pd a b m = upsert lexLess [(b, m)]
      (fun inner => if (innerBump inner b m).isEmpty then none else some (innerBump inner b m)) pd a := by
  induction pd with
  | nil => rfl
  | cons e rest ih =>
    obtain ⟨a', inner⟩ := e
    rw [pendBump, upsert, ih]
    by_cases hi : (innerBump inner b m).isEmpty = true <;> simp only [hi, if_true, if_false, Bool.false_eq_true]

theorem mem_pendErase (pd : Pending) (p : Pt) (e : Pt × List (Pt × Int)) (h : e ∈ pendErase pd p) : e ∈ pd := by
  induction pd with
  | nil => simp [pendErase] at h
  | cons e1 rest ih =>
    obtain ⟨k, inner⟩ := e1
    unfold pendErase at h
    split at h
    · exact List.mem_cons_of_mem _ h
    · rcases List.mem_cons.mp h with h | h
      · rw [h]; exact List.mem_cons_self
      · exact List.mem_cons_of_mem _ (ih h)

theorem pendFind_mem (pd : Pending) (p : Pt) (inner : List (Pt × Int)) (h : pendFind pd p = some inner) :
    (p, inner) ∈ pd := by
  induction pd with
  | nil => simp [pendFind] at h
  | cons e1 rest ih =>
    obtain ⟨k, inn⟩ := e1
    unfold pendFind at h
    split at h
    · next hk => cases h; rw [hk]; exact List.mem_cons_self
    · exact List.mem_cons_of_mem _ (ih h)

/-- every pending edge that starts after `p` points forward, to a queued event -/
def PendOk (p : Pt) (pd : Pending) (ev : List Pt) : Prop :=
  ∀ e ∈ pd, lexLess p e.1 = true → ∀ x ∈ e.2, lexLess e.1 x.1 = true ∧ x.1 ∈ ev

theorem PendOk.mono {p : Pt} {pd : Pending} {ev ev' : List Pt} (h : PendOk p pd ev) (hs : ∀ x ∈ ev, x ∈ ev') :
    PendOk p pd ev' :=
  fun e he hp x hx => ⟨(h e he hp x hx).1, hs _ (h e he hp x hx).2⟩

theorem PendOk.pendBump {p : Pt} {pd : Pending} {ev : List Pt} (h : PendOk p pd ev) {a b : Pt} (m : Int)
    (hab : lexLess a b = true) : PendOk p (pendBump pd a b m) (insertEv (insertEv ev a) b) := by
  have sub : ∀ z ∈ ev, z ∈ insertEv (insertEv ev a) b :=
    fun z hz => (mem_insertEv _ _ _).mpr (.inr ((mem_insertEv _ _ _).mpr (.inr hz)))
  have new : lexLess a b = true ∧ b ∈ insertEv (insertEv ev a) b := ⟨hab, (mem_insertEv _ _ _).mpr (.inl rfl)⟩
  intro e he hp x hx
  rw [pendBump_eq_upsert] at he
  -- an old entry, the fresh entry `(a, [(b, m)])`, or the entry of `a` with `(b, m)` put into its inner map
  rcases mem_upsert lexLess_order he with h1 | ⟨h1, h2 | ⟨inner, hin, hg⟩⟩
  · exact (h.mono sub) e h1 hp x hx
  · rw [h2, List.mem_singleton] at hx
    rw [h1, hx]; exact new
  · split at hg
    · cases hg
    · rw [← Option.some.inj hg, innerBump_eq_upsert] at hx
      rw [h1] at hp ⊢
      rcases mem_upsert_key lexLess_order hx with h3 | h3
      · rw [h3]; exact new
      · exact (h.mono sub) (a, inner) hin hp x h3

/-- `p` = the event being (or just) processed -/
structure Inv (p : Pt) (st : St) : Prop where
  sorted : EvSorted st.events
  statusR : ∀ e ∈ st.status, e.r ∈ st.events
  pend : ∀ e ∈ st.pending, lexLess p e.1 = true → ∀ x ∈ e.2, lexLess e.1 x.1 = true ∧ x.1 ∈ st.events

def After (p : Pt) (st : St) : Prop := ∀ q ∈ st.events, lexLess p q = true

/-- the invariant reads only `status`, `events` and `pending` -/
theorem Inv.congr {p : Pt} {st st' : St} (h : Inv p st) (h1 : st'.status = st.status)
    (h2 : st'.events = st.events) (h3 : st'.pending = st.pending) : Inv p st' := by
  refine ⟨?_, ?_, ?_⟩
  · rw [h2]; exact h.sorted
  · rw [h1, h2]; exact h.statusR
  · rw [h2, h3]; exact h.pend

theorem Inv.insert {p : Pt} {st : St} (h : Inv p st) (q : Pt) : Inv p { st with events := insertEv st.events q } :=
  have sub : ∀ x ∈ st.events, x ∈ insertEv st.events q := fun _ hx => (mem_insertEv _ _ _).mpr (.inr hx)
  ⟨sorted_insertEv _ _ h.sorted, fun e he => sub _ (h.statusR e he), PendOk.mono h.pend sub⟩

/-- `PendingAdd(a, b, m)` does nothing, or files the edge under its lexicographically smaller end -/
theorem pendingAdd_cases (st : St) (a b : Pt) (m : Int) :
    pendingAdd st a b m = st ∨
    ∃ a' b' m', lexLess a' b' = true ∧ (a' = a ∧ b' = b ∨ a' = b ∧ b' = a) ∧
      pendingAdd st a b m =
        { st with pending := pendBump st.pending a' b' m', events := insertEv (insertEv st.events a') b' } := by
  unfold pendingAdd
  by_cases hc : a = b ∨ m = 0
  · exact .inl (if_pos hc)
  · rw [if_neg hc]
    by_cases hl : lexLess b a = true
    · exact .inr ⟨b, a, -m, hl, .inr ⟨rfl, rfl⟩, by simp only [hl, if_true]⟩
    · have hl' : lexLess a b = true := lexLess_order.lt_of_ne (fun e => hc (.inl e)) (by simpa using hl)
      exact .inr ⟨a, b, m, hl', .inl ⟨rfl, rfl⟩, by simp only [hl, Bool.false_eq_true, if_false]⟩

section
variable (st : St) (a b : Pt) (m : Int)

theorem pendingAdd_status : (pendingAdd st a b m).status = st.status := by
  rcases pendingAdd_cases st a b m with h | ⟨_, _, _, _, _, h⟩ <;> rw [h]

theorem pendingAdd_tested : (pendingAdd st a b m).tested = st.tested := by
  rcases pendingAdd_cases st a b m with h | ⟨_, _, _, _, _, h⟩ <;> rw [h]

theorem pendingAdd_ahead : (pendingAdd st a b m).ahead = st.ahead := by
  rcases pendingAdd_cases st a b m with h | ⟨_, _, _, _, _, h⟩ <;> rw [h]

theorem mem_events_pendingAdd {x : Pt} (hx : x ∈ (pendingAdd st a b m).events) :
    x = a ∨ x = b ∨ x ∈ st.events := by
  rcases pendingAdd_cases st a b m with h | ⟨a', b', _, _, hab, h⟩ <;> rw [h] at hx
  · exact .inr (.inr hx)
  · rw [mem_insertEv, mem_insertEv] at hx
    rcases hab with ⟨rfl, rfl⟩ | ⟨rfl, rfl⟩
    · exact or_left_comm.mp hx
    · exact hx

theorem pendingAdd_inv (p : Pt) (h : Inv p st) : Inv p (pendingAdd st a b m) := by
  rcases pendingAdd_cases st a b m with e | ⟨a', b', m', hab, _, e⟩ <;> rw [e]
  · exact h
  · exact ⟨sorted_insertEv _ _ (sorted_insertEv _ _ h.sorted),
      fun x hx => (mem_insertEv _ _ _).mpr (.inr ((mem_insertEv _ _ _).mpr (.inr (h.statusR x hx)))),
      PendOk.pendBump h.pend m' hab⟩

/-- `PendingAdd` does not read the status -/
theorem pendingAdd_set_status (S : List SEdge) :
    pendingAdd { st with status := S } a b m = { pendingAdd st a b m with status := S } := by
  unfold pendingAdd; split <;> rfl

end

/-- `SplitAt(idx, q)` does nothing (no such edge, or `q` is its right end), or re-queues the part of the edge beyond
    `q` and then removes the edge (`q` is its left end) or shortens it to `q` and queues `q` -/
theorem splitAt_cases (st : St) (idx : Nat) (q : Pt) :
    splitAt st idx q = st ∨ ∃ e, st.status[idx]? = some e ∧ q ≠ e.r ∧ ∃ st1, st1 = pendingAdd st q e.r e.m ∧
      ((q = e.l ∧ splitAt st idx q = { st1 with status := st.status.eraseIdx idx }) ∨
       (q ≠ e.l ∧ splitAt st idx q =
          { st1 with status := st.status.set idx { e with r := q }, events := insertEv st1.events q })) := by
  unfold splitAt
  cases he : st.status[idx]? with
  | none => exact .inl rfl
  | some e =>
    dsimp only
    by_cases h1 : q = e.r
    · exact .inl (if_pos h1)
    · rw [if_neg h1]
      by_cases h2 : q = e.l
      · rw [if_pos h2, pendingAdd_set_status]
        exact .inr ⟨e, rfl, h1, _, rfl, .inl ⟨h2, rfl⟩⟩
      · rw [if_neg h2, pendingAdd_set_status]
        exact .inr ⟨e, rfl, h1, _, rfl, .inr ⟨h2, rfl⟩⟩

theorem splitAt_tested (st : St) (idx : Nat) (q : Pt) : (splitAt st idx q).tested = st.tested := by
  rcases splitAt_cases st idx q with h | ⟨e, _, _, _, rfl, ⟨_, h⟩ | ⟨_, h⟩⟩ <;> rw [h]
  · exact pendingAdd_tested ..
  · exact pendingAdd_tested ..

theorem splitAt_ahead (st : St) (idx : Nat) (q : Pt) : (splitAt st idx q).ahead = st.ahead := by
  rcases splitAt_cases st idx q with h | ⟨e, _, _, _, rfl, ⟨_, h⟩ | ⟨_, h⟩⟩ <;> rw [h]
  · exact pendingAdd_ahead ..
  · exact pendingAdd_ahead ..

/-- a queued event after `SplitAt(idx, q)`: `q`, the right end of a live edge, or an old event -/
theorem mem_events_splitAt {st : St} {idx : Nat} {q x : Pt} (hx : x ∈ (splitAt st idx q).events) :
    x = q ∨ (∃ e ∈ st.status, x = e.r) ∨ x ∈ st.events := by
  rcases splitAt_cases st idx q with h | ⟨e, he, _, _, rfl, ⟨_, h⟩ | ⟨_, h⟩⟩ <;> rw [h] at hx
  · exact .inr (.inr hx)
  all_goals
    have old : x ∈ (pendingAdd st q e.r e.m).events → x = q ∨ (∃ e ∈ st.status, x = e.r) ∨ x ∈ st.events :=
      fun hx => (mem_events_pendingAdd _ _ _ _ hx).imp_right (.imp_left fun h => ⟨e, List.mem_of_getElem? he, h⟩)
  · exact old hx
  · exact ((mem_insertEv _ _ _).mp hx).elim .inl old

theorem splitAt_inv (p : Pt) (st : St) (idx : Nat) (q : Pt) (h : Inv p st) : Inv p (splitAt st idx q) := by
  rcases splitAt_cases st idx q with e' | ⟨e, he, _, _, rfl, ⟨_, e'⟩ | ⟨_, e'⟩⟩ <;> rw [e']
  · exact h
  all_goals have h1 := pendingAdd_inv st q e.r e.m p h
  · -- the edge is removed
    exact ⟨h1.sorted, fun x hx => h1.statusR x (by rw [pendingAdd_status]; exact List.mem_of_mem_eraseIdx hx),
      h1.pend⟩
  · -- the edge now ends at `q`, which is queued last
    have h2 := h1.insert q
    refine ⟨h2.sorted, fun x hx => ?_, h2.pend⟩
    rcases List.mem_or_eq_of_mem_set hx with hx | rfl
    · exact h2.statusR x (by rw [pendingAdd_status]; exact hx)
    · exact (mem_insertEv _ _ _).mpr (.inl rfl)

theorem splitAt_after (p : Pt) (st : St) (idx : Nat) (q : Pt) (h : Inv p st) (ha : After p st)
    (hq : lexLess p q = true) : After p (splitAt st idx q) := by
  intro x hx
  rcases mem_events_splitAt hx with rfl | ⟨e, he, rfl⟩ | hx
  · exact hq
  · exact ha _ (h.statusR e he)
  · exact ha x hx

/-- identity of a status edge: its sequence number and its processed end -/
def key (e : SEdge) : Nat × Pt := (e.seq, e.l)
def keys (l : List SEdge) : List (Nat × Pt) := l.map key

/-- no constructed crossing coincides with the left end of one of the two edges
    (true whenever the crossing lies strictly ahead of the sweep) -/
def NoErase (o : Oracle) : Prop :=
  ∀ al ar bl br q, o.crossing al ar bl br = some q → q ≠ al ∧ q ≠ bl

theorem keys_getElem? (l : List SEdge) (i : Nat) : (keys l)[i]? = (l[i]?).map key := by
  simp [keys]

/-- lists with the same identities hold, position by position, edges with the same sequence number and left end -/
theorem getElem?_of_keys_eq {l l' : List SEdge} (h : keys l = keys l') {i : Nat} {x : SEdge}
    (hx : l[i]? = some x) : ∃ x', l'[i]? = some x' ∧ x'.seq = x.seq ∧ x'.l = x.l := by
  have := keys_getElem? l' i
  rw [← h, keys_getElem?, hx] at this
  cases hx' : l'[i]? with
  | none => rw [hx'] at this; cases this
  | some x' =>
    rw [hx'] at this
    have := Prod.mk.inj (Option.some.inj this)
    exact ⟨x', rfl, this.1.symm, this.2.symm⟩

theorem splitAt_keys (st : St) (idx : Nat) (q : Pt)
    (h : ∀ e, st.status[idx]? = some e → q ≠ e.l) : keys (splitAt st idx q).status = keys st.status := by
  rcases splitAt_cases st idx q with e | ⟨e, he, _, _, rfl, ⟨hl, _⟩ | ⟨_, e'⟩⟩
  · rw [e]
  · exact absurd hl (h e he)
  · rw [e']
    exact List.map_set_same key _ idx e _ he rfl

theorem splitAt2_keys (s : St) (i j : Nat) (q : Pt) (a b : SEdge)
    (ha : s.status[i]? = some a) (hb : s.status[j]? = some b) (hq1 : q ≠ a.l) (hq2 : q ≠ b.l) :
    keys (splitAt (splitAt s j q) i q).status = keys s.status := by
  have k1 : keys (splitAt s j q).status = keys s.status :=
    splitAt_keys _ _ _ fun e he => by cases hb.symm.trans he; exact hq2
  rw [splitAt_keys, k1]
  intro e he
  obtain ⟨a', ha', _, hl⟩ := getElem?_of_keys_eq k1 he
  cases ha.symm.trans ha'
  rw [← hl]
  exact hq1

/-- the ways out of `TestPair(i, j)`: the index guard; then, with the pair logged (`st0`), a shared end point or
    no crossing; the right end of one edge inside the other; a constructed crossing `q` -/
theorem testPair_cases (o : Oracle) (p : Pt) (st : St) (i j : Nat) :
    (¬ (i < j ∧ j < st.status.length) ∧ testPair o p st i j = st) ∨
    ∃ a b, st.status[i]? = some a ∧ st.status[j]? = some b ∧
      ∃ st0, st0 = { st with tested := st.tested ++ [(a.seq, b.seq)] } ∧
      (testPair o p st i j = st0
      ∨ (b.r ≠ a.l ∧ testPair o p st i j = splitAt st0 i b.r)
      ∨ (a.r ≠ b.l ∧ testPair o p st i j = splitAt st0 j a.r)
      ∨ ∃ q, o.crossing a.l a.r b.l b.r = some q ∧ testPair o p st i j =
          splitAt (splitAt { st0 with events := insertEv st.events q, ahead := st.ahead && lexLess p q } j q) i q) := by
  by_cases hg : j ≥ st.status.length ∨ i ≥ j
  · exact .inl ⟨fun h => hg.elim (Nat.not_le_of_lt h.2) (Nat.not_le_of_lt h.1), by rw [testPair, if_pos hg]⟩
  · have hj : j < st.status.length := Nat.lt_of_not_ge fun h => hg (.inl h)
    have hij : i < j := Nat.lt_of_not_ge fun h => hg (.inr h)
    have ha := List.getElem?_eq_getElem (Nat.lt_trans hij hj)
    have hb := List.getElem?_eq_getElem hj
    refine .inr ⟨st.status[i], st.status[j], ha, hb, _, rfl, ?_⟩
    generalize st.status[i] = a at ha
    generalize st.status[j] = b at hb
    generalize hT : testPair o p st i j = T
    unfold testPair at hT
    rw [if_neg hg] at hT
    simp only [ha, hb] at hT
    by_cases hs : a.l = b.l ∨ a.l = b.r ∨ a.r = b.l ∨ a.r = b.r
    · rw [if_pos hs] at hT; exact .inl hT.symm
    · rw [if_neg hs] at hT
      by_cases h1 : onInterior o b.r a.l a.r = true
      · rw [if_pos h1] at hT; exact .inr (.inl ⟨fun h => hs (.inr (.inl h.symm)), hT.symm⟩)
      · rw [if_neg h1] at hT
        by_cases h2 : onInterior o a.r b.l b.r = true
        · rw [if_pos h2] at hT; exact .inr (.inr (.inl ⟨fun h => hs (.inr (.inr (.inl h))), hT.symm⟩))
        · rw [if_neg h2] at hT
          cases hc : o.crossing a.l a.r b.l b.r with
          | none => rw [hc] at hT; exact .inl hT.symm
          | some q => rw [hc] at hT; exact .inr (.inr (.inr ⟨q, rfl, hT.symm⟩))

/-- the log of tested pairs only grows, and exactly the calls past the index guard append the pair at `i, j` -/
theorem testPair_tested (o : Oracle) (p : Pt) (st : St) (i j : Nat) :
    (¬ (i < j ∧ j < st.status.length) ∧ (testPair o p st i j).tested = st.tested) ∨
    ∃ a b, st.status[i]? = some a ∧ st.status[j]? = some b ∧
      (testPair o p st i j).tested = st.tested ++ [(a.seq, b.seq)] := by
  rcases testPair_cases o p st i j with ⟨hg, h⟩ | ⟨a, b, ha, hb, st0, rfl, h | ⟨_, h⟩ | ⟨_, h⟩ | ⟨q, _, h⟩⟩
  · exact .inl ⟨hg, by rw [h]⟩
  · exact .inr ⟨a, b, ha, hb, by rw [h]⟩
  · exact .inr ⟨a, b, ha, hb, by rw [h, splitAt_tested]⟩
  · exact .inr ⟨a, b, ha, hb, by rw [h, splitAt_tested]⟩
  · exact .inr ⟨a, b, ha, hb, by rw [h, splitAt_tested, splitAt_tested]⟩

/-- what `TestPair` calls issued at the event `p` do to the state: the queue invariant is kept; the `ahead` flag is
    only ever cleared, and while it is set every queued point lies after `p`; the log grows; with a non-erasing
    crossing oracle only right ends of status edges change -/
structure Tests (o : Oracle) (p : Pt) (st st' : St) : Prop where
  inv : Inv p st → Inv p st'
  ahead : st'.ahead = true → st.ahead = true
  after : Inv p st → After p st → st'.ahead = true → After p st'
  log : ∀ x ∈ st.tested, x ∈ st'.tested
  keys : NoErase o → keys st'.status = keys st.status

theorem Tests.refl (o : Oracle) (p : Pt) (st : St) : Tests o p st st :=
  ⟨id, id, fun _ h _ => h, fun _ => id, fun _ => rfl⟩

theorem Tests.trans {o : Oracle} {p : Pt} {a b c : St} (h1 : Tests o p a b) (h2 : Tests o p b c) : Tests o p a c :=
  -- a flag set at the end was set all along
  ⟨h2.inv ∘ h1.inv, h1.ahead ∘ h2.ahead, fun hi ha hc => h2.after (h1.inv hi) (h1.after hi ha (h2.ahead hc)) hc,
    fun x hx => h2.log x (h1.log x hx), fun hne => (h2.keys hne).trans (h1.keys hne)⟩

theorem testPair_tests (o : Oracle) (p : Pt) (st : St) (i j : Nat) : Tests o p st (testPair o p st i j) := by
  have log : ∀ x ∈ st.tested, x ∈ (testPair o p st i j).tested := fun x hx => by
    rcases testPair_tested o p st i j with ⟨_, h⟩ | ⟨_, _, _, _, h⟩ <;> rw [h]
    · exact hx
    · exact List.mem_append_left _ hx
  rcases testPair_cases o p st i j with ⟨_, e⟩ | ⟨a, b, ha, hb, st0, rfl, e | ⟨hn, e⟩ | ⟨hn, e⟩ | ⟨q, hq, e⟩⟩ <;>
    rw [e] at log ⊢
  · exact .refl o p st
  · exact ⟨fun h => h.congr rfl rfl rfl, id, fun _ h _ => h, log, fun _ => rfl⟩
  · exact ⟨fun h => splitAt_inv p _ _ _ (h.congr rfl rfl rfl), fun h => by rwa [splitAt_ahead] at h,
      fun h hA _ => splitAt_after p _ _ _ (h.congr rfl rfl rfl) hA (hA _ (h.statusR b (List.mem_of_getElem? hb))),
      log, fun _ => splitAt_keys _ _ _ fun e he => by cases ha.symm.trans he; exact hn⟩
  · exact ⟨fun h => splitAt_inv p _ _ _ (h.congr rfl rfl rfl), fun h => by rwa [splitAt_ahead] at h,
      fun h hA _ => splitAt_after p _ _ _ (h.congr rfl rfl rfl) hA (hA _ (h.statusR a (List.mem_of_getElem? ha))),
      log, fun _ => splitAt_keys _ _ _ fun e he => by cases hb.symm.trans he; exact hn⟩
  · refine ⟨fun h => splitAt_inv p _ _ _ (splitAt_inv p _ _ _ ((h.insert q).congr rfl rfl rfl)), fun h => ?_,
      fun h hA hah => ?_, log,
      fun hne => splitAt2_keys _ i j q a b ha hb (hne _ _ _ _ _ hq).1 (hne _ _ _ _ _ hq).2⟩
    · rw [splitAt_ahead, splitAt_ahead] at h
      exact (Bool.and_eq_true_iff.mp h).1
    · -- the flag says that the crossing lies ahead
      rw [splitAt_ahead, splitAt_ahead] at hah
      have hq : lexLess p q = true := (Bool.and_eq_true_iff.mp hah).2
      refine splitAt_after p _ _ _ (splitAt_inv p _ _ _ ?inv) (splitAt_after p _ _ _ ?inv ?aft hq) hq
      case inv => exact (h.insert q).congr rfl rfl rfl
      case aft =>
        intro x hx
        rcases (mem_insertEv _ _ _).mp hx with rfl | h3
        · exact hq
        · exact hA x h3

theorem fold_tests (o : Oracle) (p : Pt) (cs : List (Nat × Nat)) (st : St) :
    Tests o p st (cs.foldl (fun s ij => testPair o p s ij.1 ij.2) st) :=
  List.foldlRecOn cs _ (.refl o p st) fun s hs c _ => hs.trans (testPair_tests o p s c.1 c.2)

/-- every call `(i, j)` of the list, issued on a status whose edge identities are those of `st`, logs the
    identities found at positions `i, j` of `st` -/
theorem fold_tested (o : Oracle) (hne : NoErase o) (p : Pt) (cs : List (Nat × Nat)) (st : St)
    (i j : Nat) (x y : SEdge) (hij : i < j) (hx : st.status[i]? = some x) (hy : st.status[j]? = some y)
    (hmem : (i, j) ∈ cs) :
    (x.seq, y.seq) ∈ (cs.foldl (fun s ij => testPair o p s ij.1 ij.2) st).tested := by
  induction cs generalizing st x y with
  | nil => simp at hmem
  | cons c rest ih =>
    rw [List.foldl_cons]
    rcases List.mem_cons.mp hmem with h | h
    · apply (fold_tests o p rest _).log
      have hj : j < st.status.length := (List.getElem?_eq_some_iff.mp hy).1
      rcases testPair_tested o p st i j with ⟨hn, _⟩ | ⟨a, b, ha, hb, ht⟩
      · exact absurd ⟨hij, hj⟩ hn
      · rw [← h, ht]
        cases hx.symm.trans ha
        cases hy.symm.trans hb
        exact List.mem_append_right _ (List.mem_singleton.mpr rfl)
    · -- the call `c` keeps the identities, so positions `i, j` still hold edges with these sequence numbers
      have hk := ((testPair_tests o p st c.1 c.2).keys hne).symm
      obtain ⟨x', hx', hxs, _⟩ := getElem?_of_keys_eq hk hx
      obtain ⟨y', hy', hys, _⟩ := getElem?_of_keys_eq hk hy
      rw [← hxs, ← hys]
      exact ih (testPair o p st c.1 c.2) x' y' hx' hy' h

theorem classify_of_r_eq (o : Oracle) (e : SEdge) (p : Pt) (h : e.r = p) : classify o e p = Side.ends := by
  simp [classify, h]

/-- the state right after `events_.erase(events_.begin())` of the event `p` -/
structure PreInv (p : Pt) (st : St) : Prop where
  sorted : EvSorted st.events
  after : After p st
  statusR : ∀ e ∈ st.status, e.r = p ∨ e.r ∈ st.events
  pend : ∀ e ∈ st.pending, (lexLess p e.1 = true ∨ e.1 = p) → ∀ x ∈ e.2, lexLess e.1 x.1 = true ∧ x.1 ∈ st.events

section
variable (o : Oracle) (mode : Mode) (rule : WindRule) (st : St) (p : Pt)

theorem reinsertOf_right (h : PreInv p st) : ∀ e ∈ reinsertOf o mode rule st p, e.r ∈ st.events := by
  intro e he
  rcases (mem_reinsertOf o mode rule st p e he).2 with ⟨x, hx, hne, hr⟩ | ⟨inner, hf, y, hy, hr⟩
  · rw [hr]
    exact (h.statusR x hx).resolve_left fun h3 => hne (classify_of_r_eq o x p h3)
  · rw [hr]
    exact (h.pend (p, inner) (pendFind_mem _ _ _ hf) (.inr rfl) y hy).2

theorem prepare_events : (prepare o mode rule st p).mid.events = st.events := rfl
theorem prepare_pending : (prepare o mode rule st p).mid.pending = pendErase st.pending p := rfl
theorem prepare_ahead : (prepare o mode rule st p).mid.ahead = st.ahead := rfl

theorem prepare_inv (h : PreInv p st) :
    Inv p (prepare o mode rule st p).mid ∧ After p (prepare o mode rule st p).mid := by
  refine ⟨⟨h.sorted, ?_, ?_⟩, h.after⟩
  · intro e he
    rw [prepare_events]
    rw [prepare_status] at he
    -- an edge that stays in the status does not end at `p`
    have hne : ∀ e ∈ st.status, classify o e p ≠ Side.ends → e.r ∈ st.events := by
      intro e he hc
      rcases h.statusR e he with h1 | h1
      · exact absurd (classify_of_r_eq o e p h1) hc
      · exact h1
    rcases List.mem_append.mp he with h1 | h1
    · rcases List.mem_append.mp h1 with h2 | h2
      · apply hne e (List.mem_of_mem_take h2)
        rw [classify_of_mem_take_lo o mode rule st p h2]; decide
      · exact reinsertOf_right o mode rule st p h e ((sortReinsert_mem o _ e).mp h2)
    · apply hne e (List.mem_of_mem_drop h1)
      rw [classify_of_mem_drop_hi o mode rule st p h1]; decide
  · intro e he hp x hx
    rw [prepare_pending] at he
    exact h.pend e (mem_pendErase _ _ _ he) (Or.inl hp) x hx

theorem processEvent_ahead_mono (hah : (processEvent o mode rule st p).ahead = true) : st.ahead = true := by
  unfold processEvent at hah
  cases mode with
  | arrangement => exact (fold_tests o p _ (prepare o .arrangement rule st p).mid).ahead hah
  | winding => exact hah

theorem processEvent_inv (h : PreInv p st) (hah : (processEvent o mode rule st p).ahead = true) :
    Inv p (processEvent o mode rule st p) ∧ After p (processEvent o mode rule st p) := by
  obtain ⟨h1, h2⟩ := prepare_inv o mode rule st p h
  unfold processEvent at hah ⊢
  cases mode with
  | arrangement => exact ⟨(fold_tests o p _ _).inv h1, (fold_tests o p _ _).after h1 h2 hah⟩
  | winding => exact ⟨h1, h2⟩

end

theorem finalState_cons (st : St) (x : Pt × St × St) (tr : List (Pt × St × St)) :
    finalState st (x :: tr) = finalState x.2.2 tr := by
  unfold finalState
  cases tr with
  | nil => simp
  | cons y rest =>
    simp only [List.getLast?_cons_cons]
    cases hl : (y :: rest).getLast? with
    | none => simp at hl
    | some z => rfl

theorem run_ahead_mono (o : Oracle) (mode : Mode) (rule : WindRule) (fuel : Nat) (st : St)
    (hah : (finalState st (runStates o mode rule fuel st)).ahead = true) : st.ahead = true := by
  induction fuel generalizing st with
  | zero => simpa [runStates, finalState] using hah
  | succ fuel ih =>
    unfold runStates at hah
    cases hev : st.events with
    | nil => simp only [hev] at hah; simpa [finalState] using hah
    | cons p rest =>
      simp only [hev] at hah
      rw [finalState_cons] at hah
      exact processEvent_ahead_mono o mode rule { st with events := rest } p (ih _ hah)

/-- popping the least event of a state satisfying the invariant gives the pre-state of `ProcessEvent` -/
theorem pop_preInv (p p' : Pt) (rest : List Pt) (st : St) (h : Inv p st) (ha : After p st)
    (hev : st.events = p' :: rest) : PreInv p' { st with events := rest } := by
  have hs := h.sorted
  rw [hev] at hs
  have hs' := List.pairwise_cons.mp hs
  have hpp' : lexLess p p' = true := ha p' (by rw [hev]; exact List.mem_cons_self)
  refine ⟨hs'.2, hs'.1, ?_, ?_⟩
  · intro e he
    have := h.statusR e he
    rw [hev] at this
    exact List.mem_cons.mp this
  · intro e he hp x hx
    have hpe : lexLess p e.1 = true := by
      rcases hp with h1 | h1
      · exact lexLess_order.trans hpp' h1
      · rw [h1]; exact hpp'
    obtain ⟨h1, h2⟩ := h.pend e he hpe x hx
    refine ⟨h1, ?_⟩
    rw [hev] at h2
    rcases List.mem_cons.mp h2 with h3 | h3
    · -- x.1 = p' is impossible: p' ≤ e.1 < x.1
      have hlt : lexLess p' x.1 = true := hp.elim (lexLess_order.trans · h1) (· ▸ h1)
      rw [h3, lexLess_order.irrefl] at hlt
      cases hlt
    · exact h3

/-- **events_processed_in_order** (core form): from a state satisfying the queue invariant relative to `p`,
    if the run ends with the `ahead` flag still set, the processed events are strictly increasing and all after `p`. -/
theorem run_in_order (o : Oracle) (mode : Mode) (rule : WindRule) (fuel : Nat) (st : St) (p : Pt)
    (h : Inv p st) (ha : After p st)
    (hah : (finalState st (runStates o mode rule fuel st)).ahead = true) :
    ((runStates o mode rule fuel st).map (·.1)).Pairwise (fun a b => lexLess a b = true)
    ∧ ∀ q ∈ (runStates o mode rule fuel st).map (·.1), lexLess p q = true := by
  induction fuel generalizing st p with
  | zero => simp [runStates]
  | succ fuel ih =>
    unfold runStates at hah ⊢
    cases hev : st.events with
    | nil => simp
    | cons p' rest =>
      simp only [hev] at hah ⊢
      rw [finalState_cons] at hah
      have hpre := pop_preInv p p' rest st h ha hev
      have hah1 := run_ahead_mono o mode rule fuel _ hah
      obtain ⟨i1, i2⟩ := processEvent_inv o mode rule _ p' hpre hah1
      obtain ⟨j1, j2⟩ := ih _ p' i1 i2 hah
      have hpp' : lexLess p p' = true := ha p' (by rw [hev]; exact List.mem_cons_self)
      simp only [List.map_cons]
      refine ⟨List.pairwise_cons.mpr ⟨j2, j1⟩, ?_⟩
      intro q hq
      rcases List.mem_cons.mp hq with h1 | h1
      · rw [h1]; exact hpp'
      · exact lexLess_order.trans hpp' (j2 q h1)

/-- the invariant holds after seeding, relative to any point -/
theorem seedAll_inv (p : Pt) (es : List DEdge) : Inv p (seedAll es) :=
  List.foldlRecOn es _ ⟨List.Pairwise.nil, by simp [St.empty], by simp [St.empty]⟩
    fun st h e _ => pendingAdd_inv st _ _ _ p h

end MV.Arr2
