import MV.Proof.EdgeOpOrbit
import MV.Proof.EdgeOpLocal
/-!
`FormLoop` (edge_op.cpp:774-794).  Up to its final `RemoveIfFolded` it is `formLoopCore`:
in a state satisfying `PairInv`, called on two distinct live halfedges `cur`, `en` carrying the same
directed edge u→v, it creates the vertices `A = nVert`, `B = nVert+1`, relabels the fan of `u`
between `Pair(cur)` and `Pair(en)` to `A`, the fan of `v` between `en` and `cur` to `B`, swaps the
partners - and the result satisfies `PairInv` again (`formLoopCore_preserves`): the two relabellings
are instances of `relabel_preserves`, the four halfedges of the doubled edge being the ends of both
fans.
-/
namespace MV.EdgeOp
open MV.Halfedge (HErr rd wr nextHalfedge)

/-! ## the labels after the two relabellings -/

/-- two fresh labels `0 ≤ A < B` are no tombstones and differ -/
theorem fresh_ne {A B : Int} (hA0 : 0 ≤ A) (hAB : A < B) : A ≠ -1 ∧ B ≠ -1 ∧ A ≠ B := by omega

section relabel
variable {s s' : HE} {cur en : Nat} {A B : Int} {Ru Rv : Nat → Prop}
  (h : PairInv s)
  (hc : cur < s.start.size) (he : en < s.start.size) (hne : cur ≠ en)
  (hlc : s.P cur ≠ -1) (hle : s.P en ≠ -1)
  (hS : s.S cur = s.S en) (hE : s.S (nx cur) = s.S (nx en))
  (hA0 : 0 ≤ A) (hAB : A < B)
  (u1 : ∀ e, Ru e → s.S e = s.S cur)
  (u2a : Ru en) (u2b : Ru (nx (s.Pn cur))) (u2c : ¬ Ru cur) (u2d : ¬ Ru (nx (s.Pn en)))
  (v1 : ∀ e, Rv e → s.S e = s.S (nx cur))
  (v2a : Rv (nx en)) (v2b : Rv (s.Pn cur)) (v2c : ¬ Rv (nx cur)) (v2d : ¬ Rv (s.Pn en))
  (sA : ∀ e, Ru e → s'.S e = A) (sB : ∀ e, Rv e → s'.S e = B)
  (s0 : ∀ e, ¬ Ru e → ¬ Rv e → s'.S e = s.S e)

include h hc hlc in
theorem relabel_uv : s.S cur ≠ s.S (nx cur) ∧ s.S cur ≠ -1 ∧ s.S (nx cur) ≠ -1 :=
  have L := liveF h hc hlc
  ⟨L.nd, L.s0, L.s1⟩

include u1 v1 sA sB s0 in
theorem relabel_tri (x : Nat) :
    (Ru x ∧ s'.S x = A ∧ s.S x = s.S cur) ∨ (Rv x ∧ s'.S x = B ∧ s.S x = s.S (nx cur)) ∨
      (¬ Ru x ∧ ¬ Rv x ∧ s'.S x = s.S x) := by
  by_cases a : Ru x
  · exact Or.inl ⟨a, sA x a, u1 x a⟩
  · by_cases b : Rv x
    · exact Or.inr (Or.inl ⟨b, sB x b, v1 x b⟩)
    · exact Or.inr (Or.inr ⟨a, b, s0 x a b⟩)

include u1 v1 sA sB s0 hA0 hAB in
theorem relabel_ne {x : Nat} (hx : s.S x ≠ -1) : s'.S x ≠ -1 := by
  rcases relabel_tri u1 v1 sA sB s0 x with ⟨_, b, _⟩ | ⟨_, b, _⟩ | ⟨_, _, c⟩
  · rw [b]; exact (fresh_ne hA0 hAB).1
  · rw [b]; exact (fresh_ne hA0 hAB).2.1
  · rw [c]; exact hx

include u1 v1 sA sB s0 hAB in
theorem relabel_iffA {x : Nat} (hx : s.S x < A) : s'.S x = A ↔ Ru x := by
  constructor
  · intro q
    rcases relabel_tri u1 v1 sA sB s0 x with ⟨a, _, _⟩ | ⟨_, b, _⟩ | ⟨_, _, c⟩
    · exact a
    · exact absurd (q.symm.trans b) (Int.ne_of_lt hAB)
    · exact absurd (c.symm.trans q) (Int.ne_of_lt hx)
  · exact sA x

include u1 v1 sA sB s0 hAB in
theorem relabel_iffB {x : Nat} (hx : s.S x < A) : s'.S x = B ↔ Rv x := by
  constructor
  · intro q
    rcases relabel_tri u1 v1 sA sB s0 x with ⟨_, b, _⟩ | ⟨a, _, _⟩ | ⟨_, _, c⟩
    · exact absurd (b.symm.trans q) (Int.ne_of_lt hAB)
    · exact a
    · exact absurd (c.symm.trans q) (Int.ne_of_lt (Int.lt_trans hx hAB))
  · exact sB x

include h hc he hne hlc hle hS hE in
/-- facts about the four halfedges of the doubled edge in the old state -/
theorem relabel_four :
    s.Pn cur < s.start.size ∧ s.Pn en < s.start.size ∧
    s.P (s.Pn cur) = (cur : Int) ∧ s.P (s.Pn en) = (en : Int) ∧
    s.S (s.Pn cur) = s.S (nx cur) ∧ s.S (nx (s.Pn cur)) = s.S cur ∧
    s.S (s.Pn en) = s.S (nx cur) ∧ s.S (nx (s.Pn en)) = s.S cur ∧
    cur ≠ s.Pn cur ∧ cur ≠ s.Pn en ∧ en ≠ s.Pn cur ∧ en ≠ s.Pn en ∧ s.Pn cur ≠ s.Pn en := by
  obtain ⟨_, _, _, d, f, g, hh, i⟩ := (h.good hc).live hlc
  obtain ⟨_, _, _, d', f', g', hh', i'⟩ := (h.good he).live hle
  refine ⟨d, d', f, f', i.symm, hh.symm, by rw [← i', hE], by rw [← hh', hS], ?_, ?_, ?_, ?_, ?_⟩
  · intro q; rw [← q] at i; exact g i.symm
  · intro q; rw [← q] at i'; rw [← hE] at i'; exact g i'.symm
  · intro q; rw [← q] at i; exact g (hS.trans i.symm)
  · intro q; rw [← q] at i'; exact g' i'.symm
  · intro q; rw [q, f'] at f; exact hne (Int.ofNat_inj.1 f).symm

include h hc he hne hlc hle hS hE u1 u2a u2b u2c u2d v1 v2a v2b v2c v2d sA sB s0 in
/-- the new labels on the four halfedges of the doubled edge -/
theorem relabel_vals :
    s'.S cur = s.S cur ∧ s'.S (nx cur) = s.S (nx cur) ∧ s'.S (s.Pn en) = s.S (nx cur) ∧
    s'.S (nx (s.Pn en)) = s.S cur ∧ s'.S en = A ∧ s'.S (nx en) = B ∧ s'.S (s.Pn cur) = B ∧
    s'.S (nx (s.Pn cur)) = A := by
  obtain ⟨huv, _, _⟩ := relabel_uv h hc hlc
  obtain ⟨_, _, _, _, q1, q2, q3, q4, _⟩ := relabel_four h hc he hne hlc hle hS hE
  refine ⟨?_, ?_, ?_, ?_, sA _ u2a, sB _ v2a, sB _ v2b, sA _ u2b⟩
  · exact s0 _ u2c (fun q => huv (v1 _ q))
  · exact s0 _ (fun q => huv (u1 _ q).symm) v2c
  · rw [s0 _ (fun q => huv ((u1 _ q).symm.trans q3)) v2d, q3]
  · rw [s0 _ u2d (fun q => huv (q4.symm.trans (v1 _ q))), q4]

end relabel

/-! ## evaluation of `FormLoop` -/

/-- `FormLoop` (edge_op.cpp:774-794) without its last statement `RemoveIfFolded(end)`: a copy by
hand of the body of the model's `formLoop`, tied to it by `MV.C01b.formLoop_eq` -/
def formLoopCore (s : HE) (current end_ : Int) : M HE := do
  let startVert : Int := s.nVert
  let _ ← s.getStart current
  let endVert : Int := s.nVert + 1
  let _ ← s.getEnd current
  let s := { s with nVert := s.nVert + 2 }
  let oldMatch ← s.getPair current
  let newMatch ← s.getPair end_
  let s ← updateVert s startVert oldMatch newMatch
  let s ← updateVert s endVert end_ current
  let s ← pairUp s current newMatch
  pairUp s end_ oldMatch

theorem P_congr {s t : HE} (h : t.paired = s.paired) (e : Nat) : t.P e = s.P e := by
  unfold HE.P; rw [h]

theorem S_congr {s t : HE} (h : t.start = s.start) (e : Nat) : t.S e = s.S e := by
  unfold HE.S; rw [h]

/-- a walk between two different halfedges takes a step -/
theorem walk_pos {s : HE} {c0 k t : Nat} (hk : s.walk c0 k = t) (hne : c0 ≠ t) : 0 < k := by
  rcases k with _ | k
  · exact absurd hk hne
  · exact Nat.succ_pos k

/-- `UpdateVert` on a state `t` that has the pairing of a `PairInv` state `s`, in terms of the fan -/
theorem updateVert_fan (s t : HE) (vert : Int) (c0 k tgt : Nat) (h : PairInv s) (hwt : WF t)
    (hp : t.paired = s.paired) (hsz : t.start.size = s.start.size)
    (hc0 : c0 < s.start.size) (hl0 : s.P c0 ≠ -1)
    (hk : s.walk c0 k = tgt) (hmin : ∀ i, i < k → s.walk c0 i ≠ tgt) :
    ∃ t', updateVert t vert (c0 : Int) (tgt : Int) = .ok t' ∧ t'.paired = s.paired ∧
      t'.prop = t.prop ∧ t'.nVert = t.nVert ∧ t'.nPropVert = t.nPropVert ∧
      t'.start.size = s.start.size ∧ WF t' ∧
      (∀ e, Fan s c0 k e → t'.S e = vert) ∧ (∀ e, ¬ Fan s c0 k e → t'.S e = t.S e) := by
  obtain ⟨t', a, b, c, d, e, f, g, g'⟩ := updateVert_trail t vert (s.walk c0) k (tgt : Int) hwt
    (by rw [hsz]; exact Nat.le_of_lt (walk_simple s c0 k tgt h hc0 hl0 hk hmin).2)
    ((Trail.of_live h hc0 hl0 hk hmin).congr hsz (fun i _ => P_congr hp _))
  refine ⟨t', a, b.trans hp, c, d, e, f.trans hsz, ?_, ?_, fun e he => g' e fun i hi q => he ⟨i, hi, q⟩⟩
  · unfold WF at *; rw [f, b, c]; exact hwt
  · rintro e ⟨i, hi, rfl⟩; exact g i hi

/-- `FormLoop(cur, en)` before its final `RemoveIfFolded`, on two distinct live halfedges
carrying the same directed edge: succeeds, `PairInv` holds again, two vertices are created and each
carries exactly one fan.  The two relabellings are steps on `PairInvExcept _ [cur, Pn en, en, Pn cur]`:
both fans have these four ends. -/
theorem formLoopCore_preserves (s : HE) (cur en k m : Nat) (h : PairInv s)
    (hc : cur < s.start.size) (he : en < s.start.size) (hne : cur ≠ en)
    (hlc : s.P cur ≠ -1) (hle : s.P en ≠ -1)
    (hS : s.S cur = s.S en) (hE : s.S (nx cur) = s.S (nx en))
    (hfresh : ∀ e, e < s.start.size → s.S e < (s.nVert : Int))
    (hk : s.walk (s.Pn cur) k = s.Pn en) (hkmin : ∀ i, i < k → s.walk (s.Pn cur) i ≠ s.Pn en)
    (hm : s.walk en m = cur) (hmmin : ∀ i, i < m → s.walk en i ≠ cur) :
    ∃ s', formLoopCore s (cur : Int) (en : Int) = .ok s' ∧ PairInv s' ∧ s'.nVert = s.nVert + 2 ∧
      s'.start.size = s.start.size ∧ s'.prop = s.prop ∧ s'.nPropVert = s.nPropVert ∧
      (∀ e, e < s.start.size →
        (s'.S e = (s.nVert : Int) ↔ ∃ i, i < k ∧ e = nx (s.walk (s.Pn cur) i))) ∧
      (∀ e, e < s.start.size →
        (s'.S e = (s.nVert : Int) + 1 ↔ ∃ i, i < m ∧ e = nx (s.walk en i))) ∧
      (∀ e, (¬ ∃ i, i < k ∧ e = nx (s.walk (s.Pn cur) i)) → (¬ ∃ i, i < m ∧ e = nx (s.walk en i)) →
        s'.S e = s.S e) ∧
      s'.P cur = ((s.Pn en : Nat) : Int) ∧ s'.P (s.Pn en) = (cur : Int) ∧
      s'.P en = ((s.Pn cur : Nat) : Int) ∧ s'.P (s.Pn cur) = (en : Int) ∧
      (∀ e, e ≠ cur → e ≠ s.Pn en → e ≠ en → e ≠ s.Pn cur → s'.P e = s.P e) := by
  have hw := h.1
  obtain ⟨huv, hu, hv⟩ := relabel_uv h hc hlc
  obtain ⟨dO, dN, fO, fN, q1, q2, q3, q4, x1, x2, x3, x4, x5⟩ := relabel_four h hc he hne hlc hle hS hE
  have LC := liveF h hc hlc
  have LE := liveF h he hle
  have iC := LC.pn; have lO := LC.ppl; have cC := P_eq_Pn LC.p0
  have iE := LE.pn; have cE := P_eq_Pn LE.p0
  have hk0 := walk_pos hk x5
  have hm0 := walk_pos hm hne.symm
  obtain ⟨nA, nB, nAB⟩ := fresh_ne (Int.natCast_nonneg s.nVert) (Int.lt_succ _)
  -- the two `UpdateVert`s
  obtain ⟨s1, e1, a1, b1, c1, d1, f1, w1, g1, g1'⟩ :=
    updateVert_fan s { s with nVert := s.nVert + 2 } (s.nVert : Int) (s.Pn cur) k (s.Pn en) h hw rfl rfl
      dO lO hk hkmin
  obtain ⟨s2, e2, a2, b2, c2, d2, f2, w2, g2, g2'⟩ :=
    updateVert_fan s s1 ((s.nVert : Int) + 1) en m cur h w1 a1 f1 he hle hm hmmin
  have u1 : ∀ e, Fan s (s.Pn cur) k e → s.S e = s.S cur := fun e q =>
    (fan_live h dO lO q).2.2.trans q2
  have v1 : ∀ e, Fan s en m e → s.S e = s.S (nx cur) := fun e q =>
    (fan_live h he hle q).2.2.trans hE.symm
  have nuv : ∀ e, Fan s en m e → ¬ Fan s (s.Pn cur) k e := fun e q' q =>
    huv ((u1 e q).symm.trans (v1 e q'))
  have S1 : ∀ e, ¬ Fan s (s.Pn cur) k e → s1.S e = s.S e := fun e q => g1' e q
  have sA : ∀ e, Fan s (s.Pn cur) k e → s2.S e = (s.nVert : Int) := fun e q => by
    rw [g2' e (fun q' => nuv e q' q), g1 e q]
  have s0 : ∀ e, ¬ Fan s (s.Pn cur) k e → ¬ Fan s en m e → s2.S e = s.S e := fun e q q' => by
    rw [g2' e q', S1 e q]
  have fanlt : ∀ {c0 n e}, c0 < s.start.size → s.P c0 ≠ -1 → Fan s c0 n e → nx e < s.start.size :=
    fun a b q => nx_lt hw.2.2 (fan_live h a b q).1
  -- the four halfedges of the doubled edge dangle until the `PairUp`s
  have hX : ∀ {j}, j ∉ [cur, s.Pn en, en, s.Pn cur] →
      j ≠ cur ∧ j ≠ s.Pn en ∧ j ≠ en ∧ j ≠ s.Pn cur := fun hx => by
    simpa only [List.mem_cons, List.not_mem_nil, or_false, not_or] using hx
  have I0 : PairInvExcept s [cur, s.Pn en, en, s.Pn cur] :=
    ((pairInv_iff s).1 h).mono (fun _ _ hx => absurd hx List.not_mem_nil)
  have I1 : PairInvExcept s1 [cur, s.Pn en, en, s.Pn cur] :=
    relabel_preserves I0 w1 f1 (P_congr a1) g1 S1 u1 hu nA
      (fun x q => Int.ne_of_lt (hfresh _ (fanlt dO lO q)))
      (fun j hj hx hl => by
        obtain ⟨n1, n2, n3, n4⟩ := hX hx
        exact fan_rot h dO lO hk hj (live_of_nonneg hl) (by rw [iC]; exact n1) (by rw [iE]; exact n3)
          n4 n2)
  have Pn1 : ∀ x, s1.Pn x = s.Pn x := fun x => Pn_congr (P_congr a1 x)
  have I2 : PairInvExcept s2 [cur, s.Pn en, en, s.Pn cur] :=
    relabel_preserves I1 w2 (f2.trans f1.symm) (P_congr (a2.trans a1.symm)) g2 g2'
      (fun x q => (S1 x (nuv x q)).trans (v1 x q)) hv nB
      (fun x q => by
        by_cases r : Fan s (s.Pn cur) k (nx x)
        · rw [g1 _ r]; exact nAB
        · rw [S1 _ r]; exact Int.ne_of_lt (Int.lt_trans (hfresh _ (fanlt he hle q)) (Int.lt_succ _)))
      (fun j hj hx hl => by
        obtain ⟨n1, n2, n3, n4⟩ := hX hx
        rw [Pn1]
        exact fan_rot h he hle hm (f1 ▸ hj) (live_of_nonneg (P_congr a1 j ▸ hl)) n2 n4 n3 n1)
  -- labels around the four
  obtain ⟨wc, wc1, wn, wn1, we, we1, wo, wo1⟩ := relabel_vals h hc he hne hlc hle hS hE u1
    (by have := fan_last h dO lO hk hk0; rwa [iE] at this) (fan_first hk0)
    (by have := fan_not_pair h dO lO hk hkmin; rwa [iC] at this) (fan_not_next hkmin) v1
    (fan_first hm0) (fan_last h he hle hm hm0) (fan_not_next hmmin) (fan_not_pair h he hle hm hmmin)
    sA g2 s0
  have live2 : ∀ x, s.S x ≠ -1 → s2.S x ≠ -1 := fun x =>
    relabel_ne (Int.natCast_nonneg s.nVert) (Int.lt_succ _) u1 v1 sA g2 s0
  obtain ⟨s', hev, hst', hpr', hnv', hnp', hw', p1, p2, p3, p4, p0⟩ :=
    pairUp_two s2 cur (s.Pn en) en (s.Pn cur) w2 (f2 ▸ hc) (f2 ▸ dN) (f2 ▸ he) (f2 ▸ dO)
      x2 hne x1 (Ne.symm x4) (Ne.symm x5) x3
  have hS' : ∀ e, s'.S e = s2.S e := S_congr hst'
  have hsz' : s'.start.size = s.start.size := by rw [hst', f2]
  have p0' : ∀ e, e ≠ cur → e ≠ s.Pn en → e ≠ en → e ≠ s.Pn cur → s'.P e = s.P e :=
    fun e n1 n2 n3 n4 => (p0 e n1 n2 n3 n4).trans (P_congr a2 e)
  have hinv : PairInv s' := by
    rw [pairInv_iff]
    refine ⟨hw', fun e he' _ => ?_⟩
    rw [hsz'] at he'
    by_cases hx : e ∈ [cur, s.Pn en, en, s.Pn cur]
    · have gc := good_pair (s := s') (hsz' ▸ hc) (hsz' ▸ dN) p1 p2 (by rw [hS', wc]; exact hu)
        (by rw [hS', wc1]; exact hv) (by rw [hS']; exact live2 _ LC.s2)
        (by rw [hS']; exact live2 _ (liveF h dN LE.ppl).s2) (by rw [hS', hS', wc, wc1]; exact huv)
        (by rw [hS', hS', wc, wn1]) (by rw [hS', hS', wc1, wn])
      have ge := good_pair (s := s') (hsz' ▸ he) (hsz' ▸ dO) p3 p4 (by rw [hS', we]; exact nA)
        (by rw [hS', we1]; exact nB) (by rw [hS']; exact live2 _ LE.s2)
        (by rw [hS']; exact live2 _ (liveF h dO lO).s2) (by rw [hS', hS', we, we1]; exact nAB)
        (by rw [hS', hS', we, wo1]) (by rw [hS', hS', we1, wo])
      simp only [List.mem_cons, List.not_mem_nil, or_false] at hx
      rcases hx with rfl | rfl | rfl | rfl
      · exact gc.1
      · exact gc.2
      · exact ge.1
      · exact ge.2
    · obtain ⟨n1, n2, n3, n4⟩ := hX hx
      have hg := I2.good (f2 ▸ he') hx
      refine good_frame (by rw [hst']) (hS' _) (hS' _) (hS' _) (p0 e n1 n2 n3 n4)
        (fun hl => ⟨?_, hS' _, hS' _⟩) hg
      -- the four are paired among themselves, so the partner of `e` is none of them
      have hb := fun {x y : Nat} (q : s.P x = (y : Int)) => Pn_ne_of_P (s := s2)
        ((hg.live (live_of_nonneg hl)).2.2.2.2.1) ((P_congr a2 x).trans q)
      exact p0 _ (hb cC n4) (hb fN n3) (hb cE n2) (hb fO n1)
  have sA' := fun e q => (hS' e).trans (sA e q)
  have sB' := fun e q => (hS' e).trans (g2 e q)
  have s0' := fun e q q' => (hS' e).trans (s0 e q q')
  refine ⟨s', ?_, hinv, ?_, hsz', ?_, ?_, ?_, ?_, s0', p1, p2, p3, p4, p0'⟩
  · have cC' : HE.P { s with nVert := s.nVert + 2 } cur = ((s.Pn cur : Nat) : Int) := cC
    have cE' : HE.P { s with nVert := s.nVert + 2 } en = ((s.Pn en : Nat) : Int) := cE
    simp only [formLoopCore, getStart_ok, getEnd_ok, getPair_ok, ok_bind, cC', cE', e1, e2, hc,
      hw.1 ▸ hc, hw.1 ▸ he, nx_lt hw.2.2 hc]
    exact hev
  · rw [hnv', c2, c1]
  · rw [hpr', b2, b1]
  · rw [hnp', d2, d1]
  · intro e he'
    exact relabel_iffA (s := s) (B := (s.nVert : Int) + 1) (Rv := Fan s en m)
      (Int.lt_succ _) u1 v1 sA' sB' s0' (hfresh e he')
  · intro e he'
    exact relabel_iffB (s := s) (A := (s.nVert : Int)) (Ru := Fan s (s.Pn cur) k)
      (Int.lt_succ _) u1 v1 sA' sB' s0' (hfresh e he')

/-- two tetrahedra 0123 and 0145 glued along the edge 0-1 with the pairing CROSSING the sheets
(halfedge 0 = 0→1 of the first is paired with 15 = 1→0 of the second, 12 = 0→1 of the second with
3 = 1→0 of the first): a doubled edge whose two copies lie on one orbit at both ends -/
def twoTetraCross : HE :=
  { start := #[0,1,2, 1,0,3, 0,2,3, 2,1,3, 0,1,4, 1,0,5, 0,4,5, 4,1,5],
    paired := #[15,9,6, 12,8,10, 2,11,4, 1,5,7, 3,21,18, 0,20,22, 14,23,16, 13,17,19],
    prop := #[0,1,2, 1,0,3, 0,2,3, 2,1,3, 0,1,4, 1,0,5, 0,4,5, 4,1,5], nVert := 6, nPropVert := 6 }

/-- the hypotheses of `formLoopCore_preserves` on the crossed double tetrahedron: `cur = 0`, `en = 12`
(both 0→1), `k = m = 3` -/
theorem twoTetraCross_ok : PairInv twoTetraCross ∧ 0 < twoTetraCross.start.size ∧ 12 < twoTetraCross.start.size ∧
    (0 : Nat) ≠ 12 ∧ twoTetraCross.P 0 ≠ -1 ∧ twoTetraCross.P 12 ≠ -1 ∧
    twoTetraCross.S 0 = twoTetraCross.S 12 ∧ twoTetraCross.S (nx 0) = twoTetraCross.S (nx 12) ∧
    (∀ e, e < twoTetraCross.start.size → twoTetraCross.S e < (twoTetraCross.nVert : Int)) ∧
    twoTetraCross.walk (twoTetraCross.Pn 0) 3 = twoTetraCross.Pn 12 ∧
    (∀ i, i < 3 → twoTetraCross.walk (twoTetraCross.Pn 0) i ≠ twoTetraCross.Pn 12) ∧
    twoTetraCross.walk 12 3 = 0 ∧ (∀ i, i < 3 → twoTetraCross.walk 12 i ≠ 0) := by decide +kernel

/-- non-vacuity of `formLoopCore_preserves`: `cur = 0`, `en = 12` (both 0→1), `k = m = 3` -/
example : PairInv twoTetraCross ∧ 0 < twoTetraCross.start.size ∧ 12 < twoTetraCross.start.size ∧
    (0 : Nat) ≠ 12 ∧ twoTetraCross.P 0 ≠ -1 ∧ twoTetraCross.P 12 ≠ -1 ∧
    twoTetraCross.S 0 = twoTetraCross.S 12 ∧ twoTetraCross.S (nx 0) = twoTetraCross.S (nx 12) ∧
    (∀ e, e < twoTetraCross.start.size → twoTetraCross.S e < (twoTetraCross.nVert : Int)) ∧
    twoTetraCross.walk (twoTetraCross.Pn 0) 3 = twoTetraCross.Pn 12 ∧
    (∀ i, i < 3 → twoTetraCross.walk (twoTetraCross.Pn 0) i ≠ twoTetraCross.Pn 12) ∧
    twoTetraCross.walk 12 3 = 0 ∧ (∀ i, i < 3 → twoTetraCross.walk 12 i ≠ 0) :=
  twoTetraCross_ok

/-- ... and the model evaluated on it: `FormLoop` un-crosses the pairing, the second tetrahedron gets
the two new vertices 6, 7 -/
example : formLoopCore twoTetraCross 0 12 = .ok
    { start := #[0,1,2, 1,0,3, 0,2,3, 2,1,3, 6,7,4, 7,6,5, 6,4,5, 4,7,5],
      paired := #[3,9,6, 0,8,10, 2,11,4, 1,5,7, 15,21,18, 12,20,22, 14,23,16, 13,17,19],
      prop := #[0,1,2, 1,0,3, 0,2,3, 2,1,3, 0,1,4, 1,0,5, 0,4,5, 4,1,5], nVert := 8, nPropVert := 6 } := by
  rfl


/-- non-vacuity: every hypothesis of `formLoopCore_preserves` holds on the crossed double tetrahedron -/
example := by
  obtain ⟨h, hc, he, hne, hlc, hle, hS, hE, hfresh, hk, hkmin, hm, hmmin⟩ := twoTetraCross_ok
  exact formLoopCore_preserves twoTetraCross 0 12 3 3 h hc he hne hlc hle hS hE hfresh hk hkmin hm hmmin

end MV.EdgeOp
