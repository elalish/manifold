import MV.Proof.Export
import MV.Proof.ExportIds
/-! The run table of the exporter (`MV/Props/C07.lean`): the comparator, `sortIdx`, the run loop
`runsFrom` (a run opens where the meshID changes: `changes`; runs are the maximal blocks of equal
meshID), `runOrder`, the assembled table `exportRuns`, and what holds in addition for a consistent,
non-original state. -/
namespace MV.Export
open List

variable {τ : Type}

/-! ## the comparator `runLE` is the lexicographic `≤` on (originalID, meshID) -/

theorem runLE_iff (a b : TriRef) : runLE a b = true ↔
    a.originalID < b.originalID ∨ (a.originalID = b.originalID ∧ a.meshID ≤ b.meshID) := by
  unfold runLE; split <;> simp [*] <;> omega

theorem runLE_trans (a b c : TriRef) : runLE a b = true → runLE b c = true → runLE a c = true := by
  simp only [runLE_iff]; omega

theorem runLE_total (a b : TriRef) : (runLE a b || runLE b a) = true := by
  simp only [Bool.or_eq_true, runLE_iff]; omega

/-- renaming the meshIDs does not change the comparison if it keeps the order of the meshIDs of
triangles with the same original -/
theorem runLE_rename (φ : Int → Int) (a b : TriRef)
    (h : a.originalID = b.originalID → (φ a.meshID ≤ φ b.meshID ↔ a.meshID ≤ b.meshID)) :
    runLE { a with meshID := φ a.meshID } { b with meshID := φ b.meshID } = runLE a b := by
  rw [Bool.eq_iff_iff, runLE_iff, runLE_iff]
  by_cases e : a.originalID = b.originalID
  · simp only [e, h e, Int.lt_irrefl, true_and, false_or]
  · simp only [e, false_and, or_false]

theorem sortIdx_perm (o : Bool) (refs : List TriRef) : sortIdx o refs ~ refs.zipIdx := by
  unfold sortIdx; split
  · exact Perm.refl _
  · exact mergeSort_perm _ _

theorem sortIdx_length (o : Bool) (refs : List TriRef) : (sortIdx o refs).length = refs.length := by
  rw [(sortIdx_perm o refs).length_eq, length_zipIdx]

theorem sortIdx_snd_perm (o : Bool) (refs : List TriRef) :
    (sortIdx o refs).map (·.2) ~ List.range refs.length := by
  have h := (sortIdx_perm o refs).map (·.2)
  rwa [zipIdx_map_snd, ← range_eq_range'] at h

theorem sortIdx_fst_perm (o : Bool) (refs : List TriRef) : (sortIdx o refs).map (·.1) ~ refs := by
  have h := (sortIdx_perm o refs).map (·.1)
  rwa [zipIdx_map_fst] at h

theorem sortIdx_mem {o : Bool} {refs : List TriRef} {x : TriRef × Nat} (h : x ∈ sortIdx o refs) :
    refs[x.2]? = some x.1 :=
  mem_zipIdx_iff_getElem?.1 ((sortIdx_perm o refs).mem_iff.1 h)

theorem sortIdx_sorted (refs : List TriRef) :
    ((sortIdx false refs).map (·.1)).Pairwise (fun a b => runLE a b = true) := by
  simp only [sortIdx, Bool.false_eq_true, if_false, pairwise_map]
  exact pairwise_mergeSort (le := fun a b : TriRef × Nat => runLE a.1 b.1)
    (fun a b c => runLE_trans a.1 b.1 c.1) (fun a b => runLE_total a.1 b.1) _

/-- an already sorted list is left alone (stability) -/
theorem sortIdx_of_sorted {refs : List TriRef} (h : refs.Pairwise (fun a b => runLE a b = true)) :
    sortIdx false refs = refs.zipIdx := by
  simp only [sortIdx, Bool.false_eq_true, if_false]
  exact mergeSort_of_pairwise (pairwise_zipIdx_fst h)

/-! ## `runsFrom`

Position `i` of the list is triangle `tri + i`. -/

@[simp] theorem runsFrom_nil (d : Rel τ) (tri : Nat) (last : Int) (m : RelMap τ) :
    runsFrom d [] tri last m = ([], m) := rfl

theorem runsFrom_cons_ne (d : Rel τ) {r : TriRef} (rs : List TriRef) (tri : Nat) {last : Int}
    (m : RelMap τ) (h : r.meshID ≠ last) :
    runsFrom d (r :: rs) tri last m =
      (⟨tri, r.meshID, (RelMap.lookup m r.meshID).getD d⟩ ::
        (runsFrom d rs (tri + 1) r.meshID (RelMap.erase m r.meshID)).1,
       (runsFrom d rs (tri + 1) r.meshID (RelMap.erase m r.meshID)).2) := by
  simp [runsFrom, h]

theorem runsFrom_cons_eq (d : Rel τ) {r : TriRef} (rs : List TriRef) (tri : Nat) {last : Int}
    (m : RelMap τ) (h : r.meshID = last) :
    runsFrom d (r :: rs) tri last m = runsFrom d rs (tri + 1) last m := by
  simp [runsFrom, h]

/-! ## where the runs open

The loop's `lastID` is always the meshID of the triangle before, so a run opens exactly where the
meshID changes: the starts and meshIDs of `runsFrom` are a function of the meshID sequence alone,
whatever the relation table and the default. -/

/-- `(tri + i, ids[i])` for every `i` with `ids[i] ≠ ids[i-1]` (`ids[-1] = last`) -/
def changes : List Int → Int → Nat → List (Nat × Int)
  | [], _, _ => []
  | x :: xs, last, tri => if x = last then changes xs x (tri + 1) else (tri, x) :: changes xs x (tri + 1)

theorem runsFrom_changes (d : Rel τ) : ∀ (rs : List TriRef) (tri : Nat) (last : Int) (m : RelMap τ),
    (runsFrom d rs tri last m).1.map (fun run => (run.start, run.meshID)) =
      changes (rs.map (·.meshID)) last tri
  | [], _, _, _ => rfl
  | r :: rs, tri, last, m => by
    by_cases h : r.meshID = last
    · simp only [runsFrom_cons_eq d rs tri m h, map_cons, changes, if_pos h]
      rw [← h]
      exact runsFrom_changes d rs _ _ _
    · simp only [runsFrom_cons_ne d rs tri m h, map_cons, changes, if_neg h, runsFrom_changes d rs]

theorem changes_start : ∀ (ids : List Int) (last : Int) (tri : Nat),
    (∀ p ∈ changes ids last tri, ∃ i, p.1 = tri + i ∧ ids[i]? = some p.2) ∧
    (changes ids last tri).Pairwise (fun a b => a.1 < b.1)
  | [], _, _ => by simp [changes]
  | x :: xs, last, tri => by
    obtain ⟨ih1, ih2⟩ := changes_start xs x (tri + 1)
    have step : ∀ p ∈ changes xs x (tri + 1), ∃ i, p.1 = tri + i ∧ (x :: xs)[i]? = some p.2 := fun p hp => by
      obtain ⟨i, e, hi⟩ := ih1 p hp
      exact ⟨i + 1, by omega, hi⟩
    simp only [changes]
    split
    · exact ⟨step, ih2⟩
    · refine ⟨fun p hp => ?_, pairwise_cons.2 ⟨fun p hp => ?_, ih2⟩⟩
      · rcases mem_cons.1 hp with rfl | hp
        · exact ⟨0, rfl, rfl⟩
        · exact step p hp
      · obtain ⟨i, e, _⟩ := ih1 p hp
        show tri < p.1
        omega

/-- between two changes the meshID stays: before the first change it is `last`, from change `k` up to
the next one (or the end) it is the meshID of change `k` -/
theorem changes_cover : ∀ (ids : List Int) (last : Int) (tri : Nat),
    (∀ i x, tri + i < (((changes ids last tri)[0]?).map (·.1)).getD (tri + ids.length) →
      ids[i]? = some x → x = last) ∧
    (∀ k p i x, (changes ids last tri)[k]? = some p → p.1 ≤ tri + i →
      tri + i < (((changes ids last tri)[k + 1]?).map (·.1)).getD (tri + ids.length) →
      ids[i]? = some x → x = p.2)
  | [], _, _ => by simp
  | y :: ys, last, tri => by
    obtain ⟨h1, h2⟩ := changes_cover ys y (tri + 1)
    have hlen : tri + (y :: ys).length = tri + 1 + ys.length := by simp only [length_cons]; omega
    have hsucc : ∀ i, tri + (i + 1) = tri + 1 + i := fun i => by omega
    have hge : ∀ {k : Nat} {p : Nat × Int}, (changes ys y (tri + 1))[k]? = some p → tri + 1 ≤ p.1 := fun hk => by
      obtain ⟨i, e, _⟩ := (changes_start ys y (tri + 1)).1 _ (mem_of_getElem? hk)
      omega
    by_cases h : y = last
    · simp only [changes, if_pos h, hlen]
      refine ⟨fun i x hi hx => ?_, fun k p i x hk hs hi hx => ?_⟩
      · cases i with
        | zero => cases hx; exact h
        | succ i => exact (h1 i x (hsucc i ▸ hi) hx).trans h
      · cases i with
        | zero => have := hge hk; omega
        | succ i => exact h2 k p i x hk (hsucc i ▸ hs) (hsucc i ▸ hi) hx
    · simp only [changes, if_neg h, hlen]
      refine ⟨fun i x hi hx => ?_, fun k p i x hk hs hi hx => ?_⟩
      · exact absurd hi (Nat.not_lt.2 (Nat.le_add_right tri i))
      · rw [getElem?_cons_succ] at hi
        cases k with
        | zero =>
          cases hk
          cases i with
          | zero => cases hx; rfl
          | succ i => exact h1 i x (hsucc i ▸ hi) hx
        | succ k =>
          rw [getElem?_cons_succ] at hk
          cases i with
          | zero => have := hge hk; omega
          | succ i => exact h2 k p i x hk (hsucc i ▸ hs) (hsucc i ▸ hi) hx

theorem mem_changes : ∀ (ids : List Int) (last : Int) (tri : Nat),
    ∀ x ∈ ids, x = last ∨ x ∈ (changes ids last tri).map (·.2)
  | y :: ys, last, tri, x, hx => by
    simp only [changes]
    rcases mem_cons.1 hx with rfl | hx
    · split
      · exact Or.inl ‹_›
      · exact Or.inr (by simp)
    · have := mem_changes ys y (tri + 1) x hx
      split
      · exact this.imp (fun e => e.trans ‹_›) id
      · exact Or.inr (by simp only [map_cons, mem_cons]; exact this)

/-- an injective renaming of the meshIDs renames the runs -/
theorem changes_map (φ : Int → Int) : ∀ (ids : List Int) (last last2 : Int) (tri : Nat),
    (∀ x ∈ ids, ∀ y ∈ ids, φ x = φ y → x = y) → (∀ x ∈ ids, φ x = last2 ↔ x = last) →
    changes (ids.map φ) last2 tri = (changes ids last tri).map (fun p => (p.1, φ p.2))
  | [], _, _, _, _, _ => rfl
  | x :: xs, last, last2, tri, hinj, hlast => by
    have ih := changes_map φ xs x (φ x) (tri + 1)
      (fun a ha b hb => hinj a (mem_cons_of_mem _ ha) b (mem_cons_of_mem _ hb))
      (fun a ha => ⟨hinj a (mem_cons_of_mem _ ha) x mem_cons_self, fun e => e ▸ rfl⟩)
    have hx := hlast x mem_cons_self
    simp only [map_cons, changes, ih]
    by_cases e : x = last
    · rw [if_pos (hx.2 e), if_pos e]
    · rw [if_neg (fun h => e (hx.1 h)), if_neg e, map_cons]


theorem runsFrom_start (d : Rel τ) (rs : List TriRef) (tri : Nat) (last : Int) (m : RelMap τ) :
    (∀ run ∈ (runsFrom d rs tri last m).1,
      ∃ i r, run.start = tri + i ∧ rs[i]? = some r ∧ r.meshID = run.meshID) ∧
    (runsFrom d rs tri last m).1.Pairwise (fun a b => a.start < b.start) := by
  obtain ⟨h1, h2⟩ := changes_start (rs.map (·.meshID)) last tri
  rw [← runsFrom_changes d rs tri last m] at h1 h2
  refine ⟨fun run hr => ?_, (pairwise_map (f := fun run : Run τ => (run.start, run.meshID))).1 h2⟩
  obtain ⟨i, e, hi⟩ := h1 _ (mem_map_of_mem (f := fun run : Run τ => (run.start, run.meshID)) hr)
  rw [getElem?_map] at hi
  obtain ⟨r, hr', e'⟩ := Option.map_eq_some_iff.1 hi
  exact ⟨i, r, e, hr', e'⟩

/-! ## which meshIDs get a run, what is left of the map -/

theorem runsFrom_meshID_mem (d : Rel τ) (rs : List TriRef) (tri : Nat) (last : Int) (m : RelMap τ) :
    ∀ run ∈ (runsFrom d rs tri last m).1, run.meshID ∈ rs.map (·.meshID) := by
  intro run hr
  obtain ⟨_, r, _, hr', e⟩ := (runsFrom_start d rs tri last m).1 run hr
  exact mem_map.2 ⟨r, mem_of_getElem? hr', e⟩

theorem runsFrom_snd (d : Rel τ) : ∀ (rs : List TriRef) (tri : Nat) (last : Int) (m : RelMap τ),
    (runsFrom d rs tri last m).2 =
      m.filter (fun kv => !((runsFrom d rs tri last m).1.map (·.meshID)).contains kv.1) := by
  intro rs
  induction rs with
  | nil => intro tri last m; exact (filter_eq_self.2 (fun _ _ => rfl)).symm
  | cons r rs ih =>
    intro tri last m
    by_cases h : r.meshID = last
    · rw [runsFrom_cons_eq d rs tri m h]; exact ih _ _ _
    · rw [runsFrom_cons_ne d rs tri m h]
      simp only [map_cons]
      rw [ih, RelMap.erase, filter_filter]
      apply filter_congr
      intro kv _
      simp only [contains_cons, Bool.not_or, bne, Bool.and_comm]

theorem lookup_erase_ne (m : RelMap τ) {k k' : Int} (h : k' ≠ k) :
    RelMap.lookup (RelMap.erase m k) k' = RelMap.lookup m k' := by
  unfold RelMap.lookup RelMap.erase
  rw [find?_filter_of_imp]
  intro a ha
  simp only [beq_iff_eq] at ha
  simp only [bne_iff_ne, ne_eq, ha]
  exact h

/-! ## equal meshIDs are contiguous in the sorted list -/

/-- every value occurs in one contiguous block -/
def Grouped : List Int → Prop
  | [] => True
  | x :: xs => Grouped xs ∧ (x ∈ xs → xs.head? = some x)

theorem grouped_of_sorted : ∀ {rs : List TriRef}, rs.Pairwise (fun a b => runLE a b = true) →
    (∀ a ∈ rs, ∀ b ∈ rs, a.meshID = b.meshID → a.originalID = b.originalID) →
    Grouped (rs.map (·.meshID)) := by
  intro rs
  induction rs with
  | nil => intro _ _; trivial
  | cons r rs ih =>
    intro hs hf
    obtain ⟨hs1, hs2⟩ := pairwise_cons.1 hs
    refine ⟨ih hs2 (fun a ha b hb => hf a (mem_cons_of_mem _ ha) b (mem_cons_of_mem _ hb)), ?_⟩
    intro hmem
    obtain ⟨r', hr', e⟩ := mem_map.1 hmem
    cases rs with
    | nil => simp at hr'
    | cons r1 rs' =>
      simp only [map_cons, head?_cons, Option.some.injEq]
      have ho := hf r' (mem_cons_of_mem _ hr') r mem_cons_self e
      have h1 := (runLE_iff _ _).1 (hs1 r1 mem_cons_self)
      rcases mem_cons.1 hr' with rfl | hr''
      · exact e
      · have h2 := (runLE_iff _ _).1 ((pairwise_cons.1 hs2).1 r' hr'')
        simp only at e
        omega

/-- with contiguous meshIDs no relation is looked up after it was erased: every run carries the
relation stored under its meshID in the ORIGINAL map (or the default if there is none), and
every meshID opens exactly one run -/
theorem runsFrom_grouped (d : Rel τ) : ∀ (rs : List TriRef) (tri : Nat) (last : Int) (m : RelMap τ),
    Grouped (last :: rs.map (·.meshID)) →
    last ∉ (runsFrom d rs tri last m).1.map (·.meshID) ∧
    ((runsFrom d rs tri last m).1.map (·.meshID)).Nodup ∧
    ∀ run ∈ (runsFrom d rs tri last m).1, run.rel = (RelMap.lookup m run.meshID).getD d := by
  intro rs
  induction rs with
  | nil => intro tri last m _; simp
  | cons r rs ih =>
    intro tri last m hg
    obtain ⟨⟨hg1, hg2⟩, hg3⟩ := hg
    by_cases h : r.meshID = last
    · rw [runsFrom_cons_eq d rs tri m h]
      exact ih (tri + 1) last m (h ▸ ⟨hg1, hg2⟩)
    · rw [runsFrom_cons_ne d rs tri m h]
      obtain ⟨i1, i2, i3⟩ := ih (tri + 1) r.meshID (RelMap.erase m r.meshID) ⟨hg1, hg2⟩
      have hlast : last ∉ rs.map (·.meshID) := by
        intro hl
        have := hg3 (by simp only [map_cons, mem_cons]; exact Or.inr hl)
        simp only [map_cons, head?_cons, Option.some.injEq] at this
        exact h this
      refine ⟨?_, ?_, ?_⟩
      · simp only [map_cons, mem_cons, not_or]
        refine ⟨fun e => h e.symm, fun hl => hlast ?_⟩
        obtain ⟨run, hr, e⟩ := mem_map.1 hl
        exact e ▸ runsFrom_meshID_mem d rs _ _ _ run hr
      · simp only [map_cons, nodup_cons]; exact ⟨i1, i2⟩
      · intro run hr
        rcases mem_cons.1 hr with rfl | hr
        · rfl
        · rw [i3 run hr, lookup_erase_ne]
          intro e
          have hmem : run.meshID ∈
              (runsFrom d rs (tri + 1) r.meshID (RelMap.erase m r.meshID)).1.map (·.meshID) :=
            mem_map.2 ⟨run, hr, rfl⟩
          rw [e] at hmem
          exact i1 hmem

theorem runOrder_cons_cons (a b : Nat) (l : List Nat) :
    runOrder (a :: b :: l) = List.range' (a / 3) (b / 3 - a / 3) ++ runOrder (b :: l) := by
  simp [runOrder]

/-- the blocks `[a₀,a₁), [a₁,a₂), …` of a non-decreasing list tile `[a₀, a_last)` -/
theorem runOrder_map3 : ∀ l : List Nat, l.Pairwise (· ≤ ·) →
    runOrder (l.map (3 * ·)) = List.range' (l.head?.getD 0) (l.getLast?.getD 0 - l.head?.getD 0)
  | [], _ => rfl
  | [a], _ => by simp [runOrder]
  | a :: b :: l, h => by
    obtain ⟨h1, h2⟩ := pairwise_cons.1 h
    -- write `b = a + d` and the last entry as `a + d + e`
    obtain ⟨d, rfl⟩ := Nat.exists_eq_add_of_le (h1 b mem_cons_self)
    obtain ⟨x, hx⟩ : ∃ x, ((a + d) :: l).getLast? = some x := ⟨_, getLast?_eq_some_getLast (cons_ne_nil _ _)⟩
    obtain ⟨e, rfl⟩ : ∃ e, x = a + d + e := by
      rcases mem_cons.1 (mem_of_getLast? hx) with rfl | hm
      · exact ⟨0, rfl⟩
      · exact Nat.exists_eq_add_of_le ((pairwise_cons.1 h2).1 x hm)
    rw [map_cons, map_cons, runOrder_cons_cons, ← map_cons, runOrder_map3 _ h2, getLast?_cons_cons, hx,
      Nat.mul_div_cancel_left _ (by decide), Nat.mul_div_cancel_left _ (by decide)]
    simp only [head?_cons, Option.getD_some, Nat.add_sub_cancel_left]
    rw [Nat.add_assoc, Nat.add_sub_cancel_left]
    exact range'_append_1

/-! ## `exportRuns`: assembling the run table -/

/-- the refs in export order -/
abbrev sortedOf (o : Bool) (refs : List TriRef) : List TriRef := (sortIdx o refs).map (·.1)

/-- the run loop of `exportRuns` -/
abbrev loopOf (o : Bool) (idT : τ) (refs : List TriRef) (m : RelMap τ) : List (Run τ) × RelMap τ :=
  runsFrom (Rel.dflt idT) (sortedOf o refs) 0 (-1) m

theorem exportRuns_sorted (o : Bool) (idT : τ) (refs : List TriRef) (m : RelMap τ) :
    (exportRuns o idT refs m).sorted = sortedOf o refs := rfl

theorem exportRuns_numTri (o : Bool) (idT : τ) (refs : List TriRef) (m : RelMap τ) :
    (exportRuns o idT refs m).numTri = refs.length := rfl

theorem exportRuns_triNew2Old (o : Bool) (idT : τ) (refs : List TriRef) (m : RelMap τ) :
    (exportRuns o idT refs m).triNew2Old = (sortIdx o refs).map (·.2) := rfl

theorem exportRuns_runs (o : Bool) (idT : τ) (refs : List TriRef) (m : RelMap τ) :
    (exportRuns o idT refs m).runs = (loopOf o idT refs m).1 ++
      (loopOf o idT refs m).2.map fun kv => (⟨refs.length, kv.1, kv.2⟩ : Run τ) := rfl

theorem exportRuns_runs_getElem? (o : Bool) (idT : τ) (refs : List TriRef) (m : RelMap τ) {k : Nat}
    {run : Run τ} (h : (loopOf o idT refs m).1[k]? = some run) :
    (exportRuns o idT refs m).runs[k]? = some run := by
  rw [exportRuns_runs, getElem?_append_left (List.getElem?_eq_some_iff.1 h).1]; exact h

theorem sortedOf_length (o : Bool) (refs : List TriRef) : (sortedOf o refs).length = refs.length := by
  simp [sortedOf, sortIdx_length]

theorem sortedOf_mem {o : Bool} {refs : List TriRef} {r : TriRef} : r ∈ sortedOf o refs ↔ r ∈ refs :=
  (sortIdx_fst_perm o refs).mem_iff

theorem sorted_getElem?_eq (o : Bool) (refs : List TriRef) (t : Nat) (ht : t < refs.length) :
    (sortedOf o refs)[t]? = refs[((sortIdx o refs).map (·.2)).getD t 0]? := by
  have hl : t < (sortIdx o refs).length := by rw [sortIdx_length]; exact ht
  have hm := sortIdx_mem (getElem_mem hl)
  simp only [sortedOf, getElem?_map, getElem?_eq_getElem hl, Option.map_some, getD_eq_getElem?_getD,
    Option.getD_some]
  exact hm.symm

/-- start of run `k`, or `e` when there is no run `k` -/
def nxt (runs : List (Run τ)) (k e : Nat) : Nat := ((runs[k]?).map (·.start)).getD e

theorem nxt_of_getElem? {runs : List (Run τ)} {k : Nat} {run : Run τ} (h : runs[k]? = some run) (e : Nat) :
    nxt runs k e = run.start := by
  simp [nxt, h]

theorem nxt_of_ge {runs : List (Run τ)} {e k : Nat} (hk : runs.length ≤ k) : nxt runs k e = e := by
  simp [nxt, getElem?_eq_none hk]

theorem starts_getElem? (runs : List (Run τ)) (e k : Nat) (hk : k ≤ runs.length) :
    (runs.map (·.start) ++ [e])[k]? = some (nxt runs k e) := by
  unfold nxt
  rcases Nat.lt_or_ge k runs.length with h | h
  · rw [getElem?_append_left (by simpa using h)]
    simp [getElem?_eq_getElem h]
  · have e : k = runs.length := by omega
    subst e
    rw [getElem?_append_right (by simp)]
    simp

theorem runIndex_eq (rt : RunTable τ) :
    rt.runIndex = (rt.runs.map (·.start) ++ [rt.numTri]).map (3 * ·) := by
  simp [RunTable.runIndex]

theorem runIndex_getD (rt : RunTable τ) (k : Nat) (hk : k ≤ rt.runs.length) :
    rt.runIndex.getD k 0 = 3 * nxt rt.runs k rt.numTri := by
  rw [runIndex_eq, getD_eq_getElem?_getD, getElem?_map, starts_getElem? _ _ _ hk]; rfl

theorem nxt_strict {runs : List (Run τ)} {e : Nat} (hp : runs.Pairwise (fun a b => a.start < b.start))
    (hb : ∀ run ∈ runs, run.start < e) {k : Nat} (hk : k < runs.length) :
    nxt runs k e < nxt runs (k + 1) e := by
  rw [nxt_of_getElem? (getElem?_eq_getElem hk)]
  rcases Nat.lt_or_ge (k + 1) runs.length with h | h
  · rw [nxt_of_getElem? (getElem?_eq_getElem h)]
    exact pairwise_iff_getElem.1 hp k (k + 1) hk h (Nat.lt_succ_self k)
  · rw [nxt_of_ge h]
    exact hb _ (getElem_mem hk)

theorem nxt_mono {runs : List (Run τ)} {e : Nat} (hp : (runs.map (·.start) ++ [e]).Pairwise (· ≤ ·))
    {a b : Nat} (hab : a ≤ b) (hb : b ≤ runs.length) : nxt runs a e ≤ nxt runs b e := by
  rcases Nat.lt_or_ge a b with h | h
  · exact pairwise_getElem? hp (starts_getElem? runs e a (by omega)) (starts_getElem? runs e b hb) h
  · have : a = b := by omega
    subst this; exact Nat.le_refl _

theorem nxt_append_trailing (l1 l2 : List (Run τ)) (k e : Nat) (h : ∀ x ∈ l2, x.start = e) :
    nxt (l1 ++ l2) k e = nxt l1 k e := by
  unfold nxt
  rcases Nat.lt_or_ge k l1.length with hk | hk
  · rw [getElem?_append_left hk]
  · rw [getElem?_append_right hk, getElem?_eq_none hk]
    cases hx : l2[k - l1.length]? with
    | none => rfl
    | some x => simp [h x (mem_of_getElem? hx)]

theorem exportRuns_nxt (o : Bool) (idT : τ) (refs : List TriRef) (m : RelMap τ) (k : Nat) :
    nxt (exportRuns o idT refs m).runs k refs.length = nxt (loopOf o idT refs m).1 k refs.length := by
  rw [exportRuns_runs]
  apply nxt_append_trailing
  intro x hx
  obtain ⟨kv, _, rfl⟩ := mem_map.1 hx
  rfl

theorem loop_start_lt (o : Bool) (idT : τ) (refs : List TriRef) (m : RelMap τ) {run : Run τ}
    (h : run ∈ (loopOf o idT refs m).1) : run.start < refs.length := by
  obtain ⟨i, _, e, hr, _⟩ := (runsFrom_start _ _ 0 (-1) m).1 run h
  have := (List.getElem?_eq_some_iff.1 hr).1
  rw [sortedOf_length] at this
  omega

theorem exportRuns_starts (o : Bool) (idT : τ) (refs : List TriRef) (m : RelMap τ)
    (hid : ∀ r ∈ refs, r.meshID ≠ -1) :
    ((exportRuns o idT refs m).runs.map (·.start) ++ [refs.length]).Pairwise (· ≤ ·) ∧
    ((exportRuns o idT refs m).runs.map (·.start) ++ [refs.length]).head? = some 0 := by
  rw [exportRuns_runs]
  have h2 := (runsFrom_start (Rel.dflt idT) (sortedOf o refs) 0 (-1) m).2
  constructor
  · simp only [map_append, map_map, append_assoc]
    refine pairwise_append.2 ⟨?_, ?_, ?_⟩
    · exact pairwise_map.2 (h2.imp (fun h => Nat.le_of_lt h))
    · refine pairwise_append.2 ⟨?_, by simp, ?_⟩
      · exact pairwise_map.2 (pairwise_of_forall_sublist fun _ => Nat.le_refl _)
      · intro a ha b hb
        obtain ⟨_, _, rfl⟩ := mem_map.1 ha
        simp only [mem_singleton] at hb; subst hb
        exact Nat.le_refl _
    · intro a ha b hb
      obtain ⟨run, hr, rfl⟩ := mem_map.1 ha
      have hlt := loop_start_lt o idT refs m hr
      have : b = refs.length := by
        rcases mem_append.1 hb with hb | hb
        · obtain ⟨_, _, rfl⟩ := mem_map.1 hb; rfl
        · simpa using hb
      omega
  · cases hs : sortedOf o refs with
    | nil =>
      have hn : refs.length = 0 := by rw [← sortedOf_length o refs, hs]; rfl
      simp only [loopOf, hs, runsFrom_nil, nil_append, hn]
      cases m <;> simp
    | cons r rs =>
      have hr : r.meshID ≠ -1 := hid r (sortedOf_mem.1 (hs ▸ mem_cons_self))
      simp only [loopOf, hs]
      rw [runsFrom_cons_ne _ rs 0 m hr]
      simp

theorem exportRuns_runs_ne_nil (o : Bool) (idT : τ) (refs : List TriRef) (m : RelMap τ)
    (hid : ∀ r ∈ refs, r.meshID ≠ -1) (hne : refs ≠ []) : (exportRuns o idT refs m).runs ≠ [] := by
  intro h
  have := (exportRuns_starts o idT refs m hid).2
  rw [h] at this
  simp only [map_nil, nil_append, head?_cons, Option.some.injEq] at this
  exact hne (length_eq_zero_iff.1 this)

theorem exportRuns_nxt_zero (o : Bool) (idT : τ) (refs : List TriRef) (m : RelMap τ)
    (hid : ∀ r ∈ refs, r.meshID ≠ -1) : nxt (exportRuns o idT refs m).runs 0 refs.length = 0 := by
  have h1 := (exportRuns_starts o idT refs m hid).2
  rw [head?_eq_getElem?, starts_getElem? _ _ 0 (Nat.zero_le _)] at h1
  exact Option.some.inj h1

theorem loop_cover (o : Bool) (idT : τ) (refs : List TriRef) (m : RelMap τ) {k t : Nat} {run : Run τ}
    {r : TriRef} (hk : (loopOf o idT refs m).1[k]? = some run)
    (h1 : nxt (loopOf o idT refs m).1 k refs.length ≤ t)
    (h2 : t < nxt (loopOf o idT refs m).1 (k + 1) refs.length)
    (hr : (sortedOf o refs)[t]? = some r) : r.meshID = run.meshID := by
  have := (changes_cover ((sortedOf o refs).map (·.meshID)) (-1) 0).2 k (run.start, run.meshID) t r.meshID
  rw [← runsFrom_changes (Rel.dflt idT) (sortedOf o refs) 0 (-1) m, getElem?_map, getElem?_map, hk,
    Option.map_map, length_map, sortedOf_length, Nat.zero_add, Nat.zero_add] at this
  exact this rfl (nxt_of_getElem? hk _ ▸ h1) h2 (by rw [getElem?_map, hr]; rfl)

theorem exportRuns_cover (o : Bool) (idT : τ) (refs : List TriRef) (m : RelMap τ) (k t : Nat) (r : TriRef)
    (hk : k < (exportRuns o idT refs m).runs.length)
    (h1 : (exportRuns o idT refs m).runIndex.getD k 0 ≤ 3 * t)
    (h2 : 3 * t < (exportRuns o idT refs m).runIndex.getD (k + 1) 0)
    (hr : (exportRuns o idT refs m).sorted[t]? = some r) :
    (exportRuns o idT refs m).runMeshID[k]? = some r.meshID := by
  rw [runIndex_getD _ _ (Nat.le_of_lt hk), exportRuns_numTri, exportRuns_nxt] at h1
  rw [runIndex_getD _ _ hk, exportRuns_numTri, exportRuns_nxt] at h2
  have htn : t < refs.length := by
    rw [← sortedOf_length o refs]; exact (List.getElem?_eq_some_iff.1 hr).1
  rcases Nat.lt_or_ge k (loopOf o idT refs m).1.length with hk' | hk'
  · have hrun := getElem?_eq_getElem hk'
    have hc := loop_cover o idT refs m hrun (Nat.le_of_mul_le_mul_left h1 (by omega))
      (Nat.lt_of_mul_lt_mul_left h2) hr
    rw [RunTable.runMeshID, getElem?_map, exportRuns_runs_getElem? o idT refs m hrun, Option.map_some, hc]
  · rw [nxt_of_ge hk'] at h1
    omega

/-! ## the run table of a consistent, non-original state -/

section consistent
variable (idT : τ) (refs : List TriRef) (m : RelMap τ)

theorem consistent_sortedOf (hc : Consistent refs m) (o : Bool) : Consistent (sortedOf o refs) m :=
  fun r hr => hc r (sortedOf_mem.1 hr)

theorem consistent_orig {rs : List TriRef} (hc : Consistent rs m) :
    ∀ a ∈ rs, ∀ b ∈ rs, a.meshID = b.meshID → a.originalID = b.originalID := by
  intro a ha b hb e
  obtain ⟨ra, h1, h2⟩ := hc a ha
  obtain ⟨rb, h3, h4⟩ := hc b hb
  rw [e, h3] at h1
  cases h1
  rw [← h2, ← h4]

theorem sortedOf_grouped (hid : ∀ r ∈ refs, r.meshID ≠ -1) (hc : Consistent refs m) :
    Grouped (-1 :: (sortedOf false refs).map (·.meshID)) := by
  refine ⟨grouped_of_sorted (sortIdx_sorted refs) (consistent_orig m (consistent_sortedOf refs m hc false)), ?_⟩
  intro h
  obtain ⟨r, hr, e⟩ := mem_map.1 h
  exact absurd e (hid r (sortedOf_mem.1 hr))

theorem loop_run_spec (hid : ∀ r ∈ refs, r.meshID ≠ -1) (hc : Consistent refs m) :
    ∀ run ∈ (loopOf false idT refs m).1, ∃ r, (sortedOf false refs)[run.start]? = some r ∧
      r.meshID = run.meshID ∧ RelMap.lookup m run.meshID = some run.rel ∧
      run.rel.originalID = r.originalID := by
  intro run hr
  obtain ⟨i, r, hi, hr', e⟩ := (runsFrom_start (Rel.dflt idT) (sortedOf false refs) 0 (-1) m).1 run hr
  obtain ⟨_, _, h3⟩ := runsFrom_grouped (Rel.dflt idT) (sortedOf false refs) 0 (-1) m
    (sortedOf_grouped refs m hid hc)
  obtain ⟨rel, hl, ho⟩ := hc r (sortedOf_mem.1 (mem_of_getElem? hr'))
  have hrel : run.rel = rel := by rw [h3 run hr, ← e, hl]; rfl
  rw [Nat.zero_add] at hi
  exact ⟨r, hi ▸ hr', e, by rw [hrel, ← e, hl], by rw [hrel, ho]⟩

theorem loop_meshIDs_nodup (hid : ∀ r ∈ refs, r.meshID ≠ -1) (hc : Consistent refs m) :
    ((loopOf false idT refs m).1.map (·.meshID)).Nodup :=
  (runsFrom_grouped (Rel.dflt idT) (sortedOf false refs) 0 (-1) m (sortedOf_grouped refs m hid hc)).2.1

theorem loop_mem_meshIDs (o : Bool) (hid : ∀ r ∈ refs, r.meshID ≠ -1) (id : Int) :
    id ∈ (loopOf o idT refs m).1.map (·.meshID) ↔ id ∈ refs.map (·.meshID) := by
  constructor
  · intro h
    obtain ⟨run, hr, rfl⟩ := mem_map.1 h
    have := runsFrom_meshID_mem (Rel.dflt idT) (sortedOf o refs) 0 (-1) m run hr
    obtain ⟨r, hr', e⟩ := mem_map.1 this
    exact mem_map.2 ⟨r, sortedOf_mem.1 hr', e⟩
  · intro h
    obtain ⟨r, hr, rfl⟩ := mem_map.1 h
    rcases mem_changes _ (-1) 0 r.meshID (mem_map_of_mem (sortedOf_mem.2 hr)) with e | e
    · exact absurd e (hid r hr)
    · rw [← runsFrom_changes (Rel.dflt idT) (sortedOf o refs) 0 (-1) m, map_map] at e
      exact e

theorem loop_pairwise_key (hid : ∀ r ∈ refs, r.meshID ≠ -1) (hc : Consistent refs m) :
    (loopOf false idT refs m).1.Pairwise RunKeyLT := by
  have h2 := (runsFrom_start (Rel.dflt idT) (sortedOf false refs) 0 (-1) m).2
  have hn := pairwise_map.1 (loop_meshIDs_nodup idT refs m hid hc)
  refine (h2.and hn).imp_of_mem ?_
  intro a b ha hb ⟨hlt, hne⟩
  obtain ⟨ra, ha1, ha2, _, ha4⟩ := loop_run_spec idT refs m hid hc a ha
  obtain ⟨rb, hb1, hb2, _, hb4⟩ := loop_run_spec idT refs m hid hc b hb
  have hle := (runLE_iff _ _).1 (pairwise_getElem? (sortIdx_sorted refs) ha1 hb1 hlt)
  unfold RunKeyLT
  rw [ha4, hb4, ← ha2, ← hb2]
  rw [← ha2, ← hb2] at hne
  omega

theorem loop_snd (o : Bool) (hid : ∀ r ∈ refs, r.meshID ≠ -1) :
    (loopOf o idT refs m).2 = m.filter (fun kv => !(refs.map (·.meshID)).contains kv.1) := by
  rw [loopOf, runsFrom_snd]
  apply filter_congr
  intro kv _
  have := loop_mem_meshIDs idT refs m o hid kv.1
  rw [Bool.eq_iff_iff]
  simp only [Bool.not_eq_true', ← Bool.not_eq_true, contains_iff_mem]
  exact not_congr this

theorem exportRuns_run_lookup (hm : RelMap.Sorted m) (hid : ∀ r ∈ refs, r.meshID ≠ -1)
    (hc : Consistent refs m) :
    ∀ run ∈ (exportRuns false idT refs m).runs, RelMap.lookup m run.meshID = some run.rel := by
  intro run hr
  rw [exportRuns_runs] at hr
  rcases mem_append.1 hr with hr | hr
  · obtain ⟨_, _, _, h, _⟩ := loop_run_spec idT refs m hid hc run hr
    exact h
  · obtain ⟨kv, hkv, rfl⟩ := mem_map.1 hr
    rw [loop_snd idT refs m false hid] at hkv
    exact RelMap.lookup_eq_some_of_mem m kv.1 kv.2 hm (mem_filter.1 hkv).1

theorem idxOf_loop (hid : ∀ r ∈ refs, r.meshID ≠ -1) (hc : Consistent refs m) (k : Nat)
    (hk : k < (loopOf false idT refs m).1.length) :
    (exportRuns false idT refs m).runMeshID.idxOf ((loopOf false idT refs m).1[k]).meshID = k := by
  have hmem : ((loopOf false idT refs m).1[k]).meshID ∈ (loopOf false idT refs m).1.map (·.meshID) :=
    mem_map.2 ⟨_, getElem_mem hk, rfl⟩
  rw [RunTable.runMeshID, exportRuns_runs, map_append, idxOf_append, if_pos hmem]
  have hnd := loop_meshIDs_nodup idT refs m hid hc
  have hk' : k < ((loopOf false idT refs m).1.map (·.meshID)).length := by simpa using hk
  have := hnd.idxOf_getElem k hk'
  rwa [getElem_map] at this

end consistent

end MV.Export
