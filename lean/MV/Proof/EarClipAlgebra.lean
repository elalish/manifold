import MV.Model.EarClip
import MV.Proof.ListArray
/-!
The algebra shared by the proofs about the triangulator (C10) and about the constructors (C17):
`net`, the class of an edge list in the free abelian group on directed edges modulo
`(a,b) = −(b,a)`, is additive over lists; finite sums over a list (`lsum`) and over `0 … n-1`
(`sumTo`); the cyclic predecessor / successor in a ring of `n` vertices.  Core Lean only.
-/
namespace MV.EarClip

theorem ind_anti (x y a b : Nat) : ind x y b a = - ind x y a b := by
  unfold ind; split <;> split <;> omega

theorem ind_self (x a b : Nat) : ind x x a b = 0 := by
  unfold ind; split <;> split <;> omega

theorem ind_swap (x y a b : Nat) : ind x y a b + ind y x a b = 0 := by
  unfold ind
  simp only [and_comm (a := y = a), and_comm (a := y = b)]
  generalize (if x = a ∧ y = b then (1 : Int) else 0) = p
  generalize (if x = b ∧ y = a then (1 : Int) else 0) = q
  omega

@[simp] theorem net_nil (a b : Nat) : net [] a b = 0 := by simp [net]

theorem net_cons (x y : Nat) (es : List Edge) (a b : Nat) :
    net ((x, y) :: es) a b = ind x y a b + net es a b := by
  unfold net ind
  simp only [List.count_cons, beq_iff_eq, Prod.mk.injEq]
  split <;> split <;> omega

theorem net_append (es fs : List Edge) (a b : Nat) :
    net (es ++ fs) a b = net es a b + net fs a b := by
  unfold net; simp only [List.count_append]; omega

theorem net_self (es : List Edge) (a : Nat) : net es a a = 0 := by unfold net; omega

theorem net_anti (es : List Edge) (a b : Nat) : net es b a = - net es a b := by unfold net; omega

theorem net_perm {es fs : List Edge} (h : es.Perm fs) (a b : Nat) : net es a b = net fs a b := by
  unfold net; rw [h.count_eq, h.count_eq]

theorem count_map_swap (es : List Edge) (a b : Nat) :
    (es.map fun e => (e.2, e.1)).count (a, b) = es.count (b, a) := by
  induction es with
  | nil => rfl
  | cons e es ih =>
    simp only [List.map_cons, List.count_cons, ih, beq_iff_eq, Prod.mk.injEq]
    obtain ⟨x, y⟩ := e
    simp only [Prod.mk.injEq]
    by_cases h : y = a ∧ x = b
    · simp [h]
    · have : ¬ (x = b ∧ y = a) := fun h' => h ⟨h'.2, h'.1⟩
      simp [h, this]

theorem net_map_swap (es : List Edge) (a b : Nat) :
    net (es.map fun e => (e.2, e.1)) a b = - net es a b := by
  unfold net; rw [count_map_swap, count_map_swap]; omega

theorem bdTri_eq (x y z a b : Nat) :
    net (triEdgesOf (x, y, z)) a b = ind x y a b + ind y z a b + ind z x a b := by
  simp only [triEdgesOf, net_cons, net_nil]; omega

theorem net_triEdges_append (ts us : List Tri) (a b : Nat) :
    net (triEdges (ts ++ us)) a b = net (triEdges ts) a b + net (triEdges us) a b := by
  simp only [triEdges, List.flatMap_append, net_append]

theorem net_triEdges_cons (t : Tri) (ts : List Tri) (a b : Nat) :
    net (triEdges (t :: ts)) a b = net (triEdgesOf t) a b + net (triEdges ts) a b := by
  simp only [triEdges, List.flatMap_cons, net_append]

@[simp] theorem net_triEdges_nil (a b : Nat) : net (triEdges []) a b = 0 := by simp [triEdges]

/-- sum of `g 0 … g (n-1)` -/
def sumTo : Nat → (Nat → Int) → Int
  | 0, _ => 0
  | n + 1, g => sumTo n g + g n

end MV.EarClip

namespace MV.Extrude
open MV.EarClip

/-- sum over a list -/
def lsum {α : Type} (f : α → Int) : List α → Int
  | [] => 0
  | x :: xs => f x + lsum f xs

theorem lsum_append {α : Type} (f : α → Int) (l m : List α) : lsum f (l ++ m) = lsum f l + lsum f m := by
  induction l with
  | nil => simp [lsum]
  | cons x xs ih => simp only [List.cons_append, lsum, ih]; omega

theorem lsum_congr {α : Type} {f g : α → Int} {l : List α} (h : ∀ x ∈ l, f x = g x) : lsum f l = lsum g l := by
  induction l with
  | nil => rfl
  | cons x xs ih =>
    simp only [lsum]
    rw [h x (List.mem_cons_self ..), ih (fun y hy => h y (List.mem_cons_of_mem _ hy))]

theorem lsum_add {α : Type} (f g : α → Int) (l : List α) :
    lsum (fun x => f x + g x) l = lsum f l + lsum g l := by
  induction l with
  | nil => rfl
  | cons x xs ih => simp only [lsum, ih]; omega

theorem lsum_sub {α : Type} (f g : α → Int) (l : List α) :
    lsum (fun x => f x - g x) l = lsum f l - lsum g l := by
  induction l with
  | nil => rfl
  | cons x xs ih => simp only [lsum, ih]; omega

theorem lsum_zero {α : Type} (l : List α) : lsum (fun _ => (0 : Int)) l = 0 := by
  induction l with
  | nil => rfl
  | cons x xs ih => simp only [lsum, ih]; omega

theorem lsum_range (n : Nat) (f : Nat → Int) : lsum f (List.range n) = sumTo n f := by
  induction n with
  | zero => rfl
  | succ n ih => rw [List.range_succ, lsum_append, ih]; simp [lsum, sumTo]

/-- a filter contributes `0` for the elements it drops -/
theorem lsum_filter {α : Type} (f : α → Int) (p : α → Bool) (l : List α) :
    lsum f (l.filter p) = lsum (fun x => if p x then f x else 0) l := by
  induction l with
  | nil => rfl
  | cons x xs ih => cases h : p x <;> simp [h, lsum, ih]

theorem lsum_one {α : Type} (l : List α) : lsum (fun _ => (1 : Int)) l = l.length := by
  induction l with
  | nil => rfl
  | cons x xs ih => simp only [lsum, ih, List.length_cons]; omega

/-- `Σ_{(x,y) ∈ es} g x y` -/
def wsum (g : Nat → Nat → Int) (es : List Edge) : Int := lsum (fun e => g e.1 e.2) es

theorem wsum_map {α : Type} (g : Nat → Nat → Int) (F : α → Edge) (l : List α) :
    wsum g (l.map F) = lsum (fun x => g (F x).1 (F x).2) l := by
  induction l with
  | nil => rfl
  | cons x xs ih => simp only [List.map_cons, wsum, lsum] at ih ⊢; rw [ih]

theorem net_eq_wsum (es : List Edge) (a b : Nat) : net es a b = wsum (fun x y => ind x y a b) es := by
  induction es with
  | nil => simp [wsum, lsum]
  | cons e es ih => obtain ⟨x, y⟩ := e; rw [net_cons, ih]; rfl

theorem net_triEdges_flatMap {α : Type} (l : List α) (F : α → List Tri) (a b : Nat) :
    net (triEdges (l.flatMap F)) a b = lsum (fun x => net (triEdges (F x)) a b) l := by
  induction l with
  | nil => simp [lsum]
  | cons x xs ih => simp only [List.flatMap_cons, net_triEdges_append, ih, lsum]

end MV.Extrude

namespace MV.EarClip
open MV.Extrude

theorem sumTo_congr {n : Nat} {g g' : Nat → Int} (h : ∀ v, v < n → g v = g' v) :
    sumTo n g = sumTo n g' := by
  rw [← lsum_range, ← lsum_range]; exact lsum_congr (fun v hv => h v (List.mem_range.1 hv))

theorem sumTo_add (n : Nat) (g g' : Nat → Int) :
    sumTo n (fun v => g v + g' v) = sumTo n g + sumTo n g' := by
  simp only [← lsum_range, lsum_add]

theorem sumTo_zero (n : Nat) : sumTo n (fun _ => 0) = 0 := by rw [← lsum_range, lsum_zero]

theorem sumTo_single (n p : Nat) (x : Int) :
    sumTo n (fun v => if v = p then x else 0) = if p < n then x else 0 := by
  induction n with
  | zero => simp [sumTo]
  | succ n ih =>
    simp only [sumTo, ih]
    by_cases h1 : p < n
    · have : n ≠ p := by omega
      simp [h1, this]; omega
    · by_cases h2 : n = p
      · subst h2; simp
      · have : ¬ p < n + 1 := by omega
        simp [h1, h2, this]

theorem sumTo_two_points {n l e : Nat} {g g' : Nat → Int} {dl de : Int}
    (hl : l < n) (he : e < n)
    (h : ∀ v, v < n → g' v = g v + (if v = l then dl else 0) + (if v = e then de else 0)) :
    sumTo n g' = sumTo n g + dl + de := by
  rw [sumTo_congr h, sumTo_add, sumTo_add, sumTo_single, sumTo_single]
  simp [hl, he]

theorem sumTo_split (n k : Nat) (g : Nat → Int) :
    sumTo (n + k) g = sumTo n g + sumTo k (fun i => g (n + i)) := by
  induction k with
  | zero => simp [sumTo]
  | succ k ih => rw [← Nat.add_assoc]; simp only [sumTo, ih]; omega

end MV.EarClip

namespace MV.Extrude
open MV.EarClip

theorem sumTo_sub (n : Nat) (g g' : Nat → Int) :
    sumTo n (fun v => g v - g' v) = sumTo n g - sumTo n g' := by
  simp only [← lsum_range, lsum_sub]

theorem sumTo_neg (n : Nat) (g : Nat → Int) : sumTo n (fun v => - g v) = - sumTo n g := by
  have := sumTo_sub n (fun _ => 0) g
  rw [sumTo_zero] at this
  simpa using this

theorem sumTo_mul (n : Nat) (c : Int) (g : Nat → Int) : sumTo n (fun v => c * g v) = c * sumTo n g := by
  induction n with
  | zero => simp [sumTo]
  | succ n ih => simp only [sumTo, ih, Int.mul_add]

theorem sumTo_shift (n : Nat) (g : Nat → Int) : sumTo (n + 1) g = g 0 + sumTo n (fun i => g (i + 1)) := by
  induction n with
  | zero => simp [sumTo]
  | succ n ih => rw [sumTo, ih]; simp only [sumTo]; omega

theorem sumTo_telescope (n : Nat) (f : Nat → Int) : sumTo n (fun i => f (i + 1) - f i) = f n - f 0 := by
  induction n with
  | zero => simp [sumTo]
  | succ n ih => simp only [sumTo, ih]; omega

theorem sumTo_lsum_comm {α : Type} (n : Nat) (l : List α) (h : Nat → α → Int) :
    sumTo n (fun i => lsum (fun x => h i x) l) = lsum (fun x => sumTo n (fun i => h i x)) l := by
  induction n with
  | zero => simp [sumTo, lsum_zero]
  | succ n ih => simp only [sumTo, ih, lsum_add]

theorem sumTo_comm (n m : Nat) (h : Nat → Nat → Int) :
    sumTo n (fun i => sumTo m (fun j => h i j)) = sumTo m (fun j => sumTo n (fun i => h i j)) := by
  simpa only [lsum_range] using sumTo_lsum_comm n (List.range m) h

theorem net_triEdges_flatMap_range (n : Nat) (F : Nat → List Tri) (a b : Nat) :
    net (triEdges ((List.range n).flatMap F)) a b = sumTo n (fun i => net (triEdges (F i)) a b) := by
  rw [net_triEdges_flatMap, lsum_range]

/-- cyclic predecessor in a ring of `n` vertices: `(v == 0 ? n : v) - 1` -/
def pr (n v : Nat) : Nat := (if v = 0 then n else v) - 1

/-- cyclic successor `(k + 1 < len ? k + 1 : 0)` -/
def nx (len k : Nat) : Nat := if k + 1 < len then k + 1 else 0

theorem pr_lt {n v : Nat} (h : v < n) : pr n v < n := by unfold pr; split <;> omega

theorem nx_lt {len k : Nat} (h : k < len) : nx len k < len := by unfold nx; split <;> omega

theorem pr_nx {len k : Nat} (h : k < len) : pr len (nx len k) = k := by
  unfold pr nx; split <;> split <;> omega

theorem nx_pr {len k : Nat} (h : k < len) : nx len (pr len k) = k := by
  unfold pr nx; split <;> split <;> omega

/-- the map `v ↦ pr n v` permutes `0 … n-1` -/
theorem sumTo_cyc_pred (n : Nat) (f : Nat → Int) : sumTo n (fun v => f (pr n v)) = sumTo n f := by
  unfold pr
  cases n with
  | zero => rfl
  | succ n =>
    rw [sumTo_shift]
    simp only [if_true, Nat.add_sub_cancel]
    have : sumTo n (fun i => f ((if i + 1 = 0 then n + 1 else i + 1) - 1)) = sumTo n f :=
      sumTo_congr (fun v _ => by simp)
    rw [this, sumTo]; omega

/-- cyclic successor: `i ↦ (i + 1 < n ? i + 1 : 0)` -/
theorem sumTo_cyc_next (n : Nat) (f : Nat → Int) :
    sumTo n (fun i => f (if i + 1 < n then i + 1 else 0)) = sumTo n f := by
  cases n with
  | zero => rfl
  | succ n =>
    rw [sumTo]
    have : sumTo n (fun i => f (if i + 1 < n + 1 then i + 1 else 0)) = sumTo n (fun i => f (i + 1)) :=
      sumTo_congr (fun v hv => by simp [hv])
    rw [this, sumTo_shift]; simp; omega

end MV.Extrude

namespace MV.EarClip
open MV.Extrude

theorem getD_mem (p : List Nat) (i : Nat) (h : i < p.length) : p.getD i 0 ∈ p := by
  rw [List.getD_eq_getElem?_getD, List.getElem?_eq_getElem h]; simp

theorem wsum_polyEdges (p : List Nat) (g : Nat → Nat → Int) :
    wsum g (polyEdges p) = sumTo p.length fun i => g (p.getD i 0) (p.getD (nx p.length i) 0) := by
  rw [polyEdges, wsum_map, lsum_range]; rfl

end MV.EarClip
