import MV.Model.CrossOps
import Mathlib.Algebra.Order.Field.Basic
import Mathlib.Algebra.Order.Ring.Rat
import Mathlib.Algebra.Field.Rat
import Mathlib.Tactic.Ring
import Mathlib.Tactic.Linarith
import Mathlib.Tactic.Positivity
import Mathlib.Tactic.FieldSimp
import Mathlib.Tactic.LinearCombination
/-!
The exact instance of `MV.CrossOps.Scalar`: a linearly ordered field, every operation exact,
comparisons decided, everything finite.  All theorems of MV/Props/C12.lean are about the model
definitions of MV/Model/CrossOps.lean at this instance (division only ever happens under the
guards the code itself has: `pnLen2 > 0`, `denom > 0`, `b.y ≠ a.y`).
-/
namespace MV.CrossOps

/-- consecutive pairs of a ring, cyclically: `(l[i], l[i+1 mod n])` -/
def cyclicPairs {β : Type} (l : List β) : List (β × β) := l.zip (l.drop 1 ++ l.take 1)
/-- consecutive triples of a ring, cyclically: `(l[i], l[i+1 mod n], l[i+2 mod n])` (for `n ≥ 2`) -/
def cyclicTriples {β : Type} (l : List β) : List (β × β × β) :=
  l.zip ((l.drop 1 ++ l.take 1).zip (l.drop 2 ++ l.take 2))

example : cyclicPairs [1, 2, 3] = [(1, 2), (2, 3), (3, 1)] := by decide
example : cyclicTriples [1, 2, 3, 4] = [(1, 2, 3), (2, 3, 4), (3, 4, 1), (4, 1, 2)] := by decide

instance fieldScalar (F : Type) [Field F] [LinearOrder F] : Scalar F where
  zero := 0
  one := 1
  add a b := a + b
  sub a b := a - b
  mul a b := a * b
  div a b := a / b
  neg a := -a
  abs a := |a|
  lt a b := decide (a < b)
  le a b := decide (a ≤ b)
  beq a b := decide (a = b)
  isFinite _ := true

section Field
variable {F : Type} [Field F] [LinearOrder F]

@[simp] theorem sc_zero : (Scalar.zero : F) = 0 := rfl
@[simp] theorem sc_one : (Scalar.one : F) = 1 := rfl
@[simp] theorem sc_add (a b : F) : Scalar.add a b = a + b := rfl
@[simp] theorem sc_sub (a b : F) : Scalar.sub a b = a - b := rfl
@[simp] theorem sc_mul (a b : F) : Scalar.mul a b = a * b := rfl
@[simp] theorem sc_div (a b : F) : Scalar.div a b = a / b := rfl
@[simp] theorem sc_neg (a : F) : Scalar.neg a = -a := rfl
@[simp] theorem sc_abs (a : F) : Scalar.abs a = |a| := rfl
@[simp] theorem sc_lt (a b : F) : Scalar.lt a b = decide (a < b) := rfl
@[simp] theorem sc_le (a b : F) : Scalar.le a b = decide (a ≤ b) := rfl
@[simp] theorem sc_beq (a b : F) : Scalar.beq a b = decide (a = b) := rfl
@[simp] theorem sc_isFinite (a : F) : Scalar.isFinite a = true := rfl

/-- twice the signed area of the triangle `a b c` (positive: counter-clockwise) -/
def orient (a b c : V2 F) : F := (b.x - a.x) * (c.y - a.y) - (b.y - a.y) * (c.x - a.x)

omit [Field F] [LinearOrder F] in
@[ext] theorem V2.ext' {a b : V2 F} (hx : a.x = b.x) (hy : a.y = b.y) : a = b := by
  cases a; cases b; simp_all

@[simp] theorem dot_eq (a b : V2 F) : dot a b = a.x * b.x + a.y * b.y := by
  simp [dot]
@[simp] theorem cross_eq (a b : V2 F) : cross a b = a.x * b.y - a.y * b.x := by
  simp [cross]
@[simp] theorem two_eq : (two : F) = 2 := by simp [two]; norm_num
@[simp] theorem four_eq : (four : F) = 4 := by simp [four]; norm_num
@[simp] theorem lmax_eq (a b : F) : lmax a b = max a b := by
  simp only [lmax, sc_lt, decide_eq_true_eq]
  split
  · exact (max_eq_right (le_of_lt ‹_›)).symm
  · exact (max_eq_left (not_lt.1 ‹_›)).symm
@[simp] theorem lmin_eq (a b : F) : lmin a b = min a b := by
  simp only [lmin, sc_lt, decide_eq_true_eq]
  split
  · exact (min_eq_left (le_of_lt ‹_›)).symm
  · exact (min_eq_right (not_lt.1 ‹_›)).symm
@[simp] theorem smin_eq (a b : F) : smin a b = min a b := by
  simp only [smin, sc_lt, decide_eq_true_eq]
  split
  · exact (min_eq_right (le_of_lt ‹_›)).symm
  · exact (min_eq_left (not_lt.1 ‹_›)).symm

@[simp] theorem V2.add_x (a b : V2 F) : (a.add b).x = a.x + b.x := rfl
@[simp] theorem V2.add_y (a b : V2 F) : (a.add b).y = a.y + b.y := rfl
@[simp] theorem V2.sub_x (a b : V2 F) : (a.sub b).x = a.x - b.x := rfl
@[simp] theorem V2.sub_y (a b : V2 F) : (a.sub b).y = a.y - b.y := rfl
@[simp] theorem V2.smul_x (s : F) (a : V2 F) : (V2.smul s a).x = s * a.x := rfl
@[simp] theorem V2.smul_y (s : F) (a : V2 F) : (V2.smul s a).y = s * a.y := rfl
@[simp] theorem V2.divs_x (a : V2 F) (s : F) : (a.divs s).x = a.x / s := rfl
@[simp] theorem V2.divs_y (a : V2 F) (s : F) : (a.divs s).y = a.y / s := rfl

theorem V2.add_sub_self (V d : V2 F) : (V.add d).sub V = d := by
  ext <;> simp

theorem dot_comm (a b : V2 F) : dot a b = dot b a := by
  simp only [dot_eq]; ring
theorem dot_add_left (a b c : V2 F) : dot (a.add b) c = dot a c + dot b c := by
  simp only [dot_eq, V2.add_x, V2.add_y]; ring
theorem dot_smul_left (s : F) (a b : V2 F) : dot (V2.smul s a) b = s * dot a b := by
  simp only [dot_eq, V2.smul_x, V2.smul_y]; ring
theorem dot_smul_right (s : F) (a b : V2 F) : dot a (V2.smul s b) = s * dot a b := by
  rw [dot_comm, dot_smul_left, dot_comm]
theorem dot_divs_left (a b : V2 F) (s : F) : dot (a.divs s) b = dot a b / s := by
  simp only [dot_eq, V2.divs_x, V2.divs_y]; ring
theorem dot_divs_right (a b : V2 F) (s : F) : dot a (b.divs s) = dot a b / s := by
  rw [dot_comm, dot_divs_left, dot_comm]
theorem dot_add_right (a b c : V2 F) : dot a (b.add c) = dot a b + dot a c := by
  rw [dot_comm, dot_add_left, dot_comm b, dot_comm c]
theorem cross_self (a : V2 F) : cross a a = 0 := by
  simp only [cross_eq]; ring
theorem cross_swap (a b : V2 F) : cross b a = -cross a b := by
  simp only [cross_eq]; ring
theorem cross_add_left (a b c : V2 F) : cross (a.add b) c = cross a c + cross b c := by
  simp only [cross_eq, V2.add_x, V2.add_y]; ring
theorem cross_smul_left (s : F) (a b : V2 F) : cross (V2.smul s a) b = s * cross a b := by
  simp only [cross_eq, V2.smul_x, V2.smul_y]; ring
theorem cross_divs_left (a b : V2 F) (s : F) : cross (a.divs s) b = cross a b / s := by
  simp only [cross_eq, V2.divs_x, V2.divs_y]; ring

section
omit [LinearOrder F]
theorem orient_swap (p0 p1 p2 : V2 F) : orient p0 p2 p1 = - orient p0 p1 p2 := by
  simp only [orient]; ring
theorem orient_cyclic (p0 p1 p2 : V2 F) : orient p1 p2 p0 = orient p0 p1 p2 := by
  simp only [orient]; ring
theorem orient_self_left (a q : V2 F) : orient a a q = 0 := by simp [orient]
theorem orient_self_right (a b : V2 F) : orient a b b = 0 := by simp only [orient]; ring
theorem orient_self_mid (a b : V2 F) : orient a b a = 0 := by simp [orient]
end

/-- the verdict of `CCW` as a function of the doubled signed area `o` and the threshold `B`
(`base2 * tol * tol`) -/
def ccwOf (o B : F) : Int := if o * o * 4 ≤ B then 0 else if 0 < o then 1 else -1

theorem ccw_eq_ccwOf (p0 p1 p2 : V2 F) (tol : F) :
    ccw p0 p1 p2 tol = ccwOf (orient p0 p1 p2)
      (max (dot (p1.sub p0) (p1.sub p0)) (dot (p2.sub p0) (p2.sub p0)) * tol * tol) := by
  simp only [ccw, sc_mul, sc_sub, sc_le, sc_lt, sc_zero, four_eq, decide_eq_true_eq, lmax_eq,
    V2.sub_x, V2.sub_y]
  rfl

variable [IsStrictOrderedRing F]

theorem ccw_base_nonneg (p0 p1 p2 : V2 F) (tol : F) :
    0 ≤ max (dot (p1.sub p0) (p1.sub p0)) (dot (p2.sub p0) (p2.sub p0)) * tol * tol := by
  rw [mul_assoc]
  refine mul_nonneg (le_max_of_le_left ?_) (mul_self_nonneg tol)
  rw [dot_eq]
  exact add_nonneg (mul_self_nonneg _) (mul_self_nonneg _)

/-- where the threshold is met by `o = 0` only because `B ≥ 0`, a non-zero verdict is the sign of `o` -/
theorem ccwOf_neg (o B : F) (hB : 0 ≤ B) : ccwOf (-o) B = - ccwOf o B := by
  unfold ccwOf
  rw [neg_mul_neg]
  split
  · rfl
  · rename_i hbig
    have hne : o ≠ 0 := by rintro rfl; exact hbig (by simpa using hB)
    rcases lt_or_gt_of_ne hne with h | h
    · rw [if_pos (neg_pos.2 h), if_neg (not_lt.2 h.le)]; rfl
    · rw [if_neg (not_lt.2 (neg_nonpos.2 h.le)), if_pos h]

omit [IsStrictOrderedRing F] in
theorem ccwOf_sign (o B : F) : (ccwOf o B = 1 → 0 < o) ∧ (ccwOf o B = -1 → o ≤ 0) := by
  unfold ccwOf
  split
  · exact ⟨fun h => absurd h (by decide), fun h => absurd h (by decide)⟩
  · split
    · exact ⟨fun _ => ‹_›, fun h => absurd h (by decide)⟩
    · exact ⟨fun h => absurd h (by decide), fun _ => not_lt.1 ‹_›⟩

theorem ccwOf_zero (o : F) : ccwOf o 0 = if o = 0 then 0 else if 0 < o then 1 else -1 := by
  unfold ccwOf
  have h : o * o * 4 ≤ 0 ↔ o = 0 := by
    constructor
    · intro h
      by_contra hne
      exact absurd h (not_le.2 (mul_pos (mul_self_pos.2 hne) four_pos))
    · rintro rfl; simp
  simp only [h]

/-- `CCW(p0, p1, p2, 0.0)` in exact arithmetic is the sign of `orient` -/
theorem ccw_zero (p0 p1 p2 : V2 F) :
    ccw p0 p1 p2 (0 : F) = if orient p0 p1 p2 = 0 then 0 else if 0 < orient p0 p1 p2 then 1 else -1 := by
  rw [ccw_eq_ccwOf, mul_zero, ccwOf_zero]

theorem ccw_zero_le_iff (p0 p1 p2 : V2 F) : ccw p0 p1 p2 (0 : F) ≤ 0 ↔ orient p0 p1 p2 ≤ 0 := by
  rw [ccw_zero]
  rcases lt_trichotomy (orient p0 p1 p2) 0 with h | h | h
  · simp [h.ne, not_lt.2 h.le, h.le]
  · simp [h]
  · simp [h.ne', h, not_le.2 h]

end Field

example : ccw (⟨0, 0⟩ : V2 ℚ) ⟨1, 0⟩ ⟨0, 1⟩ 0 = 1 := by decide +kernel

end MV.CrossOps

namespace MV.PolyGeom

/-- the cyclic successor index -/
def csucc (n v : Nat) : Nat := if v + 1 < n then v + 1 else 0

theorem csucc_of_lt {n v : Nat} (h : v + 1 < n) : csucc n v = v + 1 := if_pos h
theorem csucc_of_ge {n v : Nat} (h : ¬ v + 1 < n) : csucc n v = 0 := if_neg h

theorem csucc_eq_mod {n v : Nat} (h : v < n) : csucc n v = (v + 1) % n := by
  by_cases h1 : v + 1 < n
  · rw [csucc_of_lt h1, Nat.mod_eq_of_lt h1]
  · rw [csucc_of_ge h1, show v + 1 = n by omega, Nat.mod_self]

theorem csucc_lt (n v : Nat) (h : 0 < n) : csucc n v < n := by
  unfold csucc; split <;> omega

theorem csucc_inj {n u v : Nat} (hu : u < n) (hv : v < n) (h : csucc n u = csucc n v) : u = v := by
  unfold csucc at h; split at h <;> split at h <;> omega

/-- every position is the successor of one -/
theorem exists_csucc_eq {n k : Nat} (hk : k < n) : ∃ j, j < n ∧ csucc n j = k := by
  by_cases h : k = 0
  · exact ⟨n - 1, by omega, by rw [csucc_of_ge (by omega), h]⟩
  · exact ⟨k - 1, by omega, by rw [csucc_of_lt (by omega)]; omega⟩

end MV.PolyGeom
