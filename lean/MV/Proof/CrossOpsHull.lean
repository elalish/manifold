import MV.Proof.CrossOpsHullB
import MV.Proof.CrossOpsHullC
import Mathlib.Tactic.NormNum
/-!
Convex hull (`HullImpl`, cross_section.cpp:120-150) at the exact instance: the ring returned by
`hullImpl` consists of input points, has every input point on the left of (or on) every edge, and is
strictly convex when it has at least three vertices.
-/
namespace MV.CrossOps
set_option linter.unusedSectionVars false

variable {F : Type} [Field F] [LinearOrder F] [IsStrictOrderedRing F]

theorem sorted_pairwise (pts : List (V2 F)) : (pts.mergeSort lexLe).Pairwise lle := by
  have h := List.pairwise_mergeSort (le := (lexLe : V2 F → V2 F → Bool))
    (fun a b c h1 h2 => (lexLe_iff a c).2 (lle_trans ((lexLe_iff a b).1 h1) ((lexLe_iff b c).1 h2)))
    (fun a b => by
      rcases lle_total a b with h | h
      · simp [(lexLe_iff a b).2 h]
      · simp [(lexLe_iff b a).2 h])
    pts
  exact h.imp (fun {a b} hab => (lexLe_iff a b).1 hab)

theorem hullImpl_eq (pts : List (V2 F)) (h : ¬ pts.length < 3) :
    hullImpl pts = (chain (pts.mergeSort lexLe)).tail.reverse ++
      (chain (pts.mergeSort lexLe).reverse).tail.reverse := by
  have hfin : pts.any (fun p => !p.isFinite) = false := by
    simp [V2.isFinite]
  simp only [hullImpl, if_neg h, hfin, Bool.false_eq_true, if_false]

theorem rev_decomp2 {β : Type} {S k1 k2 : List β} {a b : β} (h : S.reverse = k1 ++ a :: b :: k2) :
    S = k2.reverse ++ b :: a :: k1.reverse := by
  have := congrArg List.reverse h
  simpa using this

theorem rev_decomp3 {β : Type} {S k1 k2 : List β} {a b c : β}
    (h : S.reverse = k1 ++ a :: b :: c :: k2) :
    S = k2.reverse ++ c :: b :: a :: k1.reverse := by
  have := congrArg List.reverse h
  simpa using this

/-- a stack with at least two vertices: top, middle, bottom -/
theorem two_le_decomp {β : Type} {S : List β} (h : 2 ≤ S.length) :
    ∃ t M b, S = t :: (M ++ [b]) := by
  match S, h with
  | t :: y :: r, _ =>
    rcases List.eq_nil_or_concat (y :: r) with e | ⟨M, b, e⟩
    · simp at e
    · exact ⟨t, M, b, by rw [e]; simp⟩

/-- the shape of the ring: the lower chain without its top followed by the upper chain without
its top, and the two chains share their end points -/
theorem hull_structure (pts : List (V2 F)) (h : ¬ pts.length < 3) :
    ∃ (Q L U : List (V2 F)) (x0 y0 : V2 F) (X' Y' : List (V2 F)),
      (∀ q, q ∈ Q ↔ q ∈ pts) ∧ Inv lle L Q ∧ Inv (fun a b : V2 F => lle b a) U Q.reverse ∧
      hullImpl pts = (x0 :: X') ++ (y0 :: Y') ∧
      L.reverse = (x0 :: X') ++ [y0] ∧ U.reverse = (y0 :: Y') ++ [x0] := by
  have IL := chain_inv goodOrd_lle _ (sorted_pairwise pts)
  have IU := chain_inv goodOrd_gle (pts.mergeSort lexLe).reverse
    (List.pairwise_reverse.2 (sorted_pairwise pts))
  have hlen : 2 ≤ (pts.mergeSort lexLe).length := by
    rw [List.length_mergeSort]; omega
  obtain ⟨tL, ML, bL, hL⟩ := two_le_decomp (IL.len hlen)
  obtain ⟨tU, MU, bU, hU⟩ := two_le_decomp (IU.len (by rw [List.length_reverse]; exact hlen))
  have htL : tL ∈ pts.mergeSort lexLe := IL.sub tL (by rw [hL]; simp)
  have hbL : bL ∈ pts.mergeSort lexLe := IL.sub bL (by rw [hL]; simp)
  have htU : tU ∈ (pts.mergeSort lexLe).reverse := IU.sub tU (by rw [hU]; simp)
  have hbU : bU ∈ (pts.mergeSort lexLe).reverse := IU.sub bU (by rw [hU]; simp)
  have e1 : bU = tL := by
    have h1 : lle bU tL := IL.top tL _ hL bU (List.mem_reverse.1 hbU)
    have h2 : lle tL bU := IU.bot (tU :: MU) bU (by rw [hU]; simp) tL (List.mem_reverse.2 htL)
    exact lle_antisymm h1 h2
  have e2 : tU = bL := by
    have h1 : lle bL tU := IL.bot (tL :: ML) bL (by rw [hL]; simp) tU (List.mem_reverse.1 htU)
    have h2 : lle tU bL := IU.top tU _ hU bL (List.mem_reverse.2 hbL)
    exact lle_antisymm h2 h1
  subst e1 e2
  refine ⟨pts.mergeSort lexLe, _, _, tU, bU, ML.reverse, MU.reverse,
    fun q => List.mem_mergeSort, IL, IU, ?_, ?_, ?_⟩
  · rw [hullImpl_eq pts h, hL, hU]; simp
  · rw [hL]; simp
  · rw [hU]; simp

theorem hull_subset (pts : List (V2 F)) : ∀ v ∈ hullImpl pts, v ∈ pts := by
  intro v hv
  by_cases h : pts.length < 3
  · simp [hullImpl, h] at hv
  · obtain ⟨Q, L, U, x0, y0, X', Y', hQ, IL, IU, hring, hLR, hUR⟩ := hull_structure pts h
    rw [hring] at hv
    rcases List.mem_append.1 hv with hv | hv
    · have : v ∈ L := by
        rw [← List.mem_reverse, hLR]; exact List.mem_append_left _ hv
      exact (hQ v).1 (IL.sub v this)
    · have : v ∈ U := by
        rw [← List.mem_reverse, hUR]; exact List.mem_append_left _ hv
      exact (hQ v).1 (List.mem_reverse.1 (IU.sub v this))

theorem hull_contains (pts : List (V2 F)) :
    ∀ e ∈ cyclicPairs (hullImpl pts), ∀ q ∈ pts, 0 ≤ orient e.1 e.2 q := by
  intro e he q hq
  by_cases h : pts.length < 3
  · simp [hullImpl, h, cyclicPairs] at he
  · obtain ⟨Q, L, U, x0, y0, X', Y', hQ, IL, IU, hring, hLR, hUR⟩ := hull_structure pts h
    rw [hring] at he
    obtain ⟨c, hc⟩ := exists_cyclicTriple he
    obtain ⟨l1, l2, hd⟩ := cyclicTriples_decomp (by simp; omega) hc
    have hq' := (hQ q).2 hq
    rcases ring_triples hd with ⟨k1, k2, hk⟩ | ⟨k1, k2, hk⟩ | ⟨P, R, hX, hb, _⟩ | ⟨P, R, hY, hb, _⟩
    · exact IL.sees q hq' _ _ _ _ (rev_decomp2 (hLR.trans hk))
    · exact IU.sees q (List.mem_reverse.2 hq') _ _ _ _ (rev_decomp2 (hUR.trans hk))
    · -- the edge into the joint `y0` is the last edge of the lower chain
      have hb' : e.2 = y0 := hb
      have : L.reverse = P ++ e.1 :: e.2 :: [] := by rw [hLR, hX, hb']; simp
      exact IL.sees q hq' _ _ _ _ (rev_decomp2 this)
    · have hb' : e.2 = x0 := hb
      have : U.reverse = P ++ e.1 :: e.2 :: [] := by rw [hUR, hY, hb']; simp
      exact IU.sees q (List.mem_reverse.2 hq') _ _ _ _ (rev_decomp2 this)

/-- at a joint of the two chains — `b` the top of the chain `L` sorted by `le` and the bottom of the
chain `U` sorted the other way round — the turn is strict as soon as one of the chains has a third
vertex `q`: a flat joint would put `q` on the lines of both joint edges (`GoodOrd.J`), while its own
chain turns strictly at its neighbour -/
theorem joint_turn {le : V2 F → V2 F → Prop} (G : GoodOrd le) (G' : GoodOrd (fun a b => le b a))
    {L U Q Q' : List (V2 F)} (hQ : ∀ q, q ∈ Q ↔ q ∈ Q') (IL : Inv le L Q)
    (IU : Inv (fun a b => le b a) U Q') {a b c : V2 F} {P R : List (V2 F)}
    (hL : L = [] ++ b :: a :: P) (hU : U = R ++ c :: b :: []) (h3 : 1 ≤ P.length + R.length) :
    0 < orient a b c := by
  have haQ : a ∈ Q := IL.sub a (by rw [hL]; simp)
  have hcQ : c ∈ Q := (hQ c).2 (IU.sub c (by rw [hU]; simp))
  obtain ⟨q, hq, hw⟩ : ∃ q ∈ Q, 0 < orient a b q ∨ 0 < orient b c q := by
    cases P with
    | cons a' P' =>
      exact ⟨a', IL.sub a' (by rw [hL]; simp),
        Or.inl (by rw [orient_cyclic a' a b]; exact IL.turns [] P' a' a b hL)⟩
    | nil =>
      rcases List.eq_nil_or_concat R with e | ⟨R', c', e⟩
      · rw [e] at h3; simp at h3
      · exact ⟨c', (hQ c').2 (IU.sub c' (by rw [hU, e]; simp)),
          Or.inr (IU.turns R' [] b c c' (by rw [hU, e]; simp))⟩
  have hne : ¬ ∀ p ∈ Q, p = b := fun hall => by
    rw [hall a haQ, hall c hcQ, orient_self_left, or_self] at hw
    exact lt_irrefl _ hw
  refine lt_of_le_of_ne (IL.sees c hcQ _ _ _ _ hL) (fun heq => ?_)
  have hJ := G.J (IL.top b _ hL a haQ) (fun e => hne fun p hp => (IL.allEq G hL e p hp).trans e)
    (IL.top b _ hL c hcQ) (fun e => hne fun p hp => IU.allEq G' hU e.symm p ((hQ p).1 hp))
    heq.symm (IL.sees q hq _ _ _ _ hL) (IU.sees q ((hQ q).1 hq) _ _ _ _ hU)
  rw [hJ.1, hJ.2, or_self] at hw
  exact lt_irrefl _ hw

theorem hull_strictly_convex (pts : List (V2 F)) (h3 : 3 ≤ (hullImpl pts).length) :
    ∀ t ∈ cyclicTriples (hullImpl pts), 0 < orient t.1 t.2.1 t.2.2 := by
  intro t ht
  have h : ¬ pts.length < 3 := by
    intro hlt
    simp [hullImpl, hlt] at h3
  obtain ⟨Q, L, U, x0, y0, X', Y', hQ, IL, IU, hring, hLR, hUR⟩ := hull_structure pts h
  rw [hring] at ht h3
  obtain ⟨l1, l2, hd⟩ := cyclicTriples_decomp (by omega) ht
  obtain ⟨a, b, c⟩ := t
  simp only at hd ⊢
  rcases ring_triples hd with ⟨k1, k2, hk⟩ | ⟨k1, k2, hk⟩ | ⟨P, R, hX, hb, hY⟩ | ⟨P, R, hY, hb, hX⟩
  · exact IL.turns _ _ _ _ _ (rev_decomp3 (hLR.trans hk))
  · exact IU.turns _ _ _ _ _ (rev_decomp3 (hUR.trans hk))
  · -- joint at the lex-largest point `y0`
    subst hb
    have hL : L = [] ++ b :: a :: P.reverse := rev_decomp2 (k1 := P) (k2 := []) (by rw [hLR, hX]; simp)
    have hU : U = R.reverse ++ c :: b :: [] := rev_decomp2 (k1 := []) (hUR.trans hY)
    have e1 := congrArg List.length hX
    have e2 := congrArg List.length hY
    simp at e1 e2 h3
    exact joint_turn goodOrd_lle goodOrd_gle (fun q => List.mem_reverse.symm) IL IU hL hU
      (by simp; omega)
  · -- joint at the lex-smallest point `x0`: the same with the two chains in each other's role
    subst hb
    have hU : U = [] ++ b :: a :: P.reverse := rev_decomp2 (k1 := P) (k2 := []) (by rw [hUR, hY]; simp)
    have hL : L = R.reverse ++ c :: b :: [] := rev_decomp2 (k1 := []) (hLR.trans hX)
    have e1 := congrArg List.length hX
    have e2 := congrArg List.length hY
    simp at e1 e2 h3
    exact joint_turn goodOrd_gle goodOrd_lle (fun q => List.mem_reverse) IU IL hU hL
      (by simp; omega)

/-! ## non-vacuity: the theorems instantiated at `ℚ` on a concrete input

The input is given lex-sorted so that `mergeSort` is the identity (`List.mergeSort_of_pairwise`);
the two chains are then evaluated by the kernel, on coordinate pairs since `V2` has no decidable
equality. -/

private theorem toProd_injective : Function.Injective (fun p : V2 ℚ => (p.x, p.y)) :=
  fun _ _ h => V2.ext' (congrArg Prod.fst h) (congrArg Prod.snd h)

private def hullTestPts : List (V2 ℚ) := [⟨0, 0⟩, ⟨0, 2⟩, ⟨1, 0⟩, ⟨1, 1⟩, ⟨2, 0⟩, ⟨2, 2⟩]

/-- six points of the 3×3 lattice, two of them not extreme: the hull is the square -/
theorem hullImpl_lattice :
    hullImpl ([⟨0, 0⟩, ⟨0, 2⟩, ⟨1, 0⟩, ⟨1, 1⟩, ⟨2, 0⟩, ⟨2, 2⟩] : List (V2 ℚ))
      = [⟨0, 0⟩, ⟨2, 0⟩, ⟨2, 2⟩, ⟨0, 2⟩] := by
  rw [hullImpl_eq _ (by decide), List.mergeSort_of_pairwise (by decide)]
  exact List.map_injective_iff.2 toProd_injective (by decide +kernel)

private theorem hullTest_eq : hullImpl hullTestPts = [⟨0, 0⟩, ⟨2, 0⟩, ⟨2, 2⟩, ⟨0, 2⟩] :=
  hullImpl_lattice

example : (hullImpl hullTestPts).length = 4 := by rw [hullTest_eq]; rfl

/-- `hull_subset` at a vertex that exists -/
example : (⟨2, 2⟩ : V2 ℚ) ∈ hullTestPts :=
  hull_subset hullTestPts ⟨2, 2⟩ (by rw [hullTest_eq]; simp)

/-- `hull_contains` at an edge that exists and an interior input point -/
example : 0 ≤ orient (⟨0, 0⟩ : V2 ℚ) ⟨2, 0⟩ ⟨1, 1⟩ :=
  hull_contains hullTestPts (⟨0, 0⟩, ⟨2, 0⟩) (by rw [hullTest_eq]; exact List.mem_cons_self)
    ⟨1, 1⟩ (by simp [hullTestPts])

/-- the hypothesis of `hull_strictly_convex` is satisfiable, and a joint triple that exists -/
example : 0 < orient (⟨2, 0⟩ : V2 ℚ) ⟨2, 2⟩ ⟨0, 2⟩ :=
  hull_strictly_convex hullTestPts (by rw [hullTest_eq]; decide) (⟨2, 0⟩, ⟨2, 2⟩, ⟨0, 2⟩)
    (by rw [hullTest_eq]; exact List.mem_cons_of_mem _ List.mem_cons_self)

/-- the same on an unsorted input (the stable sort evaluated by `norm_num`) -/
example : hullImpl ([⟨0, 0⟩, ⟨2, 0⟩, ⟨1, 1⟩, ⟨2, 2⟩, ⟨0, 2⟩, ⟨1, 0⟩] : List (V2 ℚ))
    = [⟨0, 0⟩, ⟨2, 0⟩, ⟨2, 2⟩, ⟨0, 2⟩] := by
  have hs : ([⟨0, 0⟩, ⟨2, 0⟩, ⟨1, 1⟩, ⟨2, 2⟩, ⟨0, 2⟩, ⟨1, 0⟩] : List (V2 ℚ)).mergeSort lexLe
      = hullTestPts := by
    norm_num [List.mergeSort, List.MergeSort.Internal.splitInTwo, List.merge, lexLe, lexLess,
      hullTestPts]
  have h0 := hullTest_eq
  rw [hullImpl_eq hullTestPts (by decide),
    List.mergeSort_of_pairwise (l := hullTestPts) (by decide)] at h0
  rw [hullImpl_eq _ (by decide), hs, h0]

end MV.CrossOps
