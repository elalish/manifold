import MV.Proof.PartitionGeomNat
/-! Finite table for property C19 (kernel evaluation, no `native_decide`): the model's checker `checkCached`
accepts the cached subdivision pattern of every key of the chunk, the sorted triples with largest division 8.
What the kernel evaluates is the checker on numerators, which accepts no more (`all_checkCached`). -/
namespace MV.Partition

theorem tab_t8 : (sortedTriplesFrom 7 8).all checkCached = true := all_checkCached (by decide +kernel)

end MV.Partition
