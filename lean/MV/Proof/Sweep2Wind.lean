import MV.Model.Sweep2
/-! Winding rules and the emission of one status column (C11 (a), (b)). -/
namespace MV.Sweep2

theorem cmod_two_ne_zero_iff (w : Int) : (cmod w 2 != 0) = true ↔ w % 2 = 1 := by
  unfold cmod
  simp only [bne_iff_ne, ne_eq]
  rw [← Int.dvd_iff_tmod_eq_zero, Int.dvd_iff_emod_eq_zero]; omega

theorem isInside_add (w : Int) : isInside .add w = true ↔ 0 < w := by simp [isInside]
theorem isInside_intersect (w : Int) : isInside .intersect w = true ↔ 1 < w := by simp [isInside]
theorem isInside_evenOdd (w : Int) : isInside .evenOdd w = true ↔ w % 2 = 1 := by
  simp only [isInside]; exact cmod_two_ne_zero_iff w

theorem isInside_zero (r : WindRule) : isInside r 0 = false := by
  cases r <;> decide

theorem sum_zero_one_nonneg (bs : List Int) (hb : ∀ b ∈ bs, b = 0 ∨ b = 1) : 0 ≤ bs.sum := by
  induction bs with
  | nil => simp
  | cons b bs ih =>
    have h1 := hb b (by simp)
    have h2 := ih (fun x hx => hb x (by simp [hx]))
    simp only [List.sum_cons]; omega

theorem sum_zero_one_pos_iff (bs : List Int) (hb : ∀ b ∈ bs, b = 0 ∨ b = 1) :
    0 < bs.sum ↔ ∃ b ∈ bs, b = 1 := by
  induction bs with
  | nil => simp
  | cons b bs ih =>
    have h1 := hb b (by simp)
    have hb' : ∀ x ∈ bs, x = 0 ∨ x = 1 := fun x hx => hb x (by simp [hx])
    have h2 := ih hb'
    have h3 := sum_zero_one_nonneg bs hb'
    simp only [List.sum_cons, List.mem_cons, exists_eq_or_imp]
    rcases h1 with rfl | rfl
    · simp only [Int.zero_add]; rw [h2]; simp
    · constructor
      · intro _; left; rfl
      · intro _; omega

theorem ind_cases (b : Bool) : ind b = 0 ∨ ind b = 1 := by cases b <;> simp [ind]

/-- the orientation logic of `EmitBoundary` followed by the key normalisation of `PolySetAdd`
    stores `+1` under the lex-forward key when only the upper side is filled and `−1` when only
    the lower side is — independently of the direction the piece was handed over in. -/
theorem emitLex_eq_emitSign (rule : WindRule) (fwd : Bool) (below above : Int) :
    emitLex rule fwd below above = emitSign rule below above := by
  unfold emitLex emitRaw emitSign polyNorm ind
  cases isInside rule below <;> cases isInside rule above <;> cases fwd <;> simp

theorem emitSign_range (rule : WindRule) (below above : Int) :
    emitSign rule below above = -1 ∨ emitSign rule below above = 0 ∨ emitSign rule below above = 1 := by
  unfold emitSign ind
  cases isInside rule below <;> cases isInside rule above <;> simp

theorem emitFrom_length (rule : WindRule) (fwd : Bool) (w : Int) (ms : List Int) :
    (emitFrom rule fwd w ms).length = ms.length := by
  induction ms generalizing w with
  | nil => simp [emitFrom]
  | cons m ms ih => simp [emitFrom, ih]

/-- telescoping: the partial sums of the emitted signs are the fill indicator of the running
    winding, relative to the fill below the column -/
theorem emitFrom_prefix_sum (rule : WindRule) (fwd : Bool) (w : Int) (ms : List Int) (k : Nat) :
    ((emitFrom rule fwd w ms).take k).sum
      = ind (isInside rule (w + (ms.take k).sum)) - ind (isInside rule w) := by
  induction ms generalizing w k with
  | nil => simp [emitFrom]
  | cons m ms ih =>
    cases k with
    | zero => simp
    | succ k =>
      simp only [emitFrom, List.take_succ_cons, List.sum_cons, ih, emitLex_eq_emitSign, emitSign]
      have : w + m + (List.take k ms).sum = w + (m + (List.take k ms).sum) := by omega
      rw [this]; omega

theorem emitFrom_mem_range (rule : WindRule) (fwd : Bool) (w : Int) (ms : List Int) :
    ∀ e ∈ emitFrom rule fwd w ms, e = -1 ∨ e = 0 ∨ e = 1 := by
  induction ms generalizing w with
  | nil => simp [emitFrom]
  | cons m ms ih =>
    intro e he
    simp only [emitFrom, List.mem_cons] at he
    rcases he with rfl | he
    · rw [emitLex_eq_emitSign]; exact emitSign_range _ _ _
    · exact ih _ e he

end MV.Sweep2
