/-!
Facts about `List` and `Array` that core Lean does not provide and that several of the proof files
need: indexing after `set`, `++ [x]`, `replicate`, a fold of writes; counting after `set`; sums under permutation; prefixes cut by
`takeWhile`, partial sums and counts of prefixes; `Pairwise` and `Nodup` read by position or through
a map injective on the list; folds over `zipIdx`; the pigeonhole principle for `Nat → Nat`.
Nothing here mentions a model.  Core Lean only.
-/

namespace List

theorem getD_set {α : Type _} (l : List α) (i j : Nat) (a d : α) :
    (l.set i a).getD j d = if i = j ∧ i < l.length then a else l.getD j d := by
  simp only [getD_eq_getElem?_getD, getElem?_set]
  by_cases h : i = j
  · subst h
    by_cases h2 : i < l.length
    · simp [h2]
    · simp [h2]
  · simp [h]

theorem getD_concat {α : Type _} (l : List α) (x d : α) (i : Nat) :
    (l ++ [x]).getD i d = if i < l.length then l.getD i d else if i = l.length then x else d := by
  simp only [getD_eq_getElem?_getD, getElem?_append]
  split
  · rfl
  · split
    · next h => simp [h]
    · next h1 h2 =>
      have : i - l.length ≠ 0 := by omega
      simp [this]

theorem getD_replicate {α : Type _} (n i : Nat) (a d : α) :
    (replicate n a).getD i d = if i < n then a else d := by
  simp only [getD_eq_getElem?_getD, getElem?_replicate]; split <;> rfl

theorem getD_map_of_lt {α β : Type _} (f : α → β) (l : List α) (i : Nat) (d : α) (e : β)
    (h : i < l.length) : (l.map f).getD i e = f (l.getD i d) := by
  simp [getD_eq_getElem?_getD, h]

/-- overwriting an entry by one with the same image does not change the image list -/
theorem map_set_same {α β : Type _} (f : α → β) (l : List α) (i : Nat) (a x : α)
    (h : l[i]? = some a) (hf : f x = f a) : (l.set i x).map f = l.map f := by
  obtain ⟨hlt, rfl⟩ := getElem?_eq_some_iff.1 h
  rw [map_set, hf]
  apply ext_getElem?
  intro j
  rw [getElem?_set]
  by_cases e : i = j
  · subst e; simp [hlt]
  · simp [e]

theorem Perm.sum_int {l₁ l₂ : List Int} (h : l₁.Perm l₂) : l₁.sum = l₂.sum := by
  induction h with
  | nil => rfl
  | cons x _ ih => simp [ih]
  | swap x y l => simp only [sum_cons]; omega
  | trans _ _ ih1 ih2 => exact ih1.trans ih2

theorem Perm.sum_map_int {α : Type _} (f : α → Int) {l₁ l₂ : List α} (h : l₁.Perm l₂) :
    (l₁.map f).sum = (l₂.map f).sum :=
  (h.map f).sum_int

/-- position `k` holds `e` and `es` follows it -/
theorem drop_eq_cons_iff {α : Type _} {l es : List α} {k : Nat} {e : α} :
    l.drop k = e :: es ↔ l[k]? = some e ∧ l.drop (k + 1) = es := by
  constructor
  · intro h
    rw [← head?_drop, ← tail_drop, h]
    exact ⟨rfl, rfl⟩
  · rintro ⟨h1, rfl⟩
    obtain ⟨hk, rfl⟩ := getElem?_eq_some_iff.mp h1
    exact drop_eq_getElem_cons hk

/-- overwriting an `a` by a `b` moves one unit of the count from `p a` to `p b` -/
theorem countP_set_add {α : Type _} (p : α → Bool) (l : List α) (i : Nat) (a b : α) (h : l[i]? = some a) :
    (l.set i b).countP p + (if p a then 1 else 0) = l.countP p + (if p b then 1 else 0) := by
  obtain ⟨hlt, rfl⟩ := getElem?_eq_some_iff.1 h
  rw [countP_set hlt]
  by_cases e : p l[i] = true
  · have : 0 < l.countP p := countP_pos_iff.2 ⟨_, getElem_mem hlt, e⟩
    simp only [e, if_true]
    rw [Nat.add_right_comm, Nat.sub_add_cancel this]
  · rw [if_neg e]; rfl

end List

namespace Array

theorem getD_setIfInBounds {α : Type _} (xs : Array α) (i j : Nat) (a d : α) :
    (xs.setIfInBounds i a).getD j d = if i = j ∧ i < xs.size then a else xs.getD j d := by
  simp only [getD_eq_getD_getElem?, getElem?_setIfInBounds]
  by_cases h : i = j
  · subst h
    by_cases h2 : i < xs.size
    · simp [h2]
    · simp [h2]
  · simp [h]

/-- writing `g i` at every `i` of a list, in any order -/
theorem foldl_setIfInBounds_getElem? {α : Type _} (g : Nat → α) (order : List Nat) (a : Array α) (k : Nat) :
    (order.foldl (fun a i => a.setIfInBounds i (g i)) a)[k]? =
      if k ∈ order then (if k < a.size then some (g k) else none) else a[k]? := by
  induction order generalizing a with
  | nil => simp
  | cons i rest ih =>
    simp only [List.foldl_cons, ih, size_setIfInBounds, List.mem_cons, getElem?_setIfInBounds]
    by_cases h1 : k ∈ rest
    · simp [h1]
    · by_cases h2 : k = i
      · subst h2; simp [h1]
      · have : ¬ i = k := fun e => h2 e.symm
        simp [h1, h2, this]

theorem foldl_setIfInBounds_size {α : Type _} (g : Nat → α) (order : List Nat) (a : Array α) :
    (order.foldl (fun a i => a.setIfInBounds i (g i)) a).size = a.size := by
  induction order generalizing a with
  | nil => rfl
  | cons i rest ih => rw [List.foldl_cons, ih, size_setIfInBounds]

end Array

namespace MV
open List

variable {α : Type}

theorem take_length_takeWhile (p : α → Bool) (l : List α) :
    l.take (l.takeWhile p).length = l.takeWhile p := by
  induction l with
  | nil => rfl
  | cons x xs ih =>
    rw [List.takeWhile_cons]
    split
    · rw [List.length_cons, List.take_succ_cons, ih]
    · rfl

theorem drop_length_takeWhile (p : α → Bool) (l : List α) :
    l.drop (l.takeWhile p).length = l.dropWhile p := by
  induction l with
  | nil => rfl
  | cons x xs ih =>
    rw [List.takeWhile_cons, List.dropWhile_cons]
    split
    · rw [List.length_cons, List.drop_succ_cons, ih]
    · rfl

theorem mem_takeWhile_imp {p : α → Bool} {l : List α} {x : α} (h : x ∈ l.takeWhile p) :
    p x = true := by
  induction l with
  | nil => cases h
  | cons y ys ih =>
    rw [List.takeWhile_cons] at h
    split at h
    · rcases List.mem_cons.mp h with rfl | m
      · assumption
      · exact ih m
    · cases h

theorem perm_eq_of_length_le_one {l₁ l₂ : List α} (h : l₁.Perm l₂) (hl : l₁.length ≤ 1) :
    l₁ = l₂ :=
  match l₁, hl with
  | [], _ => h.nil_eq
  | [_], _ => List.singleton_perm.mp h

theorem length_filter_le_one {l : List α} (hnd : l.Nodup) {P : α → Bool} {a : α}
    (hP : ∀ x ∈ l, P x = true → x = a) : (l.filter P).length ≤ 1 :=
  have ha : ∀ x ∈ l.filter P, x = a := fun x hx =>
    hP x (List.mem_filter.mp hx).1 (List.mem_filter.mp hx).2
  match l.filter P, hnd.sublist List.filter_sublist, ha with
  | [], _, _ => Nat.zero_le _
  | [_], _, _ => Nat.le_refl _
  | x :: y :: _, hnd', ha =>
    absurd (List.mem_cons.mpr (.inl ((ha x List.mem_cons_self).trans
      (ha y (List.mem_cons_of_mem _ List.mem_cons_self)).symm))) (List.nodup_cons.mp hnd').1

theorem sum_take_le (xs : List Nat) (j k : Nat) (h : j ≤ k) : (xs.take j).sum ≤ (xs.take k).sum := by
  induction xs generalizing j k with
  | nil => simp
  | cons x xs ih =>
    cases j with
    | zero => simp
    | succ j =>
      cases k with
      | zero => omega
      | succ k =>
        simp only [List.take_succ_cons, List.sum_cons]
        have := ih j k (by omega); omega

theorem sum_take_succ (xs : List Nat) (k : Nat) (hk : k < xs.length) :
    (xs.take (k + 1)).sum = (xs.take k).sum + xs.getD k 0 := by
  induction xs generalizing k with
  | nil => simp at hk
  | cons x xs ih =>
    cases k with
    | zero => simp
    | succ k =>
      simp only [List.take_succ_cons, List.sum_cons, List.getD_cons_succ]
      rw [ih k (by simpa using hk)]; omega

theorem pairwise_getElem? {α} {R : α → α → Prop} {l : List α} (h : l.Pairwise R) {i j : Nat} {a b : α}
    (hi : l[i]? = some a) (hj : l[j]? = some b) (hij : i < j) : R a b := by
  obtain ⟨hi', rfl⟩ := List.getElem?_eq_some_iff.1 hi
  obtain ⟨hj', rfl⟩ := List.getElem?_eq_some_iff.1 hj
  exact pairwise_iff_getElem.1 h i j hi' hj' hij

theorem pairwise_zipIdx_fst {α} {R : α → α → Prop} {l : List α} (h : l.Pairwise R) :
    l.zipIdx.Pairwise (fun a b => R a.1 b.1) := by
  rw [← pairwise_map (f := Prod.fst) (R := R), zipIdx_map_fst]; exact h

/-- reading `l ++ [c]`: an old entry, or `c` at position `l.length` -/
theorem getElem?_snoc {α : Type} (l : List α) (r x : α) (n : Nat) :
    (l ++ [r])[n]? = some x ↔ l[n]? = some x ∨ (n = l.length ∧ x = r) := by
  rcases Nat.lt_trichotomy n l.length with h | rfl | h
  · rw [getElem?_append_left h]
    exact ⟨Or.inl, fun h' => h'.elim id fun e => absurd e.1 (Nat.ne_of_lt h)⟩
  · rw [getElem?_concat_length, getElem?_eq_none (Nat.le_refl _)]
    exact ⟨fun e => Or.inr ⟨rfl, (Option.some.inj e).symm⟩, fun h' => h'.elim nofun fun e => e.2 ▸ rfl⟩
  · rw [getElem?_eq_none (Nat.le_of_lt h),
      getElem?_eq_none (by rw [length_append]; exact h)]
    exact ⟨nofun, fun h' => h'.elim nofun fun e => absurd e.1 (Nat.ne_of_gt h)⟩

theorem find?_filter_of_imp {α} (p q : α → Bool) (h : ∀ a, p a = true → q a = true) :
    ∀ l : List α, (l.filter q).find? p = l.find? p
  | [] => rfl
  | a :: l => by
    rw [filter_cons]
    by_cases hq : q a = true
    · rw [if_pos hq, find?_cons, find?_cons, find?_filter_of_imp p q h l]
    · have hp : p a = false := by
        cases hpa : p a
        · rfl
        · exact absurd (h a hpa) hq
      rw [if_neg hq, find?_cons, hp, find?_filter_of_imp p q h l]

theorem idxOf_inj {l : List Int} {x y : Int} (hx : x ∈ l) (h : l.idxOf x = l.idxOf y) : x = y := by
  have hx' := idxOf_lt_length_iff.2 hx
  have hy' : l.idxOf y < l.length := h ▸ hx'
  have e1 := getElem_idxOf hx'
  have e2 := getElem_idxOf hy'
  rw [← e1, ← e2]
  simp only [h]

theorem zip_map_fst_snd {α β} (l : List (α × β)) : (l.map (·.1)).zip (l.map (·.2)) = l := by
  induction l with
  | nil => rfl
  | cons a l ih => simp only [map_cons, zip_cons_cons, ih]

theorem foldl_zipIdx_inv {α σ : Type} (f : σ → α × Nat → σ) (P : Nat → σ → Prop) :
    ∀ (l : List α) (k : Nat) (s0 : σ), P k s0 →
      (∀ i (hi : i < l.length) s, P (k + i) s → P (k + i + 1) (f s (l[i], k + i))) →
      P (k + l.length) ((l.zipIdx k).foldl f s0) := by
  intro l
  induction l with
  | nil => intro k s0 h0 _; simpa using h0
  | cons a l ih =>
    intro k s0 h0 hs
    simp only [zipIdx_cons, foldl_cons, length_cons]
    have := ih (k + 1) (f s0 (a, k)) (by have := hs 0 (by simp) s0 (by simpa using h0); simpa using this)
      (fun i hi s hP => by
        have := hs (i + 1) (by simp only [length_cons]; omega) s
          (by rw [show k + (i + 1) = k + 1 + i by omega]; exact hP)
        simpa [show k + (i + 1) = k + 1 + i by omega] using this)
    rw [show k + (l.length + 1) = k + 1 + l.length by omega]
    exact this

/-- discrete intermediate value: from `f 0 ≤ t` to `t < f R` some step `k` has `f k ≤ t < f (k+1)`
(no monotonicity of `f` needed) -/
theorem exists_block (f : Nat → Nat) : ∀ (R t : Nat), f 0 ≤ t → t < f R →
    ∃ k, k < R ∧ f k ≤ t ∧ t < f (k + 1) := by
  intro R
  induction R with
  | zero => intro t h1 h2; omega
  | succ R ih =>
    intro t h1 h2
    by_cases h : t < f R
    · obtain ⟨k, hk, h3⟩ := ih t h1 h
      exact ⟨k, by omega, h3⟩
    · exact ⟨R, by omega, by omega, h2⟩

theorem nodup_map_iff_of_injOn {α β} {f : α → β} {l : List α}
    (h : ∀ x ∈ l, ∀ y ∈ l, f x = f y → x = y) : (l.map f).Nodup ↔ l.Nodup := by
  unfold List.Nodup
  rw [pairwise_map]
  apply Pairwise.iff_of_mem
  intro a b ha hb
  constructor
  · intro hne heq; exact hne (heq ▸ rfl)
  · intro hne heq; exact hne (h a ha b hb heq)

/-- pigeonhole: `k + 1` pairwise distinct values below `n` -/
theorem pigeon (n k : Nat) (f : Nat → Nat) (hr : ∀ i, i ≤ k → f i < n)
    (hinj : ∀ i j, i < j → j ≤ k → f i ≠ f j) : k < n := by
  have hnd : ((List.range (k + 1)).map f).Nodup := by
    rw [List.Nodup, List.pairwise_map]
    refine List.Pairwise.imp_of_mem ?_ (List.pairwise_lt_range (n := k + 1))
    intro i j _ hj hij
    exact hinj i j hij (by rw [List.mem_range] at hj; omega)
  have hsub : (List.range (k + 1)).map f ⊆ List.range n := by
    intro x hx
    obtain ⟨i, hi, rfl⟩ := List.mem_map.1 hx
    exact List.mem_range.2 (hr i (by rw [List.mem_range] at hi; omega))
  have := hnd.length_le_of_subset hsub
  simp only [List.length_map, List.length_range] at this
  omega

theorem getElem?_eq_some_getD {α : Type} {a : Array α} {i : Nat} (d : α) (h : i < a.size) :
    a[i]? = some (a.getD i d) := by
  rw [Array.getD_eq_getD_getElem?, Array.getElem?_eq_getElem h, Option.getD_some]

end MV

namespace List

/-- a left fold with an invariant indexed by the prefix consumed so far -/
theorem foldl_prefix_inv {α σ : Type} (f : σ → α → σ) (P : List α → σ → Prop) :
    ∀ (cs pre : List α) (s : σ), P pre s →
      (∀ pre' s a, a ∈ cs → P pre' s → P (pre' ++ [a]) (f s a)) → P (pre ++ cs) (cs.foldl f s)
  | [], pre, s, h, _ => by simpa using h
  | c :: cs, pre, s, h, step => by
    have := foldl_prefix_inv f P cs (pre ++ [c]) (f s c) (step pre s c mem_cons_self h)
      (fun pre' s a ha => step pre' s a (mem_cons_of_mem _ ha))
    simpa using this

end List
