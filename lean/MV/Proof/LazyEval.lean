import MV.Model.LazyEval
import MV.Proof.ConcLock

/-!
Proofs for Part 1 of `MV/Model/LazyEval.lean` (property C06, lazy evaluation lock protocol).
The inductive invariant `Inv` has a part `Loc` about each single thread and a part `Glob` about the
shared state.  `Loc … u` looks only at `u`'s own record, at whether `u` owns the two locks it uses and
at whether the value has been published (`Loc.frame`), so a step of thread `t` has to re-establish
`Loc … t` and `Glob` only (`Inv.update`).
-/
namespace MV.LazyEval

theorem upd_same {α : Type} (f : Nat → α) (k : Nat) (v : α) : upd f k v k = v := if_pos rfl

theorem upd_ne {α : Type} (f : Nat → α) (k : Nat) (v : α) {i : Nat} (h : i ≠ k) : upd f k v i = f i :=
  if_neg h

/-- What the invariant says about thread `t`. -/
structure Loc (V : Nat) (T : Nat → Nat) (hd : Nat → Nat) (s : State) (t : Nat) : Prop where
  pcle : (s.th t).pc ≤ 10
  /-- `t` owns the guard of O exactly at pc 3, 5 and 7 -/
  gl : ((s.th t).pc = 3 ∨ (s.th t).pc = 5 ∨ (s.th t).pc = 7) ↔ s.glock = some t
  /-- `t` owns the mutex of its handle exactly while `1 ≤ pc t ≤ 9` -/
  hl : (1 ≤ (s.th t).pc ∧ (s.th t).pc ≤ 9) ↔ s.hlock (hd t) = some t
  res : ∀ v, (s.th t).res = some v → v = T V ∧ s.cache = some (T V)
  seen : ∀ v, (s.th t).seen = .reduced v → v = V
  p8 : (s.th t).pc = 8 → (s.th t).res = some (T V)
  p9 : ((s.th t).pc = 9 ∨ (s.th t).pc = 10) →
    (s.th t).res = some (T V) ∧ s.pnode (hd t) = .leaf (T V)

/-- What the invariant says about the shared state. -/
structure Glob (V : Nat) (T : Nat → Nat) (hd : Nat → Nat) (s : State) : Prop where
  hown : ∀ h u, s.hlock h = some u → hd u = h
  pn : ∀ h v, s.pnode h = .leaf v → v = T V ∧ s.cache = some (T V)
  cn : s.cache = none → s.evals = 0 ∧ s.impl = .orig
  cs : ∀ v, s.cache = some v → v = T V ∧ s.evals = 1 ∧ s.impl = .reduced V

structure Inv (V : Nat) (T : Nat → Nat) (hd : Nat → Nat) (s : State) : Prop where
  loc : ∀ t, Loc V T hd s t
  glob : Glob V T hd s

theorem init_inv (V : Nat) (T : Nat → Nat) (hd : Nat → Nat) : Inv V T hd init :=
  ⟨fun _ => by constructor <;> simp [init], by constructor <;> simp [init]⟩

variable {V : Nat} {T : Nat → Nat} {hd : Nat → Nat} {s s' : State}

theorem Loc.frame {u : Nat} (h : Loc V T hd s u) (hth : s'.th u = s.th u)
    (hg : s'.glock = some u ↔ s.glock = some u)
    (hh : s'.hlock (hd u) = some u ↔ s.hlock (hd u) = some u)
    (hc : s.cache = some (T V) → s'.cache = some (T V))
    (hp : s.pnode (hd u) = .leaf (T V) → s'.pnode (hd u) = .leaf (T V)) : Loc V T hd s' u := by
  constructor <;> rw [hth]
  · exact h.pcle
  · rw [hg]; exact h.gl
  · rw [hh]; exact h.hl
  · exact fun v hv => ⟨(h.res v hv).1, hc (h.res v hv).2⟩
  · exact h.seen
  · exact h.p8
  · exact fun h9 => ⟨(h.p9 h9).1, hp (h.p9 h9).2⟩

/-- A step of thread `t`: the other threads' records are untouched, no lock changes hands among them,
what was published stays published. -/
theorem Inv.update (h : Inv V T hd s) (t : Nat)
    (hth : ∀ u, u ≠ t → s'.th u = s.th u)
    (hg : ∀ u, u ≠ t → (s'.glock = some u ↔ s.glock = some u))
    (hh : ∀ u, u ≠ t → ∀ k, (s'.hlock k = some u ↔ s.hlock k = some u))
    (hc : s.cache = some (T V) → s'.cache = some (T V))
    (hp : ∀ k, s.pnode k = .leaf (T V) → s'.pnode k = .leaf (T V))
    (ht : Loc V T hd s' t) (hG : Glob V T hd s') : Inv V T hd s' := by
  refine ⟨fun u => ?_, hG⟩
  by_cases hu : u = t
  · rw [hu]; exact ht
  · exact (h.loc u).frame (hth u hu) (hg u hu) (hh u hu _) hc (hp _)

/-- … in particular a step that changes only `t`'s record and the locks. -/
theorem Inv.lock_step (h : Inv V T hd s) (t : Nat) {x : Thread} {g : Option Nat}
    {hl : Nat → Option Nat} (hg : ∀ u, u ≠ t → (g = some u ↔ s.glock = some u))
    (hh : ∀ u, u ≠ t → ∀ k, (hl k = some u ↔ s.hlock k = some u))
    (hown : ∀ k u, hl k = some u → hd u = k)
    (ht : Loc V T hd { s with th := upd s.th t x, glock := g, hlock := hl } t) :
    Inv V T hd { s with th := upd s.th t x, glock := g, hlock := hl } :=
  h.update t (fun _ hu => upd_ne _ _ _ hu) hg hh id (fun _ => id) ht
    ⟨hown, h.glob.pn, h.glob.cn, h.glob.cs⟩

/-- Thread `t` moves to a pc `k` before the result is known and changes nothing else in its record. -/
theorem Loc.setpc {t k : Nat} (L : Loc V T hd s t) (hk : k < 8)
    (hth : s'.th t = { s.th t with pc := k })
    (hg : (k = 3 ∨ k = 5 ∨ k = 7) ↔ s'.glock = some t)
    (hh : 1 ≤ k ↔ s'.hlock (hd t) = some t)
    (hc : s.cache = some (T V) → s'.cache = some (T V)) : Loc V T hd s' t := by
  constructor <;> rw [hth] <;> dsimp only
  · omega
  · exact hg
  · rw [← hh]; omega
  · exact fun v hv => ⟨(L.res v hv).1, hc (L.res v hv).2⟩
  · exact L.seen
  · omega
  · omega

/-- Taking or releasing the mutex of one's own handle keeps every mutex with a thread of that handle. -/
theorem hown_upd {hl : Nat → Option Nat} (h : ∀ k u, hl k = some u → hd u = k) {t : Nat}
    {b : Option Nat} (hb : b = none ∨ b = some t) :
    ∀ k u, upd hl (hd t) b k = some u → hd u = k := by
  intro k u hk
  by_cases hkt : k = hd t
  · rw [hkt, upd_same] at hk
    rcases hb with rfl | rfl
    · cases hk
    · rw [hkt, ← Option.some.inj hk]
  · rw [upd_ne _ _ _ hkt] at hk; exact h k u hk

/-- pc 3 and pc 7 when `cache_` is set: take it as the result and release the guard. -/
theorem cache_hit (h : Inv V T hd s) {t v : Nat} (hpc : (s.th t).pc = 3 ∨ (s.th t).pc = 7)
    (hca : s.cache = some v) :
    Inv V T hd { s with th := upd s.th t { s.th t with pc := 8, res := some v }, glock := none } := by
  have L := h.loc t
  have hgo : s.glock = some t := L.gl.1 (by omega)
  have hown : s.hlock (hd t) = some t := L.hl.1 (by omega)
  obtain ⟨rfl, -, -⟩ := h.glob.cs v hca
  refine h.lock_step t (Lock.other (Or.inr hgo) (Or.inl rfl)) (fun _ _ _ => Iff.rfl) h.glob.hown ?_
  constructor <;> simp only [upd_same]
  · omega
  · simp
  · simpa using hown
  · intro v hv; exact ⟨(Option.some.inj hv).symm, hca⟩
  · exact L.seen
  · exact fun _ => trivial
  · omega

theorem step_inv (h : Inv V T hd s) (t : Nat) : Inv V T hd (step V T hd s t) := by
  by_cases he : enabled hd s t = true
  case neg =>
    have : step V T hd s t = s := by simp [step, he]
    rw [this]; exact h
  have L := h.loc t
  have G := h.glob
  have hlt : (s.th t).pc < 10 := Nat.lt_of_le_of_ne L.pcle fun h0 => by simp [enabled, h0] at he
  have hown : (s.th t).pc ≠ 0 → s.hlock (hd t) = some t := fun h0 =>
    L.hl.1 ⟨Nat.pos_of_ne_zero h0, Nat.le_of_lt_succ hlt⟩
  have same : ∀ u, u ≠ t → ∀ k, (s.hlock k = some u ↔ s.hlock k = some u) := fun _ _ _ => Iff.rfl
  -- pc 2, 4, 6: take the guard of O, which is free
  have take : ∀ k, (s.th t).pc = k → (k = 2 ∨ k = 4 ∨ k = 6) → Inv V T hd
      { s with th := upd s.th t { s.th t with pc := k + 1 }, glock := some t } := by
    intro k h0 hk
    have hfree : s.glock = none := by
      rcases hk with rfl | rfl | rfl <;> simpa [enabled, h0] using he
    exact h.lock_step t (Lock.other (Or.inl hfree) (Or.inr rfl)) same G.hown
      (L.setpc (by omega) (upd_same ..) ⟨fun _ => rfl, fun _ =>
          hk.imp (congrArg (· + 1)) (Or.imp (congrArg (· + 1)) (congrArg (· + 1)))⟩
        (by simpa using hown (by omega)) id)
  simp only [step, he, Bool.not_true, Bool.false_eq_true, ↓reduceIte]
  split <;> rename_i h0
  · -- pc 0: take the handle mutex, which is free
    have hfree : s.hlock (hd t) = none := by simpa [enabled, h0] using he
    exact h.lock_step t (fun _ _ => Iff.rfl) (Lock.upd_other (Or.inl hfree) (Or.inr rfl))
      (hown_upd G.hown (Or.inr rfl))
      (L.setpc (k := 1) (by omega) (upd_same ..) (by simpa [h0] using L.gl) (by simp [upd_same]) id)
  · -- pc 1: read `pNode_`
    cases hpn : s.pnode (hd t) with
    | op =>
      exact h.lock_step t (fun _ _ => Iff.rfl) same G.hown (L.setpc (k := 2) (by omega) (upd_same ..)
        (by simpa [h0] using L.gl) (by simpa using hown (by omega)) id)
    | leaf v =>
      obtain ⟨rfl, hca⟩ := G.pn _ _ hpn
      refine h.lock_step t (fun _ _ => Iff.rfl) same G.hown ?_
      constructor <;> simp only [upd_same]
      · omega
      · simpa [h0] using L.gl
      · simpa using hown (by omega)
      · intro v hv; exact ⟨(Option.some.inj hv).symm, hca⟩
      · exact L.seen
      · omega
      · exact fun _ => ⟨trivial, hpn⟩
  · exact take 2 h0 (by omega)
  · -- pc 3: look at `cache_` and release the guard
    split
    · next v hca => exact cache_hit h (Or.inl h0) hca
    · exact h.lock_step t (Lock.other (Or.inr (L.gl.1 (Or.inl h0))) (Or.inl rfl)) same G.hown
        (L.setpc (k := 4) (by omega) (upd_same ..) (by simp) (by simpa using hown (by omega)) id)
  · exact take 4 h0 (by omega)
  · -- pc 5: collect the children and release the guard
    -- `impl_` is still the original children, or the one leaf `V` that replaced them
    have himpl : ∀ v, s.impl = .reduced v → v = V := by
      intro v hv
      cases hca : s.cache with
      | none => rw [(G.cn hca).2] at hv; cases hv
      | some w => rw [(G.cs w hca).2.2] at hv; cases hv; rfl
    refine h.lock_step t (Lock.other (Or.inr (L.gl.1 (Or.inr (Or.inl h0)))) (Or.inl rfl)) same
      G.hown ?_
    constructor <;> simp only [upd_same]
    · omega
    · simp
    · simpa using hown (by omega)
    · exact L.res
    · exact himpl
    · omega
    · omega
  · exact take 6 h0 (by omega)
  · -- pc 7: unless somebody else has done it, run the Boolean, publish `cache_`; release the guard
    have hes : evalSeen V (s.th t).seen = V := by
      cases hs : (s.th t).seen with
      | orig => rfl
      | reduced v => exact L.seen v hs
    simp only [hes]
    split
    · next v hca => exact cache_hit h (Or.inr h0) hca
    · next hca =>
      refine h.update t (fun _ hu => upd_ne _ _ _ hu)
        (Lock.other (Or.inr (L.gl.1 (Or.inr (Or.inr h0)))) (Or.inl rfl)) same (fun _ => rfl)
        (fun _ => id) ?_ ⟨G.hown, fun k v hv => ⟨(G.pn k v hv).1, rfl⟩, nofun, fun v hv => ?_⟩
      · constructor <;> simp only [upd_same]
        · omega
        · simp
        · simpa using hown (by omega)
        · intro v hv; exact ⟨(Option.some.inj hv).symm, trivial⟩
        · exact L.seen
        · exact fun _ => trivial
        · omega
      · exact ⟨(Option.some.inj hv).symm, by rw [(G.cn hca).1], rfl⟩
  · -- pc 8: store the leaf into `pNode_`
    have hres : (s.th t).res = some (T V) := L.p8 h0
    have hkeep : ∀ k v, upd s.pnode (hd t) (.leaf (T V)) k = .leaf v → v = T V ∧ s.cache = some (T V) := by
      intro k v hv
      by_cases hkt : k = hd t
      · rw [hkt, upd_same] at hv; cases hv; exact ⟨rfl, (L.res _ hres).2⟩
      · rw [upd_ne _ _ _ hkt] at hv; exact G.pn k v hv
    simp only [hres]
    refine h.update t (fun _ hu => upd_ne _ _ _ hu) (fun _ _ => Iff.rfl) same id (fun k hk => ?_) ?_
      ⟨G.hown, hkeep, G.cn, G.cs⟩
    · by_cases hkt : k = hd t
      · rw [hkt]; exact upd_same ..
      · exact (upd_ne _ _ _ hkt).trans hk
    · constructor <;> simp only [upd_same]
      · omega
      · simpa [h0] using L.gl
      · simpa using hown (by omega)
      · exact fun v hv => ⟨(Option.some.inj hv).symm, (L.res _ hres).2⟩
      · exact L.seen
      · omega
      · simp
  · -- pc 9: release the handle mutex
    obtain ⟨hres, hleaf⟩ := L.p9 (Or.inl h0)
    refine h.lock_step t (fun _ _ => Iff.rfl)
      (Lock.upd_other (Or.inr (hown (by omega))) (Or.inl rfl)) (hown_upd G.hown (Or.inl rfl)) ?_
    constructor <;> simp only [upd_same]
    · omega
    · simpa [h0] using L.gl
    · simp
    · exact L.res
    · exact L.seen
    · omega
    · exact fun _ => ⟨hres, hleaf⟩
  · exact h

/-- The invariant holds in every reachable state, for every schedule (list of thread ids, any length, any threads). -/
theorem run_inv (sched : List Nat) : Inv V T hd s → Inv V T hd (run V T hd s sched) := by
  induction sched generalizing s with
  | nil => exact id
  | cons t ts ih => exact fun h => ih (step_inv h t)

/-- the owner of the guard of O can move -/
theorem enabled_of_guard {t : Nat} (h : (s.th t).pc = 3 ∨ (s.th t).pc = 5 ∨ (s.th t).pc = 7) :
    enabled hd s t = true := by
  rcases h with h | h | h <;> simp [enabled, h]

/-- a thread that cannot move is done or stands in front of a lock that is held -/
theorem not_enabled {t : Nat} (h : enabled hd s t = false) :
    (s.th t).pc = 10 ∨ ((s.th t).pc = 0 ∧ (s.hlock (hd t)).isNone = false) ∨
      (((s.th t).pc = 2 ∨ (s.th t).pc = 4 ∨ (s.th t).pc = 6) ∧ s.glock.isNone = false) := by
  unfold enabled at h
  split at h <;> simp_all

/-- No deadlock: if a thread is neither done nor enabled, another thread that has started and is not
done can move (the witness is the owner of the lock it waits for, or the owner of the guard that owner
waits for). -/
theorem Inv.no_deadlock (h : Inv V T hd s) (t : Nat) (hne : (s.th t).pc ≠ 10)
    (hdis : enabled hd s t = false) :
    ∃ u, u ≠ t ∧ enabled hd s u = true ∧ 1 ≤ (s.th u).pc ∧ (s.th u).pc < 10 := by
  -- a thread in front of the guard of O waits for its owner, which can move
  have guard : ∀ x w, ((s.th x).pc = 0 ∨ (s.th x).pc = 2 ∨ (s.th x).pc = 4 ∨ (s.th x).pc = 6) →
      s.glock = some w → w ≠ x ∧ enabled hd s w = true ∧ 1 ≤ (s.th w).pc ∧ (s.th w).pc < 10 := by
    intro x w hx hw
    have hpw := (h.loc w).gl.2 hw
    exact ⟨fun e => by rw [e] at hpw; omega, enabled_of_guard hpw, by omega, by omega⟩
  have held : ∀ {o : Option Nat}, o.isNone = false → ∃ u, o = some u
    | some u, _ => ⟨u, rfl⟩
  rcases not_enabled hdis with h10 | ⟨h0, hu⟩ | ⟨h246, hw⟩
  · exact absurd h10 hne
  · -- in front of the handle mutex: its owner `u` can move, or waits for the guard in turn
    obtain ⟨u, hu⟩ := held hu
    have hpu := (h.loc u).hl.2 (by rw [h.glob.hown _ _ hu]; exact hu)
    have hut : u ≠ t := fun e => by rw [e] at hpu; omega
    cases heu : enabled hd s u with
    | true => exact ⟨u, hut, heu, hpu.1, by omega⟩
    | false =>
      rcases not_enabled heu with h10 | ⟨h0', _⟩ | ⟨_, hw⟩
      · omega
      · omega
      · obtain ⟨w, hw⟩ := held hw
        exact ⟨w, guard t w (Or.inl h0) hw⟩
  · obtain ⟨w, hw⟩ := held hw
    exact ⟨w, guard t w (Or.inr h246) hw⟩

/-- the round-robin schedule 0,1,2 repeated `n` times -/
def rr : Nat → List Nat
  | 0 => []
  | n + 1 => 0 :: 1 :: 2 :: rr n

/-- final state of three threads (handles 0, 1, 0) under 20 round-robin rounds -/
def demo : State := run 7 (fun x => x + 100) (fun t => t % 2) init (rr 20)

/-- Non-vacuity: on a concrete schedule all three threads finish, the Boolean is executed once,
and `run_inv` then yields the serial answer `T V = 107` for every thread. -/
example :
    ((demo.th 0).pc = 10 ∧ (demo.th 1).pc = 10 ∧ (demo.th 2).pc = 10 ∧ demo.evals = 1) ∧
    ((demo.th 0).res = some 107 ∧ (demo.th 1).res = some 107 ∧ (demo.th 2).res = some 107 ∧
      demo.pnode 0 = .leaf 107 ∧ demo.pnode 1 = .leaf 107) := by
  have hpc : (demo.th 0).pc = 10 ∧ (demo.th 1).pc = 10 ∧ (demo.th 2).pc = 10 ∧ demo.evals = 1 := by
    decide +kernel
  have h : Inv 7 (fun x => x + 100) (fun t => t % 2) demo :=
    run_inv (s := init) (rr 20) (init_inv 7 (fun x => x + 100) (fun t => t % 2))
  have h0 := (h.loc 0).p9 (Or.inr hpc.1)
  have h1 := (h.loc 1).p9 (Or.inr hpc.2.1)
  have h2 := (h.loc 2).p9 (Or.inr hpc.2.2.1)
  simp only [Nat.reduceAdd, Nat.reduceMod] at h0 h1 h2
  exact ⟨hpc, h0.1, h1.1, h2.1, h0.2, h1.2⟩

end MV.LazyEval
