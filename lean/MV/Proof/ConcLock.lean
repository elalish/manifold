/-!
Locks as `Option Nat` (the owner), maps of locks as functions changed at one key: when thread `t` takes or
gives back a lock that was free or its own, nothing changes hands among the other threads.  Used by the
lock protocols of `MV/Proof/LazyEval.lean` and `MV/Proof/TwoLock.lean`, whose `upd` both unfold to the
function below.
-/
namespace MV.Lock

theorem other {a b : Option Nat} {t : Nat} (ha : a = none ∨ a = some t)
    (hb : b = none ∨ b = some t) (u : Nat) (hu : u ≠ t) : b = some u ↔ a = some u := by
  have hne : some t ≠ some u := fun e => hu (Option.some.inj e).symm
  rcases ha with rfl | rfl <;> rcases hb with rfl | rfl <;> simp [hne]

/-- the same for one entry of a map of locks -/
theorem upd_other {f : Nat → Option Nat} {k t : Nat} {b : Option Nat}
    (ha : f k = none ∨ f k = some t) (hb : b = none ∨ b = some t) (u : Nat) (hu : u ≠ t) (i : Nat) :
    (if i = k then b else f i) = some u ↔ f i = some u := by
  by_cases hi : i = k
  · rw [if_pos hi, hi]; exact other ha hb u hu
  · rw [if_neg hi]

end MV.Lock
