/-
Lemmas for the x-sorted sweep of `CollectIntersectionPairs` (MV/Model/Broad2.lean):
what a stable sort of `0 … n-1` by a key yields (`SortedRange`: the order `Prec`), a generic
"sorted sweep with early break" over such a list and its exactness (`mem_outerG_prec`), the
`byFirst` buckets, and the lexicographic order of the emitted list.
-/
import MV.Model.Broad2
import MV.Proof.SortOrder

namespace MV.Broad2

/-- strict lexicographic order on index pairs -/
def pairLt (a b : Nat × Nat) : Prop := a.1 < b.1 ∨ (a.1 = b.1 ∧ a.2 < b.2)

theorem pairLt_irrefl (a : Nat × Nat) : ¬ pairLt a a := by
  unfold pairLt; omega

theorem nodup_of_pairwise_pairLt {l : List (Nat × Nat)} (h : l.Pairwise pairLt) : l.Nodup :=
  h.imp (fun {a b} hab e => by subst e; exact pairLt_irrefl a hab)

/-- grouped by first index in increasing order, with increasing seconds in each group -/
theorem pairwise_pairLt_flatMap (n : Nat) (g : Nat → List Nat)
    (h : ∀ f, f < n → (g f).Pairwise (· < ·)) :
    ((List.range n).flatMap fun f => (g f).map fun s => (f, s)).Pairwise pairLt := by
  rw [List.pairwise_flatMap]
  refine ⟨fun f hf => ?_, List.pairwise_lt_range.imp ?_⟩
  · rw [List.pairwise_map]
    exact (h f (List.mem_range.mp hf)).imp (fun hab => Or.inr ⟨rfl, hab⟩)
  · intro f1 f2 h x hx y hy
    obtain ⟨_, _, rfl⟩ := List.mem_map.mp hx
    obtain ⟨_, _, rfl⟩ := List.mem_map.mp hy
    exact Or.inl h

/-- the order of a stable sort of `0 … n-1` by `key`: smaller key first, ties by index -/
def Prec (key : Nat → Int) (a b : Nat) : Prop := key a < key b ∨ (key a = key b ∧ a < b)

instance (key : Nat → Int) (a b : Nat) : Decidable (Prec key a b) := by
  unfold Prec; infer_instance

/-- `l` is `0 … n-1` stably sorted by `key` -/
structure SortedRange (key : Nat → Int) (n : Nat) (l : List Nat) : Prop where
  perm : l.Perm (List.range n)
  prec : l.Pairwise (Prec key)

namespace SortedRange
variable {key : Nat → Int} {n : Nat} {l : List Nat} (h : SortedRange key n l)
include h

theorem mem (i : Nat) : i ∈ l ↔ i < n := by rw [h.perm.mem_iff, List.mem_range]

theorem nodup : l.Nodup := h.perm.symm.nodup List.nodup_range

theorem length : l.length = n := by rw [h.perm.length_eq, List.length_range]

theorem sorted : l.Pairwise (fun a b => key a ≤ key b) :=
  h.prec.imp (fun {a b} hab => by unfold Prec at hab; omega)

end SortedRange

/-- **`std::stable_sort` of `0 … n-1` by a key**: a permutation, ordered by key, equal keys in
index order -/
theorem stableSort_range_spec (key : Nat → Int) (n : Nat) :
    SortedRange key n (stableSort (fun a b => decide (key a < key b)) (List.range n)) :=
  ⟨List.mergeSort_perm _ _, (Par.pairwise_mergeSort_range (Par.strictWeak_intKey key) n).imp
    (by simp only [Prec, decide_eq_true_eq, decide_eq_false_iff_not]; omega)⟩

/-- the same for a natural-number key -/
theorem stableSort_range_spec_nat (key : Nat → Nat) (n : Nat) :
    SortedRange (fun i => (key i : Int)) n
      (stableSort (fun a b => decide (key a < key b)) (List.range n)) :=
  ⟨List.mergeSort_perm _ _, (Par.pairwise_mergeSort_range (Par.strictWeak_key key) n).imp
    (by simp only [Prec, decide_eq_true_eq, decide_eq_false_iff_not]; omega)⟩

/-- inner loop: stop at the first `j` with `brk i j`, keep the `j` with `keep i j` -/
def innerG (brk keep : Nat → Nat → Bool) (i : Nat) : List Nat → List (Nat × Nat)
  | [] => []
  | j :: rest =>
    if brk i j then []
    else if keep i j then (Min.min i j, Max.max i j) :: innerG brk keep i rest
    else innerG brk keep i rest

def outerG (brk keep : Nat → Nat → Bool) : List Nat → List (Nat × Nat)
  | [] => []
  | i :: rest => innerG brk keep i rest ++ outerG brk keep rest

/-- **The break is sound**: if the list is sorted by a key and `brk i ·` is monotone in the key,
then everything after the first `j` with `brk i j` also satisfies `brk i ·`, so the inner
loop keeps exactly the `j` with `¬ brk i j ∧ keep i j`. -/
theorem mem_innerG {brk keep : Nat → Nat → Bool} {key : Nat → Int}
    (hb : ∀ i a b, key a ≤ key b → brk i a = true → brk i b = true) (i : Nat) :
    ∀ (rest : List Nat), rest.Pairwise (fun a b => key a ≤ key b) → ∀ p,
      p ∈ innerG brk keep i rest ↔
        ∃ j, j ∈ rest ∧ brk i j = false ∧ keep i j = true ∧ p = (Min.min i j, Max.max i j) := by
  intro rest
  induction rest with
  | nil => intro _ p; simp [innerG]
  | cons j rest ih =>
    intro hs p
    rw [List.pairwise_cons] at hs
    obtain ⟨hj, hs'⟩ := hs
    unfold innerG
    by_cases hbr : brk i j = true
    · rw [if_pos hbr]
      constructor
      · intro h; cases h
      · rintro ⟨j', hm, hnb, _, _⟩
        rw [List.mem_cons] at hm
        rcases hm with e | hm
        · subst e; rw [hbr] at hnb; cases hnb
        · rw [hb i j j' (hj j' hm) hbr] at hnb; cases hnb
    · rw [if_neg hbr]
      have hbr' : brk i j = false := by simpa using hbr
      by_cases hk : keep i j = true
      · rw [if_pos hk, List.mem_cons, ih hs' p]
        constructor
        · rintro (e | ⟨j', hm, h1, h2, h3⟩)
          · exact ⟨j, List.mem_cons_self, hbr', hk, e⟩
          · exact ⟨j', List.mem_cons_of_mem _ hm, h1, h2, h3⟩
        · rintro ⟨j', hm, h1, h2, h3⟩
          rw [List.mem_cons] at hm
          rcases hm with e | hm
          · subst e; exact Or.inl h3
          · exact Or.inr ⟨j', hm, h1, h2, h3⟩
      · rw [if_neg hk, ih hs' p]
        constructor
        · rintro ⟨j', hm, h1, h2, h3⟩
          exact ⟨j', List.mem_cons_of_mem _ hm, h1, h2, h3⟩
        · rintro ⟨j', hm, h1, h2, h3⟩
          rw [List.mem_cons] at hm
          rcases hm with e | hm
          · subst e; exact absurd h2 hk
          · exact ⟨j', hm, h1, h2, h3⟩

/-- **The sorted sweep**, for a list in the order `Prec key` and a `break` test monotone in the
key: the ordered pair `a < b` is emitted when the loop, meeting the two indices in the one order
or the other, neither breaks nor filters. -/
theorem mem_outerG_prec {brk keep : Nat → Nat → Bool} {key : Nat → Int}
    (hb : ∀ i a b, key a ≤ key b → brk i a = true → brk i b = true) :
    ∀ (l : List Nat), l.Pairwise (Prec key) → ∀ a b,
      ((a, b) ∈ outerG brk keep l ↔ a < b ∧ a ∈ l ∧ b ∈ l ∧
        ((Prec key a b ∧ brk a b = false ∧ keep a b = true) ∨
         (Prec key b a ∧ brk b a = false ∧ keep b a = true))) := by
  intro l
  induction l with
  | nil => intro _ a b; simp [outerG]
  | cons i rest ih =>
    intro hs a b
    rw [List.pairwise_cons] at hs
    have hasym : ∀ x y, Prec key x y → ¬ Prec key y x := fun x y => by unfold Prec; omega
    simp only [outerG, List.mem_append, List.mem_cons]
    rw [mem_innerG hb i rest (hs.2.imp fun {x y} h => by unfold Prec at h; omega) (a, b),
      ih hs.2 a b]
    constructor
    · rintro (⟨j, hj, h1, h2, e⟩ | ⟨h1, h2, h3, h4⟩)
      · simp only [Prod.mk.injEq] at e
        by_cases hlt : i < j
        · obtain ⟨rfl, rfl⟩ : a = i ∧ b = j := by omega
          exact ⟨hlt, Or.inl rfl, Or.inr hj, Or.inl ⟨hs.1 b hj, h1, h2⟩⟩
        · have hne : i ≠ j := fun e => hasym i j (hs.1 j hj) (e ▸ hs.1 j hj)
          obtain ⟨rfl, rfl⟩ : a = j ∧ b = i := by omega
          exact ⟨by omega, Or.inr hj, Or.inl rfl, Or.inr ⟨hs.1 a hj, h1, h2⟩⟩
      · exact ⟨h1, Or.inr h2, Or.inr h3, h4⟩
    · rintro ⟨hab, ha | ha, hb' | hb', h⟩
      · omega
      · subst ha
        rcases h with ⟨_, h1, h2⟩ | ⟨hp, _⟩
        · exact Or.inl ⟨b, hb', h1, h2, by simp only [Prod.mk.injEq]; omega⟩
        · exact absurd hp (hasym _ _ (hs.1 b hb'))
      · subst hb'
        rcases h with ⟨hp, _⟩ | ⟨_, h1, h2⟩
        · exact absurd hp (hasym _ _ (hs.1 a ha))
        · exact Or.inl ⟨a, ha, h1, h2, by simp only [Prod.mk.injEq]; omega⟩
      · exact Or.inr ⟨hab, ha, hb', h⟩

theorem minmax_inj (i j j' : Nat)
    (h : (Min.min i j, Max.max i j) = (Min.min i j', Max.max i j')) : j = j' := by
  simp only [Prod.mk.injEq] at h
  omega

theorem innerG_sublist (brk keep : Nat → Nat → Bool) (i : Nat) : ∀ (rest : List Nat),
    (innerG brk keep i rest).Sublist (rest.map fun j => (Min.min i j, Max.max i j)) := by
  intro rest
  induction rest with
  | nil => simp [innerG]
  | cons j rest ih =>
    unfold innerG
    simp only [List.map_cons]
    split
    · exact List.nil_sublist _
    · split
      · exact List.cons_sublist_cons.mpr ih
      · exact List.Sublist.cons _ ih

theorem nodup_innerG (brk keep : Nat → Nat → Bool) (i : Nat) {rest : List Nat}
    (hn : rest.Nodup) : (innerG brk keep i rest).Nodup := by
  apply List.Nodup.sublist (innerG_sublist brk keep i rest)
  unfold List.Nodup
  rw [List.pairwise_map]
  exact hn.imp (fun {a b} hab e => hab (minmax_inj i a b e))

theorem innerG_has (brk keep : Nat → Nat → Bool) (i : Nat) : ∀ (rest : List Nat) p,
    p ∈ innerG brk keep i rest → (p.1 = i ∨ p.2 = i) ∧ (p.1 ∈ rest ∨ p.2 ∈ rest) := by
  intro rest p hp
  have := (innerG_sublist brk keep i rest).subset hp
  rw [List.mem_map] at this
  obtain ⟨j, hj, e⟩ := this
  subst e
  simp only
  constructor
  · omega
  · by_cases h : i ≤ j
    · right; rw [Nat.max_eq_right h]; exact hj
    · left; rw [Nat.min_eq_right (by omega)]; exact hj

theorem outerG_mem_both (brk keep : Nat → Nat → Bool) : ∀ (l : List Nat) p,
    p ∈ outerG brk keep l → p.1 ∈ l ∧ p.2 ∈ l := by
  intro l
  induction l with
  | nil => intro p h; simp [outerG] at h
  | cons a l ih =>
    intro p h
    simp only [outerG, List.mem_append] at h
    rcases h with h | h
    · have h0 := (innerG_sublist brk keep a l).subset h
      rw [List.mem_map] at h0
      obtain ⟨j, hj, e⟩ := h0
      subst e
      simp only
      by_cases hle : a ≤ j
      · rw [Nat.min_eq_left hle, Nat.max_eq_right hle]
        exact ⟨List.mem_cons_self, List.mem_cons_of_mem _ hj⟩
      · rw [Nat.min_eq_right (by omega), Nat.max_eq_left (by omega)]
        exact ⟨List.mem_cons_of_mem _ hj, List.mem_cons_self⟩
    · have := ih p h
      exact ⟨List.mem_cons_of_mem _ this.1, List.mem_cons_of_mem _ this.2⟩

theorem nodup_outerG (brk keep : Nat → Nat → Bool) : ∀ (l : List Nat), l.Nodup →
    (outerG brk keep l).Nodup := by
  intro l
  induction l with
  | nil => intro _; simp [outerG]
  | cons a l ih =>
    intro hn
    rw [List.nodup_cons] at hn
    obtain ⟨ha, hn'⟩ := hn
    simp only [outerG]
    rw [List.nodup_append]
    refine ⟨nodup_innerG brk keep a hn', ih hn', ?_⟩
    intro p hp q hq e
    subst e
    have h1 := (innerG_has brk keep a l p hp).1
    have h2 := outerG_mem_both brk keep l p hq
    rcases h1 with h1 | h1
    · rw [h1] at h2; exact ha h2.1
    · rw [h1] at h2; exact ha h2.2

theorem bucket_fold (raw : List (Nat × Nat)) : ∀ (acc : Array (Array Nat)) (f : Nat),
    f < acc.size →
    ((raw.foldl (fun acc p => acc.modify p.1 (fun s => s.push p.2)) acc).getD f #[]).toList =
      (acc.getD f #[]).toList ++ (raw.filter (fun p => p.1 == f)).map (·.2) := by
  induction raw with
  | nil => intro acc f _; simp
  | cons p raw ih =>
    intro acc f hf
    rw [List.foldl_cons, ih _ f (by rw [Array.size_modify]; exact hf)]
    rw [Array.getD_eq_getD_getElem?, Array.getElem?_modify, Array.getD_eq_getD_getElem?]
    by_cases e : p.1 = f
    · subst e
      have hs : acc[p.1]? = some acc[p.1] := Array.getElem?_eq_getElem hf
      simp [hs]
    · have : (p.1 == f) = false := by simpa using e
      simp [e, this]

theorem bucketPairs_spec (n : Nat) (raw : List (Nat × Nat)) (f : Nat) (hf : f < n) :
    ((bucketPairs n raw).getD f #[]).toList = (raw.filter (fun p => p.1 == f)).map (·.2) := by
  unfold bucketPairs
  rw [bucket_fold raw _ f (by simpa using hf)]
  simp [Array.getD_eq_getD_getElem?, hf]

theorem sortSmallInts_perm (l : List Nat) : (sortSmallInts l).Perm l := List.mergeSort_perm _ _

theorem sortSmallInts_sorted (l : List Nat) : (sortSmallInts l).Pairwise (· ≤ ·) :=
  Par.pairwise_mergeSort_natKey id l

theorem sortSmallInts_strict {l : List Nat} (hn : l.Nodup) : (sortSmallInts l).Pairwise (· < ·) := by
  have h1 := sortSmallInts_sorted l
  have h2 : (sortSmallInts l).Nodup := (sortSmallInts_perm l).symm.nodup hn
  exact (h1.and h2).imp (fun {a b} h => by omega)

/-- the list emitted from the buckets of `raw` -/
def emit (n : Nat) (raw : List (Nat × Nat)) : List (Nat × Nat) :=
  (List.range n).flatMap fun first =>
    (sortSmallInts ((bucketPairs n raw).getD first #[]).toList).map fun second => (first, second)

theorem mem_emit {n : Nat} {raw : List (Nat × Nat)} (hlt : ∀ p ∈ raw, p.1 < n) (p : Nat × Nat) :
    p ∈ emit n raw ↔ p ∈ raw := by
  unfold emit
  rw [List.mem_flatMap]
  constructor
  · rintro ⟨f, hf, hp⟩
    rw [List.mem_range] at hf
    rw [List.mem_map] at hp
    obtain ⟨s, hs, e⟩ := hp
    rw [(sortSmallInts_perm _).mem_iff, bucketPairs_spec n raw f hf, List.mem_map] at hs
    obtain ⟨q, hq, e2⟩ := hs
    rw [List.mem_filter] at hq
    obtain ⟨hq1, hq2⟩ := hq
    have : q.1 = f := by simpa using hq2
    have : q = p := by rw [← e]; exact Prod.ext this e2
    rw [← this]; exact hq1
  · intro hp
    refine ⟨p.1, List.mem_range.mpr (hlt p hp), ?_⟩
    rw [List.mem_map]
    refine ⟨p.2, ?_, rfl⟩
    rw [(sortSmallInts_perm _).mem_iff, bucketPairs_spec n raw p.1 (hlt p hp), List.mem_map]
    exact ⟨p, List.mem_filter.mpr ⟨hp, by simp⟩, rfl⟩

theorem emit_sorted {n : Nat} {raw : List (Nat × Nat)} (hn : raw.Nodup) :
    (emit n raw).Pairwise pairLt := by
  refine pairwise_pairLt_flatMap n _ (fun f hf => sortSmallInts_strict ?_)
  rw [bucketPairs_spec n raw f hf]
  unfold List.Nodup
  rw [List.pairwise_map]
  refine List.Pairwise.imp_of_mem ?_ (List.Nodup.sublist List.filter_sublist hn)
  intro a b ha hb hab e
  have e1 : a.1 = f := by simpa using (List.mem_filter.mp ha).2
  have e2 : b.1 = f := by simpa using (List.mem_filter.mp hb).2
  exact hab (Prod.ext (e1.trans e2.symm) e)

def minXof (boxes : Array Box2) (i : Nat) : Int := (boxAt boxes i).minX

/-- the `break` test -/
def xbrk (boxes : Array Box2) (i j : Nat) : Bool :=
  decide ((boxAt boxes j).minX > (boxAt boxes i).maxX)

/-- the closed y-interval test -/
def yov (boxes : Array Box2) (i j : Nat) : Bool :=
  decide ((boxAt boxes i).minY ≤ (boxAt boxes j).maxY) &&
  decide ((boxAt boxes i).maxY ≥ (boxAt boxes j).minY)

def xkeep (boxes : Array Box2) (skip : Nat → Nat → Bool) (i j : Nat) : Bool :=
  yov boxes i j && !skip i j

theorem yov_comm (boxes : Array Box2) (i j : Nat) : yov boxes i j = yov boxes j i := by
  unfold yov
  rw [Bool.and_comm]

theorem sweepInner_eq (boxes : Array Box2) (skip : Nat → Nat → Bool) (i : Nat) :
    ∀ rest, sweepInner boxes skip i rest = innerG (xbrk boxes) (xkeep boxes skip) i rest := by
  intro rest
  induction rest with
  | nil => rfl
  | cons j rest ih =>
    rw [sweepInner, innerG, ih]
    simp only [xbrk, xkeep, yov, decide_eq_true_eq]
    split
    · rfl
    · by_cases h : skip i j = true <;> simp [h]

theorem sweepOuter_eq (boxes : Array Box2) (skip : Nat → Nat → Bool) :
    ∀ l, sweepOuter boxes skip l = outerG (xbrk boxes) (xkeep boxes skip) l := by
  intro l
  induction l with
  | nil => rfl
  | cons i rest ih => simp only [sweepOuter, outerG, sweepInner_eq, ih]

theorem xbrk_mono (boxes : Array Box2) : ∀ i a b, minXof boxes a ≤ minXof boxes b →
    xbrk boxes i a = true → xbrk boxes i b = true := by
  intro i a b h
  simp only [xbrk, minXof, decide_eq_true_eq] at *
  omega

theorem sweepLe_iff (boxes : Array Box2) (a b : Nat) :
    (!sweepLt boxes b a) = true ↔
      (minXof boxes a < minXof boxes b ∨ (minXof boxes a = minXof boxes b ∧ a ≤ b)) := by
  unfold sweepLt minXof
  by_cases h : (boxAt boxes b).minX = (boxAt boxes a).minX
  · simp [h]
  · have : ((boxAt boxes b).minX != (boxAt boxes a).minX) = true := by simpa using h
    simp only [this, if_true, Bool.not_eq_true', decide_eq_false_iff_not]
    omega

theorem sweepLe_trans (boxes : Array Box2) (a b c : Nat) :
    (!sweepLt boxes b a) = true → (!sweepLt boxes c b) = true → (!sweepLt boxes c a) = true := by
  rw [sweepLe_iff, sweepLe_iff, sweepLe_iff]; omega

theorem sweepLe_total (boxes : Array Box2) (a b : Nat) :
    ((!sweepLt boxes b a) || (!sweepLt boxes a b)) = true := by
  rw [Bool.or_eq_true, sweepLe_iff, sweepLe_iff]; omega

/-- `order` is `0 … n-1` sorted by `min.x`, ties by index (by the comparator itself; a stable
sort by `min.x` alone gives the same list) -/
theorem sweepOrder_spec (boxes : Array Box2) :
    SortedRange (minXof boxes) boxes.size (sweepOrder boxes) := by
  refine ⟨List.mergeSort_perm _ _, ?_⟩
  have h1 : (sweepOrder boxes).Pairwise (fun a b => (!sweepLt boxes b a) = true) :=
    List.pairwise_mergeSort (sweepLe_trans boxes) (sweepLe_total boxes) _
  refine (h1.and (Par.nodup_mergeSort_range _ boxes.size)).imp fun {a b} h => ?_
  rw [sweepLe_iff] at h
  unfold Prec; omega

end MV.Broad2
