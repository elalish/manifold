/-
Lemmas for the polygon k-d tree (MV/Model/Broad2.lean: `buildImpl`, `queryLoop`):
the invariant `KD` established by `BuildTwoDTreeImpl`, and the exactness of the explicit-stack
traversal of `QueryTwoDTree` for every array satisfying `KD`.
-/
import MV.Proof.Broad2Sweep

namespace MV.Broad2

/-- the `stable_sort` of `BuildTwoDTreeImpl` -/
def kdSort (sx : Bool) (pts : List PolyVert) : List PolyVert :=
  stableSort (fun a b => decide (coord sx a < coord sx b)) pts

theorem kdSort_perm (sx : Bool) (pts : List PolyVert) : (kdSort sx pts).Perm pts :=
  List.mergeSort_perm _ _

theorem kdSort_sorted (sx : Bool) (pts : List PolyVert) :
    (kdSort sx pts).Pairwise (fun a b => coord sx a ≤ coord sx b) :=
  Par.pairwise_mergeSort_intKey (coord sx) pts

theorem buildImpl_succ (fuel : Nat) (sx : Bool) (pts : List PolyVert) :
    buildImpl (fuel + 1) sx pts =
      if (kdSort sx pts).length < 2 then kdSort sx pts
      else
        match (kdSort sx pts).drop ((kdSort sx pts).length / 2) with
        | [] => kdSort sx pts
        | m :: right =>
          buildImpl fuel (!sx) ((kdSort sx pts).take ((kdSort sx pts).length / 2)) ++
            m :: buildImpl fuel (!sx) right := rfl

theorem buildImpl_perm : ∀ (fuel : Nat) (sx : Bool) (pts : List PolyVert),
    (buildImpl fuel sx pts).Perm pts := by
  intro fuel
  induction fuel with
  | zero => intro sx pts; exact List.Perm.refl _
  | succ f ih =>
    intro sx pts
    rw [buildImpl_succ]
    split
    · exact kdSort_perm sx pts
    · split
      · exact kdSort_perm sx pts
      · rename_i m right hd
        refine List.Perm.trans ?_ (kdSort_perm sx pts)
        have e : kdSort sx pts =
            (kdSort sx pts).take ((kdSort sx pts).length / 2) ++ m :: right := by
          rw [← hd, List.take_append_drop]
        conv => rhs; rw [e]
        exact (ih _ _).append ((ih _ _).cons m)

/-- **The invariant of `BuildTwoDTreeImpl`**: an array of fewer than two points, or
`l ++ m :: r` with `m` at index `size/2`, every point of `l` at most `m` and every point of
`r` at least `m` on the current axis (ties may sit on both sides), `l` and `r` built for the
other axis. -/
inductive KD : Bool → List PolyVert → Prop
  | small {sx : Bool} {v : List PolyVert} : v.length < 2 → KD sx v
  | node {sx : Bool} {l : List PolyVert} {m : PolyVert} {r : List PolyVert} :
      l.length = (l.length + 1 + r.length) / 2 →
      (∀ p ∈ l, coord sx p ≤ coord sx m) → (∀ p ∈ r, coord sx m ≤ coord sx p) →
      KD (!sx) l → KD (!sx) r → KD sx (l ++ m :: r)

theorem buildImpl_kd : ∀ (fuel : Nat) (sx : Bool) (pts : List PolyVert), pts.length ≤ fuel →
    KD sx (buildImpl fuel sx pts) := by
  intro fuel
  induction fuel with
  | zero =>
    intro sx pts h
    exact KD.small (by simp only [buildImpl]; omega)
  | succ f ih =>
    intro sx pts hlen
    rw [buildImpl_succ]
    have hsl : (kdSort sx pts).length = pts.length := (kdSort_perm sx pts).length_eq
    have hs := kdSort_sorted sx pts
    generalize kdSort sx pts = s at *
    split
    · rename_i h; exact KD.small h
    · rename_i hge
      have hdl : (s.drop (s.length / 2)).length = s.length - s.length / 2 := List.length_drop
      split
      · rename_i hd
        rw [hd] at hdl
        simp only [List.length_nil] at hdl
        omega
      · rename_i m right hd
        rw [hd, List.length_cons] at hdl
        have ht : (s.take (s.length / 2)).length = s.length / 2 := by
          rw [List.length_take]; exact Nat.min_eq_left (Nat.div_le_self _ _)
        rw [← List.take_append_drop (s.length / 2) s, hd, List.pairwise_append,
          List.pairwise_cons] at hs
        obtain ⟨_, ⟨hmr, _⟩, hlm⟩ := hs
        have pl := buildImpl_perm f (!sx) (s.take (s.length / 2))
        have pr := buildImpl_perm f (!sx) right
        refine KD.node ?_ ?_ ?_ (ih _ _ (by rw [ht]; omega)) (ih _ _ (by omega))
        · rw [pl.length_eq, pr.length_eq, ht]; omega
        · intro p hp
          exact hlm p (pl.mem_iff.mp hp) m List.mem_cons_self
        · intro p hp
          exact hmr p (pr.mem_iff.mp hp)

theorem buildTwoDTree_perm (pts : List PolyVert) : (buildTwoDTree pts).Perm pts := by
  unfold buildTwoDTree
  split
  · exact List.Perm.refl _
  · exact buildImpl_perm _ _ _

theorem buildTwoDTree_kd (pts : List PolyVert) (h : 8 < pts.length) :
    KD true (buildTwoDTree pts) := by
  unfold buildTwoDTree
  rw [if_neg (by omega)]
  exact buildImpl_kd _ _ _ (Nat.le_refl _)

/-- the point lies in the conceptual rectangle (closed, infinite bounds allowed) -/
def InRect (c : CRect) (p : PolyVert) : Prop :=
  loLe c.minX p.x = true ∧ loLe c.minY p.y = true ∧ hiGe c.maxX p.x = true ∧ hiGe c.maxY p.y = true

theorem loLe_mono {lo : Option Int} {a b : Int} (h : loLe lo a = true) (hab : a ≤ b) :
    loLe lo b = true := by
  cases lo with
  | none => rfl
  | some v => simp only [loLe, decide_eq_true_eq] at *; omega

theorem hiGe_mono {hi : Option Int} {a b : Int} (h : hiGe hi a = true) (hab : b ≤ a) :
    hiGe hi b = true := by
  cases hi with
  | none => rfl
  | some v => simp only [hiGe, decide_eq_true_eq] at *; omega

/-- **closed `DoesOverlap` is a sound prune**: a rectangle that contains a point of the query
rectangle overlaps the query rectangle -/
theorem overlap_of_mem {c : CRect} {r : Rect} {p : PolyVert} (hc : InRect c p)
    (hr : r.contains p = true) : c.doesOverlap r = true := by
  simp only [Rect.contains, Bool.and_eq_true, decide_eq_true_eq] at hr
  obtain ⟨h1, h2, h3, h4⟩ := hc
  simp only [CRect.doesOverlap, Bool.and_eq_true]
  exact ⟨⟨⟨loLe_mono h1 (by omega), loLe_mono h2 (by omega)⟩, hiGe_mono h3 (by omega)⟩,
    hiGe_mono h4 (by omega)⟩

theorem filter_nil_of_no_overlap {c : CRect} {r : Rect} {v : List PolyVert}
    (hin : ∀ p ∈ v, InRect c p) (hno : c.doesOverlap r = false) : v.filter r.contains = [] := by
  rw [List.filter_eq_nil_iff]
  intro p hp hc
  rw [overlap_of_mem (hin p hp) hc] at hno
  cases hno

/-- the conceptual left / right rectangles -/
def leftRect (current : CRect) (level : Nat) (m : PolyVert) : CRect :=
  if level % 2 = 0 then { current with maxX := some m.x } else { current with maxY := some m.y }

def rightRect (current : CRect) (level : Nat) (m : PolyVert) : CRect :=
  if level % 2 = 0 then { current with minX := some m.x } else { current with minY := some m.y }

theorem inRect_left {current : CRect} {level : Nat} {m p : PolyVert} (h : InRect current p)
    (hc : coord (decide (level % 2 = 0)) p ≤ coord (decide (level % 2 = 0)) m) :
    InRect (leftRect current level m) p := by
  obtain ⟨h1, h2, h3, h4⟩ := h
  unfold leftRect
  by_cases hl : level % 2 = 0
  · simp only [hl, decide_true, coord, if_true] at hc ⊢
    exact ⟨h1, h2, by simp only [hiGe, decide_eq_true_eq]; omega, h4⟩
  · simp only [hl, decide_false, coord, if_false, Bool.false_eq_true] at hc ⊢
    exact ⟨h1, h2, h3, by simp only [hiGe, decide_eq_true_eq]; omega⟩

theorem inRect_right {current : CRect} {level : Nat} {m p : PolyVert} (h : InRect current p)
    (hc : coord (decide (level % 2 = 0)) m ≤ coord (decide (level % 2 = 0)) p) :
    InRect (rightRect current level m) p := by
  obtain ⟨h1, h2, h3, h4⟩ := h
  unfold rightRect
  by_cases hl : level % 2 = 0
  · simp only [hl, decide_true, coord, if_true] at hc ⊢
    exact ⟨by simp only [loLe, decide_eq_true_eq]; omega, h2, h3, h4⟩
  · simp only [hl, decide_false, coord, if_false, Bool.false_eq_true] at hc ⊢
    exact ⟨h1, by simp only [loLe, decide_eq_true_eq]; omega, h3, h4⟩

theorem parity_succ (level : Nat) :
    (!decide (level % 2 = 0)) = decide ((level + 1) % 2 = 0) := by
  rw [← decide_not]
  exact decide_eq_decide.mpr (by omega)

/-- what the loop does once the current view is finished -/
def cont (r : Rect) (fuel : Nat) (stack : List Frame) (out : List PolyVert) :
    Option (List PolyVert) :=
  match stack with
  | [] => some out
  | f :: rest => queryLoop r fuel f.rect f.view f.level rest out

theorem queryLoop_small (r : Rect) (fuel : Nat) (current : CRect) (view : List PolyVert)
    (level : Nat) (stack : List Frame) (out : List PolyVert) (h : view.length ≤ 8) :
    queryLoop r (fuel + 1) current view level stack out =
      cont r fuel stack (out ++ view.filter r.contains) := by
  rw [queryLoop, if_pos h]
  cases stack <;> rfl

theorem queryLoop_big (r : Rect) (fuel : Nat) (current : CRect) (l : List PolyVert) (m : PolyVert)
    (rr : List PolyVert) (level : Nat) (stack : List Frame) (out : List PolyVert)
    (h : ¬ (l ++ m :: rr).length ≤ 8) (hl : l.length = (l ++ m :: rr).length / 2) :
    queryLoop r (fuel + 1) current (l ++ m :: rr) level stack out =
      if (leftRect current level m).doesOverlap r then
        if (rightRect current level m).doesOverlap r then
          if stack.length ≥ kTreeStack then none
          else queryLoop r fuel (leftRect current level m) l (level + 1)
            (⟨rightRect current level m, rr, level + 1⟩ :: stack)
            (out ++ if r.contains m then [m] else [])
        else queryLoop r fuel (leftRect current level m) l (level + 1) stack
          (out ++ if r.contains m then [m] else [])
      else queryLoop r fuel (rightRect current level m) rr (level + 1) stack
        (out ++ if r.contains m then [m] else []) := by
  have hd : (l ++ m :: rr).drop ((l ++ m :: rr).length / 2) = m :: rr := by
    rw [← hl]; simp
  have ht : (l ++ m :: rr).take ((l ++ m :: rr).length / 2) = l := by
    rw [← hl]; simp
  have ho : (if r.contains m = true then out ++ [m] else out) =
      out ++ if r.contains m then [m] else [] := by
    split <;> simp
  rw [queryLoop, if_neg h]
  simp only [hd, ht, ho, leftRect, rightRect]
  rfl

/-- the stack budget of the two halves of a view of more than 8 points -/
theorem budget_halves {a b k : Nat} (hbig : 8 < a + 1 + b) (ha : a = (a + 1 + b) / 2)
    (hk : a + 1 + b < 9 * 2 ^ k) : ∃ k', k = k' + 1 ∧ a < 9 * 2 ^ k' ∧ b < 9 * 2 ^ k' := by
  cases k with
  | zero => omega
  | succ k' =>
    rw [Nat.pow_succ] at hk
    refine ⟨k', rfl, ?_⟩
    omega

/-- **The traversal of one subtree.**  For a view satisfying `KD` whose points lie in the
conceptual rectangle, the loop started on it reports a permutation `V` of the points of the
view inside `r`, uses `c ≤ max 1 length` iterations and then continues with the stack; it needs
`k` free stack slots where `length < 9 * 2^k` (64: the `std::array<…, 64>` stacks of tree2d.h:41-43). -/
theorem queryLoop_spec (r : Rect) {sx : Bool} {view : List PolyVert} (hkd : KD sx view) :
    ∀ (level : Nat) (current : CRect), sx = decide (level % 2 = 0) →
    (∀ p ∈ view, InRect current p) →
    ∃ (V : List PolyVert) (c : Nat), V.Perm (view.filter r.contains) ∧ c ≤ max 1 view.length ∧
      ∀ (k fuel : Nat) (stack : List Frame) (out : List PolyVert),
        view.length < 9 * 2 ^ k → stack.length + k ≤ 64 →
        queryLoop r (fuel + c) current view level stack out = cont r fuel stack (out ++ V) := by
  induction hkd with
  | @small _ view h =>
    intro level current _ _
    exact ⟨view.filter r.contains, 1, List.Perm.refl _, by omega, fun k fuel stack out _ _ =>
      queryLoop_small r fuel current view level stack out (by omega)⟩
  | @node sx l m rr hl hlm hmr _ _ ihl ihr =>
    intro level current hsx hin
    by_cases hsmall : (l ++ m :: rr).length ≤ 8
    · exact ⟨_, 1, List.Perm.refl _, by omega, fun k fuel stack out _ _ =>
        queryLoop_small r fuel current _ level stack out hsmall⟩
    · subst hsx
      have hlen : (l ++ m :: rr).length = l.length + 1 + rr.length := by simp; omega
      have hl' : l.length = (l ++ m :: rr).length / 2 := by rw [hlen]; exact hl
      have hbig : 8 < l.length + 1 + rr.length := by omega
      have inl : ∀ p ∈ l, InRect (leftRect current level m) p := fun p hp =>
        inRect_left (hin p (by simp [hp])) (hlm p hp)
      have inr : ∀ p ∈ rr, InRect (rightRect current level m) p := fun p hp =>
        inRect_right (hin p (by simp [hp])) (hmr p hp)
      obtain ⟨VL, cL, pL, cL2, sL⟩ := ihl (level + 1) _ (parity_succ level) inl
      obtain ⟨VR, cR, pR, cR2, sR⟩ := ihr (level + 1) _ (parity_succ level) inr
      -- both halves are non-empty
      have hpos : 1 ≤ l.length ∧ 1 ≤ rr.length := by clear cL2 cR2; omega
      replace cL2 : cL ≤ l.length := Nat.le_trans cL2 (Nat.max_le.mpr ⟨hpos.1, Nat.le_refl _⟩)
      replace cR2 : cR ≤ rr.length := Nat.le_trans cR2 (Nat.max_le.mpr ⟨hpos.2, Nat.le_refl _⟩)
      have hfil : (l ++ m :: rr).filter r.contains =
          l.filter r.contains ++ ((if r.contains m then [m] else []) ++ rr.filter r.contains) := by
        rw [List.filter_append, List.filter_cons]
        split <;> simp
      rw [hlen]
      by_cases hL : (leftRect current level m).doesOverlap r = true
      · by_cases hR : (rightRect current level m).doesOverlap r = true
        · -- both subtrees: the right one waits on the stack while the left one is traversed
          refine ⟨(if r.contains m then [m] else []) ++ VL ++ VR, cR + cL + 1, ?_, Nat.le_trans (by omega) (Nat.le_max_right _ _), ?_⟩
          · rw [hfil]
            refine List.Perm.trans ?_ (List.perm_append_comm_assoc _ _ _)
            rw [List.append_assoc]
            exact List.Perm.append_left _ (pL.append pR)
          · intro k fuel stack out hk1 hk2
            obtain ⟨k', rfl, hkl, hkr⟩ := budget_halves hbig hl hk1
            rw [← Nat.add_assoc, ← Nat.add_assoc,
              queryLoop_big r _ current l m rr level stack out hsmall hl', if_pos hL, if_pos hR,
              if_neg (by unfold kTreeStack; omega),
              sL k' (fuel + cR) _ _ hkl (by simp only [List.length_cons]; omega)]
            show queryLoop r (fuel + cR) (rightRect current level m) rr (level + 1) stack _ = _
            rw [sR k' fuel stack _ hkr (by omega)]
            simp only [List.append_assoc]
        · -- only the left subtree; nothing of the right subtree is in `r`
          have hnil := filter_nil_of_no_overlap inr (by simpa using hR)
          refine ⟨(if r.contains m then [m] else []) ++ VL, cL + 1, ?_, Nat.le_trans (by omega) (Nat.le_max_right _ _), ?_⟩
          · rw [hfil, hnil, List.append_nil]
            exact (List.perm_append_comm).trans (pL.append_right _)
          · intro k fuel stack out hk1 hk2
            obtain ⟨k', rfl, hkl, _⟩ := budget_halves hbig hl hk1
            rw [← Nat.add_assoc,
              queryLoop_big r _ current l m rr level stack out hsmall hl', if_pos hL, if_neg hR,
              sL k' fuel stack _ hkl (by omega)]
            simp only [List.append_assoc]
      · -- the left subtree is pruned: the loop continues with the right subtree
        have hnil := filter_nil_of_no_overlap inl (by simpa using hL)
        refine ⟨(if r.contains m then [m] else []) ++ VR, cR + 1, ?_, Nat.le_trans (by omega) (Nat.le_max_right _ _), ?_⟩
        · rw [hfil, hnil, List.nil_append]
          exact pR.append_left _
        · intro k fuel stack out hk1 hk2
          obtain ⟨k', rfl, _, hkr⟩ := budget_halves hbig hl hk1
          rw [← Nat.add_assoc,
            queryLoop_big r _ current l m rr level stack out hsmall hl', if_neg hL,
            sR k' fuel stack _ hkr (by omega)]
          simp only [List.append_assoc]

end MV.Broad2
