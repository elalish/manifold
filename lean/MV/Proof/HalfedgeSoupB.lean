import MV.Proof.HalfedgeSoupA
/-!
C09b, part B: `search` / `body` / `serialLoop` (impl.cpp:456-502, 530-532) on ARBITRARY triangle
soups with an even number of halfedges: no out-of-range access, no fuel exhaustion, `ids`
stays a permutation of `[0, numHalfedge)`, removal marks come in position pairs `(j, j+numEdge)`.
-/
namespace MV.Halfedge
open List

/-- the two marks of impl.cpp:466-467 -/
def mark (s : St) (p0 p1 : Nat) : St :=
  { s with removed := (s.removed.setIfInBounds p0 true).setIfInBounds p1 true }

/-- invariant of the serial loop before iteration `i` (`M = numEdge`, `2M = numHalfedge`) -/
structure SInv (he : Array CH) (M i : Nat) (s : St) : Prop where
  hsz : he.size = 2 * M
  h3 : (2 * M) % 3 = 0
  isz : s.ids.size = 2 * M
  rsz : s.removed.size = 2 * M
  perm : s.ids.toList ~ List.range (2 * M)
  stat : ∀ p, p < 2 * M → remAt s.removed s.ids p = true → (p < i ∨ (M ≤ p ∧ p < M + i))
  sym : ∀ j, j < M → remAt s.removed s.ids j = remAt s.removed s.ids (j + M)

theorem getD_toList (xs : Array Nat) (p : Nat) (hp : p < xs.size) :
    xs.getD p 0 = xs.toList[p]'(by simpa using hp) := by
  simp [Array.getD_eq_getD_getElem?, hp]

theorem perm_val {N : Nat} {ids : Array Nat} (hs : ids.size = N) (h : ids.toList ~ List.range N)
    (p : Nat) (hp : p < N) : ids.getD p 0 < N := by
  rw [getD_toList ids p (by omega)]
  exact List.mem_range.1 ((h.mem_iff).1 (List.getElem_mem _))

theorem perm_inj {N : Nat} {ids : Array Nat} (hs : ids.size = N) (h : ids.toList ~ List.range N)
    (p q : Nat) (hp : p < N) (hq : q < N) (he : ids.getD p 0 = ids.getD q 0) : p = q := by
  rw [getD_toList ids p (by omega), getD_toList ids q (by omega)] at he
  have hnd : ids.toList.Nodup := (h.nodup_iff).2 List.nodup_range
  exact (List.getElem_inj hnd).mp he

theorem SInv.vr {he : Array CH} {M i : Nat} {s : St} (h : SInv he M i s) :
    VR (2 * M) s.removed s.ids := ⟨h.isz, h.rsz, perm_val h.isz h.perm⟩

theorem SInv.mono {he : Array CH} {M i : Nat} {s : St} (h : SInv he M i s) : SInv he M (i + 1) s :=
  { h with stat := fun p hp hr => by have := h.stat p hp hr; omega }

/-- what one removal (marking + re-pairing) does, in terms of positions -/
structure StepPost (M i : Nat) (s s' : St) : Prop where
  isz : s'.ids.size = 2 * M
  rsz : s'.removed.size = 2 * M
  perm : s'.ids.toList ~ List.range (2 * M)
  keep : ∀ p, p < 2 * M → p ≠ i → p ≠ i + M → remAt s'.removed s'.ids p = remAt s.removed s.ids p
  at0 : remAt s'.removed s'.ids i = true
  at1 : remAt s'.removed s'.ids (i + M) = true

theorem SInv.step {he : Array CH} {M i : Nat} {s s' : St} (h : SInv he M i s) (hi : i < M)
    (q : StepPost M i s s') : SInv he M (i + 1) s' := by
  refine ⟨h.hsz, h.h3, q.isz, q.rsz, q.perm, ?_, ?_⟩
  · intro p hp hr
    by_cases h1 : p = i
    · omega
    · by_cases h2 : p = i + M
      · omega
      · rw [q.keep p hp h1 h2] at hr
        have := h.stat p hp hr; omega
  · intro j hj
    by_cases h1 : j = i
    · subst h1; rw [q.at0, q.at1]
    · rw [q.keep j (by omega) h1 (by omega), q.keep (j + M) (by omega) (by omega) (by omega)]
      exact h.sym j hj

/-- status of a position after marking `pair0 = ids[i]` and `pair1 = ids[k]` -/
theorem remAt_mark {he : Array CH} {M i : Nat} {s : St} (h : SInv he M i s) {k : Nat}
    (hi : i < 2 * M) (hk : k < 2 * M) (p : Nat) (hp : p < 2 * M) :
    remAt ((s.removed.setIfInBounds (s.ids.getD i 0) true).setIfInBounds (s.ids.getD k 0) true) s.ids p
      = (remAt s.removed s.ids p || decide (p = i) || decide (p = k)) := by
  have hv := perm_val h.isz h.perm
  unfold remAt
  rw [MV.Mesh.getD_set1, MV.Mesh.getD_set1]
  simp only [Array.size_setIfInBounds, h.rsz, hv p hp, decide_true, Bool.true_and]
  have e1 : (s.ids.getD p 0 == s.ids.getD i 0) = decide (p = i) := by
    by_cases hh : p = i
    · subst hh; simp
    · have : s.ids.getD p 0 ≠ s.ids.getD i 0 := fun he' => hh (perm_inj h.isz h.perm p i hp hi he')
      rw [decide_eq_false hh]; exact beq_eq_false_iff_ne.2 this
  have e2 : (s.ids.getD p 0 == s.ids.getD k 0) = decide (p = k) := by
    by_cases hh : p = k
    · subst hh; simp
    · have : s.ids.getD p 0 ≠ s.ids.getD k 0 := fun he' => hh (perm_inj h.isz h.perm p k hp hk he')
      rw [decide_eq_false hh]; exact beq_eq_false_iff_ne.2 this
  rw [e1, e2]


/-- marking without re-pairing (`i + numEdge == k`) -/
theorem mark_spec {he : Array CH} {M i : Nat} {s : St} (h : SInv he M i s) (hi : i < M) :
    StepPost M i s (mark s (s.ids.getD i 0) (s.ids.getD (i + M) 0)) := by
  have hm := fun p hp => remAt_mark h (k := i + M) (by omega) (by omega) p hp
  refine ⟨h.isz, by simp [mark, h.rsz], h.perm, ?_, ?_, ?_⟩
  · intro p hp h1 h2
    show remAt (mark s _ _).removed s.ids p = _
    unfold mark; simp only []
    rw [hm p hp]; simp [h1, h2]
  · show remAt (mark s _ _).removed s.ids i = _
    unfold mark; simp only []
    rw [hm i (by omega)]; simp
  · show remAt (mark s _ _).removed s.ids (i + M) = _
    unfold mark; simp only []
    rw [hm (i + M) (by omega)]; simp

/-- marking followed by the re-pairing loop (`i + numEdge != k`) -/
theorem reorder_spec {he : Array CH} {M i : Nat} {s : St} (h : SInv he M i s) (hi : i < M)
    {k : Nat} (hk0 : M ≤ k) (hk : k < 2 * M) (hkt : k ≠ i + M)
    (hrk : remAt s.removed s.ids k = false) :
    ∃ s', reorder M i k (s.ids.getD k 0) (mark s (s.ids.getD i 0) (s.ids.getD k 0)) = .ok s' ∧
      StepPost M i s s' := by
  have hi2 : i < 2 * M := by omega
  have hiM : i + M < 2 * M := by omega
  have hm := fun p hp => remAt_mark h (k := k) hi2 hk p hp
  unfold reorder mark
  simp only []
  rw [← Int.natCast_add]
  generalize hrem : (s.removed.setIfInBounds (s.ids.getD i 0) true).setIfInBounds (s.ids.getD k 0) true = rem' at hm
  obtain ⟨κ, hκ0, hκN, hκ, hR⟩ := pos_cover hiM hk fun e => hkt e.symm
  generalize hdir : (if ((i + M : Nat) : Int) < (k : Int) then (1 : Int) else -1) = dir at hκ hR
  have hd : dir = 1 ∨ dir = -1 := by rw [← hdir]; split <;> simp
  have vr' : VR (2 * M) rem' s.ids :=
    ⟨h.isz, by rw [← hrem, Array.size_setIfInBounds, Array.size_setIfInBounds, h.rsz],
      perm_val h.isz h.perm⟩
  have hT : remI rem' s.ids ((i + M : Nat) : Int) = false := by
    have : remAt s.removed s.ids (i + M) = false := by
      cases hc : remAt s.removed s.ids (i + M)
      · rfl
      · have := h.stat (i + M) hiM hc; omega
    unfold remI
    rw [Int.toNat_natCast, hm (i + M) hiM, this, decide_eq_false (by omega), decide_eq_false hkt.symm]
    rfl
  have q0 : OQ (2 * M) rem' ((i + M : Nat) : Int) dir κ s.ids (s.ids.getD k 0) κ (κ + 1) s.ids := by
    refine ⟨vr', ⟨by omega, by omega, by omega⟩, fun _ => rfl, fun x h1 h2 => by omega, .inl rfl,
      fun x => ?_, fun _ _ _ => rfl, fun hh => absurd rfl hh⟩
    rw [hκ, Int.toNat_natCast]
  obtain ⟨idsf, ho, vf, cf, kf, k3⟩ := outer_spec hd hκ0 hR hT (s.ids.size + 2)
    (by have := h.isz; omega) (s.ids.size + 2) κ (κ + 1) s.ids q0 (by have := h.isz; omega)
  have hb : pos ((i + M : Nat) : Int) dir (κ + 1) = (k : Int) + dir := by
    have := pos_pred (tgt := ((i + M : Nat) : Int)) (dir := dir) (κ + 1)
    rw [Int.add_sub_cancel, hκ] at this; omega
  rw [hκ] at ho kf k3
  rw [hb] at ho
  rw [Int.toNat_natCast] at cf
  have htsz : i + M < idsf.size := by rw [vf.isz]; exact hiM
  simp only [ho, bind, Except.bind]
  rw [wr_ok htsz]
  have hik : ∀ p, p ≠ k → (p : Int) ≠ (k : Int) := fun p hp e => hp (Int.natCast_inj.1 e)
  refine ⟨_, rfl, by rw [Array.size_setIfInBounds]; exact vf.isz, vf.rsz, ?_, ?_, ?_, ?_⟩
  · refine List.Perm.trans ?_ h.perm
    rw [List.perm_iff_count]
    intro x
    have h1 := count_setIB idsf (i + M) (s.ids.getD k 0) x htsz
    have h2 := cf x
    show count x (idsf.setIfInBounds (i + M) (s.ids.getD k 0)).toList = count x s.ids.toList
    omega
  · intro p hp h1 h2
    show remAt rem' (idsf.setIfInBounds (i + M) (s.ids.getD k 0)) p = _
    rw [remAt_setIB _ _ _ _ _ htsz, if_neg h2]
    by_cases hpk : p = k
    · subst hpk
      have : remI rem' idsf (p : Int) = false := k3
      unfold remI at this
      rw [Int.toNat_natCast] at this
      rw [this, hrk]
    · rw [kf p hp (hik p hpk), hm p hp]; simp [h1, hpk]
  · show remAt rem' (idsf.setIfInBounds (i + M) (s.ids.getD k 0)) i = _
    rw [remAt_setIB _ _ _ _ _ htsz, if_neg (by omega), kf i hi2 (hik i (by omega)), hm i hi2]
    simp
  · show remAt rem' (idsf.setIfInBounds (i + M) (s.ids.getD k 0)) (i + M) = _
    rw [remAt_setIB _ _ _ _ _ htsz, if_pos rfl]
    have := hm k hk
    unfold remAt at this
    rw [this]; simp

/-- one turn of the `while (1)` over `k` (impl.cpp:460-496) when every index it touches is in range -/
theorem search_succ {he : Array CH} {N : Nat} {s : St} (v : VR N s.removed s.ids) (hsz : N ≤ he.size)
    (h3 : N % 3 = 0) (numEdge i segEnd : Nat) (h0 : CH) {p0 : Nat} (hp0 : p0 < N) (f : Nat) {k : Nat}
    (hk : k < N) :
    search he numEdge i segEnd p0 h0 (f + 1) k s =
      if (h0.startVert != (he.getD (s.ids.getD k 0) default).endVert ||
          h0.endVert != (he.getD (s.ids.getD k 0) default).startVert) = true then .ok s
      else if (!remAt s.removed s.ids k &&
          (he.getD (nextHalfedge p0) default).endVert ==
            (he.getD (nextHalfedge (s.ids.getD k 0)) default).endVert) = true then
        (if (i + numEdge != k) = true then
          reorder numEdge i k (s.ids.getD k 0) (mark s p0 (s.ids.getD k 0))
         else .ok (mark s p0 (s.ids.getD k 0)))
      else if k + 1 ≥ segEnd + numEdge then .ok s
      else search he numEdge i segEnd p0 h0 f (k + 1) s := by
  have hl1 := v.val k hk
  have hn0l := next_lt h3 hp0
  have hn1l := next_lt h3 hl1
  have hp1 : rd s.ids (k : Int) = .ok (s.ids.getD k 0) := rd_nat 0 (by rw [v.isz]; exact hk)
  have hh1 : rd he ((s.ids.getD k 0 : Nat) : Int) = .ok (he.getD (s.ids.getD k 0) default) :=
    rd_nat default (by omega)
  have hr1 : rd s.removed ((s.ids.getD k 0 : Nat) : Int) = .ok (remAt s.removed s.ids k) :=
    rd_nat false (by rw [v.rsz]; exact hl1)
  have hn0 : rd he ((nextHalfedge p0 : Nat) : Int) = .ok (he.getD (nextHalfedge p0) default) :=
    rd_nat default (by omega)
  have hn1 : rd he ((nextHalfedge (s.ids.getD k 0) : Nat) : Int)
      = .ok (he.getD (nextHalfedge (s.ids.getD k 0)) default) :=
    rd_nat default (by omega)
  have hw0 : wr s.removed ((p0 : Nat) : Int) true = .ok (s.removed.setIfInBounds p0 true) :=
    wr_ok (by rw [v.rsz]; exact hp0)
  have hw1 : wr (s.removed.setIfInBounds p0 true) ((s.ids.getD k 0 : Nat) : Int) true
      = .ok ((s.removed.setIfInBounds p0 true).setIfInBounds (s.ids.getD k 0) true) :=
    wr_ok (by rw [Array.size_setIfInBounds, v.rsz]; exact hl1)
  rw [search]
  simp only [hp1, hh1, hr1, bind, Except.bind]
  by_cases hc : (h0.startVert != (he.getD (s.ids.getD k 0) default).endVert ||
      h0.endVert != (he.getD (s.ids.getD k 0) default).startVert) = true
  · rw [if_pos hc, if_pos hc]; rfl
  · rw [if_neg hc, if_neg hc]
    cases hr : remAt s.removed s.ids k
    · simp only [Bool.false_eq_true, if_false, hn0, hn1, Bool.not_false, Bool.true_and, pure,
        Except.pure]
      by_cases ho : ((he.getD (nextHalfedge p0) default).endVert ==
          (he.getD (nextHalfedge (s.ids.getD k 0)) default).endVert) = true
      · rw [if_pos ho, if_pos ho]
        simp only [hw0, hw1, mark]
      · rw [if_neg ho, if_neg ho]
    · simp only [if_true, Bool.not_true, Bool.false_and, Bool.false_eq_true, if_false, pure,
        Except.pure]

/-- fuel `2M - k` suffices for the search from position `k`, and whichever way it ends the loop
invariant holds for `i + 1` -/
theorem search_spec {he : Array CH} {M i : Nat} {s : St} (h : SInv he M i s) (hi : i < M) (h0 : CH) :
    ∀ (f k : Nat), M ≤ k → k < 2 * M → 2 * M - k ≤ f →
      ∃ s', search he M i M (s.ids.getD i 0) h0 f k s = .ok s' ∧ SInv he M (i + 1) s' := by
  have hl0 := h.vr.val i (by omega)
  intro f
  induction f with
  | zero => intro k _ hk hf; omega
  | succ f ih =>
    intro k hk0 hk hf
    rw [search_succ h.vr (Nat.le_of_eq h.hsz.symm) h.h3 M i M h0 hl0 f hk]
    by_cases hc : (h0.startVert != (he.getD (s.ids.getD k 0) default).endVert ||
        h0.endVert != (he.getD (s.ids.getD k 0) default).startVert) = true
    · rw [if_pos hc]; exact ⟨s, rfl, h.mono⟩
    rw [if_neg hc]
    have hnext : ∃ s', (if k + 1 ≥ M + M then (.ok s : Except HErr St)
        else search he M i M (s.ids.getD i 0) h0 f (k + 1) s) = .ok s' ∧ SInv he M (i + 1) s' := by
      by_cases hl : k + 1 ≥ M + M
      · rw [if_pos hl]; exact ⟨s, rfl, h.mono⟩
      · rw [if_neg hl]; exact ih (k + 1) (by omega) (by omega) (by omega)
    cases hrk : remAt s.removed s.ids k
    · rw [Bool.not_false, Bool.true_and]
      by_cases ho : ((he.getD (nextHalfedge (s.ids.getD i 0)) default).endVert ==
          (he.getD (nextHalfedge (s.ids.getD k 0)) default).endVert) = true
      · rw [if_pos ho]
        by_cases hkt : k = i + M
        · subst hkt
          rw [if_neg (by simp)]
          exact ⟨_, rfl, h.step hi (mark_spec h hi)⟩
        · obtain ⟨s', hs', q⟩ := reorder_spec h hi hk0 hk hkt hrk
          rw [if_pos (bne_iff_ne.2 fun e => hkt e.symm)]
          exact ⟨s', hs', h.step hi q⟩
      · rw [if_neg ho]; exact hnext
    · rw [Bool.not_true, Bool.false_and, if_neg Bool.false_ne_true]; exact hnext

/-- `body` (impl.cpp:456-502) once its search has returned `s'`: the state is `s'`, and
`consecutiveStart` moves to `i + 1` exactly when the next backward halfedge carries another edge -/
theorem body_eq {he : Array CH} {N : Nat} {s s' : St} (v : VR N s.removed s.ids)
    (v' : VR N s'.removed s'.ids) (hsz : N ≤ he.size) {numEdge i cs segEnd : Nat} (hi : i + 1 < N)
    (hs' : search he numEdge i segEnd (s.ids.getD i 0) (he.getD (s.ids.getD i 0) default)
      (segEnd + numEdge + 1 - (cs + numEdge)) (cs + numEdge) s = .ok s') :
    body he numEdge i cs segEnd s = .ok (s',
      if (i + 1 == segEnd) = true then cs
      else if ((he.getD (s'.ids.getD (i + 1) 0) default).startVert ==
            (he.getD (s.ids.getD i 0) default).startVert &&
          (he.getD (s'.ids.getD (i + 1) 0) default).endVert ==
            (he.getD (s.ids.getD i 0) default).endVert) = true then cs
      else i + 1) := by
  have hp0 : rd s.ids (i : Int) = .ok (s.ids.getD i 0) := rd_nat 0 (by rw [v.isz]; omega)
  have hh0 : rd he ((s.ids.getD i 0 : Nat) : Int) = .ok (he.getD (s.ids.getD i 0) default) :=
    rd_nat default (by have := v.val i (by omega); omega)
  have hp1 : rd s'.ids ((i : Int) + 1) = .ok (s'.ids.getD (i + 1) 0) := by
    have := rd_nat (x := s'.ids) (k := i + 1) 0 (by rw [v'.isz]; exact hi)
    rwa [Int.natCast_add] at this
  have hh1 : rd he ((s'.ids.getD (i + 1) 0 : Nat) : Int)
      = .ok (he.getD (s'.ids.getD (i + 1) 0) default) :=
    rd_nat default (by have := v'.val (i + 1) hi; omega)
  unfold body
  simp only [hp0, hh0, hs', bind, Except.bind, pure, Except.pure]
  by_cases hl : (i + 1 == segEnd) = true
  · rw [if_pos hl, if_pos hl]
  · rw [if_neg hl, if_neg hl]
    simp only [hp1, hh1]
    split <;> rfl

theorem body_spec {he : Array CH} {M i cs : Nat} {s : St} (h : SInv he M i s) (hi : i < M)
    (hcs : cs ≤ i) :
    ∃ s' cs', body he M i cs M s = .ok (s', cs') ∧ SInv he M (i + 1) s' ∧ cs' ≤ i + 1 := by
  obtain ⟨s', hs', inv'⟩ := search_spec h hi (he.getD (s.ids.getD i 0) default)
    (M + M + 1 - (cs + M)) (cs + M) (by omega) (by omega) (by omega)
  refine ⟨s', _, body_eq h.vr inv'.vr (Nat.le_of_eq h.hsz.symm) (by omega) hs', inv', ?_⟩
  split
  · omega
  · split <;> omega

/-- impl.cpp:530-532 -/
theorem serialLoop_spec {he : Array CH} {M : Nat} :
    ∀ (m i cs : Nat) (s : St), i + m = M → cs ≤ i → SInv he M i s →
      ∃ s', serialLoop he M m i cs s = .ok s' ∧ SInv he M M s'
  | 0, i, cs, s, hm, _, inv => by
    have : i = M := by omega
    subst this
    exact ⟨s, rfl, inv⟩
  | m + 1, i, cs, s, hm, hcs, inv => by
    obtain ⟨s', cs', hb, inv', hcs'⟩ := body_spec inv (show i < M by omega) hcs
    obtain ⟨s'', hl, inv''⟩ := serialLoop_spec m (i + 1) cs' s' (by omega) hcs' inv'
    refine ⟨s'', ?_, inv''⟩
    rw [serialLoop]
    simp only [hb, bind, Except.bind]
    exact hl

end MV.Halfedge
