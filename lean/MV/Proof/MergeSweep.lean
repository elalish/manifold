/-
Lemmas for the candidate search of `MergeVerts` (MV/Model/MergeSweep.lean): it is the generic
sorted sweep of MV/Proof/Broad2Sweep.lean (`innerG`/`outerG`) with key `x`.
-/
import MV.Model.MergeSweep
import MV.Proof.Broad2Bvh

namespace MV.Broad2

theorem iabs_le (d t : Int) : iabs d ≤ t ↔ (d ≤ t ∧ -d ≤ t) := by
  unfold iabs; split <;> omega

theorem iabs_neg_sub (a b : Int) : iabs (a - b) = iabs (b - a) := by
  unfold iabs; split <;> split <;> omega

/-- a leg of a right triangle is no longer than the hypotenuse -/
theorem le_of_sq_add_sq_le {d e eps : Int} (he : 0 ≤ eps) (h : d * d + e * e ≤ eps * eps) :
    d ≤ eps := by
  have h2 : 0 ≤ e * e := by
    rcases Int.le_total 0 e with g | g
    · exact Int.mul_nonneg g g
    · exact Int.mul_nonneg_of_nonpos_of_nonpos g g
  apply Int.not_lt.mp
  intro hlt
  have := Int.mul_self_lt_mul_self he hlt
  omega

theorem iabs_le_of_sq_add_sq_le {d e eps : Int} (he : 0 ≤ eps) (h : d * d + e * e ≤ eps * eps) :
    iabs d ≤ eps :=
  (iabs_le d eps).mpr ⟨le_of_sq_add_sq_le he h,
    le_of_sq_add_sq_le (d := -d) (e := e) he (by rwa [Int.neg_mul_neg])⟩

def mbrk (pts : Array (Int × Int)) (thresh : Int) (i a : Nat) : Bool :=
  decide (ptX pts a - ptX pts i > thresh)

def mkeep (pts : Array (Int × Int)) (thresh : Int) (i a : Nat) : Bool :=
  !decide (iabs (ptY pts a - ptY pts i) > thresh)

theorem mergeInner_eq (pts : Array (Int × Int)) (thresh : Int) (ai : Nat) : ∀ rest,
    mergeInner pts thresh ai rest = innerG (mbrk pts thresh) (mkeep pts thresh) ai rest := by
  intro rest
  induction rest with
  | nil => rfl
  | cons bi rest ih =>
    rw [mergeInner, innerG, ih]
    simp only [mbrk, mkeep, decide_eq_true_eq, Bool.not_eq_true', decide_eq_false_iff_not]
    split
    · rfl
    · split <;> rfl

theorem mergeOuter_eq (pts : Array (Int × Int)) (thresh : Int) : ∀ l,
    mergeOuter pts thresh l = outerG (mbrk pts thresh) (mkeep pts thresh) l := by
  intro l
  induction l with
  | nil => rfl
  | cons i rest ih => simp only [mergeOuter, outerG, mergeInner_eq, ih]

theorem mbrk_mono (pts : Array (Int × Int)) (thresh : Int) : ∀ i a b, ptX pts a ≤ ptX pts b →
    mbrk pts thresh i a = true → mbrk pts thresh i b = true := by
  intro i a b h
  simp only [mbrk, decide_eq_true_eq]
  omega

theorem mergeOrder_spec (pts : Array (Int × Int)) :
    SortedRange (ptX pts) pts.size (mergeOrder pts) :=
  stableSort_range_spec _ _

theorem mergeSweep_spec (pts : Array (Int × Int)) (thresh : Int) :
    let ps := (mergeOuter pts thresh (mergeOrder pts)).mergeSort pairLe
    ps.Pairwise pairLt ∧
    ∀ a b, (a, b) ∈ ps ↔ (a < b ∧ b < pts.size ∧ iabs (ptX pts a - ptX pts b) ≤ thresh ∧
      iabs (ptY pts a - ptY pts b) ≤ thresh) := by
  intro ps
  have ho := mergeOrder_spec pts
  have hnd : (mergeOuter pts thresh (mergeOrder pts)).Nodup := by
    rw [mergeOuter_eq]; exact nodup_outerG _ _ _ ho.nodup
  refine ⟨radixSortPairs_strict hnd, fun a b => ?_⟩
  show (a, b) ∈ radixSortPairs _ ↔ _
  rw [(radixSortPairs_perm _).mem_iff, mergeOuter_eq,
    mem_outerG_prec (mbrk_mono pts thresh) _ ho.prec, ho.mem, ho.mem]
  -- whichever of the two is met first, its `x` is not the larger one
  simp only [Prec, mbrk, mkeep, Bool.not_eq_true', decide_eq_false_iff_not, Int.not_lt, iabs_le]
  omega

theorem mergeBrute_spec (pts : Array (Int × Int)) (thresh : Int) :
    (mergeBrute pts thresh).Pairwise pairLt ∧
    ∀ a b, (a, b) ∈ mergeBrute pts thresh ↔ (a < b ∧ b < pts.size ∧
      iabs (ptX pts a - ptX pts b) ≤ thresh ∧ iabs (ptY pts a - ptY pts b) ≤ thresh) := by
  unfold mergeBrute
  constructor
  · exact pairwise_pairLt_flatMap _ _ (fun i _ =>
      (List.pairwise_lt_range' (s := i + 1) (n := pts.size - (i + 1))).sublist List.filter_sublist)
  · intro a b
    rw [List.mem_flatMap]
    constructor
    · rintro ⟨i, hi, h⟩
      rw [List.mem_range] at hi
      rw [List.mem_map] at h
      obtain ⟨j, hj, e⟩ := h
      rw [List.mem_filter, List.mem_range'_1] at hj
      simp only [Prod.mk.injEq] at e
      obtain ⟨e1, e2⟩ := e
      subst e1; subst e2
      simp only [Bool.and_eq_true, decide_eq_true_eq] at hj
      exact ⟨by omega, by omega, hj.2.1, hj.2.2⟩
    · rintro ⟨hab, hb, hx, hy⟩
      refine ⟨a, List.mem_range.mpr (by omega), ?_⟩
      rw [List.mem_map]
      refine ⟨b, ?_, rfl⟩
      rw [List.mem_filter, List.mem_range'_1]
      simp only [Bool.and_eq_true, decide_eq_true_eq]
      exact ⟨by omega, hx, hy⟩

end MV.Broad2
