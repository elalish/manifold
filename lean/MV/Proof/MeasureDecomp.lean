/-
Lemmas for property C18: `Decompose`.  The labelling is `connectedComponents` of the
`DisjointSets` model after one thread has united the end points of every forward halfedge; the
specification of that labelling is theorem `dsu_quiescent_partition` of property C13c.
-/
import MV.Model.Measure
import MV.Props.C13c
import MV.Proof.Mesh

namespace MV.Measure
open MV.Dsu MV.Mesh MV.C13c

theorem runAlone_spec : ∀ (fuel : Nat) (s s' : State), runAlone fuel s = some s' →
    quiescent s' = true ∧ ∃ sched : List (Nat × Bool), exec s sched = s'
  | 0, s, s', h => by
    unfold runAlone at h
    split at h
    · next hq => cases h; exact ⟨hq, [], rfl⟩
    · cases h
  | fuel + 1, s, s', h => by
    unfold runAlone at h
    split at h
    · next hq => cases h; exact ⟨hq, [], rfl⟩
    · obtain ⟨hq, sched, he⟩ := runAlone_spec fuel _ s' h
      exact ⟨hq, (0, false) :: sched, by simpa [exec] using he⟩

theorem unitePairs_map_unite (es : List (Nat × Nat)) :
    unitePairs (es.map fun e => Op.unite e.1 e.2) = es := by
  induction es with
  | nil => rfl
  | cons e es ih =>
    unfold unitePairs at ih ⊢
    simp only [List.map_cons, List.filterMap_cons]
    rw [ih]

theorem unitePairs_uniteProg (ts : List Tri) : unitePairs (uniteProg ts) = forwardEdges ts :=
  unitePairs_map_unite _

theorem allUnitePairs_single (ts : List Tri) : allUnitePairs [uniteProg ts] = forwardEdges ts := by
  unfold allUnitePairs
  simp [unitePairs_uniteProg]

theorem mem_forwardEdges {ts : List Tri} {e : Nat × Nat} :
    e ∈ forwardEdges ts ↔ e ∈ dirEdges ts ∧ e.1 < e.2 := by
  unfold forwardEdges; simp

theorem progsOk_uniteProg {nV : Nat} {ts : List Tri} (hr : ∀ t ∈ ts, TriInRange nV t) :
    ProgsOk nV [uniteProg ts] := by
  intro p hp op hop
  have hp' : p = uniteProg ts := by simpa using hp
  subst hp'
  obtain ⟨e, he, rfl⟩ := List.mem_map.1 hop
  have hd := (mem_forwardEdges.1 he).1
  obtain ⟨t, ht, het⟩ := List.mem_flatMap.1 hd
  obtain ⟨h1, h2, h3⟩ := hr t ht
  simp only [triEdges, List.mem_cons, List.mem_nil_iff, or_false] at het
  rcases het with rfl | rfl | rfl <;> exact ⟨by assumption, by assumption⟩

/-- in a mesh whose directed edges come with their reversals, the end points of every directed
edge are connected through forward edges -/
theorem conn_of_dirEdge {ts : List Tri} (hrev : ∀ a b, (a, b) ∈ dirEdges ts → (b, a) ∈ dirEdges ts)
    {a b : Nat} (h : (a, b) ∈ dirEdges ts) : Conn (forwardEdges ts) a b := by
  rcases Nat.lt_trichotomy a b with hlt | rfl | hgt
  · exact Conn.base (mem_forwardEdges.2 ⟨h, hlt⟩)
  · exact Conn.refl _
  · exact Conn.symm (Conn.base (mem_forwardEdges.2 ⟨hrev a b h, hgt⟩))

theorem tri_edges_mem {ts : List Tri} {t : Tri} (ht : t ∈ ts) :
    (t.1, t.2.1) ∈ dirEdges ts ∧ (t.2.1, t.2.2) ∈ dirEdges ts ∧ (t.2.2, t.1) ∈ dirEdges ts := by
  unfold dirEdges
  refine ⟨List.mem_flatMap.2 ⟨t, ht, by simp [triEdges]⟩, List.mem_flatMap.2 ⟨t, ht, by simp [triEdges]⟩,
    List.mem_flatMap.2 ⟨t, ht, by simp [triEdges]⟩⟩

end MV.Measure
