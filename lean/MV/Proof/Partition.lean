import MV.Model.Partition
import Mathlib.Order.Defs.LinearOrder
import Mathlib.Order.MinMax
import Mathlib.Tactic.SplitIfs
/-!
Lemmas about `MV/Model/Partition.lean` that hold for ALL inputs (no bound):
the sorting / rotation of `GetPartition`, the exclusive scans of `Subdivide`, `PartitionFan`,
and the tolerance scalar logic.
-/
namespace MV.Partition

/-! ### `GetPartition`: sorting of a triangle's divisions (subdivision.cpp:53-65) -/

/-- The six permutations of `{0,1,2}`. -/
def isPerm3 (t : I4) : Prop :=
  (t.a = 0 ∧ t.b = 1 ∧ t.c = 2) ∨ (t.a = 0 ∧ t.b = 2 ∧ t.c = 1) ∨ (t.a = 1 ∧ t.b = 0 ∧ t.c = 2) ∨
  (t.a = 1 ∧ t.b = 2 ∧ t.c = 0) ∨ (t.a = 2 ∧ t.b = 0 ∧ t.c = 1) ∨ (t.a = 2 ∧ t.b = 1 ∧ t.c = 0)

theorem sortTri_spec (d : I4) :
    (sortTri d).1.a ≥ (sortTri d).1.b ∧ (sortTri d).1.b ≥ (sortTri d).1.c ∧ (sortTri d).1.d = d.d ∧
    (sortTri d).2.d = 3 ∧ isPerm3 (sortTri d).2 ∧
    (sortTri d).1.a = d.get (sortTri d).2.a.toNat ∧ (sortTri d).1.b = d.get (sortTri d).2.b.toNat ∧
    (sortTri d).1.c = d.get (sortTri d).2.c.toNat := by
  obtain ⟨a, b, c, e⟩ := d
  unfold sortTri isPerm3
  by_cases h1 : c > b <;> by_cases h2 : b > a <;> by_cases h3 : c > a <;>
    simp [h1, h2, h3, I4.get] <;> omega

/-! ### `GetPartition`: rotation of a quad's divisions (subdivision.cpp:67-85) -/

/-- one iteration of the scan at subdivision.cpp:71-77 -/
def minStep (d : I4) (st : Nat × Int × Int) (i : Nat) : Nat × Int × Int :=
  if d.get i < st.2.1 || (d.get i == st.2.1 && d.get ((i + 1) % 4) < st.2.2) then (i, d.get i, d.get ((i + 1) % 4))
  else st

theorem quadMinIdx_eq (d : I4) : quadMinIdx d = ([1, 2, 3].foldl (minStep d) (0, d.get 0, d.get 1)).1 := rfl

/-- the state `(m, d[m], d[m+1])` holds an index below 4 whose pair is lexicographically `≤` the pair at every index of `S` -/
def MinSt (d : I4) (S : List Nat) (st : Nat × Int × Int) : Prop :=
  st.1 < 4 ∧ st.2.1 = d.get st.1 ∧ st.2.2 = d.get ((st.1 + 1) % 4) ∧
  ∀ j ∈ S, st.2.1 < d.get j ∨ (st.2.1 = d.get j ∧ st.2.2 ≤ d.get ((j + 1) % 4))

theorem minStep_spec (d : I4) (S : List Nat) (st : Nat × Int × Int) (i : Nat) (hi : i < 4) (h : MinSt d S st) :
    MinSt d (i :: S) (minStep d st i) := by
  obtain ⟨h4, h1, h2, hS⟩ := h
  unfold minStep
  split
  · next hc =>
    simp only [Bool.or_eq_true, Bool.and_eq_true, decide_eq_true_eq, beq_iff_eq] at hc
    refine ⟨hi, rfl, rfl, fun j hj => ?_⟩
    rcases List.mem_cons.1 hj with rfl | hj
    · exact Or.inr ⟨rfl, Int.le_refl _⟩
    · have := hS j hj
      dsimp only
      omega
  · next hc =>
    simp only [Bool.or_eq_true, Bool.and_eq_true, decide_eq_true_eq, beq_iff_eq, not_or, not_and, Int.not_lt] at hc
    refine ⟨h4, h1, h2, fun j hj => ?_⟩
    rcases List.mem_cons.1 hj with rfl | hj
    · omega
    · exact hS j hj

theorem quadMinIdx_minSt (d : I4) : MinSt d [3, 2, 1, 0] ([1, 2, 3].foldl (minStep d) (0, d.get 0, d.get 1)) :=
  minStep_spec d _ _ 3 (by omega) <| minStep_spec d _ _ 2 (by omega) <| minStep_spec d _ _ 1 (by omega)
    ⟨by omega, rfl, rfl, fun j hj => by
      have : j = 0 := by simpa using hj
      subst this; exact Or.inr ⟨rfl, Int.le_refl _⟩⟩

theorem quadMinIdx_lt (d : I4) : quadMinIdx d < 4 := (quadMinIdx_minSt d).1

/-- The chosen rotation starts at a lexicographically minimal `(d[i], d[i+1])`. -/
theorem quadMinIdx_min (d : I4) (i : Nat) (hi : i < 4) :
    d.get (quadMinIdx d) < d.get i ∨
    (d.get (quadMinIdx d) = d.get i ∧ d.get ((quadMinIdx d + 1) % 4) ≤ d.get ((i + 1) % 4)) := by
  obtain ⟨-, h1, h2, hS⟩ := quadMinIdx_minSt d
  rw [quadMinIdx_eq, ← h1, ← h2]
  exact hS i (by simp only [List.mem_cons, List.not_mem_nil, or_false]; omega)

/-- a quad whose first pair is already lexicographically least is not rotated -/
theorem quadMinIdx_eq_zero (r : I4)
    (h : ∀ i, i < 4 → r.get 0 < r.get i ∨ (r.get 0 = r.get i ∧ r.get 1 ≤ r.get ((i + 1) % 4))) : quadMinIdx r = 0 := by
  have hs : ∀ i, i < 4 → minStep r (0, r.get 0, r.get 1) i = (0, r.get 0, r.get 1) := by
    intro i hi
    have := h i hi
    unfold minStep
    rw [if_neg]
    simp only [Bool.or_eq_true, Bool.and_eq_true, decide_eq_true_eq, beq_iff_eq]
    omega
  rw [quadMinIdx_eq]
  simp only [List.foldl, hs 1 (by omega), hs 2 (by omega), hs 3 (by omega)]

theorem rotQuad_spec (d : I4) (m : Nat) :
    (rotQuad d m).1.a = d.get ((0 + m) % 4) ∧ (rotQuad d m).1.b = d.get ((1 + m) % 4) ∧
    (rotQuad d m).1.c = d.get ((2 + m) % 4) ∧ (rotQuad d m).1.d = d.get ((3 + m) % 4) ∧
    (rotQuad d m).2.a = Int.ofNat ((0 + m) % 4) ∧ (rotQuad d m).2.b = Int.ofNat ((1 + m) % 4) ∧
    (rotQuad d m).2.c = Int.ofNat ((2 + m) % 4) ∧ (rotQuad d m).2.d = Int.ofNat ((3 + m) % 4) := by
  simp [rotQuad]

theorem rotQuad_get (d : I4) (m i : Nat) (hi : i < 4) : (rotQuad d m).1.get i = d.get ((i + m) % 4) := by
  have : i = 0 ∨ i = 1 ∨ i = 2 ∨ i = 3 := by omega
  rcases this with rfl | rfl | rfl | rfl <;> rfl

/-- rotating to the least pair and then looking for the least pair again finds it in front -/
theorem quadMinIdx_rotQuad (d : I4) : quadMinIdx (rotQuad d (quadMinIdx d)).1 = 0 := by
  have hm := quadMinIdx_lt d
  apply quadMinIdx_eq_zero
  intro i hi
  have h := quadMinIdx_min d ((i + quadMinIdx d) % 4) (Nat.mod_lt _ (by omega))
  rw [rotQuad_get d _ 0 (by omega), rotQuad_get d _ 1 (by omega), rotQuad_get d _ i hi,
    rotQuad_get d _ ((i + 1) % 4) (Nat.mod_lt _ (by omega))]
  have e0 : (0 + quadMinIdx d) % 4 = quadMinIdx d := by omega
  have e1 : (1 + quadMinIdx d) % 4 = (quadMinIdx d + 1) % 4 := by omega
  have e2 : ((i + 1) % 4 + quadMinIdx d) % 4 = ((i + quadMinIdx d) % 4 + 1) % 4 := by omega
  rw [e0, e1, e2]
  exact h

theorem sortDivisions_tri (d : I4) (h : d.d = 0) : sortDivisions d = sortTri d := by
  simp [sortDivisions, h]

theorem sortDivisions_quad (d : I4) (h : d.d ≠ 0) : sortDivisions d = rotQuad d (quadMinIdx d) := by
  simp [sortDivisions, h]

theorem getCachedPartition_sorted (dec : Dec) (n : I4) : (getCachedPartition dec n).sorted = n := by
  rw [getCachedPartition, apply_ite Part.sorted]
  exact ite_self n

theorem getPartition_eq (dec : Dec) (d : I4) (h : d.a ≠ 0) :
    getPartition dec d = { getCachedPartition dec (sortDivisions d).1 with idx := (sortDivisions d).2 } := by
  simp [getPartition, h]

/-! ### Exclusive scan (subdivision.cpp:564-566, 609-619) -/

def sumL (l : List Int) : Int := l.foldl (· + ·) 0

theorem foldl_add_init (l : List Int) (a : Int) : l.foldl (· + ·) a = a + l.foldl (· + ·) 0 := by
  induction l generalizing a with
  | nil => simp
  | cons x xs ih => simp only [List.foldl]; rw [ih (a + x), ih (0 + x)]; omega

theorem sumL_cons (x : Int) (xs : List Int) : sumL (x :: xs) = x + sumL xs := by
  simp only [sumL, List.foldl]; rw [foldl_add_init]; omega

theorem sumL_nonneg (l : List Int) (hnn : ∀ x ∈ l, 0 ≤ x) : 0 ≤ sumL l := by
  induction l with
  | nil => exact Int.le_refl 0
  | cons x xs ih =>
    have := hnn x (List.mem_cons_self ..)
    have := ih fun y hy => hnn y (List.mem_cons_of_mem _ hy)
    rw [sumL_cons]; omega

theorem exclusiveScan_length (init : Int) (l : List Int) : (exclusiveScan init l).length = l.length := by
  induction l generalizing init with
  | nil => rfl
  | cons x xs ih => simp [exclusiveScan, ih]

/-- Entry `i` of the scan is `init` plus the sum of the entries before `i`. -/
theorem exclusiveScan_getD (init : Int) (l : List Int) (i : Nat) (h : i < l.length) :
    (exclusiveScan init l).getD i 0 = init + sumL (l.take i) := by
  induction l generalizing init i with
  | nil => simp at h
  | cons x xs ih =>
    cases i with
    | zero => simp [exclusiveScan, sumL]
    | succ j =>
      simp only [exclusiveScan, List.getD_cons_succ, List.take_succ_cons, sumL_cons]
      rw [ih (init + x) j (by simpa using h)]
      omega

/-- The half-open range of new vertex indices owned by entry `i`. -/
def ownsIdx (init : Int) (l : List Int) (i : Nat) (v : Int) : Prop :=
  (exclusiveScan init l).getD i 0 ≤ v ∧ v < (exclusiveScan init l).getD i 0 + l.getD i 0

theorem sumL_take_mono (l : List Int) (hnn : ∀ x ∈ l, 0 ≤ x) (i j : Nat) (hij : i ≤ j) :
    sumL (l.take i) ≤ sumL (l.take j) := by
  induction l generalizing i j with
  | nil => simp
  | cons x xs ih =>
    cases i with
    | zero => exact sumL_nonneg _ fun y hy => hnn y (List.mem_of_mem_take hy)
    | succ i' =>
      cases j with
      | zero => omega
      | succ j' =>
        have := ih (fun y hy => hnn y (List.mem_cons_of_mem _ hy)) i' j' (by omega)
        simp only [List.take_succ_cons, sumL_cons]
        omega

theorem sumL_take_succ (l : List Int) (i : Nat) (h : i < l.length) :
    sumL (l.take (i + 1)) = sumL (l.take i) + l.getD i 0 := by
  induction l generalizing i with
  | nil => simp at h
  | cons x xs ih =>
    cases i with
    | zero => simp [sumL]
    | succ j =>
      have := ih j (by simpa using h)
      simp only [List.take_succ_cons, sumL_cons, List.getD_cons_succ]
      omega

/-- Distinct entries own disjoint index ranges. -/
theorem scan_disjoint (init : Int) (l : List Int) (hnn : ∀ x ∈ l, 0 ≤ x) (i j : Nat) (hi : i < l.length)
    (hj : j < l.length) (v : Int) (h1 : ownsIdx init l i v) (h2 : ownsIdx init l j v) : i = j := by
  unfold ownsIdx at h1 h2
  rw [exclusiveScan_getD init l i hi] at h1
  rw [exclusiveScan_getD init l j hj] at h2
  rcases Nat.lt_trichotomy i j with h | h | h
  · have := sumL_take_mono l hnn (i + 1) j (by omega)
    rw [sumL_take_succ l i hi] at this
    omega
  · exact h
  · have := sumL_take_mono l hnn (j + 1) i (by omega)
    rw [sumL_take_succ l j hj] at this
    omega

/-- Every index of `[init, init + Σ l)` is owned by some entry. -/
theorem scan_cover (init : Int) (l : List Int) (v : Int) (h0 : init ≤ v) (h1 : v < init + sumL l) :
    ∃ i, i < l.length ∧ ownsIdx init l i v := by
  induction l generalizing init with
  | nil => simp [sumL] at h1; omega
  | cons x xs ih =>
    by_cases hx : v < init + x
    · exact ⟨0, by simp, by simp [ownsIdx, exclusiveScan]; omega⟩
    · obtain ⟨i, hi, ho⟩ := ih (init + x) (by omega) (by rw [sumL_cons] at h1; omega)
      refine ⟨i + 1, by simpa using hi, ?_⟩
      simpa [ownsIdx, exclusiveScan] using ho

/-- Every owned index lies in `[init, init + Σ l)`. -/
theorem scan_within (init : Int) (l : List Int) (hnn : ∀ x ∈ l, 0 ≤ x) (i : Nat) (hi : i < l.length) (v : Int)
    (h : ownsIdx init l i v) : init ≤ v ∧ v < init + sumL l := by
  unfold ownsIdx at h
  rw [exclusiveScan_getD init l i hi] at h
  have h0 := sumL_take_mono l hnn 0 i (by omega)
  have h1 := sumL_take_mono l hnn (i + 1) l.length (by omega)
  rw [sumL_take_succ l i hi] at h1
  simp only [List.take_zero, List.take_length] at h0 h1
  have : sumL ([] : List Int) = 0 := rfl
  omega

/-! ### `PartitionFan` (subdivision.cpp:249-258) -/

/-- The `j`-th vertex of the chain `c0, off, off+1, …, off+added-1, c1` along side 0. -/
def fanChain (c0 c1 off : Int) (added : Nat) (j : Nat) : Int :=
  if j = 0 then c0 else if j ≤ added then off + Int.ofNat (j - 1) else c1

def fanTris (c0 c1 c2 off : Int) (added : Nat) : List Tri :=
  (List.range (added + 1)).map fun j => (fanChain c0 c1 off added j, fanChain c0 c1 off added (j + 1), c2)

theorem fan_loop (c0 c2 off : Int) (n : Nat) (s : QState) :
    (List.range n).foldl (fun (sl : QState × Int) i =>
      let next := off + Int.ofNat i
      (sl.1.push (sl.2, next, c2), next)) (s, c0) =
    ({ s with tris := ((List.range n).map fun j =>
        ((if j = 0 then c0 else off + Int.ofNat (j - 1)), off + Int.ofNat j, c2)).reverse ++ s.tris },
     if n = 0 then c0 else off + Int.ofNat (n - 1)) := by
  induction n with
  | zero => simp
  | succ k ih =>
    rw [List.range_succ, List.foldl_append, ih]
    simp [QState.push, List.map_append]

/-- `PartitionFan` pushes exactly the `added + 1` triangles of the fan around `cornerVerts[2]`,
in order along side 0. -/
theorem partitionFan_tris (s : QState) (c0 c1 c2 added off : Int) :
    (partitionFan s c0 c1 c2 added off).tris.reverse =
      s.tris.reverse ++ fanTris c0 c1 c2 off added.toNat ∧
    (partitionFan s c0 c1 c2 added off).nV = s.nV ∧ (partitionFan s c0 c1 c2 added off).ok = s.ok := by
  unfold partitionFan
  have h := fan_loop c0 c2 off added.toNat s
  simp only at h
  rw [h]
  refine ⟨?_, rfl, rfl⟩
  simp only [QState.push, List.reverse_cons, List.reverse_append, List.reverse_reverse, fanTris]
  rw [List.range_succ, List.map_append, List.append_assoc]
  congr 1
  congr 1
  · apply List.map_congr_left
    intro j hj
    have hj' : j < added.toNat := by simpa using hj
    simp only [fanChain]
    by_cases h0 : j = 0
    · subst h0; simp; omega
    · have h1 : j ≤ added.toNat := by omega
      have h2 : j + 1 ≤ added.toNat := by omega
      simp [h0, h1, h2]
  · simp only [List.map_cons, List.map_nil, fanChain]
    by_cases h0 : added.toNat = 0
    · simp [h0]
    · simp [h0]

theorem fanTris_length (c0 c1 c2 off : Int) (added : Nat) : (fanTris c0 c1 c2 off added).length = added + 1 := by
  simp [fanTris]

/-! ### Tolerance scalar logic -/

section tol
variable {α : Type} [LinearOrder α] [TScalar α]

theorem stdMax_eq_max (hlt : ∀ a b : α, TScalar.lt a b = decide (a < b)) (a b : α) : stdMax a b = max a b := by
  rw [max_def_lt, stdMax, hlt]
  exact if_congr decide_eq_true_iff rfl rfl

/-- `SetTolerance(t)` on a state with `epsilon ≤ tolerance`: the reported tolerance is
`max t epsilon`, epsilon is untouched, and `epsilon ≤ tolerance` still holds.  (`α` = any linear
order whose `<` is the one the code uses: the reals restricted to doubles without NaN.) -/
theorem setTolerance_spec (hlt : ∀ a b : α, TScalar.lt a b = decide (a < b)) (s : TolState α) (t : α)
    (hinv : s.epsilon ≤ s.tolerance) :
    (setTolerance s t).1.tolerance = max t s.epsilon ∧ (setTolerance s t).1.epsilon = s.epsilon ∧
    (setTolerance s t).1.epsilon ≤ (setTolerance s t).1.tolerance ∧
    ((setTolerance s t).2 = true ↔ s.tolerance < t) := by
  unfold setTolerance
  rw [hlt, stdMax_eq_max hlt]
  by_cases h : s.tolerance < t
  · have h1 : s.epsilon ≤ t := le_of_lt (lt_of_le_of_lt hinv h)
    simp [h, h1]
  · simp [h, max_comm]

/-- `Simplify(t)`: the object's tolerance is unchanged; the simplification runs at
`max tolerance t` (at `tolerance` for `t = 0`). -/
theorem simplifyTol_spec (hlt : ∀ a b : α, TScalar.lt a b = decide (a < b)) (s : TolState α) (t : α) (z : Bool) :
    (simplifyTol s t z).2 = s ∧ (simplifyTol s t z).1 = (if z then s.tolerance else max s.tolerance t) ∧
    s.tolerance ≤ (simplifyTol s t z).1 := by
  have h : (simplifyTol s t z).1 = max s.tolerance (if z then s.tolerance else t) := stdMax_eq_max hlt _ _
  refine ⟨rfl, ?_, h ▸ le_max_left _ _⟩
  rw [h]
  cases z <;> simp

/-- `SetEpsilon` establishes `epsilon ≤ tolerance` whatever the state was, and never lowers the
tolerance. -/
theorem setEpsilon_spec (hlt : ∀ a b : α, TScalar.lt a b = decide (a < b)) (s : TolState α) (e : α) (f : Option α) :
    (setEpsilon s e f).epsilon = e ∧ (setEpsilon s e f).epsilon ≤ (setEpsilon s e f).tolerance ∧
    s.tolerance ≤ (setEpsilon s e f).tolerance := by
  unfold setEpsilon
  cases f <;> simp [stdMax_eq_max hlt]

end tol

end MV.Partition
