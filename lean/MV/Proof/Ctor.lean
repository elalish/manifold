import MV.Model.Ctor
/-!
Lemmas for the integer / decision-table theorems of property C17 (`MV/Props/C17.lean`).  Core only.
-/
namespace MV.Ctor

theorem le_two_pow_ceilLog2 (v : Nat) : v ≤ 2 ^ ceilLog2 v := by
  unfold ceilLog2
  split
  · omega
  · have := Nat.lt_log2_self (n := v - 1)
    omega

theorem encode_arith (x y z w py pz : Nat) (hw : w < 2) (hz : z < 2 ^ pz) (hy : y < 2 ^ py) :
    encodeIndex x y z w py pz = w + 2 * (z + 2 ^ pz * (y + 2 ^ py * x)) := by
  unfold encodeIndex
  have h1 : w ||| z <<< 1 = z <<< 1 + w := by
    rw [Nat.or_comm]; exact (Nat.shiftLeft_add_eq_or_of_lt (by simpa using hw) z).symm
  have hb1 : z <<< 1 + w < 2 ^ (1 + pz) := by
    rw [Nat.shiftLeft_eq, Nat.pow_add]; omega
  have h2 : (z <<< 1 + w) ||| y <<< (1 + pz) = y <<< (1 + pz) + (z <<< 1 + w) := by
    rw [Nat.or_comm]; exact (Nat.shiftLeft_add_eq_or_of_lt hb1 y).symm
  have hb2 : y <<< (1 + pz) + (z <<< 1 + w) < 2 ^ (1 + pz + py) := by
    rw [Nat.shiftLeft_eq, Nat.shiftLeft_eq, Nat.pow_add 2 (1 + pz) py]
    have : y * 2 ^ (1 + pz) + 2 ^ (1 + pz) ≤ 2 ^ (1 + pz) * 2 ^ py := by
      rw [← Nat.succ_mul, Nat.mul_comm]; exact Nat.mul_le_mul_left _ hy
    rw [Nat.shiftLeft_eq] at hb1; omega
  have h3 : (y <<< (1 + pz) + (z <<< 1 + w)) ||| x <<< (1 + pz + py)
      = x <<< (1 + pz + py) + (y <<< (1 + pz) + (z <<< 1 + w)) := by
    rw [Nat.or_comm]; exact (Nat.shiftLeft_add_eq_or_of_lt hb2 x).symm
  rw [h1, h2, h3]
  simp only [Nat.shiftLeft_eq, Nat.pow_add, Nat.pow_one]
  rw [Nat.mul_add, Nat.mul_add, Nat.mul_add]
  have e1 : 2 * (2 ^ pz * (2 ^ py * x)) = x * (2 * 2 ^ pz * 2 ^ py) := by
    rw [Nat.mul_comm x]; simp only [Nat.mul_assoc]
  have e2 : 2 * (2 ^ pz * y) = y * (2 * 2 ^ pz) := by rw [Nat.mul_comm y]; simp only [Nat.mul_assoc]
  omega

/-- unpacking one field of a mixed-radix code -/
theorem div_mod_pack {b z : Nat} (q : Nat) (hz : z < b) : (z + b * q) / b = q ∧ (z + b * q) % b = z := by
  have hb : 0 < b := by omega
  constructor
  · rw [Nat.add_mul_div_left _ _ hb, Nat.div_eq_of_lt hz]; omega
  · rw [Nat.add_mul_mod_self_left, Nat.mod_eq_of_lt hz]

theorem decode_arith (idx px py pz : Nat) :
    decodeIndex idx px py pz =
      (idx / 2 / 2 ^ pz / 2 ^ py % 2 ^ px, idx / 2 / 2 ^ pz % 2 ^ py, idx / 2 % 2 ^ pz, idx % 2) := by
  unfold decodeIndex
  simp only [Nat.one_shiftLeft, Nat.and_two_pow_sub_one_eq_mod, Nat.shiftRight_eq_div_pow, Nat.pow_one]
  have : idx &&& 1 = idx % 2 := by
    simp
  rw [this]

theorem quadrant_exact (quo m : Nat) (hq : quo % 8 = m % 8) :
    quadrant 0 1 quo = sinQuarter (m : Int) := by
  have h4 : quo % 4 = m % 4 := by omega
  have hm : ((m : Int) % 4) = ((m % 4 : Nat) : Int) := by omega
  unfold quadrant sinQuarter
  rw [h4, hm]
  have : m % 4 < 4 := Nat.mod_lt _ (by omega)
  generalize m % 4 = r at this ⊢
  match r, this with
  | 0, _ => rfl
  | 1, _ => rfl
  | 2, _ => rfl
  | 3, _ => rfl

theorem sinQuarter_neg (k : Int) : sinQuarter (-k) = - sinQuarter k := by
  unfold sinQuarter
  have h : (-k) % 4 = (4 - k % 4) % 4 := by omega
  have hr : 0 ≤ k % 4 ∧ k % 4 < 4 := by omega
  rw [h]
  generalize k % 4 = r at hr ⊢
  have : r = 0 ∨ r = 1 ∨ r = 2 ∨ r = 3 := by omega
  rcases this with rfl | rfl | rfl | rfl <;> rfl

theorem cosQuarter_eq (k : Int) : cosQuarter k = sinQuarter (k + 1) := by
  unfold sinQuarter cosQuarter
  have h : (k + 1) % 4 = (k % 4 + 1) % 4 := by omega
  have hr : 0 ≤ k % 4 ∧ k % 4 < 4 := by omega
  rw [h]
  generalize k % 4 = r at hr ⊢
  have : r = 0 ∨ r = 1 ∨ r = 2 ∨ r = 3 := by omega
  rcases this with rfl | rfl | rfl | rfl <;> rfl

theorem sindQ_exact (quoOf : Nat → Nat) (hq : ∀ m, quoOf m % 8 = m % 8) (k : Int) :
    sindQ 0 1 quoOf k = sinQuarter k := by
  unfold sindQ
  split
  · next h =>
    rw [quadrant_exact _ _ (hq _)]
    have : (((-k).toNat : Nat) : Int) = -k := by omega
    rw [this, sinQuarter_neg]; omega
  · next h =>
    rw [quadrant_exact _ _ (hq _)]
    have : ((k.toNat : Nat) : Int) = k := by omega
    rw [this]

theorem quarter_pythagoras (k : Int) : sinQuarter k * sinQuarter k + cosQuarter k * cosQuarter k = 1 := by
  unfold sinQuarter cosQuarter
  have hr : 0 ≤ k % 4 ∧ k % 4 < 4 := by omega
  generalize k % 4 = r at hr ⊢
  have : r = 0 ∨ r = 1 ∨ r = 2 ∨ r = 3 := by omega
  rcases this with rfl | rfl | rfl | rfl <;> rfl

theorem setCircularSegments_range (cur number : Int) (hc : cur = 0 ∨ 3 ≤ cur) :
    setCircularSegments cur number = 0 ∨ 3 ≤ setCircularSegments cur number := by
  unfold setCircularSegments; split <;> omega

end MV.Ctor
