/-
Sorting by a comparator `lt : α → α → Bool` that is a strict weak order (`StrictWeak`: asymmetric
and negatively transitive): sortedness `SortedBy`, key classes `cls`, stability `StableWrt`, and the
fact everything else rests on, `sorted_unique_of_cls`: a list has at most one sorted stable
rearrangement.  Three sorts are shown to be that rearrangement: `std::merge` of sorted lists
(`mergeSeq`), the specification `stableSort` of `MV/Model/Par.lean` (insertion after equal keys),
and core's `List.mergeSort` for `a ≤ b := ¬ lt b a`, which the other models use; hence
`stableSort_eq_mergeSort`.  The last part gives what the users of a `mergeSort` by a key need:
sorted keys, and the stable sort of `range n` (ties in index order).  Core Lean only.

`StrictWeak` packages the two hypotheses actually used:
  asymm    : lt a b = true → lt b a = false
  negTrans : lt a b = false → lt b c = false → lt a c = false
(`C13b.strictWeak_of_std` derives them from the usual irreflexive / transitive /
incomparability-is-transitive presentation; `StrictWeak.irrefl`, `.trans`, `.incomp_trans`
go the other way, so the two presentations are equivalent.)
-/
import MV.Model.Par
import MV.Proof.ListArray

namespace MV.Par

variable {α : Type}

/-- `lt` is a strict weak order (asymmetric and negatively transitive). -/
structure StrictWeak (lt : α → α → Bool) : Prop where
  asymm : ∀ a b, lt a b = true → lt b a = false
  negTrans : ∀ a b c, lt a b = false → lt b c = false → lt a c = false

namespace StrictWeak
variable {lt : α → α → Bool}

theorem irrefl (h : StrictWeak lt) (a : α) : lt a a = false :=
  Bool.eq_false_iff.2 fun e => Bool.false_ne_true ((h.asymm a a e).symm.trans e)

theorem lt_of_lt_of_not_lt (h : StrictWeak lt) {a b c : α} (hab : lt a b = true)
    (hcb : lt c b = false) : lt a c = true :=
  (Bool.not_eq_false _).mp fun e => Bool.false_ne_true ((h.negTrans a c b e hcb).symm.trans hab)

theorem lt_of_not_lt_of_lt (h : StrictWeak lt) {a b c : α} (hba : lt b a = false)
    (hbc : lt b c = true) : lt a c = true :=
  (Bool.not_eq_false _).mp fun e => Bool.false_ne_true ((h.negTrans b a c hba e).symm.trans hbc)

theorem trans (h : StrictWeak lt) {a b c : α} (hab : lt a b = true) (hbc : lt b c = true) :
    lt a c = true :=
  h.lt_of_lt_of_not_lt hab (h.asymm b c hbc)

theorem incomp_trans (h : StrictWeak lt) {a b c : α}
    (hab : lt a b = false) (hba : lt b a = false) (hbc : lt b c = false) (hcb : lt c b = false) :
    lt a c = false ∧ lt c a = false :=
  ⟨h.negTrans a b c hab hbc, h.negTrans c b a hcb hba⟩

end StrictWeak

theorem strictWeak_key (k : α → Nat) : StrictWeak fun a b => decide (k a < k b) where
  asymm _ _ h := decide_eq_false (Nat.lt_asymm (of_decide_eq_true h))
  negTrans _ _ _ h1 h2 :=
    decide_eq_false fun h =>
      of_decide_eq_false h1 (Nat.lt_of_lt_of_le h (Nat.le_of_not_lt (of_decide_eq_false h2)))

/-- the comparator `<` on `Nat` as a Bool-valued function -/
def natLt : Nat → Nat → Bool := fun a b => decide (a < b)

theorem strictWeak_natLt : StrictWeak natLt := strictWeak_key id

/-- sorted w.r.t. `lt`: no later element is strictly less than an earlier one -/
def SortedBy (lt : α → α → Bool) (l : List α) : Prop := l.Pairwise (fun a b => lt b a = false)

/-- the key class of `a`: elements incomparable with `a` -/
def cls (lt : α → α → Bool) (a : α) : α → Bool := fun x => !lt x a && !lt a x

/-- `l'` is a stable rearrangement of `l`: every key class appears in `l'` exactly as
(same elements, same order) it appears in `l`. -/
def StableWrt (lt : α → α → Bool) (l l' : List α) : Prop :=
  ∀ a, l'.filter (cls lt a) = l.filter (cls lt a)

instance (lt : α → α → Bool) (l : List α) : Decidable (SortedBy lt l) :=
  inferInstanceAs (Decidable (l.Pairwise _))

theorem SortedBy.nil {lt : α → α → Bool} : SortedBy lt [] := List.Pairwise.nil

theorem SortedBy.take {lt : α → α → Bool} {l : List α} (h : SortedBy lt l) (n : Nat) :
    SortedBy lt (l.take n) := List.Pairwise.sublist (List.take_sublist n l) h

theorem SortedBy.drop {lt : α → α → Bool} {l : List α} (h : SortedBy lt l) (n : Nat) :
    SortedBy lt (l.drop n) := List.Pairwise.sublist (List.drop_sublist n l) h

theorem sortedBy_cons {lt : α → α → Bool} {a : α} {l : List α} :
    SortedBy lt (a :: l) ↔ (∀ b ∈ l, lt b a = false) ∧ SortedBy lt l := List.pairwise_cons

theorem SortedBy.not_lt_head {lt : α → α → Bool} (sw : StrictWeak lt) {x : α} {l : List α}
    (h : SortedBy lt (x :: l)) {z : α} (hz : z ∈ x :: l) : lt z x = false := by
  rcases List.mem_cons.mp hz with rfl | m
  · exact sw.irrefl _
  · exact (sortedBy_cons.mp h).1 z m

theorem sortedBy_natLt_iff {l : List Nat} : SortedBy natLt l ↔ l.Pairwise (· ≤ ·) := by
  unfold SortedBy natLt
  constructor <;> intro h <;> refine h.imp ?_ <;> intro a b hab <;> simp at * <;> omega

theorem cls_self {lt : α → α → Bool} (h : StrictWeak lt) (a : α) : cls lt a a = true := by
  simp [cls, h.irrefl]

theorem cls_incomp {lt : α → α → Bool} (h : StrictWeak lt) {a x y : α}
    (hx : cls lt a x = true) (hy : cls lt a y = true) : lt x y = false ∧ lt y x = false := by
  simp [cls] at hx hy
  exact h.incomp_trans hx.1 hx.2 hy.2 hy.1

theorem cls_key (k : α → Nat) (a : α) :
    cls (fun a b => decide (k a < k b)) a = fun x => k x == k a := by
  funext x
  simp only [cls]
  rcases Nat.lt_trichotomy (k x) (k a) with h | h | h
  · simp [h, Nat.ne_of_lt h]
  · simp [h]
  · simp [h, Nat.ne_of_gt h, Nat.lt_asymm h]

/-- Two sorted lists with the same per-class subsequences are equal.  (No permutation
hypothesis is needed: it follows from the class condition.) -/
theorem sorted_unique_of_cls {lt : α → α → Bool} (sw : StrictWeak lt) :
    ∀ (l' l'' : List α), SortedBy lt l' → SortedBy lt l'' →
      (∀ a, l'.filter (cls lt a) = l''.filter (cls lt a)) → l' = l''
  | [], [], _, _, _ => rfl
  | [], y :: t, _, _, h => by
    have := h y; simp [cls_self sw] at this
  | x :: t, [], _, _, h => by
    have := h x; simp [cls_self sw] at this
  | x :: t', y :: t'', s1, s2, h => by
    -- each head occurs in the other list, so neither is below the other
    have hyx : lt y x = false := by
      have : y ∈ (x :: t').filter (cls lt y) := by rw [h y]; simp [cls_self sw]
      exact s1.not_lt_head sw (List.mem_filter.mp this).1
    have hxy : lt x y = false := by
      have : x ∈ (y :: t'').filter (cls lt x) := by rw [← h x]; simp [cls_self sw]
      exact s2.not_lt_head sw (List.mem_filter.mp this).1
    have hxe : x = y := by
      have := h x
      have c : cls lt x y = true := by simp [cls, hyx, hxy]
      simp [cls_self sw, c] at this
      exact this.1
    subst hxe
    rw [sorted_unique_of_cls sw t' t'' (sortedBy_cons.mp s1).2 (sortedBy_cons.mp s2).2 fun a => by
      have := h a
      by_cases c : cls lt a x = true <;> simpa [c] using this]

@[simp] theorem mergeSeq_nil_left (lt : α → α → Bool) (l : List α) : mergeSeq lt [] l = l := by
  simp [mergeSeq]

@[simp] theorem mergeSeq_nil_right (lt : α → α → Bool) (l : List α) : mergeSeq lt l [] = l := by
  cases l <;> simp [mergeSeq]

theorem mergeSeq_cons_cons (lt : α → α → Bool) (x y : α) (xs ys : List α) :
    mergeSeq lt (x :: xs) (y :: ys) =
      if lt y x then y :: mergeSeq lt (x :: xs) ys else x :: mergeSeq lt xs (y :: ys) := by
  simp [mergeSeq]

/-- `std::merge(comp)` is core's `List.merge` with `a ≤ b := ¬ comp b a` -/
theorem mergeSeq_eq_merge (lt : α → α → Bool) (l1 l2 : List α) :
    mergeSeq lt l1 l2 = List.merge l1 l2 (fun a b => !lt b a) := by
  fun_induction mergeSeq lt l1 l2 with
  | case1 ys => simp
  | case2 xs _ => simp
  | case3 x xs y ys h ih => rw [List.cons_merge_cons_neg _ _ _ (by simp [h]), ih]
  | case4 x xs y ys h ih => rw [List.cons_merge_cons_pos _ _ _ (by simpa using h), ih]

theorem mem_mergeSeq {lt : α → α → Bool} {l1 l2 : List α} {a : α} :
    a ∈ mergeSeq lt l1 l2 ↔ a ∈ l1 ∨ a ∈ l2 := by
  rw [mergeSeq_eq_merge, List.mem_merge]

theorem length_mergeSeq (lt : α → α → Bool) (l1 l2 : List α) :
    (mergeSeq lt l1 l2).length = l1.length + l2.length := by
  rw [mergeSeq_eq_merge, List.length_merge]

/-- **Stability of `std::merge`**: restricted to any key class, the merge is the class
members of `l1` followed by those of `l2`. -/
theorem mergeSeq_stable {lt : α → α → Bool} (sw : StrictWeak lt) {l1 l2 : List α}
    (h1 : SortedBy lt l1) : StableWrt lt (l1 ++ l2) (mergeSeq lt l1 l2) := by
  intro a
  rw [List.filter_append]
  fun_induction mergeSeq lt l1 l2 with
  | case1 ys => rfl
  | case2 xs _ => simp
  | case3 x xs y ys hyx ih =>
    rw [List.filter_cons, ih h1, List.filter_cons (xs := ys)]
    split
    · next c =>
      -- `y < x ≤ z` for every `z` of `x :: xs`, so none of them is in the class of `y`
      have hnil : (x :: xs).filter (cls lt a) = [] := by
        rw [List.filter_eq_nil_iff]
        intro z hz cz
        exact Bool.false_ne_true ((cls_incomp sw c cz).1.symm.trans
          (sw.lt_of_lt_of_not_lt hyx (h1.not_lt_head sw hz)))
      rw [hnil]; rfl
    · rfl
  | case4 x xs y ys hyx ih =>
    rw [List.filter_cons, ih (sortedBy_cons.mp h1).2, List.filter_cons (xs := xs)]
    split <;> rfl

/-- inserting after equal keys is merging with a singleton on the right -/
theorem insertStable_eq_mergeSeq (lt : α → α → Bool) (x : α) :
    ∀ l : List α, insertStable lt x l = mergeSeq lt l [x]
  | [] => by simp [insertStable]
  | y :: ys => by
    rw [insertStable, mergeSeq_cons_cons, insertStable_eq_mergeSeq lt x ys]
    simp

section le
variable {lt : α → α → Bool} (sw : StrictWeak lt)
include sw

/-- `a ≤ b := ¬ lt b a` is transitive and total: what core asks of the comparator of `List.merge`
and `List.mergeSort` -/
theorem le_trans_of_strictWeak (a b c : α) : (!lt b a) = true → (!lt c b) = true → (!lt c a) = true := by
  simp only [Bool.not_eq_true']; exact fun hab hbc => sw.negTrans c b a hbc hab

theorem le_total_of_strictWeak (a b : α) : (!lt b a || !lt a b) = true := by
  cases e : lt b a <;> simp [e, sw.asymm b a]

theorem mergeSeq_sorted {l1 l2 : List α} (h1 : SortedBy lt l1) (h2 : SortedBy lt l2) :
    SortedBy lt (mergeSeq lt l1 l2) := by
  rw [mergeSeq_eq_merge]
  exact (List.pairwise_merge (le_trans_of_strictWeak sw) (le_total_of_strictWeak sw) l1 l2
    (h1.imp (by simp)) (h2.imp (by simp))).imp (by simp)

end le

/-- invariant of the insertion loop of `stableSort` -/
theorem foldl_insertStable {lt : α → α → Bool} (sw : StrictWeak lt) :
    ∀ (xs acc : List α), SortedBy lt acc →
      SortedBy lt (xs.foldl (fun acc x => insertStable lt x acc) acc) ∧
      (xs.foldl (fun acc x => insertStable lt x acc) acc).Perm (acc ++ xs) ∧
      StableWrt lt (acc ++ xs) (xs.foldl (fun acc x => insertStable lt x acc) acc)
  | [], acc, h => by simp [h, StableWrt]
  | x :: xs, acc, h => by
    have hs : SortedBy lt (insertStable lt x acc) := by
      rw [insertStable_eq_mergeSeq]; exact mergeSeq_sorted sw h (List.pairwise_singleton _ _)
    have ih := foldl_insertStable sw xs (insertStable lt x acc) hs
    rw [List.foldl_cons]
    refine ⟨ih.1, ?_, ?_⟩
    · refine ih.2.1.trans ?_
      rw [insertStable_eq_mergeSeq, mergeSeq_eq_merge]
      simpa using (List.merge_perm_append (le := fun a b => !lt b a) (xs := acc) (ys := [x])).append_right xs
    · intro a
      rw [ih.2.2 a, List.filter_append, insertStable_eq_mergeSeq, mergeSeq_stable sw h a]
      by_cases c : cls lt a x = true <;> simp [c]

/-- characterisation: the only sorted stable rearrangement of `xs` is `stableSort lt xs` -/
theorem eq_stableSort {lt : α → α → Bool} (sw : StrictWeak lt) {xs l : List α}
    (hs : SortedBy lt l) (hst : StableWrt lt xs l) : l = stableSort lt xs := by
  obtain ⟨h1, -, h3⟩ := foldl_insertStable sw xs [] SortedBy.nil
  exact sorted_unique_of_cls sw _ _ hs h1 fun a => (hst a).trans (h3 a).symm

/-- among elements with equal keys a sorted stable rearrangement keeps whatever relation the
input had -/
theorem pairwise_ties {lt : α → α → Bool} (sw : StrictWeak lt) {R : α → α → Prop} {l l' : List α}
    (hs : SortedBy lt l') (hst : StableWrt lt l l') (hl : l.Pairwise R) :
    l'.Pairwise fun a b => lt a b = true ∨ (lt b a = false ∧ R a b) := by
  rw [List.pairwise_iff_forall_sublist]
  intro a b hab
  have hp : [a, b].Pairwise fun a b => lt b a = false := hs.sublist hab
  have hba : lt b a = false := by simpa using hp
  cases e : lt a b with
  | true => exact .inl rfl
  | false =>
    have h := hab.filter (cls lt a)
    rw [hst a, List.filter_cons_of_pos (cls_self sw a),
      List.filter_cons_of_pos (by simp [cls, e, hba]), List.filter_nil] at h
    exact .inr ⟨hba, by simpa using hl.sublist (h.trans List.filter_sublist)⟩

/-! ## core's `List.mergeSort` -/

section mergeSort
variable {lt : α → α → Bool} (sw : StrictWeak lt)
include sw

theorem sortedBy_mergeSort (l : List α) : SortedBy lt (l.mergeSort fun a b => !lt b a) :=
  (List.pairwise_mergeSort (le_trans_of_strictWeak sw) (le_total_of_strictWeak sw) l).imp (by simp)

/-- a key class of `l` is pairwise `≤`, so `mergeSort` keeps it as a sublist; the lengths agree -/
theorem stableWrt_mergeSort (l : List α) : StableWrt lt l (l.mergeSort fun a b => !lt b a) := by
  intro a
  have hc : (l.filter (cls lt a)).Pairwise fun x y => (!lt y x) = true :=
    List.pairwise_of_forall_mem_list fun x hx y hy => by
      simp [(cls_incomp sw (List.mem_filter.mp hx).2 (List.mem_filter.mp hy).2).2]
  have hs := (List.sublist_mergeSort (le_trans_of_strictWeak sw) (le_total_of_strictWeak sw) hc
    List.filter_sublist).filter (cls lt a)
  simp only [List.filter_filter, Bool.and_self] at hs
  exact (hs.eq_of_length (((List.mergeSort_perm l _).filter _).length_eq).symm).symm

theorem stableSort_eq_mergeSort (xs : List α) :
    stableSort lt xs = xs.mergeSort (fun a b => !lt b a) :=
  (eq_stableSort sw (sortedBy_mergeSort sw xs) (stableWrt_mergeSort sw xs)).symm

end mergeSort

theorem strictWeak_intKey (k : α → Int) : StrictWeak fun a b => decide (k a < k b) where
  asymm _ _ h := decide_eq_false (Int.lt_asymm (of_decide_eq_true h))
  negTrans _ _ _ h1 h2 :=
    decide_eq_false fun h =>
      of_decide_eq_false h1 (Int.lt_of_lt_of_le h (Int.not_lt.mp (of_decide_eq_false h2)))

/-- sorting by an integer key sorts the keys -/
theorem pairwise_mergeSort_intKey (k : α → Int) (l : List α) :
    (l.mergeSort fun a b => !decide (k b < k a)).Pairwise fun a b => k a ≤ k b :=
  (sortedBy_mergeSort (strictWeak_intKey k) l).imp fun h => Int.not_lt.mp (of_decide_eq_false h)

theorem pairwise_mergeSort_natKey (k : α → Nat) (l : List α) :
    (l.mergeSort fun a b => !decide (k b < k a)).Pairwise fun a b => k a ≤ k b :=
  (sortedBy_mergeSort (strictWeak_key k) l).imp fun h => Nat.not_lt.mp (of_decide_eq_false h)

/-- the `≤` spelling of the comparator of a sort by a natural-number key -/
theorem decide_le_eq_not_decide_lt (k : α → Nat) :
    (fun a b => decide (k a ≤ k b)) = fun a b => !decide (k b < k a) := by
  funext a b; by_cases h : k b < k a <;> simp [h, Nat.not_le.mpr, Nat.le_of_not_lt]

/-! ## sorting `range n`: the permutation of the indices -/

theorem mem_mergeSort_range (le : Nat → Nat → Bool) (n i : Nat) :
    i ∈ (List.range n).mergeSort le ↔ i < n := by
  rw [(List.mergeSort_perm _ le).mem_iff, List.mem_range]

theorem nodup_mergeSort_range (le : Nat → Nat → Bool) (n : Nat) :
    ((List.range n).mergeSort le).Nodup :=
  (List.mergeSort_perm _ le).symm.nodup List.nodup_range

/-- sorted by `lt`, ties in index order -/
theorem pairwise_mergeSort_range {lt : Nat → Nat → Bool} (sw : StrictWeak lt) (n : Nat) :
    ((List.range n).mergeSort fun a b => !lt b a).Pairwise
      fun a b => lt a b = true ∨ (lt b a = false ∧ a < b) :=
  pairwise_ties sw (sortedBy_mergeSort sw _) (stableWrt_mergeSort sw _) List.pairwise_lt_range

end MV.Par
