import MV.Proof.Export
import MV.Proof.ListArray
/-! helper lemmas for `MV/Props/C08a.lean`: the flat-list specification of the prop-vert
duplication loop (`cornerSpec`) and its invariants; the array transliteration (`cornerStep`)
refines it. -/
namespace MV.Export
open List

variable {τ : Type}

/-! ## first output index of a position vertex -/

/-- first output index whose position vertex is `v` -/
def fst1 (out : List (Nat × Nat)) (v : Nat) : Option Nat := out.findIdx? (fun o => o.1 == v)

theorem fst1_append_of_some {out : List (Nat × Nat)} {v i : Nat} (c : Nat × Nat)
    (h : fst1 out v = some i) : fst1 (out ++ [c]) v = some i := by
  unfold fst1 at *
  rw [findIdx?_append, h]; rfl

theorem fst1_append_of_ne {out : List (Nat × Nat)} {v : Nat} (c : Nat × Nat)
    (h : c.1 ≠ v) : fst1 (out ++ [c]) v = fst1 out v := by
  unfold fst1
  rw [findIdx?_append]
  have : (c.1 == v) = false := by simpa using h
  simp [findIdx?_cons, this]

theorem fst1_append_of_none {out : List (Nat × Nat)} (c : Nat × Nat)
    (h : fst1 out c.1 = none) : fst1 (out ++ [c]) c.1 = some out.length := by
  unfold fst1 at *
  rw [findIdx?_append, h]
  simp [findIdx?_cons]

theorem fst1_some_getElem {out : List (Nat × Nat)} {v i : Nat} (h : fst1 out v = some i) :
    ∃ o, out[i]? = some o ∧ o.1 = v := by
  unfold fst1 at h
  rw [findIdx?_eq_some_iff_getElem] at h
  obtain ⟨hi, hp, _⟩ := h
  exact ⟨out[i], by simp [hi], by simpa using hp⟩

theorem fst1_isSome_of_mem {out : List (Nat × Nat)} {o : Nat × Nat} (h : o ∈ out) :
    ∃ i, fst1 out o.1 = some i := by
  unfold fst1
  cases hf : out.findIdx? (fun x => x.1 == o.1) with
  | some i => exact ⟨i, rfl⟩
  | none =>
    rw [findIdx?_eq_none_iff] at hf
    have := hf o h
    simp at this

/-! ## invariants of the specification fold -/

/-- what the specification state `sp` satisfies after the corners `cs` -/
structure SpecInv (cs : List (Nat × Nat)) (sp : VSpec) : Prop where
  nodup : sp.out.Nodup
  /-- the output vertex of the `k`-th corner is that corner -/
  look : sp.triVerts.map (fun i => sp.out[i]?) = cs.map some
  /-- every output vertex was emitted for some corner -/
  from_corner : ∀ o ∈ sp.out, o ∈ cs
  /-- every merge entry sends an output index to the first index of its position vertex -/
  merge_to : ∀ m ∈ sp.merges, ∃ o, sp.out[m.1]? = some o ∧ fst1 sp.out o.1 = some m.2
  /-- an output index that is not merged is the first of its position vertex -/
  not_merged : ∀ idx o, sp.out[idx]? = some o → idx ∉ sp.merges.map (·.1) →
    fst1 sp.out o.1 = some idx

theorem SpecInv.lt {cs sp} (h : SpecInv cs sp) : ∀ i ∈ sp.triVerts, i < sp.out.length := by
  intro i hi
  have : (sp.out[i]?) ∈ sp.triVerts.map (fun i => sp.out[i]?) := mem_map.2 ⟨i, hi, rfl⟩
  rw [h.look] at this
  obtain ⟨c, _, hc⟩ := mem_map.1 this
  exact (List.getElem?_eq_some_iff.1 hc.symm).1

theorem SpecInv.length {cs sp} (h : SpecInv cs sp) : sp.triVerts.length = cs.length := by
  have := congrArg List.length h.look
  simpa using this

theorem SpecInv.init : SpecInv [] ⟨[], [], []⟩ :=
  ⟨nodup_nil, rfl, by simp, by simp, by simp⟩

theorem SpecInv.step {cs sp} (h : SpecInv cs sp) (c : Nat × Nat) :
    SpecInv (cs ++ [c]) (cornerSpec sp c) := by
  unfold cornerSpec
  split
  · -- reuse of an existing output vertex
    rename_i idx hidx
    rw [findIdx?_eq_some_iff_getElem] at hidx
    obtain ⟨hlt, hp, _⟩ := hidx
    have hc : sp.out[idx] = c := by simpa using hp
    refine ⟨h.nodup, ?_, ?_, h.merge_to, h.not_merged⟩
    · simp only [map_append, h.look, map_cons, map_nil]
      rw [getElem?_eq_getElem hlt, hc]
    · intro o ho; exact mem_append_left _ (h.from_corner o ho)
  · -- a new output vertex
    rename_i hnone
    rw [findIdx?_eq_none_iff] at hnone
    have hcn : c ∉ sp.out := fun hm => by simpa using hnone c hm
    have hlook : (sp.triVerts ++ [sp.out.length]).map (fun i => (sp.out ++ [c])[i]?)
        = (cs ++ [c]).map some := by
      simp only [map_append, map_cons, map_nil]
      congr 1
      · rw [← h.look]
        apply map_congr_left
        intro i hi
        exact getElem?_append_left (h.lt i hi)
      · simp
    have hfrom : ∀ o ∈ sp.out ++ [c], o ∈ cs ++ [c] := by
      intro o ho
      rcases mem_append.1 ho with ho | ho
      · exact mem_append_left _ (h.from_corner o ho)
      · exact mem_append_right _ ho
    have hnd : (sp.out ++ [c]).Nodup := by
      rw [nodup_append]
      refine ⟨h.nodup, by simp, ?_⟩
      intro a ha b hb
      simp only [mem_cons, not_mem_nil, or_false] at hb
      subst hb
      intro hab; subst hab; exact hcn ha
    -- old merge entries keep their meaning
    have hold : ∀ m ∈ sp.merges, ∃ o, (sp.out ++ [c])[m.1]? = some o ∧
        fst1 (sp.out ++ [c]) o.1 = some m.2 := by
      intro m hm
      obtain ⟨o, h1, h2⟩ := h.merge_to m hm
      exact ⟨o, by rw [getElem?_append_left (List.getElem?_eq_some_iff.1 h1).1]; exact h1,
        fst1_append_of_some c h2⟩
    split
    · rename_i to hto
      refine ⟨hnd, hlook, hfrom, ?_, ?_⟩
      · intro m hm
        rcases mem_append.1 hm with hm | hm
        · exact hold m hm
        · simp only [mem_cons, not_mem_nil, or_false] at hm
          subst hm
          exact ⟨c, by simp, fst1_append_of_some c hto⟩
      · intro idx o ho hnm
        simp only [map_append, map_cons, map_nil, mem_append, mem_cons, not_mem_nil, or_false,
          not_or] at hnm
        rcases (getElem?_snoc _ _ _ _).mp ho with ho | ⟨hi, _⟩
        · exact fst1_append_of_some c (h.not_merged idx o ho hnm.1)
        · exact absurd hi hnm.2
    · rename_i hto
      refine ⟨hnd, hlook, hfrom, hold, ?_⟩
      intro idx o ho hnm
      rcases (getElem?_snoc _ _ _ _).mp ho with ho | ⟨hi, ho'⟩
      · exact fst1_append_of_some c (h.not_merged idx o ho hnm)
      · subst hi; subst ho'
        exact fst1_append_of_none o hto

theorem specInv_export (cs : List (Nat × Nat)) : SpecInv cs (exportVertsSpec cs) := by
  simpa [exportVertsSpec] using
    foldl_prefix_inv cornerSpec SpecInv cs [] _ SpecInv.init (fun _ _ c _ h => h.step c)

/-! ## reading the exported indices through the merge vectors -/

open MV.Mesh in
theorem SpecInv.mergeFun_eq {cs sp} (h : SpecInv cs sp) {idx : Nat} {o : Nat × Nat}
    (ho : sp.out[idx]? = some o) :
    fst1 sp.out o.1 = some (mergeFun (sp.merges.map (·.1)) (sp.merges.map (·.2)) idx) := by
  unfold mergeFun
  rw [zip_map_fst_snd]
  split
  · rename_i ft hft
    have hm : ft ∈ sp.merges := by
      have := mem_of_find?_eq_some hft
      simpa using this
    have h1 : ft.1 = idx := by simpa using find?_some hft
    obtain ⟨o', ho', hf⟩ := h.merge_to ft hm
    rw [h1, ho] at ho'
    cases ho'
    exact hf
  · rename_i hnone
    apply h.not_merged idx o ho
    intro hmem
    obtain ⟨m, hm, hm1⟩ := mem_map.1 hmem
    rw [find?_eq_none] at hnone
    have := hnone m (by simpa using hm)
    simp [hm1] at this

/-- first output index of position vertex `v` in the export of `cs` (0 if `v` does not occur) -/
def firstIdx (cs : List (Nat × Nat)) (v : Nat) : Nat := (fst1 (exportVertsSpec cs).out v).getD 0

theorem mem_out_of_mem (cs : List (Nat × Nat)) {c : Nat × Nat} (hc : c ∈ cs) :
    c ∈ (exportVertsSpec cs).out := by
  have h := specInv_export cs
  have : some c ∈ (exportVertsSpec cs).triVerts.map (fun i => (exportVertsSpec cs).out[i]?) := by
    rw [h.look]; exact mem_map.2 ⟨c, hc, rfl⟩
  obtain ⟨i, _, hi⟩ := mem_map.1 this
  exact mem_of_getElem? hi

theorem firstIdx_spec (cs : List (Nat × Nat)) {v : Nat} (hv : v ∈ cs.map (·.1)) :
    ∃ o, (exportVertsSpec cs).out[firstIdx cs v]? = some o ∧ o.1 = v := by
  obtain ⟨c, hc, rfl⟩ := mem_map.1 hv
  obtain ⟨i, hi⟩ := fst1_isSome_of_mem (mem_out_of_mem cs hc)
  unfold firstIdx
  rw [hi]
  exact fst1_some_getElem hi

theorem firstIdx_lt (cs : List (Nat × Nat)) {v : Nat} (hv : v ∈ cs.map (·.1)) :
    firstIdx cs v < (exportVertsSpec cs).out.length := by
  obtain ⟨o, ho, _⟩ := firstIdx_spec cs hv
  exact (List.getElem?_eq_some_iff.1 ho).1

theorem firstIdx_inj (cs : List (Nat × Nat)) {u v : Nat} (hu : u ∈ cs.map (·.1))
    (hv : v ∈ cs.map (·.1)) (h : firstIdx cs u = firstIdx cs v) : u = v := by
  obtain ⟨o, ho, ho1⟩ := firstIdx_spec cs hu
  obtain ⟨o', ho', ho1'⟩ := firstIdx_spec cs hv
  rw [h, ho'] at ho
  cases ho
  rw [← ho1, ← ho1']

open MV.Mesh in
theorem triVerts_mergeFun (cs : List (Nat × Nat)) :
    (exportVertsSpec cs).triVerts.map
        (mergeFun ((exportVertsSpec cs).merges.map (·.1)) ((exportVertsSpec cs).merges.map (·.2)))
      = cs.map (fun c => firstIdx cs c.1) := by
  have h := specInv_export cs
  apply ext_getElem
  · simp [h.length]
  · intro k h1 h2
    simp only [length_map] at h1 h2
    simp only [getElem_map]
    have hl := congrArg (fun l => l[k]?) h.look
    simp only [getElem?_map, getElem?_eq_getElem h1, getElem?_eq_getElem h2, Option.map_some] at hl
    have := h.mergeFun_eq (Option.some.inj hl)
    unfold firstIdx
    rw [this]; rfl

theorem not_mergeFrom (cs : List (Nat × Nat)) {idx : Nat}
    (hidx : idx < (exportVertsSpec cs).out.length)
    (hn : idx ∉ (exportVertsSpec cs).merges.map (·.1)) :
    ∃ c ∈ cs, idx = firstIdx cs c.1 := by
  have h := specInv_export cs
  have ho : (exportVertsSpec cs).out[idx]? = some (exportVertsSpec cs).out[idx] :=
    getElem?_eq_getElem hidx
  refine ⟨_, h.from_corner _ (getElem_mem hidx), ?_⟩
  unfold firstIdx
  rw [h.not_merged idx _ ho hn]; rfl

/-! ## the array transliteration refines the specification -/

/-- refinement relation between the array state and the specification state; the bins are described
by the one thing the loop asks of them: whether, and under which index, a property vertex of a
position vertex has been emitted -/
structure Refines (numVert : Nat) (s : VState) (sp : VSpec) : Prop where
  out : s.out.toList = sp.out
  tri : s.triVerts.toList = sp.triVerts
  mf : s.mergeFrom.toList = sp.merges.map (·.1)
  mt : s.mergeTo.toList = sp.merges.map (·.2)
  bsize : s.bins.size = numVert
  vsize : s.vert2idx.size = numVert
  bins : ∀ v p, v < numVert → (s.bins.getD v []).find? (fun b => b.1 == p) =
    (sp.out.findIdx? (fun o => o == (v, p))).map (fun i => (p, i))
  v2i : ∀ v, v < numVert → s.vert2idx.getD v none = fst1 sp.out v

theorem Refines.init (numVert : Nat) : Refines numVert (VState.init numVert) ⟨[], [], []⟩ := by
  refine ⟨rfl, rfl, rfl, rfl, by simp [VState.init], by simp [VState.init], ?_, ?_⟩
  · intro v p hv
    simp [VState.init, Array.getD_eq_getD_getElem?, hv]
  · intro v hv
    simp [VState.init, Array.getD_eq_getD_getElem?, hv, fst1]

theorem Refines.step {numVert : Nat} {s : VState} {sp : VSpec} (h : Refines numVert s sp)
    (c : Nat × Nat) (hc : c.1 < numVert) : Refines numVert (cornerStep s c) (cornerSpec sp c) := by
  obtain ⟨v, p⟩ := c
  have hsize : s.out.size = sp.out.length := by rw [← h.out, Array.length_toList]
  unfold cornerStep cornerSpec
  simp only [h.bins v p hc]
  cases hf : sp.out.findIdx? (fun o => o == (v, p)) with
  | some i =>
    simp only [Option.map_some]
    exact ⟨h.out, by simp [h.tri], h.mf, h.mt, h.bsize, h.vsize, h.bins, h.v2i⟩
  | none =>
    simp only [Option.map_none, h.v2i v hc]
    -- the new pair is found under `(v, p)` and nowhere else
    have hbins : ∀ v' p', v' < numVert →
        ((s.bins.setIfInBounds v (s.bins.getD v [] ++ [(p, s.out.size)])).getD v' []).find?
            (fun b => b.1 == p')
          = ((sp.out ++ [(v, p)]).findIdx? (fun o => o == (v', p'))).map (fun i => (p', i)) := by
      intro v' p' hv'
      rw [findIdx?_append, ← hsize]
      simp only [Array.getD_eq_getD_getElem?, Array.getElem?_setIfInBounds, h.bsize]
      by_cases hvv : v = v'
      · subst hvv
        have hb := h.bins v p' hc
        simp only [Array.getD_eq_getD_getElem?] at hb
        simp only [if_true, hc, Option.getD_some, find?_append, hb]
        cases sp.out.findIdx? (fun o => o == (v, p')) with
        | some j => rfl
        | none =>
          by_cases hp : p = p'
          · subst hp; simp
          · have : ((v, p) == (v, p')) = false := by simp [hp]
            have hp' : (p == p') = false := by simpa using hp
            simp [findIdx?_cons, this, hp']
      · have hb := h.bins v' p' hv'
        simp only [Array.getD_eq_getD_getElem?] at hb
        have : ((v, p) == (v', p')) = false := by simp [hvv]
        simp only [hvv, if_false, hb, findIdx?_cons, this, findIdx?_nil]
        cases sp.out.findIdx? (fun o => o == (v', p')) <;> rfl
    cases hto : fst1 sp.out v with
    | some to =>
      have hto' : sp.out.findIdx? (fun o => o.1 == v) = some to := hto
      simp only [hto']
      refine ⟨by simp [h.out], by simp [h.tri, hsize], by simp [h.mf, hsize], by simp [h.mt],
        by simp [h.bsize], h.vsize, hbins, ?_⟩
      intro v' hv'
      simp only []
      rw [h.v2i v' hv']
      by_cases hvv : v = v'
      · subst hvv
        exact (fst1_append_of_some (v, p) hto).symm ▸ hto
      · exact (fst1_append_of_ne (c := (v, p)) (h := hvv)).symm
    | none =>
      have hto' : sp.out.findIdx? (fun o => o.1 == v) = none := hto
      simp only [hto']
      refine ⟨by simp [h.out], by simp [h.tri, hsize], h.mf, h.mt,
        by simp [h.bsize], by simp [h.vsize], hbins, ?_⟩
      intro v' hv'
      simp only [Array.getD_eq_getD_getElem?, Array.getElem?_setIfInBounds, h.vsize]
      by_cases hvv : v = v'
      · subst hvv
        simp only [if_true, hc, Option.getD_some]
        rw [fst1_append_of_none (c := (v, p)) hto, hsize]
      · simp only [hvv, if_false]
        rw [fst1_append_of_ne (c := (v, p)) (h := hvv)]
        have := h.v2i v' hv'
        simpa [Array.getD_eq_getD_getElem?] using this

theorem refines_export (numVert : Nat) (cs : List (Nat × Nat)) (hcs : ∀ c ∈ cs, c.1 < numVert) :
    Refines numVert (exportVerts numVert cs) (exportVertsSpec cs) := by
  exact foldl_rel (r := Refines numVert) (Refines.init numVert) (fun c hc _ _ h => h.step c (hcs c hc))

end MV.Export

/-! ## relabelling by a function injective on the used vertices -/
namespace MV.Mesh
open List

theorem used_map {f : Nat → Nat} {ts : List Tri} {w : Nat} :
    Used (ts.map (mapTri f)) w ↔ ∃ v, Used ts v ∧ f v = w := by
  unfold Used
  constructor
  · rintro ⟨t, ht, hw⟩
    obtain ⟨t0, ht0, rfl⟩ := mem_map.1 ht
    rcases mem_triVerts.1 hw with rfl | rfl | rfl
    · exact ⟨t0.1, ⟨t0, ht0, by simp [triVerts]⟩, rfl⟩
    · exact ⟨t0.2.1, ⟨t0, ht0, by simp [triVerts]⟩, rfl⟩
    · exact ⟨t0.2.2, ⟨t0, ht0, by simp [triVerts]⟩, rfl⟩
  · rintro ⟨v, ⟨t, ht, hv⟩, rfl⟩
    refine ⟨mapTri f t, mem_map.2 ⟨t, ht, rfl⟩, ?_⟩
    rcases mem_triVerts.1 hv with rfl | rfl | rfl <;> simp [triVerts, mapTri]

theorem closedOriented_map_of_injOn (f : Nat → Nat) (ts : List Tri)
    (hinj : ∀ u v, Used ts u → Used ts v → f u = f v → u = v) (h : ClosedOriented ts) :
    ClosedOriented (ts.map (mapTri f)) := by
  rw [closedOriented_iff_edges] at h ⊢
  rw [dirEdges_map]
  obtain ⟨hnd, hno, hm⟩ := h
  have hs : ∀ {e : Nat × Nat}, e ∈ dirEdges ts → Used ts e.1 := fun {e} he =>
    used_iff_start.2 ⟨e.2, he⟩
  have he : ∀ {e : Nat × Nat}, e ∈ dirEdges ts → Used ts e.2 := fun {e} he =>
    used_iff_end.2 ⟨e.1, he⟩
  have ginj : ∀ x ∈ dirEdges ts, ∀ y ∈ dirEdges ts,
      (fun e : Nat × Nat => (f e.1, f e.2)) x = (fun e : Nat × Nat => (f e.1, f e.2)) y → x = y := by
    intro x hx y hy h
    simp only [Prod.mk.injEq] at h
    exact Prod.ext (hinj _ _ (hs hx) (hs hy) h.1) (hinj _ _ (he hx) (he hy) h.2)
  rw [nodup_map_iff_of_injOn ginj]
  refine ⟨?_, hno, ?_⟩
  · intro e' he'
    obtain ⟨e, hemem, rfl⟩ := mem_map.1 he'
    intro heq
    exact hnd e hemem (hinj _ _ (hs hemem) (he hemem) heq)
  · intro a b hab
    obtain ⟨e, hemem, heq⟩ := mem_map.1 hab
    simp only [Prod.mk.injEq] at heq
    exact mem_map.2 ⟨(e.2, e.1), hm _ _ hemem, by simp only [heq.1, heq.2]⟩

theorem mapTri_comp (g f : Nat → Nat) (t : Tri) : mapTri g (mapTri f t) = mapTri (fun v => g (f v)) t := rfl

end MV.Mesh
