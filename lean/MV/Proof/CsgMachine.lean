import MV.Proof.CsgFin
/-
Operational lemmas about the stack machine: `pushDest` and lists of pushes, the role of a pending
frame, the children loop, and the equations of one loop iteration.
-/
set_option autoImplicit false
namespace MV.Csg

variable {M : Type}

/-- one `dest->push_back(leaf)`; a `List (Push M)` is the chronological log of them -/
abbrev Push (M : Type) := Dest × Leaf M

def applyPushes (s : List (Frame M)) (log : List (Push M)) : List (Frame M) :=
  log.foldl (fun s p => pushDest s p.1 p.2) s

/-- the leaves pushed to `d`, in order -/
def sel (d : Dest) (log : List (Push M)) : List (Leaf M) :=
  (log.filter (fun e => e.1 = d)).map (·.2)

@[simp] theorem sel_nil (d : Dest) : sel d ([] : List (Push M)) = [] := rfl

theorem sel_eq_map {d : Dest} {log : List (Push M)} (h : ∀ e ∈ log, e.1 = d) :
    sel d log = log.map (·.2) := by
  simp only [sel]
  rw [List.filter_eq_self.2 fun e he => decide_eq_true (h e he)]

@[simp] theorem pushDest_length (s : List (Frame M)) (d : Dest) (l : Leaf M) :
    (pushDest s d l).length = s.length := by
  induction s with
  | nil => rfl
  | cons f fs ih =>
    simp only [pushDest]
    split <;> simp [ih]

theorem pushDest_append (top base : List (Frame M)) (d : Dest) (l : Leaf M)
    (h : d.depth < base.length) : pushDest (top ++ base) d l = top ++ pushDest base d l := by
  induction top with
  | nil => rfl
  | cons t ts ih =>
    simp only [List.cons_append, pushDest]
    rw [if_neg (by simp; omega), ih]

@[simp] theorem applyPushes_nil (s : List (Frame M)) : applyPushes s [] = s := rfl

theorem applyPushes_cons (s : List (Frame M)) (e : Push M) (log : List (Push M)) :
    applyPushes s (e :: log) = applyPushes (pushDest s e.1 e.2) log := rfl

/-- the leaves `ls` pushed, in order, through `d` -/
def pushAll (s : List (Frame M)) (d : Dest) (ls : List (Leaf M)) : List (Frame M) :=
  applyPushes s (ls.map fun l => (d, l))

def pushAllO (s : List (Frame M)) (d : Option Dest) (ls : List (Leaf M)) : List (Frame M) :=
  match d with
  | some d => pushAll s d ls
  | none => s

@[simp] theorem pushAll_nil (s : List (Frame M)) (d : Dest) : pushAll s d [] = s :=
  applyPushes_nil s

theorem pushAll_cons (s : List (Frame M)) (d : Dest) (l : Leaf M) (ls : List (Leaf M)) :
    pushAll s d (l :: ls) = pushAll (pushDest s d l) d ls :=
  applyPushes_cons s (d, l) _

theorem pushAll_append (s : List (Frame M)) (d : Dest) (a b : List (Leaf M)) :
    pushAll s d (a ++ b) = pushAll (pushAll s d a) d b := by
  induction a generalizing s with
  | nil => rfl
  | cons x xs ih => rw [List.cons_append, pushAll_cons, pushAll_cons, ih]

@[simp] theorem pushAll_length (s : List (Frame M)) (d : Dest) (ls : List (Leaf M)) :
    (pushAll s d ls).length = s.length := by
  induction ls generalizing s with
  | nil => rfl
  | cons l ls ih => rw [pushAll_cons, ih, pushDest_length]

/-- pushes into the stack below pass the frames on top -/
theorem pushAll_stack (top base : List (Frame M)) (d : Dest) (ls : List (Leaf M))
    (h : d.depth < base.length) : pushAll (top ++ base) d ls = top ++ pushAll base d ls := by
  induction ls generalizing base with
  | nil => rfl
  | cons l ls ih =>
    rw [pushAll_cons, pushAll_cons, pushDest_append _ _ _ _ h, ih _ (by simpa using h)]

/-- pushes through different pointers land in different lists -/
theorem pushDest_comm (s : List (Frame M)) {d d' : Dest} (h : d ≠ d') (l l' : Leaf M) :
    pushDest (pushDest s d l) d' l' = pushDest (pushDest s d' l') d l := by
  induction s with
  | nil => rfl
  | cons f fs ih =>
    simp only [pushDest]
    by_cases h1 : fs.length = d.depth <;> by_cases h2 : fs.length = d'.depth
    · simp only [if_pos h1, if_pos h2, pushDest]
      have hb : d.neg ≠ d'.neg := fun e => h (by
        obtain ⟨a, b⟩ := d; obtain ⟨a', b'⟩ := d'
        simp only at h1 h2 e; rw [e, ← h1, ← h2])
      cases hd : d.neg <;> cases hd' : d'.neg <;> simp_all [Frame.push]
    · simp only [if_pos h1, if_neg h2, pushDest, pushDest_length]
    · simp only [if_neg h1, if_pos h2, pushDest, pushDest_length]
    · simp only [if_neg h1, if_neg h2, pushDest, pushDest_length, ih]

theorem pushAll_comm (s : List (Frame M)) {d d' : Dest} (h : d ≠ d') (a b : List (Leaf M)) :
    pushAll (pushAll s d a) d' b = pushAll (pushAll s d' b) d a := by
  have one : ∀ (b : List (Leaf M)) (s : List (Frame M)) (l : Leaf M),
      pushDest (pushAll s d' b) d l = pushAll (pushDest s d l) d' b := by
    intro b
    induction b with
    | nil => intro s l; rfl
    | cons x xs ih => intro s l; rw [pushAll_cons, pushAll_cons, ih, pushDest_comm _ h]
  induction a generalizing s with
  | nil => rfl
  | cons x xs ih => rw [pushAll_cons, pushAll_cons, ih, one]

/-- pushes through the two pointers into the frame on top -/
theorem pushAll_head (F : Frame M) (rest : List (Frame M)) (P N : List (Leaf M)) :
    pushAll (pushAll (F :: rest) ⟨rest.length, false⟩ P) ⟨rest.length, true⟩ N =
      { F with pos := F.pos ++ P, neg := F.neg ++ N } :: rest := by
  have hp : ∀ (F : Frame M) (P : List (Leaf M)),
      pushAll (F :: rest) ⟨rest.length, false⟩ P = { F with pos := F.pos ++ P } :: rest := by
    intro F P
    induction P generalizing F with
    | nil => simp
    | cons l ls ih =>
      rw [pushAll_cons]
      simp [pushDest, Frame.push, ih]
  have hn : ∀ (F : Frame M) (N : List (Leaf M)),
      pushAll (F :: rest) ⟨rest.length, true⟩ N = { F with neg := F.neg ++ N } :: rest := by
    intro F N
    induction N generalizing F with
    | nil => simp
    | cons l ls ih =>
      rw [pushAll_cons]
      simp [pushDest, Frame.push, ih]
  rw [hp, hn]

/-! ### roles and the children loop l.835-842 -/

/-- how a pending frame reports: to which operation, under which transform, through which pointers -/
structure Role (M : Type) where
  p : Op
  xf : M
  d1 : Dest
  d2 : Option Dest

def Role.frame (r : Role M) (c : Nat) : Frame M :=
  { finalize := false, parentOp := r.p, xf := r.xf, posDest := some r.d1, negDest := r.d2, node := c }

/-- both pointers point into a stack of height `h` and differ; a subtraction has the second -/
structure Role.OK (r : Role M) (h : Nat) : Prop where
  d1 : r.d1.depth < h
  d2 : ∀ b, r.d2 = some b → b.depth < h ∧ b ≠ r.d1
  sub : r.p = .sub → ∃ b, r.d2 = some b

/-- the stack after a frame in role `r` has pushed `P` and `N` -/
def Role.deliver (r : Role M) (s : List (Frame M)) (P N : List (Leaf M)) : List (Frame M) :=
  pushAllO (pushAll s r.d1 P) r.d2 N

def Store.opKids (st : Store M) (cs : List Nat) : List Nat := cs.filter (fun c => !st.isLeaf c)

def Store.leafKids (st : Store M) (cs : List Nat) : List (Leaf M) := cs.filterMap st.leafAt?

theorem Role.deliver_comm (ρ : Role M) {h : Nat} (hρ : ρ.OK h) {b : Dest} (hb : ρ.d2 = some b)
    (s : List (Frame M)) (Y P N : List (Leaf M)) :
    ρ.deliver (pushAll s b Y) P N = ρ.deliver s P (Y ++ N) := by
  simp only [Role.deliver, hb, pushAllO]
  rw [pushAll_comm _ (hρ.d2 b hb).2, ← pushAll_append]

theorem Role.deliver_single (ρ : Role M) (s : List (Frame M)) (l : Leaf M) :
    ρ.deliver s [l] [] = pushDest s ρ.d1 l := by
  simp only [Role.deliver, pushAllO]; cases ρ.d2 <;> rfl

section Loop
variable [Mul M]

/-- after the first child every child of the loop l.835-842 is treated alike -/
theorem addChildren_false (st : Store M) (o : Op) (xf : M) (pd nd : Option Dest) (cs : List Nat)
    (acc : List (Frame M) × Bool) :
    addChildren st o xf pd nd cs false acc =
      cs.foldl (fun acc c => addChild st acc c (if o = .sub then .add else o) xf
        (if o = .sub then nd else pd) none) acc := by
  induction cs generalizing acc with
  | nil => rfl
  | cons c cs ih =>
    simp only [addChildren, List.foldl_cons, ih]
    cases o <;> rfl

theorem addChildren_true (st : Store M) (o : Op) (xf : M) (pd nd : Option Dest) (c : Nat)
    (cs : List Nat) (acc : List (Frame M) × Bool) :
    addChildren st o xf pd nd (c :: cs) true acc =
      addChildren st o xf pd nd cs false
        (addChild st acc c o xf pd (if o = .sub then nd else none)) := by
  simp [addChildren]

/-- children treated alike in role `r`: the leaves are pushed through `r.d1` at once, the op nodes
become frames, the last one on top -/
theorem foldl_addChild (st : Store M) (r : Role M) (cs : List Nat) (top base : List (Frame M))
    (ub : Bool) (hex : ∀ c ∈ cs, st.nodes[c]? ≠ none) (hd : r.d1.depth < base.length) :
    cs.foldl (fun acc c => addChild st acc c r.p r.xf (some r.d1) r.d2) (top ++ base, ub) =
      (((st.opKids cs).map r.frame).reverse ++ top ++
        pushAll base r.d1 ((st.leafKids cs).map (·.transform r.xf)), ub) := by
  induction cs generalizing top base with
  | nil => simp [Store.opKids, Store.leafKids]
  | cons c cs ih =>
    have hex' : ∀ c ∈ cs, st.nodes[c]? ≠ none := fun c' h' => hex c' (by simp [h'])
    simp only [List.foldl_cons]
    cases hn : st.nodes[c]? with
    | none => exact absurd hn (hex c (by simp))
    | some nd =>
      cases nd with
      | leaf lf =>
        have e : addChild st (top ++ base, ub) c r.p r.xf (some r.d1) r.d2 =
            (top ++ pushDest base r.d1 (lf.transform r.xf), ub) := by
          simp only [addChild, hn, pushDest_append _ _ _ _ hd]
        rw [e, ih _ _ hex' (by simpa using hd)]
        simp [Store.opKids, Store.leafKids, Store.isLeaf, Store.leafAt?, hn, pushAll_cons]
      | op i o' m k =>
        have e : addChild st (top ++ base, ub) c r.p r.xf (some r.d1) r.d2 =
            (r.frame c :: top ++ base, ub) := by
          simp only [addChild, hn]; rfl
        rw [e, ih _ _ hex' hd]
        simp [Store.opKids, Store.leafKids, Store.isLeaf, Store.leafAt?, hn]

end Loop

variable [One M] [Mul M]

theorem step_nil {σ : EvalState M} (h : σ.stack = []) : step σ = σ := by
  unfold step; rw [h]

theorem run_nil {σ : EvalState M} (h : σ.stack = []) (f : Nat) : run f σ = σ := by
  cases f <;> simp [run, h]

theorem run_succ (f : Nat) (σ : EvalState M) : run (f + 1) σ = run f (step σ) := by
  simp only [run]
  split
  · rename_i h
    have h' : σ.stack = [] := by simpa using h
    rw [step_nil h', run_nil h']
  · rfl

theorem run_add (a b : Nat) (σ : EvalState M) : run (a + b) σ = run b (run a σ) := by
  induction a generalizing σ with
  | zero => simp [run]
  | succ a ih => rw [Nat.succ_add, run_succ, run_succ, ih]

theorem run_one (σ : EvalState M) : run 1 σ = step σ := by rw [run_succ]; rfl

/-- the C++ `canCollapse` (l.818-822); `bit` is `use_count() <= 2 && impl_.UseCount() == 1` -/
def canCollapse (G : Frame M) (o : Op) (bit : Bool) (implLen : Nat) : Bool :=
  G.posDest.isSome && ((o == G.parentOp && bit) || implLen == 1)

/-- `pushDest` through an optional destination: `none` leaves the stack alone -/
def pushO (rest : List (Frame M)) (d : Option Dest) (l : Leaf M) : List (Frame M) :=
  match d with
  | some d => pushDest rest d l
  | none => rest

section Step
variable {σ : EvalState M} {G : Frame M} {rest : List (Frame M)} {i : Nat} {o : Op} {nxf : M}
  (hs : σ.stack = G :: rest)
include hs

theorem step_visit {cache : Option Nat}
    (hn : σ.st.nodes[G.node]? = some (Node.op i o nxf cache)) (hf : G.finalize = false) :
    step σ =
      (let cc := canCollapse G o (σ.orc.headD false) (σ.st.impls.getD i []).length
       let r := addChildren σ.st o (if cc then G.xf * nxf else 1)
          (if cc then G.posDest else some ⟨rest.length, false⟩)
          (if cc then G.negDest else some ⟨rest.length, true⟩)
          (σ.st.impls.getD i []) true
          (if cc then rest else { G with finalize := true } :: rest, σ.ub)
       { σ with stack := r.1, ub := r.2, orc := σ.orc.tail, used := σ.used + 1 }) := by
  unfold step
  simp only [hs, hn, hf, canCollapse]
  rfl

/-- a frame whose node is not an op node (a dangling id) is dropped with undefined behaviour -/
theorem step_dangling (hn : ∀ i o m c, σ.st.nodes[G.node]? ≠ some (Node.op i o m c)) :
    step σ = { σ with stack := rest, ub := true } := by
  unfold step
  simp only [hs]

theorem step_finalize_cached {c : Nat}
    (hn : σ.st.nodes[G.node]? = some (Node.op i o nxf (some c))) (hf : G.finalize = true) :
    step σ = match σ.st.leafAt? c with
      | some cl => { σ with stack := pushO rest G.posDest (cl.transform G.xf) }
      | none => { σ with stack := rest, ub := true } := by
  unfold step
  simp only [hs, hn, hf, pushO, if_true]
  cases σ.st.leafAt? c with
  | none => rfl
  | some cl => cases G.posDest <;> rfl

theorem step_finalize_compute
    (hn : σ.st.nodes[G.node]? = some (Node.op i o nxf none)) (hf : G.finalize = true) :
    step σ =
      (let r := finalizeResult (⟨.res σ.st.nextRes, 1⟩ : Leaf M) o G.pos G.neg
       { σ with st := finStore σ.st G.node i o nxf r.1 r.2.1,
                evs := σ.evs ++ [{ op := o, pos := G.pos, neg := G.neg, res := r.1,
                                   fresh := r.2.1 }],
                ub := σ.ub || r.2.2,
                stack := pushO rest G.posDest ((r.1.transform nxf).transform G.xf) }) := by
  unfold step
  simp only [hs, hn, hf, pushO, finStore]
  cases G.posDest <;> rfl

end Step

omit [Mul M] in
/-- what the finalize `switch` stores: a mesh that did not exist before (`fr`) or, when nothing
has to be computed, an empty leaf (no positive operand) or the one positive operand unchanged
(and then a Subtract has nothing to subtract); undefined behaviour only without positive
operand -/
theorem finalizeResult_spec (fr : Leaf M) (o : Op) (pos neg : List (Leaf M)) :
    ((finalizeResult fr o pos neg).2.2 = true → pos = []) ∧
    ((finalizeResult fr o pos neg).2.1 = true → (finalizeResult fr o pos neg).1 = fr) ∧
    ((finalizeResult fr o pos neg).2.1 = false →
      ((finalizeResult fr o pos neg).1 = ⟨.empty, 1⟩ ∧ pos = []) ∨
      (pos = [(finalizeResult fr o pos neg).1] ∧ (o = .sub → neg = []))) := by
  cases o with
  | add => rcases pos with _ | ⟨x, _ | ⟨y, ys⟩⟩ <;> simp [finalizeResult, batchUnion]
  | int => rcases pos with _ | ⟨x, _ | ⟨y, ys⟩⟩ <;> simp [finalizeResult]
  | sub =>
    rcases pos with _ | ⟨x, _ | ⟨y, ys⟩⟩ <;> cases neg <;> simp [finalizeResult, batchUnion]

end MV.Csg
