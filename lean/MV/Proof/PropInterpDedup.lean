import MV.Model.PropInterp
import MV.Proof.ListArray
import MV.Proof.AssocList
/-!
Lemmas for property C07 (interpolation half), part 3: the de-duplication loop of
`CreateProperties` (`cornerStep` / `runCorners` of `MV/Model/PropInterp.lean`), for EVERY
`Scalar` (in particular for `Float`): the two tables together behave as one finite map from keys
to property-vertex indices, every key is entered once, at its first corner, with that corner's row.
-/
namespace MV.PropInterp
section Dedup
variable {α : Type} [Scalar α]

/-- the table slot a key addresses: `propMissIdx[key.x][key.z]` or the entry `(x, z, w)` of bin
`propIdx[key.y]` -/
def St.find (idMiss : Nat) (st : St α) (k : Key) : Option Nat :=
  if k.isMiss idMiss then st.miss.lookup (k.x, k.z.toNat) else st.bins.lookup (k.y, k.x, k.z, k.w)

/-- keys the loop can produce: a key that goes through `propMissIdx` has `w = -1`
(so `(x, z)` determines it) -/
def Key.WF (idMiss : Nat) (k : Key) : Prop := k.isMiss idMiss = true → k.w = -1

theorem cornerKey_x (P Q : Src α) (idMiss : Nat) (c : Corner α) : (cornerKey P Q idMiss c).x = c.pq := by
  unfold cornerKey
  by_cases hp : (srcOf P Q c.pq).numProp > 0
  · simp only [hp, if_true]
    cases classify c.uvw <;> rfl
  · simp only [hp, if_false]

theorem cornerKey_wf (P Q : Src α) (idMiss : Nat) (c : Corner α) (hv : c.vert ≠ idMiss) :
    (cornerKey P Q idMiss c).WF idMiss := by
  intro hm
  unfold cornerKey at hm ⊢
  by_cases hp : (srcOf P Q c.pq).numProp > 0
  · simp only [hp, if_true] at hm ⊢
    cases hc : classify c.uvw with
    | retained j => simp only
    | edge j =>
      rw [hc] at hm
      simp only [Key.isMiss, Bool.and_eq_true, beq_iff_eq] at hm
      exact absurd hm.1 hv
    | interior => simp only
  · simp only [hp, if_false]

theorem lookup_snoc {κ : Type} [BEq κ] [LawfulBEq κ] [DecidableEq κ] (l : List (κ × Nat)) (a k : κ) (b : Nat) :
    List.lookup k (l ++ [(a, b)]) = (List.lookup k l).or (if k = a then some b else none) := by
  rw [List.lookup_append, lookup_cons_eq]; rfl

theorem miss_key_inj {idMiss : Nat} {k k' : Key} (hk : k.isMiss idMiss = true)
    (hk' : k'.isMiss idMiss = true) (wk : k.WF idMiss) (wk' : k'.WF idMiss)
    (h : (k.x, k.z.toNat) = (k'.x, k'.z.toNat)) : k = k' := by
  have w1 := wk hk
  have w2 := wk' hk'
  simp only [Key.isMiss, Bool.and_eq_true, beq_iff_eq, decide_eq_true_eq] at hk hk'
  obtain ⟨x, y, z, w⟩ := k
  obtain ⟨x', y', z', w'⟩ := k'
  simp only [Prod.mk.injEq] at h
  simp only at hk hk' w1 w2
  simp only [Key.mk.injEq]
  refine ⟨h.1, by omega, by omega, by omega⟩

/-- entering `key ↦ idx` into the table it belongs to -/
def St.insert (idMiss : Nat) (st : St α) (key : Key) (idx : Nat) : St α :=
  if key.isMiss idMiss then { st with miss := st.miss ++ [((key.x, key.z.toNat), idx)] }
  else { st with bins := st.bins ++ [((key.y, key.x, key.z, key.w), idx)] }

omit [Scalar α] in
theorem find_insert (idMiss : Nat) (st : St α) (key k : Key) (idx : Nat)
    (wkey : key.WF idMiss) (wk : k.WF idMiss) (hnone : st.find idMiss key = none) :
    (st.insert idMiss key idx).find idMiss k = if k = key then some idx else st.find idMiss k := by
  unfold St.insert St.find at *
  by_cases hm : key.isMiss idMiss = true
  · simp only [hm, if_true] at hnone ⊢
    by_cases hk : k.isMiss idMiss = true
    · simp only [hk, if_true]
      rw [lookup_snoc]
      by_cases he : k = key
      · subst he; simp [hnone]
      · have : (k.x, k.z.toNat) ≠ (key.x, key.z.toNat) := fun h =>
          he (miss_key_inj hk hm wk wkey h)
        simp [this, he]
    · have hne : k ≠ key := fun h => hk (h ▸ hm)
      simp [hk, hne]
  · simp only [hm, Bool.false_eq_true, if_false] at hnone ⊢
    by_cases hk : k.isMiss idMiss = true
    · have hne : k ≠ key := fun h => hm (h ▸ hk)
      simp [hk, hne]
    · simp only [hk, Bool.false_eq_true, if_false]
      rw [lookup_snoc]
      by_cases he : k = key
      · subst he; simp [hnone]
      · have : (k.y, k.x, k.z, k.w) ≠ (key.y, key.x, key.z, key.w) := by
          intro h
          apply he
          obtain ⟨x, y, z, w⟩ := k
          obtain ⟨x', y', z', w'⟩ := key
          simp only [Prod.mk.injEq] at h
          simp only [Key.mk.injEq]
          exact ⟨h.2.1, h.1, h.2.2.1, h.2.2.2⟩
        simp [this, he]

theorem cornerStep_found (P Q : Src α) (invertQ : Bool) (numProp idMiss : Nat) (st : St α)
    (c : Corner α) (e : Nat) (h : st.find idMiss (cornerKey P Q idMiss c) = some e) :
    ∃ o, cornerStep P Q invertQ numProp idMiss st c =
      { st with out := st.out.push e, oob := o } := by
  unfold cornerStep
  unfold St.find at h
  by_cases hm : (cornerKey P Q idMiss c).isMiss idMiss = true
  · simp only [hm, if_true] at h ⊢
    simp only [h]
    exact ⟨_, rfl⟩
  · simp only [hm, Bool.false_eq_true, if_false] at h ⊢
    simp only [h]
    exact ⟨_, rfl⟩

theorem cornerStep_new (P Q : Src α) (invertQ : Bool) (numProp idMiss : Nat) (st : St α)
    (c : Corner α) (h : st.find idMiss (cornerKey P Q idMiss c) = none) :
    ∃ o, cornerStep P Q invertQ numProp idMiss st c =
      { st.insert idMiss (cornerKey P Q idMiss c) st.rows.size with
        out := st.out.push st.rows.size,
        rows := st.rows.push (interpRow P Q invertQ numProp c), oob := o } := by
  unfold cornerStep St.insert
  unfold St.find at h
  by_cases hm : (cornerKey P Q idMiss c).isMiss idMiss = true
  · simp only [hm, if_true] at h ⊢
    simp only [h]
    exact ⟨_, rfl⟩
  · simp only [hm, Bool.false_eq_true, if_false] at h ⊢
    simp only [h]
    exact ⟨_, rfl⟩

/-- the table entry `k ↦ i` was made by the FIRST corner of `cs` with key `k`, with that corner's row -/
def FirstAt (P Q : Src α) (invertQ : Bool) (numProp idMiss : Nat) (st : St α) (cs : List (Corner α))
    (k : Key) (i : Nat) : Prop :=
  ∃ (m : Nat) (c : Corner α), cs[m]? = some c ∧ cornerKey P Q idMiss c = k ∧
    (∀ (m' : Nat) (c' : Corner α), m' < m → cs[m']? = some c' → cornerKey P Q idMiss c' ≠ k) ∧
    st.rows[i]? = some (interpRow P Q invertQ numProp c) ∧ st.out[m]? = some i

/-- the loop invariant after the corners `cs` -/
structure Inv (P Q : Src α) (invertQ : Bool) (numProp idMiss : Nat) (st : St α)
    (cs : List (Corner α)) : Prop where
  size : st.out.size = cs.length
  /-- every processed corner's key is in the table, under the index the corner got -/
  seen : ∀ (n : Nat) (c : Corner α), cs[n]? = some c →
    ∃ i, st.out[n]? = some i ∧ st.find idMiss (cornerKey P Q idMiss c) = some i
  first : ∀ k i, k.WF idMiss → st.find idMiss k = some i → FirstAt P Q invertQ numProp idMiss st cs k i
  /-- distinct keys have distinct indices -/
  inj : ∀ k k' i, k.WF idMiss → k'.WF idMiss → st.find idMiss k = some i →
    st.find idMiss k' = some i → k = k'

theorem inv_init (P Q : Src α) (invertQ : Bool) (numProp idMiss : Nat) :
    Inv P Q invertQ numProp idMiss (St.init : St α) [] := by
  refine ⟨rfl, ?_, ?_, ?_⟩
  · intro n c h; simp at h
  · intro k i _ h
    simp [St.find, St.init] at h
  · intro k k' i _ _ h
    simp [St.find, St.init] at h

theorem push_getElem?_lt {β : Type} (a : Array β) (x : β) (i : Nat) (h : i < a.size) :
    (a.push x)[i]? = a[i]? := by
  rw [Array.getElem?_push, if_neg (Nat.ne_of_lt h)]

/-- the step of the invariant, for any new state that pushes the index `e` for the corner `c`, keeps
the old rows, and has `key c ↦ e` as its only new table entry; `hcase`: the key was there under `e`,
or it is new, `e` is the next row and that row is the corner's own -/
theorem inv_extend {P Q : Src α} {invertQ : Bool} {numProp idMiss : Nat} {st st' : St α}
    {cs : List (Corner α)} {c : Corner α} {e : Nat} (h : Inv P Q invertQ numProp idMiss st cs)
    (wkey : (cornerKey P Q idMiss c).WF idMiss) (hwf : ∀ c' ∈ cs, c'.vert ≠ idMiss)
    (hout : st'.out = st.out.push e)
    (hrows : ∀ (i : Nat) (row : List α), st.rows[i]? = some row → st'.rows[i]? = some row)
    (hfind : ∀ k, k.WF idMiss → st'.find idMiss k =
      if k = cornerKey P Q idMiss c then some e else st.find idMiss k)
    (hcase : st.find idMiss (cornerKey P Q idMiss c) = some e ∨
      (st.find idMiss (cornerKey P Q idMiss c) = none ∧ e = st.rows.size ∧
        st'.rows[e]? = some (interpRow P Q invertQ numProp c))) :
    Inv P Q invertQ numProp idMiss st' (cs ++ [c]) := by
  -- an old entry keeps its first corner, its row and its place in `out`
  have lift : ∀ k i, k.WF idMiss → st.find idMiss k = some i →
      FirstAt P Q invertQ numProp idMiss st' (cs ++ [c]) k i := by
    intro k i wk hk
    obtain ⟨m, c', hm, hkey, hfirst, hrow, hout'⟩ := h.first k i wk hk
    have hmlt : m < cs.length := (List.getElem?_eq_some_iff.1 hm).1
    refine ⟨m, c', by rw [List.getElem?_append_left hmlt]; exact hm, hkey, ?_, hrows _ _ hrow, ?_⟩
    · intro m' c'' hlt hc''
      rw [List.getElem?_append_left (by omega)] at hc''
      exact hfirst m' c'' hlt hc''
    · rw [hout, push_getElem?_lt _ _ _ (by rw [h.size]; exact hmlt)]; exact hout'
  have hK : ∀ i, st.find idMiss (cornerKey P Q idMiss c) = some i → i = e := by
    intro i hi
    rcases hcase with hf | ⟨hf, _⟩ <;> rw [hf] at hi
    · exact (Option.some.inj hi).symm
    · cases hi
  have hI : ∀ k, k.WF idMiss → st.find idMiss k = some e → k = cornerKey P Q idMiss c := by
    intro k wk hk
    rcases hcase with hf | ⟨_, he, _⟩
    · exact h.inj k _ e wk wkey hk hf
    · obtain ⟨_, _, _, _, _, hrow, _⟩ := h.first k e wk hk
      have := (Array.getElem?_eq_some_iff.1 hrow).1
      omega
  refine ⟨by rw [hout, Array.size_push, h.size, List.length_append]; rfl, ?_, ?_, ?_⟩
  · intro n c' hn
    rcases (MV.getElem?_snoc _ _ _ _).mp hn with hc | ⟨rfl, rfl⟩
    · obtain ⟨i, hi, hfi⟩ := h.seen n c' hc
      refine ⟨i, ?_, ?_⟩
      · rw [hout, push_getElem?_lt _ _ _ (by rw [h.size]; exact (List.getElem?_eq_some_iff.1 hc).1)]
        exact hi
      · rw [hfind _ (cornerKey_wf P Q idMiss c' (hwf c' (List.mem_of_getElem? hc)))]
        split
        · rename_i he; rw [he] at hfi; rw [hK i hfi]
        · exact hfi
    · exact ⟨e, by rw [hout, ← h.size, Array.getElem?_push_size], by rw [hfind _ wkey, if_pos rfl]⟩
  · intro k i wk hk
    rw [hfind k wk] at hk
    split at hk
    · rename_i he
      cases hk
      subst he
      rcases hcase with hf | ⟨hf, _, hrow⟩
      · exact lift _ e wkey hf
      · refine ⟨cs.length, c, by simp, rfl, ?_, hrow, by rw [hout, ← h.size, Array.getElem?_push_size]⟩
        intro m' c'' hlt hc'' hk'
        rw [List.getElem?_append_left hlt] at hc''
        obtain ⟨i, _, hfi⟩ := h.seen m' c'' hc''
        rw [hk', hf] at hfi; cases hfi
    · exact lift k i wk hk
  · intro k k' i wk wk' h1 h2
    rw [hfind k wk] at h1
    rw [hfind k' wk'] at h2
    split at h1 <;> split at h2
    · rename_i a b; rw [a, b]
    · rename_i a b; cases h1; exact absurd (hI k' wk' h2) b
    · rename_i a b; cases h2; exact absurd (hI k wk h1) a
    · exact h.inj k k' i wk wk' h1 h2

theorem inv_step (P Q : Src α) (invertQ : Bool) (numProp idMiss : Nat) (st : St α)
    (cs : List (Corner α)) (c : Corner α) (hv : c.vert ≠ idMiss)
    (hwf : ∀ c' ∈ cs, c'.vert ≠ idMiss)
    (h : Inv P Q invertQ numProp idMiss st cs) :
    Inv P Q invertQ numProp idMiss (cornerStep P Q invertQ numProp idMiss st c) (cs ++ [c]) := by
  have wkey := cornerKey_wf P Q idMiss c hv
  cases hf : st.find idMiss (cornerKey P Q idMiss c) with
  | some e =>
    obtain ⟨o, ho⟩ := cornerStep_found P Q invertQ numProp idMiss st c e hf
    rw [ho]
    refine inv_extend h wkey hwf rfl (fun _ _ hr => hr) (fun k _ => ?_) (.inl hf)
    show st.find idMiss k = _
    split
    · rename_i he; rw [he, hf]
    · rfl
  | none =>
    obtain ⟨o, ho⟩ := cornerStep_new P Q invertQ numProp idMiss st c hf
    rw [ho]
    refine inv_extend h wkey hwf rfl
      (fun i row hr => by
        show (st.rows.push _)[i]? = _
        rw [push_getElem?_lt _ _ _ (Array.getElem?_eq_some_iff.1 hr).1]; exact hr)
      (fun k wk => ?_) (.inr ⟨hf, rfl, Array.getElem?_push_size⟩)
    rw [← find_insert idMiss st (cornerKey P Q idMiss c) k st.rows.size wkey wk hf]
    unfold St.find St.insert
    split <;> rfl

theorem inv_run (P Q : Src α) (invertQ : Bool) (idMiss : Nat) (cs : List (Corner α))
    (hv : ∀ c ∈ cs, c.vert ≠ idMiss) :
    Inv P Q invertQ (max P.numProp Q.numProp) idMiss (runCorners P Q invertQ idMiss cs) cs := by
  have := List.foldl_prefix_inv (cornerStep P Q invertQ (max P.numProp Q.numProp) idMiss)
    (fun pre st => (∀ c ∈ pre, c.vert ≠ idMiss) ∧ Inv P Q invertQ (max P.numProp Q.numProp) idMiss st pre)
    cs [] St.init ⟨by simp, inv_init P Q invertQ _ idMiss⟩
    (fun pre st c hc h => ⟨by simpa [or_imp, forall_and] using ⟨h.1, hv c hc⟩,
      inv_step P Q invertQ _ idMiss st pre c (hv c hc) h.1 h.2⟩)
  simpa [runCorners] using this.2

theorem oob_mono_step (P Q : Src α) (invertQ : Bool) (numProp idMiss : Nat) (st : St α)
    (c : Corner α) (h : st.oob = false)
    (hk : let key := cornerKey P Q idMiss c
      if key.isMiss idMiss then key.z.toNat < missSize P Q key.x else key.y ≤ idMiss) :
    (cornerStep P Q invertQ numProp idMiss st c).oob = false := by
  unfold cornerStep
  simp only at hk
  by_cases hm : (cornerKey P Q idMiss c).isMiss idMiss = true
  · simp only [hm, if_true] at hk ⊢
    have : decide (missSize P Q (cornerKey P Q idMiss c).x ≤ (cornerKey P Q idMiss c).z.toNat) = false := by
      simp; omega
    split <;> simp [h, this]
  · simp only [hm, Bool.false_eq_true, if_false] at hk ⊢
    have : decide (idMiss < (cornerKey P Q idMiss c).y) = false := by simp; omega
    split <;> simp [h, this]

end Dedup
end MV.PropInterp
