import MV.Proof.EdgeOpOrbit
import MV.Proof.EdgeOpLocal
/-!
`CollapseEdge` (edge_op.cpp:846-981), the straight-line case: when the link condition holds the
"Orbit startVert" loop never calls `FormLoop`, and the collapse keeps the mesh manifold
(`collapseEdge_straight`; `collapseEdge_straight_core` is the same up to the final `RemoveIfFolded`).

`orbitEnd_eval`, `findEdge_none`, `collapseLoop_straight` evaluate the two orbit loops along a `Trail`;
`collapse_prefix` and `collapse_tri0` compose them with the two `CollapseTri`s and `UpdateVert` and
describe the state reached pointwise; `final_pairInv` shows such a state manifold.  The heart is
`good_other`: the relabelling of the fan of `startVert` is consistent across the pairing
(`good_relabel`, `fan_rot`).  The valences of `startVert` / `endVert` being 2 or more only
decide which of the four outer partners survive (`collapseEdge_straight_core`).
-/
namespace MV.EdgeOp
open MV.Halfedge (HErr rd wr nextHalfedge rd_ok wr_ok)

/-- a minimal walk does not return to its origin before reaching its target -/
theorem walk_no_period {s : HE} {c0 k e : Nat} (hk : s.walk c0 k = e)
    (hkmin : ∀ i, i < k → s.walk c0 i ≠ e) (i : Nat) (hi : i < k) (hper : s.walk c0 (i + 1) = c0) :
    False := by
  have h1 := walk_add s c0 (i + 1) (k - (i + 1))
  rw [hper] at h1
  have e1 : (i + 1) + (k - (i + 1)) = k := Nat.add_sub_cancel' hi
  rw [e1, hk] at h1
  exact hkmin (k - (i + 1)) (Nat.sub_lt (Nat.lt_of_le_of_lt (Nat.zero_le i) hi) (Nat.succ_pos i)) h1.symm

/-! ## states that differ in `prop` only -/

/-- same `start`, `paired`, counters and `prop` size -/
def Sim (t s : HE) : Prop :=
  t.start = s.start ∧ t.paired = s.paired ∧ t.prop.size = s.prop.size ∧ t.nVert = s.nVert ∧
    t.nPropVert = s.nPropVert

theorem Sim.refl (s : HE) : Sim s s := ⟨rfl, rfl, rfl, rfl, rfl⟩
theorem Sim.trans {a b c : HE} (h1 : Sim a b) (h2 : Sim b c) : Sim a c :=
  ⟨h1.1.trans h2.1, h1.2.1.trans h2.2.1, h1.2.2.1.trans h2.2.2.1, h1.2.2.2.1.trans h2.2.2.2.1,
    h1.2.2.2.2.trans h2.2.2.2.2⟩
theorem Sim.S {t s : HE} (h : Sim t s) (e : Nat) : t.S e = s.S e := by unfold HE.S; rw [h.1]
theorem Sim.P {t s : HE} (h : Sim t s) (e : Nat) : t.P e = s.P e := by unfold HE.P; rw [h.2.1]
theorem Sim.Pn {t s : HE} (h : Sim t s) (e : Nat) : t.Pn e = s.Pn e := by unfold HE.Pn; rw [h.2.1]
theorem Sim.size {t s : HE} (h : Sim t s) : t.start.size = s.start.size := by rw [h.1]
theorem Sim.WF {t s : HE} (h : Sim t s) (hw : WF s) : WF t := by
  unfold MV.EdgeOp.WF at *; rw [h.1, h.2.1, h.2.2.1]; exact hw
theorem Sim.setR (s : HE) (i : Nat) (v : Int) : Sim (s.setR i v) s :=
  ⟨rfl, rfl, by simp, rfl, rfl⟩

/-! ## the `for (i < edges.size())` search finds nothing -/

theorem findEdge_none (s : HE) (vert : Int) (edges : Array Int) :
    ∀ n i, (∀ idx, i ≤ idx → idx < i + n → ∃ e : Nat, edges[idx]? = some (e : Int) ∧
        nx e < s.start.size ∧ vert ≠ s.S (nx e)) →
      findEdge s vert edges n i = .ok none := by
  intro n
  induction n with
  | zero => intro i _; rfl
  | succ n ih =>
    intro i hyp
    obtain ⟨e, h1, h2, h3⟩ := hyp i (Nat.le_refl _) (Nat.lt_add_of_pos_right (Nat.succ_pos n))
    unfold findEdge
    rw [rd_ok h1]
    simp only [bind, Except.bind]
    rw [getEnd_ok s e h2]
    simp only [if_neg h3]
    exact ih (i + 1) (fun idx a b => hyp idx (Nat.le_of_succ_le a) (Nat.add_right_comm i 1 n ▸ b))

/-! ## "Orbit endVert" -/

/-- the list pushed by the "Orbit endVert" loop along a trail: `nx (w 0), …, nx (w (m-1))` -/
def orbL (w : Nat → Nat) (m : Nat) : List Int := (List.range m).map fun j => ((nx (w j) : Nat) : Int)

theorem orbitEnd_eval (s : HE) (stop : Int) (hw : WF s) :
    ∀ m f w acc, m < f → Trail s w m stop →
      orbitEnd s stop f (w 0 : Int) acc = .ok (acc ++ (orbL w m).toArray) := by
  intro m
  induction m with
  | zero =>
    intro f w acc hf T
    rcases f with _ | f
    · exact absurd hf (Nat.lt_irrefl 0)
    rw [orbitEnd, if_pos T.hit]
    simp [orbL, pure, Except.pure]
  | succ m ih =>
    intro f w acc hf T
    rcases f with _ | f
    · exact absurd hf (Nat.not_lt_zero _)
    have r1 : nx (w 0) < s.paired.size := hw.1 ▸ nx_lt hw.2.2 (T.lt 0 (Nat.zero_le _))
    simp only [orbitEnd, if_neg (T.min 0 (Nat.succ_pos m)), nextI_cast, getPair_ok, ok_bind, r1,
      T.step 0 (Nat.succ_pos m)]
    refine (ih f (fun i => w (i + 1)) _ (Nat.lt_of_succ_lt_succ hf) T.tail).trans ?_
    congr 1
    apply Array.toList_inj.1
    simp [orbL, List.range_succ_eq_map, List.map_map]

/-! ## "Orbit startVert" when no `FormLoop` happens -/

theorem propStep_ok (hasProp : Bool) (sp0 ep0 sp1 ep1 : Int) (t : HE) (n : Nat)
    (hn : n < t.prop.size) :
    ∃ t1, (if hasProp then (do
                let p ← t.getProp (n : Int)
                if p = sp0 then t.setProp (n : Int) ep0
                else if p = sp1 then t.setProp (n : Int) ep1
                else pure t)
              else pure t : M HE) = .ok t1 ∧ Sim t1 t := by
  cases hasProp
  · exact ⟨t, rfl, Sim.refl t⟩
  · simp only [if_true]
    rw [getProp_ok t n hn]
    simp only [bind, Except.bind]
    by_cases h0 : t.R n = sp0
    · rw [if_pos h0, setProp_ok t n ep0 hn]; exact ⟨_, rfl, Sim.setR _ _ _⟩
    · rw [if_neg h0]
      by_cases h1 : t.R n = sp1
      · rw [if_pos h1, setProp_ok t n ep1 hn]; exact ⟨_, rfl, Sim.setR _ _ _⟩
      · rw [if_neg h1]; exact ⟨t, rfl, Sim.refl t⟩

theorem ite_bind_same {α β : Type} (c : Prop) [Decidable c] (a b : M α) (k : α → M β) :
    (if c then a >>= k else b >>= k) = (if c then a else b) >>= k := by
  split <;> rfl

theorem collapseLoop_straight (hasProp : Bool) (sp0 ep0 sp1 ep1 stop st : Int) (edges : Array Int) :
    ∀ k f w t, k < f → WF t → Trail t w k stop →
      (∀ i, i < k → ∀ idx, idx < edges.size → ∃ e : Nat, edges[idx]? = some (e : Int) ∧
        nx e < t.start.size ∧ t.S (nx (nx (w i))) ≠ t.S (nx e)) →
      ∃ t', collapseLoop hasProp sp0 ep0 sp1 ep1 stop f (w 0 : Int) st edges t = .ok (t', st, edges) ∧
        Sim t' t := by
  intro k
  induction k with
  | zero =>
    intro f w t hf _ T _
    rcases f with _ | f
    · exact absurd hf (Nat.lt_irrefl 0)
    exact ⟨t, by rw [collapseLoop, if_pos T.hit]; rfl, Sim.refl t⟩
  | succ k ih =>
    intro f w t hf hw T hed
    rcases f with _ | f
    · exact absurd hf (Nat.not_lt_zero _)
    have hn : nx (w 0) < t.start.size := nx_lt hw.2.2 (T.lt 0 (Nat.zero_le _))
    have hnn : nx (nx (w 0)) < t.start.size := nx_lt hw.2.2 hn
    obtain ⟨t1, e1, hs1⟩ := propStep_ok hasProp sp0 ep0 sp1 ep1 t (nx (w 0))
      (by rw [hw.2.1, ← hw.1]; exact hn)
    have hfe : findEdge t1 (t1.S (nx (nx (w 0)))) edges edges.size 0 = .ok none :=
      findEdge_none t1 _ edges edges.size 0 (fun idx _ hi => by
        obtain ⟨e, a, b, c'⟩ := hed 0 (Nat.succ_pos k) idx (by simpa using hi)
        exact ⟨e, a, by rw [hs1.size]; exact b, by rw [hs1.S, hs1.S]; exact c'⟩)
    have hP : t1.P (nx (w 0)) = ((w 1 : Nat) : Int) := (hs1.P _).trans (T.step 0 (Nat.succ_pos k))
    obtain ⟨t', e2, hs2⟩ := ih f (fun i => w (i + 1)) t1 (Nat.lt_of_succ_lt_succ hf) (hs1.WF hw)
      (T.tail.congr hs1.size (fun _ _ => hs1.P _))
      (fun i hi idx hidx => by
        obtain ⟨e, a, b, c'⟩ := hed (i + 1) (Nat.succ_lt_succ hi) idx hidx
        exact ⟨e, a, by rw [hs1.size]; exact b, by rw [hs1.S, hs1.S]; exact c'⟩)
    refine ⟨t', ?_, hs2.trans hs1⟩
    simp only [collapseLoop, if_neg (T.min 0 (Nat.succ_pos k)), nextI_cast, ite_bind_same, e1,
      ok_bind, getEnd_ok, getPair_ok, hfe, hP, hs1.size, hs1.2.1, ← hw.1, hn, hnn]
    exact e2

/-! ## the configuration of a straight-line collapse -/

/-- hypotheses of the straight-line collapse.  `pair = Pn edge`, tri0 = `edge, nx edge, nx (nx edge)`,
tri1 = `pair, nx pair, nx (nx pair)`; the fan of `startVert` is walked from `c0 = Pn (nx pair)`, the
fan of `endVert` from `d0 = Pn (nx edge)`. -/
structure Cfg (s : HE) (edge k m : Nat) : Prop where
  h : PairInv s
  he : edge < s.start.size
  hl : s.P edge ≠ -1
  hk : s.walk (s.Pn (nx (s.Pn edge))) k = nx (nx edge)
  hkmin : ∀ i, i < k → s.walk (s.Pn (nx (s.Pn edge))) i ≠ nx (nx edge)
  hm : s.walk (s.Pn (nx edge)) m = nx (nx (s.Pn edge))
  hmmin : ∀ j, j < m → s.walk (s.Pn (nx edge)) j ≠ nx (nx (s.Pn edge))
  hlink : ∀ i, i < k → ∀ j, j < m →
    s.S (nx (nx (s.walk (s.Pn (nx (s.Pn edge))) i))) ≠ s.S (nx (nx (s.walk (s.Pn (nx edge)) j)))
  hdup : ∀ i, i < k → s.S (nx (nx (s.walk (s.Pn (nx (s.Pn edge))) i))) ≠ s.S (nx edge)

/-- position facts: tri0 ≠ tri1, the four partner halfedges `c0 = Pn (nx pair)`, `r = Pn (nx (nx pair))`,
`u = Pn (nx edge)`, `v = Pn (nx (nx edge))` lie outside both triangles and are distinct -/
structure Dist (s : HE) (edge k m : Nat) : Prop where
  t01 : s.Pn edge / 3 ≠ edge / 3
  c0t0 : 0 < k → s.Pn (nx (s.Pn edge)) / 3 ≠ edge / 3
  c0t1 : s.Pn (nx (s.Pn edge)) / 3 ≠ s.Pn edge / 3
  rt0 : 0 < m → s.Pn (nx (nx (s.Pn edge))) / 3 ≠ edge / 3
  rt1 : s.Pn (nx (nx (s.Pn edge))) / 3 ≠ s.Pn edge / 3
  ut0 : s.Pn (nx edge) / 3 ≠ edge / 3
  ut1 : 0 < m → s.Pn (nx edge) / 3 ≠ s.Pn edge / 3
  vt0 : s.Pn (nx (nx edge)) / 3 ≠ edge / 3
  vt1 : 0 < k → s.Pn (nx (nx edge)) / 3 ≠ s.Pn edge / 3
  c0r : s.Pn (nx (s.Pn edge)) ≠ s.Pn (nx (nx (s.Pn edge)))
  c0u : s.Pn (nx (s.Pn edge)) ≠ s.Pn (nx edge)
  c0v : s.Pn (nx (s.Pn edge)) ≠ s.Pn (nx (nx edge))
  ru : s.Pn (nx (nx (s.Pn edge))) ≠ s.Pn (nx edge)
  rv : s.Pn (nx (nx (s.Pn edge))) ≠ s.Pn (nx (nx edge))
  uv : s.Pn (nx edge) ≠ s.Pn (nx (nx edge))

theorem dist_of {s : HE} {edge k m : Nat} (C : Cfg s edge k m) : Dist s edge k m := by
  have G := geo_of C.h C.he C.hl
  obtain ⟨ab, bw0, w0a, aw1, w1b, _, _, _, _, spr, sq1, sc0, snc0, sr, snr, su, snu, sv, snv⟩ :=
    lab_of G
  have n1 := congrArg s.S (nx_nx_nx edge)
  have n2 := congrArg s.S (nx_nx_nx (s.Pn edge))
  -- a halfedge lying in a triangle is one of its three halfedges; each is excluded by a label
  -- (by the minimality of `k` / `m` where the two apexes may coincide)
  exact {
    t01 := notin_tri (fun q => ab ((lab_eq q).1.symm.trans spr))
      (fun q => w0a ((lab_eq q).2.symm.trans sq1)) (fun q => bw0 (spr.symm.trans (lab_eq q).1))
    c0t0 := fun kpos => notin_tri (fun q => aw1 ((lab_eq q).1.symm.trans sc0))
      (fun q => w1b (sc0.symm.trans (lab_eq q).1)) (C.hkmin 0 kpos)
    c0t1 := notin_tri (fun q => w1b (sc0.symm.trans ((lab_eq q).1.trans spr)))
      (fun q => aw1 (sq1.symm.trans ((lab_eq q).1.symm.trans sc0)))
      (fun q => ab (snc0.symm.trans ((lab_eq q).2.trans (n2.trans spr))))
    rt0 := fun mpos => notin_tri (fun q => ab ((lab_eq q).1.symm.trans sr))
      (fun q => C.hmmin 0 mpos ((congrArg s.Pn q).symm.trans G.lq2.pn))
      (fun q => bw0 (sr.symm.trans (lab_eq q).1))
    rt1 := notin_tri (fun q => aw1 (sq1.symm.trans ((lab_eq q).2.symm.trans snr)))
      (fun q => ab (sq1.symm.trans ((lab_eq q).1.symm.trans sr)))
      (fun q => w1b ((lab_eq q).1.symm.trans sr))
    ut0 := notin_tri (fun q => w0a (su.symm.trans (lab_eq q).1))
      (fun q => bw0 ((lab_eq q).1.symm.trans su))
      (fun q => ab (((lab_eq q).2.trans n1).symm.trans snu))
    ut1 := fun mpos => notin_tri (fun q => bw0 (spr.symm.trans ((lab_eq q).1.symm.trans su)))
      (fun q => w0a (su.symm.trans ((lab_eq q).1.trans sq1))) (C.hmmin 0 mpos)
    vt0 := notin_tri (fun q => bw0 ((lab_eq q).2.symm.trans snv))
      (fun q => ab (sv.symm.trans (lab_eq q).1)) (fun q => w0a ((lab_eq q).1.symm.trans sv))
    vt1 := fun kpos => notin_tri (fun q => ab (sv.symm.trans ((lab_eq q).1.trans spr)))
      (fun q => C.hkmin 0 kpos ((congrArg s.Pn q).symm.trans G.le2.pn))
      (fun q => aw1 (sv.symm.trans (lab_eq q).1))
    c0r := fun q => w1b (sc0.symm.trans ((lab_eq q).1.trans sr))
    c0u := fun q => ab (snc0.symm.trans ((lab_eq q).2.trans snu))
    c0v := fun q => aw1 (sv.symm.trans ((lab_eq q).1.symm.trans sc0))
    ru := fun q => bw0 (sr.symm.trans ((lab_eq q).1.trans su))
    rv := fun q => ab (sv.symm.trans ((lab_eq q).1.symm.trans sr))
    uv := fun q => w0a (su.symm.trans ((lab_eq q).1.trans sv)) }

section fans
variable {s : HE} {edge k m : Nat}

/-- the fan of `startVert`: every walk point is live and ends at `startVert` -/
theorem Cfg.cw (C : Cfg s edge k m) (i : Nat) :
    s.walk (s.Pn (nx (s.Pn edge))) i < s.start.size ∧ s.P (s.walk (s.Pn (nx (s.Pn edge))) i) ≠ -1 ∧
      0 ≤ s.P (nx (s.walk (s.Pn (nx (s.Pn edge))) i)) ∧
      s.S (nx (s.walk (s.Pn (nx (s.Pn edge))) i)) = s.S edge := by
  have G := geo_of C.h C.he C.hl
  have := walk_live s _ C.h G.lc0.lt G.lc0.pl i
  rw [(lab_of G).snc0] at this; exact this

/-- the fan of `endVert` -/
theorem Cfg.dw (C : Cfg s edge k m) (j : Nat) :
    s.walk (s.Pn (nx edge)) j < s.start.size ∧ s.P (s.walk (s.Pn (nx edge)) j) ≠ -1 ∧
      0 ≤ s.P (nx (s.walk (s.Pn (nx edge)) j)) ∧
      s.S (nx (s.walk (s.Pn (nx edge)) j)) = s.S (nx edge) := by
  have G := geo_of C.h C.he C.hl
  have := walk_live s _ C.h G.lu.lt G.lu.pl j
  rw [(lab_of G).snu] at this; exact this

theorem Cfg.c_ne_pair (C : Cfg s edge k m) (i : Nat) (hi : i < k) :
    s.walk (s.Pn (nx (s.Pn edge))) i ≠ s.Pn edge := by
  intro hc
  exact walk_no_period C.hk C.hkmin i hi (by rw [walk_succ, hc])

theorem Cfg.d_ne_edge (C : Cfg s edge k m) (j : Nat) (hj : j < m) :
    s.walk (s.Pn (nx edge)) j ≠ edge := by
  intro hc
  exact walk_no_period C.hm C.hmmin j hj (by rw [walk_succ, hc])

/-- the relabelled halfedges `nx c_i`, `i < k`: live, outgoing from `startVert`, outside both
collapsing triangles, not pointing to `endVert` -/
theorem Cfg.relF (C : Cfg s edge k m) (i : Nat) (hi : i < k) :
    LiveF s (nx (s.walk (s.Pn (nx (s.Pn edge))) i)) ∧
      s.S (nx (s.walk (s.Pn (nx (s.Pn edge))) i)) = s.S edge ∧
      nx (s.walk (s.Pn (nx (s.Pn edge))) i) / 3 ≠ edge / 3 ∧
      nx (s.walk (s.Pn (nx (s.Pn edge))) i) / 3 ≠ s.Pn edge / 3 ∧
      s.S (nx (nx (s.walk (s.Pn (nx (s.Pn edge))) i))) ≠ s.S (nx edge) := by
  obtain ⟨a, b, c, d⟩ := C.cw i
  have hn := nx_lt C.h.1.2.2 a
  have Ln := liveF C.h hn (live_of_nonneg c)
  have Lb := lab_of (geo_of C.h C.he C.hl)
  exact ⟨Ln, d,
    notin_tri (fun q => C.hdup i hi (lab_eq q).2) (fun q => Lb.ab (d.symm.trans (lab_eq q).1))
      (fun q => Lb.w0a ((lab_eq q).1.symm.trans d)),
    notin_tri (fun q => Lb.ab (d.symm.trans ((lab_eq q).1.trans Lb.spr)))
      (fun q => C.c_ne_pair i hi (nx_inj q)) (fun q => Lb.aw1 (d.symm.trans (lab_eq q).1)),
    C.hdup i hi⟩

/-- the halfedges `nx d_j`, `j < m`, pushed by "Orbit endVert" -/
theorem Cfg.relD (C : Cfg s edge k m) (j : Nat) (hj : j < m) :
    nx (s.walk (s.Pn (nx edge)) j) < s.start.size ∧
      0 ≤ s.P (nx (s.walk (s.Pn (nx edge)) j)) ∧
      nx (nx (s.walk (s.Pn (nx edge)) j)) < s.start.size ∧
      nx (s.walk (s.Pn (nx edge)) j) / 3 ≠ s.Pn edge / 3 := by
  obtain ⟨a, b, c, d⟩ := C.dw j
  have hn := nx_lt C.h.1.2.2 a
  have hnn := nx_lt C.h.1.2.2 hn
  have Lb := lab_of (geo_of C.h C.he C.hl)
  exact ⟨hn, c, hnn,
    notin_tri (fun q => C.hmmin j hj ((nx_nx_nx _).symm.trans (congrArg (fun x => nx (nx x)) q)))
      (fun q => Lb.ab (Lb.sq1.symm.trans ((lab_eq q).1.symm.trans d)))
      (fun q => Lb.w1b ((lab_eq q).1.symm.trans d))⟩

/-- `j` is one of the halfedges relabelled by `UpdateVert`: the fan of `startVert`, walked from
`c0 = Pn (nx pair)` -/
abbrev Rel (s : HE) (edge k : Nat) : Nat → Prop := Fan s (s.Pn (nx (s.Pn edge))) k

theorem Cfg.rel_S (C : Cfg s edge k m) {j : Nat} (hR : Rel s edge k j) : s.S j = s.S edge := by
  obtain ⟨i, hi, rfl⟩ := hR; exact (C.relF i hi).2.1

/-- a relabelled halfedge does not end at `endVert`: there is no second edge `startVert`-`endVert` -/
theorem Cfg.rel_nd (C : Cfg s edge k m) {j : Nat} (hR : Rel s edge k j) :
    s.S (nx j) ≠ s.S (nx edge) := by
  obtain ⟨i, hi, rfl⟩ := hR; exact (C.relF i hi).2.2.2.2

/-- `v = Pn (nx (nx edge))` is the last relabelled halfedge -/
theorem Cfg.rel_v (C : Cfg s edge k m) (kpos : 0 < k) : Rel s edge k (s.Pn (nx (nx edge))) :=
  have G := geo_of C.h C.he C.hl
  fan_last C.h G.lc0.lt G.lc0.pl C.hk kpos

end fans

section relabelled
variable {s s4 : HE} {edge k m : Nat} (C : Cfg s edge k m)
  (hrel : ∀ j, Rel s edge k j → s4.S j = s.S (nx edge))
  (hS : ∀ j, j / 3 ≠ edge / 3 → j / 3 ≠ s.Pn edge / 3 → ¬ Rel s edge k j → s4.S j = s.S j)
include C hrel hS

theorem relab_ne (x : Nat) (h0 : x / 3 ≠ edge / 3) (h1 : x / 3 ≠ s.Pn edge / 3)
    (h2 : s.S x ≠ -1) : s4.S x ≠ -1 := by
  by_cases hR : Rel s edge k x
  · rw [hrel x hR]; exact (lab_of (geo_of C.h C.he C.hl)).b1
  · rw [hS x h0 h1 hR]; exact h2

omit hrel in
/-- a label other than `startVert` is kept -/
theorem relab_keep (x : Nat) (h0 : x / 3 ≠ edge / 3) (h1 : x / 3 ≠ s.Pn edge / 3)
    (h2 : s.S x ≠ s.S edge) : s4.S x = s.S x :=
  hS x h0 h1 (fun hR => h2 (C.rel_S hR))

/-- A halfedge outside the two collapsing triangles whose pairing (and its partner's) is untouched
stays `Good` after the relabelling of the fan of `startVert`: the relabelling is consistent across
the pairing (`fan_rot`), and a relabelled halfedge did not end at `endVert` (`Cfg.rel_nd`). -/
theorem good_other (hsz : s4.start.size = s.start.size)
    (j : Nat) (hj : j < s.start.size) (ht0 : j / 3 ≠ edge / 3) (ht1 : j / 3 ≠ s.Pn edge / 3)
    (hPj : s4.P j = s.P j)
    (hp : s.P j ≠ -1 → s.Pn j / 3 ≠ edge / 3 ∧ s.Pn j / 3 ≠ s.Pn edge / 3 ∧
      s4.P (s.Pn j) = s.P (s.Pn j)) : Good s4 j := by
  have G := geo_of C.h C.he C.hl
  have hp' := fun hl => hp (live_of_nonneg hl)
  refine good_relabel (R := Rel s edge k) hsz (C.h.good hj) (fun _ => C.rel_S) (lab_of G).a1
    (lab_of G).b1 (fun _ => C.rel_nd) (fun x _ => hrel x) (fun x hx => hS x ?_ ?_) hPj
    (fun hl => (hp' hl).2.2) (fun hl => ?_)
  · rcases hx with hx | ⟨hl, hx⟩ <;> rw [hx]
    · exact ht0
    · exact (hp' hl).1
  · rcases hx with hx | ⟨hl, hx⟩ <;> rw [hx]
    · exact ht1
    · exact (hp' hl).2.1
  · obtain ⟨pt0, pt1, _⟩ := hp' hl
    have L := liveF C.h hj (live_of_nonneg hl)
    -- `j` and its partner are away from the two ends `c0`, `nx (nx edge)` of the walk
    exact fan_rot C.h G.lc0.lt G.lc0.pl C.hk hj L.pl
      (fun e => ht1 (by rw [e, G.lq1.pn, nx_div]))
      (fun e => pt0 (by rw [e, G.le2.pn, nx_div, nx_div]))
      (fun e => pt1 (by rw [e, G.lq1.pn, nx_div]))
      (fun e => ht0 (by rw [e, nx_div, nx_div]))

/-- every halfedge outside the two triangles other than the four outer partners stays `Good`: its
partner is such a halfedge too, since the ten special halfedges are paired among themselves -/
theorem good_nonspecial (hsz : s4.start.size = s.start.size)
    (hP : ∀ j, j / 3 ≠ edge / 3 → j / 3 ≠ s.Pn edge / 3 → j ≠ s.Pn (nx (s.Pn edge)) →
      j ≠ s.Pn (nx (nx (s.Pn edge))) → j ≠ s.Pn (nx edge) → j ≠ s.Pn (nx (nx edge)) →
      s4.P j = s.P j)
    (j : Nat) (hj : j < s.start.size) (ht0 : j / 3 ≠ edge / 3) (ht1 : j / 3 ≠ s.Pn edge / 3)
    (hc0 : j ≠ s.Pn (nx (s.Pn edge))) (hr : j ≠ s.Pn (nx (nx (s.Pn edge))))
    (hu : j ≠ s.Pn (nx edge)) (hv : j ≠ s.Pn (nx (nx edge))) : Good s4 j := by
  have G := geo_of C.h C.he C.hl
  refine good_other C hrel hS hsz j hj ht0 ht1 (hP j ht0 ht1 hc0 hr hu hv) (fun hl => ?_)
  have hinv := (liveF C.h hj hl).pp
  have pt0 : s.Pn j / 3 ≠ edge / 3 :=
    notin_tri (Pn_ne_of_P hinv (P_eq_Pn G.ledge.p0) (fun e => ht1 (by rw [e])))
      (Pn_ne_of_P hinv (P_eq_Pn G.le1.p0) hu) (Pn_ne_of_P hinv (P_eq_Pn G.le2.p0) hv)
  have pt1 : s.Pn j / 3 ≠ s.Pn edge / 3 :=
    notin_tri (Pn_ne_of_P hinv G.ledge.pp (fun e => ht0 (by rw [e])))
      (Pn_ne_of_P hinv (P_eq_Pn G.lq1.p0) hc0) (Pn_ne_of_P hinv (P_eq_Pn G.lq2.p0) hr)
  exact ⟨pt0, pt1, hP _ pt0 pt1
    (Pn_ne_of_P hinv G.lq1.pp (fun e => ht1 (by rw [e, nx_div])))
    (Pn_ne_of_P hinv G.lq2.pp (fun e => ht1 (by rw [e, nx_div, nx_div])))
    (Pn_ne_of_P hinv G.le1.pp (fun e => ht0 (by rw [e, nx_div])))
    (Pn_ne_of_P hinv G.le2.pp (fun e => ht0 (by rw [e, nx_div, nx_div])))⟩

/-- A state described pointwise as the result of the collapse is manifold, once those of the four
outer partners that survive are known to be `Good`. -/
theorem final_pairInv (hw : WF s4) (hsz : s4.start.size = s.start.size)
    (htomb : ∀ j, j < s.start.size → (j / 3 = edge / 3 ∨ j / 3 = s.Pn edge / 3) →
      s4.S j = -1 ∧ s4.P j = -1)
    (hsp : ∀ j, j / 3 ≠ edge / 3 → j / 3 ≠ s.Pn edge / 3 →
      (j = s.Pn (nx (s.Pn edge)) ∨ j = s.Pn (nx (nx (s.Pn edge))) ∨ j = s.Pn (nx edge) ∨
        j = s.Pn (nx (nx edge))) → Good s4 j)
    (hP : ∀ j, j / 3 ≠ edge / 3 → j / 3 ≠ s.Pn edge / 3 → j ≠ s.Pn (nx (s.Pn edge)) →
      j ≠ s.Pn (nx (nx (s.Pn edge))) → j ≠ s.Pn (nx edge) → j ≠ s.Pn (nx (nx edge)) →
      s4.P j = s.P j) : PairInv s4 := by
  rw [pairInv_iff]
  refine ⟨hw, fun j hj _ => ?_⟩
  rw [hsz] at hj
  by_cases ht : j / 3 = edge / 3 ∨ j / 3 = s.Pn edge / 3
  · obtain ⟨a, b⟩ := htomb j hj ht
    obtain ⟨c, _⟩ := htomb (nx j) (nx_lt C.h.1.2.2 hj) (by rw [nx_div]; exact ht)
    exact good_of_tomb a c b
  have ht0 : j / 3 ≠ edge / 3 := fun hc => ht (Or.inl hc)
  have ht1 : j / 3 ≠ s.Pn edge / 3 := fun hc => ht (Or.inr hc)
  by_cases h4 : j = s.Pn (nx (s.Pn edge)) ∨ j = s.Pn (nx (nx (s.Pn edge))) ∨
      j = s.Pn (nx edge) ∨ j = s.Pn (nx (nx edge))
  · exact hsp j ht0 ht1 h4
  simp only [not_or] at h4
  exact good_nonspecial C hrel hS hsz hP j hj ht0 ht1 h4.1 h4.2.1 h4.2.2.1 h4.2.2.2

omit hrel hS in
/-- two surviving outer partners `x` (ending at `endVert`) and `y` (starting there) with the same
outer vertex `w`, paired with each other, are `Good` -/
theorem relab_pair (hsz : s4.start.size = s.start.size) {x y : Nat} {w : Int}
    (hx : x < s.start.size) (hy : y < s.start.size)
    (hxy : s4.P x = (y : Int)) (hyx : s4.P y = (x : Int))
    (x0 : s4.S x = w) (x1 : s4.S (nx x) = s.S (nx edge)) (x2 : s4.S (nx (nx x)) ≠ -1)
    (y0 : s4.S y = s.S (nx edge)) (y1 : s4.S (nx y) = w) (y2 : s4.S (nx (nx y)) ≠ -1)
    (hw1 : w ≠ -1) (hwB : w ≠ s.S (nx edge)) : Good s4 x ∧ Good s4 y :=
  good_pair (by rw [hsz]; exact hx) (by rw [hsz]; exact hy) hxy hyx (by rw [x0]; exact hw1)
    (by rw [x1]; exact (lab_of (geo_of C.h C.he C.hl)).b1) x2 y2 (by rw [x0, x1]; exact hwB)
    (x0.trans y1.symm) (x1.trans y0.symm)

/-- the labels around `c0 = Pn (nx pair)` after the relabelling -/
theorem relab_c0 (kpos : 0 < k) :
    s4.S (s.Pn (nx (s.Pn edge))) = s.S (nx (nx (s.Pn edge))) ∧
    s4.S (nx (s.Pn (nx (s.Pn edge)))) = s.S (nx edge) ∧
    s4.S (nx (nx (s.Pn (nx (s.Pn edge))))) ≠ -1 := by
  have G := geo_of C.h C.he C.hl
  have Lb := lab_of G
  have D := dist_of C
  exact ⟨(relab_keep C hS _ (D.c0t0 kpos) D.c0t1 (by rw [Lb.sc0]; exact Lb.aw1.symm)).trans
      Lb.sc0, hrel _ (fan_first kpos),
    relab_ne C hrel hS _ (nx_tri (nx_tri (D.c0t0 kpos)))
      (nx_tri (nx_tri D.c0t1)) G.lc0.s2⟩

/-- the labels around `r = Pn (nx (nx pair))` -/
theorem relab_r (mpos : 0 < m) :
    s4.S (s.Pn (nx (nx (s.Pn edge)))) = s.S (nx edge) ∧
    s4.S (nx (s.Pn (nx (nx (s.Pn edge))))) = s.S (nx (nx (s.Pn edge))) ∧
    s4.S (nx (nx (s.Pn (nx (nx (s.Pn edge)))))) ≠ -1 := by
  have G := geo_of C.h C.he C.hl
  have Lb := lab_of G
  have D := dist_of C
  exact ⟨(relab_keep C hS _ (D.rt0 mpos) D.rt1 (by rw [Lb.sr]; exact Lb.ab.symm)).trans Lb.sr,
    (relab_keep C hS _ (nx_tri (D.rt0 mpos)) (nx_tri D.rt1)
      (by rw [Lb.snr]; exact Lb.aw1.symm)).trans Lb.snr,
    relab_ne C hrel hS _ (nx_tri (nx_tri (D.rt0 mpos)))
      (nx_tri (nx_tri D.rt1)) G.lr.s2⟩

/-- the labels around `u = Pn (nx edge)` -/
theorem relab_u (mpos : 0 < m) :
    s4.S (s.Pn (nx edge)) = s.S (nx (nx edge)) ∧ s4.S (nx (s.Pn (nx edge))) = s.S (nx edge) ∧
    s4.S (nx (nx (s.Pn (nx edge)))) ≠ -1 := by
  have G := geo_of C.h C.he C.hl
  have Lb := lab_of G
  have D := dist_of C
  exact ⟨(relab_keep C hS _ D.ut0 (D.ut1 mpos) (by rw [Lb.su]; exact Lb.w0a)).trans Lb.su,
    (relab_keep C hS _ (nx_tri D.ut0) (nx_tri (D.ut1 mpos))
      (by rw [Lb.snu]; exact Lb.ab.symm)).trans Lb.snu,
    relab_ne C hrel hS _ (nx_tri (nx_tri D.ut0))
      (nx_tri (nx_tri (D.ut1 mpos))) G.lu.s2⟩

/-- the labels around `v = Pn (nx (nx edge))`, the last relabelled halfedge -/
theorem relab_v (kpos : 0 < k) :
    s4.S (s.Pn (nx (nx edge))) = s.S (nx edge) ∧
    s4.S (nx (s.Pn (nx (nx edge)))) = s.S (nx (nx edge)) ∧
    s4.S (nx (nx (s.Pn (nx (nx edge))))) ≠ -1 := by
  have G := geo_of C.h C.he C.hl
  have Lb := lab_of G
  have D := dist_of C
  exact ⟨hrel _ (C.rel_v kpos),
    (relab_keep C hS _ (nx_tri D.vt0) (nx_tri (D.vt1 kpos))
      (by rw [Lb.snv]; exact Lb.w0a)).trans Lb.snv,
    relab_ne C hrel hS _ (nx_tri (nx_tri D.vt0))
      (nx_tri (nx_tri (D.vt1 kpos))) G.lv.s2⟩

end relabelled

/-- `CollapseEdge` up to (excluding) `CollapseTri(tri0edge)`: `CollapseTri(tri1edge)`, the two orbit
loops (no `FormLoop`) and `UpdateVert`, with the pointwise description of the state reached. -/
theorem collapse_prefix {s : HE} {edge k m : Nat} (hasProp : Bool) (C : Cfg s edge k m) :
    ∃ s3, WF s3 ∧ s3.start.size = s.start.size ∧ s3.nVert = s.nVert ∧
      (∀ j, Rel s edge k j → s3.S j = s.S (nx edge)) ∧
      (∀ j, ¬ Rel s edge k j → j / 3 ≠ s.Pn edge / 3 → s3.S j = s.S j) ∧
      (∀ j, j < s.start.size → j / 3 = s.Pn edge / 3 → s3.S j = -1 ∧ s3.P j = -1) ∧
      (∀ j, j / 3 ≠ s.Pn edge / 3 → s3.P j =
        if j = s.Pn (nx (nx (s.Pn edge))) then (s.Pn (nx (s.Pn edge)) : Int) else
        if j = s.Pn (nx (s.Pn edge)) then (s.Pn (nx (nx (s.Pn edge))) : Int) else s.P j) ∧
      collapseEdge s (edge : Int) #[] true hasProp =
        (do let s4 ← collapseTri s3 (triOf (edge : Int))
            let s5 ← removeIfFolded s4 ((s.Pn (nx (s.Pn edge)) : Nat) : Int)
            pure (s5, true)) := by
  obtain ⟨h, he, hl, hk, hkmin, hm, hmmin, hlink, hdup⟩ := id C
  have G := geo_of h he hl
  have Lb := lab_of G
  have D := dist_of C
  have hw := h.1
  have hps : s.prop.size = s.start.size := hw.2.1.trans hw.1.symm
  have hpa : s.paired.size = s.start.size := hw.1.symm
  have hkb := (walk_simple s _ k _ h G.lc0.lt G.lc0.pl hk hkmin).2
  have hmb := (walk_simple s _ m _ h G.lu.lt G.lu.pl hm hmmin).2
  -- `CollapseTri(tri1)`
  obtain ⟨s1, hs1, hw1, pr1, nv1, np1, sz1, S1, T1, P1⟩ :=
    collapseTri_eval s (s.Pn edge) hw G.lpr.lt ⟨G.lq1.p0, G.lq1.plt⟩ ⟨G.lq2.p0, G.lq2.plt⟩
  rw [triOf_cast] at hs1
  have P1c : ∀ i, i < k → s1.P (nx (s.walk (s.Pn (nx (s.Pn edge))) i)) =
      s.P (nx (s.walk (s.Pn (nx (s.Pn edge))) i)) := by
    intro i hi
    obtain ⟨Ln, sA, t0, t1, _⟩ := C.relF i hi
    rw [P1 _ t1, if_neg, if_neg]
    · intro e; have := Lb.sc0; rw [← e, sA] at this; exact Lb.aw1 this
    · intro e; have := Lb.sr; rw [← e, sA] at this; exact Lb.ab this
  -- the fan of `startVert` is a trail in `s`, and so in `s1`, which has the same pairing along it
  have Tk := (Trail.of_live h G.lc0.lt G.lc0.pl hk hkmin).congr sz1 P1c
  -- "Orbit endVert"
  have hedges := orbitEnd_eval s ((nx (nx (s.Pn edge)) : Nat) : Int) hw m (s.start.size + 1) _ #[]
    (Nat.lt_succ_of_lt hmb) (Trail.of_live h G.lu.lt G.lu.pl hm hmmin)
  rw [show (#[] ++ (orbL (s.walk (s.Pn (nx edge))) m).toArray : Array Int) =
    (orbL (s.walk (s.Pn (nx edge))) m).toArray by simp] at hedges
  have hed : ∀ i, i < k → ∀ idx, idx < (orbL (s.walk (s.Pn (nx edge))) m).toArray.size →
      ∃ e : Nat, (orbL (s.walk (s.Pn (nx edge))) m).toArray[idx]? = some (e : Int) ∧
        nx e < s1.start.size ∧
        s1.S (nx (nx (s.walk (s.Pn (nx (s.Pn edge))) i))) ≠ s1.S (nx e) := by
    intro i hi idx hidx
    have hj : idx < m := by simpa [orbL] using hidx
    obtain ⟨_, _, d3, d4⟩ := C.relD idx hj
    obtain ⟨_, _, _, c4, _⟩ := C.relF i hi
    refine ⟨nx (s.walk (s.Pn (nx edge)) idx), by simp [orbL, hj], by rw [sz1]; exact d3, ?_⟩
    rw [S1 _ (nx_tri c4), S1 _ (nx_tri d4)]
    exact hlink i hi idx hj
  -- "Orbit startVert"
  obtain ⟨s2, hs2, sim2⟩ := collapseLoop_straight hasProp (s1.R edge) (s1.R (nx edge))
    (s1.R (nx (s.Pn edge))) (s1.R (s.Pn edge)) ((nx (nx edge) : Nat) : Int)
    ((s.Pn (nx (s.Pn edge)) : Nat) : Int) (orbL (s.walk (s.Pn (nx edge))) m).toArray k
    (s1.start.size + 1) _ s1 (by rw [sz1]; exact Nat.lt_succ_of_lt hkb) hw1 Tk hed
  have hw2 : WF s2 := sim2.WF hw1
  -- `UpdateVert`
  obtain ⟨s3, hs3, pa3, pr3, nv3, np3, sz3, R3, N3⟩ := updateVert_trail s2 (s.S (nx edge)) _ k _ hw2
    (by rw [sim2.size, sz1]; exact Nat.le_of_lt hkb) (Tk.congr sim2.size (fun _ _ => sim2.P _))
  have hw3 : WF s3 := by
    unfold WF at hw2 ⊢; rw [pa3, pr3, sz3]; exact hw2
  have size3 : s3.start.size = s.start.size := by rw [sz3, sim2.size, sz1]
  have S3rel : ∀ j, Rel s edge k j → s3.S j = s.S (nx edge) := by
    rintro j ⟨i, hi, rfl⟩; exact R3 i hi
  have S3else : ∀ j, ¬ Rel s edge k j → s3.S j = s1.S j := by
    intro j hR
    rw [N3 j (fun i hi e => hR ⟨i, hi, e⟩), sim2.S]
  have P3 : ∀ j, s3.P j = s1.P j := by
    intro j; unfold HE.P; rw [pa3, sim2.2.1]
  have relt1 : ∀ j, Rel s edge k j → j / 3 ≠ s.Pn edge / 3 := by
    rintro j ⟨i, hi, rfl⟩; exact (C.relF i hi).2.2.2.1
  refine ⟨s3, hw3, size3, by rw [nv3, sim2.2.2.2.1, nv1], S3rel,
    fun j hR ht => by rw [S3else j hR]; exact S1 j ht,
    fun j hj ht => ?_, fun j ht => by rw [P3]; exact P1 j ht, ?_⟩
  · have a := T1 j ht hj
    exact ⟨by rw [S3else j (fun hR => relt1 j hR ht)]; exact a.1, by rw [P3]; exact a.2⟩
  -- evaluation of the model
  have hps1 : s1.prop.size = s.start.size := by rw [pr1]; exact hps
  rw [walk_zero] at hedges hs2 hs3
  simp only [collapseEdge, HE.size, triOf_cast, getPair_ok, getStart_ok, getProp_ok, ok_bind,
    P_eq_Pn G.ledge.p0, P_eq_Pn G.le1.p0, P_eq_Pn G.lq1.p0, cast_lt_zero, Bool.not_true,
    Bool.false_eq_true, if_false, hedges, hs1, hs2, hs3, hpa, hps1, he, G.le1.lt, G.lq1.lt,
    G.lpr.lt]

/-- `CollapseEdge` up to (excluding) the final `RemoveIfFolded`, the state reached described
pointwise.  `CollapseTri(tri0edge)` pairs `p1` with `p2`, the partners `nx edge` and `nx (nx edge)`
have after `CollapseTri(tri1edge)`: `u`, `v` in general; `c0` in place of `u` when `endVert` has
valence 2 (`m = 0`), `r` in place of `v` when `startVert` has (`k = 0`). -/
theorem collapse_tri0 {s : HE} {edge k m : Nat} (hasProp : Bool) (C : Cfg s edge k m) :
    ∃ (s4 : HE) (p1 p2 : Nat), WF s4 ∧ s4.start.size = s.start.size ∧ s4.nVert = s.nVert ∧
      collapseEdge s (edge : Int) #[] true hasProp =
        (do let s5 ← removeIfFolded s4 ((s.Pn (nx (s.Pn edge)) : Nat) : Int); pure (s5, true)) ∧
      (∀ j, j < s.start.size → (j / 3 = edge / 3 ∨ j / 3 = s.Pn edge / 3) →
        s4.S j = -1 ∧ s4.P j = -1) ∧
      (∀ j, Rel s edge k j → s4.S j = s.S (nx edge)) ∧
      (∀ j, j / 3 ≠ edge / 3 → j / 3 ≠ s.Pn edge / 3 → ¬ Rel s edge k j → s4.S j = s.S j) ∧
      (m = 0 → p1 = s.Pn (nx (s.Pn edge))) ∧ (0 < m → p1 = s.Pn (nx edge)) ∧
      (k = 0 → p2 = s.Pn (nx (nx (s.Pn edge)))) ∧ (0 < k → p2 = s.Pn (nx (nx edge))) ∧
      (∀ j, j / 3 ≠ edge / 3 → j / 3 ≠ s.Pn edge / 3 → s4.P j =
        if j = p2 then (p1 : Int) else if j = p1 then (p2 : Int) else
        if j = s.Pn (nx (nx (s.Pn edge))) then (s.Pn (nx (s.Pn edge)) : Int) else
        if j = s.Pn (nx (s.Pn edge)) then (s.Pn (nx (nx (s.Pn edge))) : Int) else s.P j) := by
  obtain ⟨s3, hw3, size3, nv3, S3rel, S3n, T3, P3, hev⟩ := collapse_prefix hasProp C
  have G := geo_of C.h C.he C.hl
  have Lb := lab_of G
  have D := dist_of C
  have e1t : nx edge / 3 ≠ s.Pn edge / 3 := nx_tri D.t01.symm
  have e2t : nx (nx edge) / 3 ≠ s.Pn edge / 3 := nx_tri e1t
  -- `nx edge` starts at `endVert`, `c0` at `w1`; `nx (nx edge)` starts at `w0`, `r` at `endVert`
  have e1c0 : nx edge ≠ s.Pn (nx (s.Pn edge)) := fun e => Lb.w1b (by rw [← Lb.sc0, ← e])
  have e2r : nx (nx edge) ≠ s.Pn (nx (nx (s.Pn edge))) := fun e => Lb.bw0 (by rw [← Lb.sr, ← e])
  obtain ⟨p1, hp1, hp1lt, hp1t, hp1z, hp1p⟩ : ∃ p1 : Nat, s3.P (nx edge) = (p1 : Int) ∧
      p1 < s.start.size ∧ p1 / 3 ≠ s.Pn edge / 3 ∧ (m = 0 → p1 = s.Pn (nx (s.Pn edge))) ∧
      (0 < m → p1 = s.Pn (nx edge)) := by
    rcases Nat.eq_zero_or_pos m with rfl | mpos
    · have hu : s.Pn (nx edge) = nx (nx (s.Pn edge)) := C.hm
      have hr : s.Pn (nx (nx (s.Pn edge))) = nx edge := by rw [← hu]; exact G.le1.pn
      refine ⟨_, ?_, G.lc0.lt, D.c0t1, fun _ => rfl, fun h => absurd h (Nat.lt_irrefl 0)⟩
      rw [P3 _ e1t, if_pos hr.symm]
    · refine ⟨_, ?_, G.lu.lt, D.ut1 mpos, fun h => absurd mpos (h ▸ Nat.lt_irrefl 0), fun _ => rfl⟩
      rw [P3 _ e1t, if_neg (ne_of_div (nx_div edge) (D.rt0 mpos)), if_neg e1c0]
      exact P_eq_Pn G.le1.p0
  obtain ⟨p2, hp2, hp2lt, hp2t, hp2z, hp2p⟩ : ∃ p2 : Nat, s3.P (nx (nx edge)) = (p2 : Int) ∧
      p2 < s.start.size ∧ p2 / 3 ≠ s.Pn edge / 3 ∧ (k = 0 → p2 = s.Pn (nx (nx (s.Pn edge)))) ∧
      (0 < k → p2 = s.Pn (nx (nx edge))) := by
    rcases Nat.eq_zero_or_pos k with rfl | kpos
    · have hc : s.Pn (nx (s.Pn edge)) = nx (nx edge) := C.hk
      refine ⟨_, ?_, G.lr.lt, D.rt1, fun _ => rfl, fun h => absurd h (Nat.lt_irrefl 0)⟩
      rw [P3 _ e2t, if_neg e2r, if_pos hc.symm]
    · refine ⟨_, ?_, G.lv.lt, D.vt1 kpos, fun h => absurd kpos (h ▸ Nat.lt_irrefl 0), fun _ => rfl⟩
      rw [P3 _ e2t, if_neg e2r,
        if_neg (ne_of_div ((nx_div _).trans (nx_div edge)) (D.c0t0 kpos))]
      exact P_eq_Pn G.le2.p0
  obtain ⟨s4, hs4, hw4, _, nv4, _, sz4, S4, T4, P4⟩ :=
    collapseTri_eval s3 edge hw3 (by rw [size3]; exact C.he)
      ⟨by rw [hp1]; exact Int.natCast_nonneg _, by rw [Pn_eq_of_P hp1, size3]; exact hp1lt⟩
      ⟨by rw [hp2]; exact Int.natCast_nonneg _, by rw [Pn_eq_of_P hp2, size3]; exact hp2lt⟩
  rw [Pn_eq_of_P hp1, Pn_eq_of_P hp2] at P4
  refine ⟨s4, p1, p2, hw4, sz4.trans size3, nv4.trans nv3, by rw [hev, hs4]; rfl, ?_, ?_, ?_,
    hp1z, hp1p, hp2z, hp2p, ?_⟩
  · intro j hj ht
    rcases ht with ht | ht
    · exact T4 j ht (by rw [size3]; exact hj)
    · have t10 : j / 3 ≠ edge / 3 := by rw [ht]; exact D.t01
      obtain ⟨a, b⟩ := T3 j hj ht
      refine ⟨(S4 j t10).trans a, ?_⟩
      rw [P4 j t10, if_neg (ne_of_div ht hp2t), if_neg (ne_of_div ht hp1t)]; exact b
  · rintro j ⟨i, hi, rfl⟩
    rw [S4 _ (C.relF i hi).2.2.1]; exact S3rel _ ⟨i, hi, rfl⟩
  · intro j h0 h1 hR; rw [S4 j h0]; exact S3n j hR h1
  · intro j h0 h1; rw [P4 j h0, P3 j h1]

/-- `CollapseEdge` (edge_op.cpp:846-981) when the link condition holds, up to the final
`RemoveIfFolded(start)`: `FormLoop` is never called and the state handed to `RemoveIfFolded` is
manifold.  The four cases are the valences of `startVert` / `endVert` being 2 or more: of the outer
partners, `c0`-`r` and `u`-`v` are paired in general, `u`-`r` when `k = 0` (`c0`, `v` lie in the dying
triangles), `c0`-`v` when `m = 0`, nothing survives when both. -/
theorem collapseEdge_straight_core {s : HE} {edge k m : Nat} (hasProp : Bool) (C : Cfg s edge k m) :
    ∃ s4, PairInv s4 ∧ s4.nVert = s.nVert ∧ s4.start.size = s.start.size ∧
      collapseEdge s (edge : Int) #[] true hasProp =
        (do let s5 ← removeIfFolded s4 ((s.Pn (nx (s.Pn edge)) : Nat) : Int); pure (s5, true)) := by
  obtain ⟨s4, p1, p2, hw4, hsz, nv4, hev, htomb, hrel, hS, hp1z, hp1p, hp2z, hp2p, hP4⟩ :=
    collapse_tri0 hasProp C
  have G := geo_of C.h C.he C.hl
  have Lb := lab_of G
  have D := dist_of C
  refine ⟨s4, final_pairInv C hrel hS hw4 hsz htomb ?_ ?_, nv4, hsz, hev⟩
  · intro j ht0 ht1 h4
    rcases Nat.eq_zero_or_pos k with rfl | kpos <;> rcases Nat.eq_zero_or_pos m with rfl | mpos
    · -- all four outer partners lie in the two triangles
      have hc : s.Pn (nx (s.Pn edge)) = nx (nx edge) := C.hk
      have hu : s.Pn (nx edge) = nx (nx (s.Pn edge)) := C.hm
      rcases h4 with e | e | e | e
      · exact absurd (by rw [e, hc, nx_div, nx_div]) ht0
      · exact absurd (by rw [e, ← hu, G.le1.pn, nx_div]) ht0
      · exact absurd (by rw [e, hu, nx_div, nx_div]) ht1
      · exact absurd (by rw [e, ← hc, G.lq1.pn, nx_div]) ht1
    · -- `c0 = nx (nx edge)`, `v = nx pair`; `u` and `r` are paired, their outer vertices `w0 = w1`
      have hc : s.Pn (nx (s.Pn edge)) = nx (nx edge) := C.hk
      have hw01 : s.S (nx (nx edge)) = s.S (nx (nx (s.Pn edge))) := by rw [← hc]; exact Lb.sc0
      rw [hp1p mpos, hp2z rfl] at hP4
      obtain ⟨u0, u1, u2⟩ := relab_u C hrel hS mpos
      obtain ⟨r0, r1, r2⟩ := relab_r C hrel hS mpos
      have g := relab_pair C hsz G.lu.lt G.lr.lt
        (by rw [hP4 _ D.ut0 (D.ut1 mpos), if_neg D.ru.symm, if_pos rfl])
        (by rw [hP4 _ (D.rt0 mpos) D.rt1, if_pos rfl]) u0 u1 u2 r0 (r1.trans hw01.symm) r2
        Lb.w01 Lb.bw0.symm
      rcases h4 with e | e | e | e
      · exact absurd (by rw [e, hc, nx_div, nx_div]) ht0
      · rw [e]; exact g.2
      · rw [e]; exact g.1
      · exact absurd (by rw [e, ← hc, G.lq1.pn, nx_div]) ht1
    · -- `r = nx edge`, `u = nx (nx pair)`; `c0` and `v` are paired, `w1 = w0`
      have hu : s.Pn (nx edge) = nx (nx (s.Pn edge)) := C.hm
      have hw01 : s.S (nx (nx edge)) = s.S (nx (nx (s.Pn edge))) := by rw [← hu]; exact Lb.su.symm
      rw [hp1z rfl, hp2p kpos] at hP4
      obtain ⟨c0a, c0b, c0c⟩ := relab_c0 C hrel hS kpos
      obtain ⟨v0, v1, v2⟩ := relab_v C hrel hS kpos
      have g := relab_pair C hsz G.lc0.lt G.lv.lt
        (by rw [hP4 _ (D.c0t0 kpos) D.c0t1, if_neg D.c0v, if_pos rfl])
        (by rw [hP4 _ D.vt0 (D.vt1 kpos), if_pos rfl]) c0a c0b c0c v0 (v1.trans hw01) v2
        Lb.w11 Lb.w1b
      rcases h4 with e | e | e | e
      · rw [e]; exact g.1
      · exact absurd (by rw [e, ← hu, G.le1.pn, nx_div]) ht0
      · exact absurd (by rw [e, hu, nx_div, nx_div]) ht1
      · rw [e]; exact g.2
    · rw [hp1p mpos, hp2p kpos] at hP4
      obtain ⟨c0a, c0b, c0c⟩ := relab_c0 C hrel hS kpos
      obtain ⟨r0, r1, r2⟩ := relab_r C hrel hS mpos
      obtain ⟨u0, u1, u2⟩ := relab_u C hrel hS mpos
      obtain ⟨v0, v1, v2⟩ := relab_v C hrel hS kpos
      have gcr := relab_pair C hsz G.lc0.lt G.lr.lt
        (by rw [hP4 _ (D.c0t0 kpos) D.c0t1, if_neg D.c0v, if_neg D.c0u, if_neg D.c0r, if_pos rfl])
        (by rw [hP4 _ (D.rt0 mpos) D.rt1, if_neg D.rv, if_neg D.ru, if_pos rfl])
        c0a c0b c0c r0 r1 r2 Lb.w11 Lb.w1b
      have guv := relab_pair C hsz G.lu.lt G.lv.lt
        (by rw [hP4 _ D.ut0 (D.ut1 mpos), if_neg D.uv, if_pos rfl])
        (by rw [hP4 _ D.vt0 (D.vt1 kpos), if_pos rfl]) u0 u1 u2 v0 v1 v2 Lb.w01 Lb.bw0.symm
      rcases h4 with e | e | e | e <;> rw [e]
      · exact gcr.1
      · exact gcr.2
      · exact guv.1
      · exact guv.2
  · intro j h0 h1 a b c d
    have n1 : j ≠ p1 := by
      rcases Nat.eq_zero_or_pos m with e | e
      · rw [hp1z e]; exact a
      · rw [hp1p e]; exact c
    have n2 : j ≠ p2 := by
      rcases Nat.eq_zero_or_pos k with e | e
      · rw [hp2z e]; exact b
      · rw [hp2p e]; exact d
    rw [hP4 j h0 h1, if_neg n2, if_neg n1, if_neg b, if_neg a]

/-- `CollapseEdge` (edge_op.cpp:846-981) when the link condition holds: `FormLoop` is never called,
the call returns `true` and the result is manifold (`IsManifold()`), with no vertex added.
Notation: `pair = Pn edge`; tri0 = `edge, nx edge, nx (nx edge)`; tri1 = `pair, nx pair, nx (nx pair)`;
`c0 = Pn (nx pair)` is the C++ `start`, `d0 = Pn (nx edge)`.  `k`, `m` are the numbers of steps the
fans of `startVert` / `endVert` take from `c0` to `tri0edge[2]` / from `d0` to `tri1edge[2]`. -/
theorem collapseEdge_straight {s : HE} {edge k m : Nat} (hasProp : Bool) (C : Cfg s edge k m) :
    ∃ s', collapseEdge s (edge : Int) #[] true hasProp = .ok (s', true) ∧ PairInv s' ∧
      s'.nVert = s.nVert := by
  obtain ⟨s4, I4, nv4, sz4, hev⟩ := collapseEdge_straight_core hasProp C
  have hc0 : s.Pn (nx (s.Pn edge)) < s.start.size := (geo_of C.h C.he C.hl).lc0.lt
  obtain ⟨s5, hs5, I5, nv5, _⟩ := removeIfFolded_preserves s4 (s.Pn (nx (s.Pn edge))) I4
    (by rw [sz4]; exact hc0)
  refine ⟨s5, ?_, I5, by rw [nv5, nv4]⟩
  rw [hev, hs5]
  rfl

/-- an octahedron: equator 0,1,2,3, apexes 4 (top) and 5 (bottom) -/
def octaCE : HE :=
  { start := #[0,1,4, 1,2,4, 2,3,4, 3,0,4, 1,0,5, 2,1,5, 3,2,5, 0,3,5],
    paired := #[12,5,10, 15,8,1, 18,11,4, 21,2,7, 0,23,16, 3,14,19, 6,17,22, 9,20,13],
    prop := #[0,1,4, 1,2,4, 2,3,4, 3,0,4, 1,0,5, 2,1,5, 3,2,5, 0,3,5],
    nVert := 6, nPropVert := 6 }

/-- the equator edge 0→1 of the octahedron: both fans have `k = m = 2` inner steps -/
theorem octaCE_cfg : Cfg octaCE 0 2 2 :=
  ⟨by decide +kernel, by decide +kernel, by decide +kernel, by decide +kernel, by decide +kernel,
    by decide +kernel, by decide +kernel, by decide +kernel, by decide +kernel⟩

/-- non-vacuity of `collapseEdge_straight_core`: the equator edge 0→1 of the octahedron (both fans
have `k = m = 2` inner steps; the common neighbours of 0 and 1 are exactly the two apexes) -/
example : ∃ s4, PairInv s4 ∧ s4.nVert = octaCE.nVert ∧ s4.start.size = octaCE.start.size ∧
    collapseEdge octaCE ((0 : Nat) : Int) #[] true false =
      (do let s5 ← removeIfFolded s4 ((octaCE.Pn (nx (octaCE.Pn 0)) : Nat) : Int); pure (s5, true)) :=
  collapseEdge_straight_core false octaCE_cfg

/-- non-vacuity of `collapseEdge_straight` on the same instance -/
example : ∃ s', collapseEdge octaCE ((0 : Nat) : Int) #[] true true = .ok (s', true) ∧ PairInv s' ∧
    s'.nVert = octaCE.nVert :=
  collapseEdge_straight true octaCE_cfg

/-- vertex 0 has valence 2: triangles (0,1,2), (1,0,2), (2,1,3), (1,2,3) -/
def val2CE : HE :=
  { start := #[0,1,2, 1,0,2, 2,1,3, 1,2,3], paired := #[3,6,4, 0,2,9, 1,11,10, 5,8,7],
    prop := #[0,1,2, 1,0,2, 2,1,3, 1,2,3], nVert := 4, nPropVert := 4 }

/-- collapsing 0→1: `startVert` 0 has valence 2 (`k = 0`) -/
theorem val2CE_cfg : Cfg val2CE 0 0 2 :=
  ⟨by decide +kernel, by decide +kernel, by decide +kernel, by decide +kernel, by decide +kernel,
    by decide +kernel, by decide +kernel, by decide +kernel, by decide +kernel⟩

/-- non-vacuity, `k = 0`: collapsing 0→1, `startVert` 0 has valence 2 -/
example : ∃ s', collapseEdge val2CE ((0 : Nat) : Int) #[] true true = .ok (s', true) ∧ PairInv s' ∧
    s'.nVert = val2CE.nVert :=
  collapseEdge_straight true val2CE_cfg

/-- non-vacuity, `m = 0`: collapsing 1→0, `endVert` 0 has valence 2 -/
example : ∃ s', collapseEdge val2CE ((3 : Nat) : Int) #[] true true = .ok (s', true) ∧ PairInv s' ∧
    s'.nVert = val2CE.nVert :=
  collapseEdge_straight (s := val2CE) (edge := 3) (k := 2) (m := 0) true
    ⟨by decide +kernel, by decide +kernel, by decide +kernel, by decide +kernel, by decide +kernel,
    by decide +kernel, by decide +kernel, by decide +kernel, by decide +kernel⟩

/-- non-vacuity, `k = m = 0`: the pillow (0,1,2), (0,2,1) -/
example : ∃ s', collapseEdge
      { start := #[0,1,2, 0,2,1], paired := #[5,4,3, 2,1,0], prop := #[0,1,2, 0,2,1],
        nVert := 3, nPropVert := 3 } ((0 : Nat) : Int) #[] true false = .ok (s', true) ∧
      PairInv s' ∧ s'.nVert = 3 :=
  collapseEdge_straight (edge := 0) (k := 0) (m := 0) false
    ⟨by decide +kernel, by decide +kernel, by decide +kernel, by decide +kernel, by decide +kernel,
    by decide +kernel, by decide +kernel, by decide +kernel, by decide +kernel⟩

end MV.EdgeOp
