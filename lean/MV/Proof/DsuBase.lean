/-
Basic lemmas for the union-find proofs: memory reads/writes, the key order `KLt`
(rank ascending, then id DESCENDING: `unite` links the root with the smaller rank, and on a
tie the root with the LARGER id, under the other one), and the equivalence closure `Conn`.
-/
import MV.Model.Dsu

namespace MV.Dsu

theorem rd_wr (m : Mem) (i j : Nat) (w : Word) :
    rd (wr m i w) j = if i = j ∧ i < m.length then w else rd m j := by
  unfold rd wr
  by_cases h : i = j
  · subst h
    by_cases h2 : i < m.length
    · simp [List.getD_eq_getElem?_getD, h2]
    · simp [List.getD_eq_getElem?_getD, h2]
  · simp [List.getD_eq_getElem?_getD, h]

theorem rd_wr_ne (m : Mem) (i j : Nat) (w : Word) (h : i ≠ j) : rd (wr m i w) j = rd m j := by
  simp [rd_wr, h]

theorem rd_wr_eq (m : Mem) (i : Nat) (w : Word) (h : i < m.length) : rd (wr m i w) i = w := by
  simp [rd_wr, h]

@[simp] theorem wr_length (m : Mem) (i : Nat) (w : Word) : (wr m i w).length = m.length := by
  simp [wr]

theorem rd_initMem (n i : Nat) (h : i < n) : rd (initMem n) i = ⟨0, i⟩ := by
  simp [rd, initMem, List.getD_eq_getElem?_getD, h]

@[simp] theorem initMem_length (n : Nat) : (initMem n).length = n := by simp [initMem]

def par (m : Mem) (i : Nat) : Nat := (rd m i).parent
def rk (m : Mem) (i : Nat) : Nat := (rd m i).rank

/-- key order: `a` may be linked under `b` -/
def KLt (m : Mem) (a b : Nat) : Prop := rk m a < rk m b ∨ (rk m a = rk m b ∧ b < a)

theorem KLt.irrefl {m : Mem} {a : Nat} : ¬ KLt m a a := by
  unfold KLt; omega

theorem KLt.trans {m : Mem} {a b c : Nat} (h1 : KLt m a b) (h2 : KLt m b c) : KLt m a c := by
  unfold KLt at *; omega

theorem KLt.ne {m : Mem} {a b : Nat} (h : KLt m a b) : a ≠ b := by
  intro e; subst e; exact KLt.irrefl h

/-- the stable form: `a`'s rank is frozen, `b`'s rank can only grow -/
theorem KLt.mono {m m' : Mem} {a b : Nat} (h : KLt m a b) (ha : rk m' a = rk m a)
    (hb : rk m b ≤ rk m' b) : KLt m' a b := by
  unfold KLt at *; omega

/-- rank-0 roots have no children (I3) -/
def NoChild0 (n : Nat) (m : Mem) : Prop :=
  ∀ r j, r < n → j < n → par m r = r → rk m r = 0 → par m j = r → j = r

inductive Conn (E : List (Nat × Nat)) : Nat → Nat → Prop where
  | base {a b : Nat} : (a, b) ∈ E → Conn E a b
  | refl (a : Nat) : Conn E a a
  | symm {a b : Nat} : Conn E a b → Conn E b a
  | trans {a b c : Nat} : Conn E a b → Conn E b c → Conn E a c

theorem Conn.of_sub {E U : List (Nat × Nat)} (h : ∀ a b, (a, b) ∈ E → Conn U a b) {a b : Nat}
    (c : Conn E a b) : Conn U a b := by
  induction c with
  | base hm => exact h _ _ hm
  | refl a => exact .refl a
  | symm _ ih => exact ih.symm
  | trans _ _ ih1 ih2 => exact ih1.trans ih2

theorem Conn.mono {E E' : List (Nat × Nat)} (h : ∀ p, p ∈ E → p ∈ E') {a b : Nat}
    (c : Conn E a b) : Conn E' a b :=
  c.of_sub fun _ _ hm => .base (h _ hm)

theorem Conn.nil_eq {x y : Nat} (c : Conn [] x y) : x = y := by
  induction c with
  | base h => cases h
  | refl => rfl
  | symm _ ih => exact ih.symm
  | trans _ _ ih1 ih2 => exact ih1.trans ih2

theorem Conn.cons {E : List (Nat × Nat)} {p : Nat × Nat} {a b : Nat} (c : Conn E a b) :
    Conn (p :: E) a b := c.mono (fun _ h => List.mem_cons_of_mem _ h)

/-- adding one edge `(x,y)` merges exactly the classes of `x` and `y` -/
theorem Conn.cons_cases {E : List (Nat × Nat)} {x y a b : Nat} (c : Conn ((x, y) :: E) a b) :
    Conn E a b ∨ (Conn E a x ∧ Conn E y b) ∨ (Conn E a y ∧ Conn E x b) := by
  induction c with
  | base hm =>
    rcases List.mem_cons.1 hm with h | h
    · cases h; exact .inr (.inl ⟨.refl _, .refl _⟩)
    · exact .inl (.base h)
  | refl a => exact .inl (.refl a)
  | symm _ ih =>
    rcases ih with h | ⟨h1, h2⟩ | ⟨h1, h2⟩
    · exact .inl h.symm
    · exact .inr (.inr ⟨h2.symm, h1.symm⟩)
    · exact .inr (.inl ⟨h2.symm, h1.symm⟩)
  | trans _ _ ih1 ih2 =>
    rcases ih1 with h | ⟨h1, h2⟩ | ⟨h1, h2⟩ <;> rcases ih2 with k | ⟨k1, k2⟩ | ⟨k1, k2⟩
    · exact .inl (h.trans k)
    · exact .inr (.inl ⟨h.trans k1, k2⟩)
    · exact .inr (.inr ⟨h.trans k1, k2⟩)
    · exact .inr (.inl ⟨h1, h2.trans k⟩)
    · exact .inr (.inl ⟨h1, k2⟩)
    · exact .inl (h1.trans k2)
    · exact .inr (.inr ⟨h1, h2.trans k⟩)
    · exact .inl (h1.trans k2)
    · exact .inr (.inr ⟨h1, k2⟩)

theorem Conn.cons_iff {E : List (Nat × Nat)} {x y a b : Nat} :
    Conn ((x, y) :: E) a b ↔
      Conn E a b ∨ (Conn E a x ∧ Conn E y b) ∨ (Conn E a y ∧ Conn E x b) := by
  constructor
  · exact Conn.cons_cases
  · have hxy : Conn ((x, y) :: E) x y := .base (List.mem_cons_self ..)
    rintro (h | ⟨h1, h2⟩ | ⟨h1, h2⟩)
    · exact h.cons
    · exact h1.cons.trans (hxy.trans h2.cons)
    · exact h1.cons.trans (hxy.symm.trans h2.cons)

end MV.Dsu
