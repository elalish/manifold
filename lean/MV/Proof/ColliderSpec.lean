/-
Prop-level reading of the decidable check `wfTree`: blocks, unique parents, unique paths.
-/
import MV.Proof.ColliderRadix

namespace MV.Collider

/-- Block structure, spelled out: the subtree covers exactly the leaves `f … l`; an internal
node's index is `f` or `l`; it splits at some `γ ∈ [f, l-1]` into `[f,γ]` and `[γ+1,l]`; a child
is a leaf iff its block is a singleton; an internal left child has index `γ`, an internal
right child has index `γ+1`. -/
def Blocks : T → Nat → Nat → Prop
  | .leaf i, f, l => f = i ∧ l = i
  | .node k a b, f, l =>
    f < l ∧ (k = f ∨ k = l) ∧ ∃ γ, f ≤ γ ∧ γ < l ∧ Blocks a f γ ∧ Blocks b (γ + 1) l ∧
      (a.isNode = false ↔ f = γ) ∧ (b.isNode = false ↔ γ + 1 = l) ∧
      (∀ ka a1 a2, a = .node ka a1 a2 → ka = γ) ∧ (∀ kb b1 b2, b = .node kb b1 b2 → kb = γ + 1)

theorem blocks_of_cover : ∀ (t : T) (f l : Nat), t.cover f l = true → Blocks t f l := by
  intro t
  induction t with
  | leaf i =>
    intro f l h
    simp only [T.cover, Bool.and_eq_true, beq_iff_eq] at h
    exact h
  | node k a b iha ihb =>
    intro f l h
    simp only [T.cover, Bool.and_eq_true, decide_eq_true_eq, Bool.or_eq_true, beq_iff_eq] at h
    obtain ⟨⟨⟨⟨⟨hlt, hk⟩, ha⟩, hb⟩, hka⟩, hkb⟩ := h
    have ⟨_, _, a3⟩ := cover_first_last _ _ _ ha
    have ⟨_, _, b3⟩ := cover_first_last _ _ _ hb
    refine ⟨hlt, hk, a.last, a3, by omega, iha _ _ ha, ihb _ _ hb, ?_, ?_, ?_, ?_⟩
    · cases a with
      | leaf i =>
        simp only [T.cover, Bool.and_eq_true, beq_iff_eq, T.last] at ha ⊢
        simp only [T.isNode, true_iff]; omega
      | node ka a1 a2 =>
        simp only [T.cover, Bool.and_eq_true, decide_eq_true_eq] at ha
        have := ha.1.1.1.1.1
        simp only [T.isNode, Bool.true_eq_false, false_iff]; omega
    · cases b with
      | leaf i =>
        simp only [T.cover, Bool.and_eq_true, beq_iff_eq] at hb
        simp only [T.isNode, true_iff]; omega
      | node kb b1 b2 =>
        simp only [T.cover, Bool.and_eq_true, decide_eq_true_eq] at hb
        have := hb.1.1.1.1.1
        simp only [T.isNode, Bool.true_eq_false, false_iff]; omega
    · intro ka a1 a2 e
      subst e
      simpa using hka
    · intro kb b1 b2 e
      subst e
      simpa using hkb

theorem ids_eq_root_or_key (t : T) (c : Int) (h : c ∈ t.ids) :
    c = t.id ∨ c ∈ t.pairs.map Prod.fst := by
  rw [ids_eq_cons, List.mem_cons] at h
  exact h.imp_right (pairs_keys_perm t).mem_iff.mpr

theorem pairs_of_parentOk (parent : Array Int) (t : T) : t.parentOk parent = true →
    ∀ c k, (c, k) ∈ t.pairs → parent[c.toNat]? = some (2 * (k : Int) + 1) := by
  induction t with
  | leaf i => intro _ c k h; simp [T.pairs] at h
  | node k0 a b iha ihb =>
    intro h c k hm
    simp only [T.parentOk, Bool.and_eq_true, beq_iff_eq] at h
    obtain ⟨⟨⟨h1, h2⟩, h3⟩, h4⟩ := h
    simp only [T.pairs, List.mem_cons, List.mem_append, Prod.mk.injEq] at hm
    rcases hm with ⟨e1, e2⟩ | ⟨e1, e2⟩ | hm | hm
    · subst e1; subst e2; exact h1
    · subst e1; subst e2; exact h2
    · exact iha h3 c k hm
    · exact ihb h4 c k hm

/-- **Unique parents.**  In a well-formed pair of arrays every node other than the root
(`0 ≤ c < 2n-1`, `c ≠ 1`) is a child of exactly one internal node `k`, and `nodeParent_[c]`
is that node's number `2k+1`. -/
theorem unique_parent_of_wf {ch : Array (Int × Int)} {parent : Array Int} {n : Nat}
    (hwf : wfTree ch parent n = true) (c : Nat) (hc : c < 2 * n - 1) (hc1 : c ≠ 1) :
    ∃ k, k < n - 1 ∧ parent[c]? = some (2 * (k : Int) + 1) ∧
      (∃ c1 c2, ch[k]? = some (c1, c2) ∧ ((c : Int) = c1 ∨ (c : Int) = c2)) ∧
      ∀ k', k' < n - 1 →
        (∃ c1 c2, ch[k']? = some (c1, c2) ∧ ((c : Int) = c1 ∨ (c : Int) = c2)) → k' = k := by
  obtain ⟨t, ctx⟩ := wfTree_iff.mp hwf
  have hrep := ctx.rep
  have hints := ctx.mem_internals
  have hnd : t.ids.Nodup := nodup_ids t ctx.nodup_leaves ctx.nodup_internals
  obtain ⟨hkeys, hkmem⟩ := pairs_keys t hnd
  have hcid : (c : Int) ∈ t.ids := by
    rw [mem_ids]
    obtain ⟨j, rfl | rfl⟩ : ∃ j, c = 2 * j ∨ c = 2 * j + 1 := ⟨c / 2, by omega⟩
    · left; exact ⟨j, (ctx.mem_leaves j).mpr (by omega), by omega⟩
    · right; exact ⟨j, (hints j).mpr (by omega), by omega⟩
  have hkey : (c : Int) ∈ t.pairs.map Prod.fst := by
    rcases ids_eq_root_or_key t c hcid with e | e
    · rw [ctx.id_eq] at e; omega
    · exact e
  obtain ⟨⟨c', k⟩, hm, e⟩ := List.mem_map.mp hkey
  simp only at e
  subst e
  obtain ⟨hkint, c1, c2, hck, hor⟩ := (mem_pairs_iff t hrep _ k).mp hm
  refine ⟨k, (hints k).mp hkint, ?_, ⟨c1, c2, hck, hor⟩, ?_⟩
  · have := pairs_of_parentOk parent t ctx.hpo _ k hm
    simpa using this
  · intro k' hk' ⟨d1, d2, hd, hor'⟩
    have : ((c : Int), k') ∈ t.pairs :=
      (mem_pairs_iff t hrep _ k').mpr ⟨(hints k').mpr hk', d1, d2, hd, hor'⟩
    exact (Prod.mk.inj (eq_of_fst_eq_of_nodup hkeys this hm rfl)).2

/-- follow a path of left(`false`)/right(`true`) turns through `internalChildren_` -/
def walk (ch : Array (Int × Int)) : Int → List Bool → Option Int
  | node, [] => some node
  | node, d :: ds =>
    if node < 1 ∨ node % 2 = 0 then none
    else match ch[((node - 1) / 2).toNat]? with
      | none => none
      | some (c1, c2) => walk ch (if d then c2 else c1) ds

theorem walk_nil (ch : Array (Int × Int)) (node : Int) : walk ch node [] = some node := rfl

theorem walk_leaf_cons (ch : Array (Int × Int)) (j : Nat) (d : Bool) (ds : List Bool) :
    walk ch (T.leaf j).id (d :: ds) = none := by
  rw [walk, if_pos (Or.inr (id_leaf_mod j))]

theorem walk_node_cons {ch : Array (Int × Int)} {k : Nat} {a b : T}
    (hc : ch[k]? = some (a.id, b.id)) (d : Bool) (ds : List Bool) :
    walk ch (T.node k a b).id (d :: ds) = walk ch (if d then b.id else a.id) ds := by
  have h1 : ¬ ((T.node k a b).id < 1 ∨ (T.node k a b).id % 2 = 0) := by
    have := id_node_pos k a b; rw [id_node_mod]; omega
  rw [walk, if_neg h1, show (((T.node k a b).id - 1) / 2).toNat = k from node2Internal_node_id k a b,
    hc]

theorem walk_leaf_mem {ch : Array (Int × Int)} : ∀ (t : T), Rep ch t → ∀ (p : List Bool) (i : Nat),
    walk ch t.id p = some (2 * (i : Int)) → i ∈ t.leaves := by
  intro t
  induction t with
  | leaf j =>
    intro _ p i h
    cases p with
    | nil =>
      rw [walk_nil] at h
      simp only [T.id, Option.some.injEq] at h
      simp only [T.leaves, List.mem_singleton]; omega
    | cons d ds => rw [walk_leaf_cons] at h; cases h
  | node k a b iha ihb =>
    intro hrep p i h
    obtain ⟨hc, ra, rb⟩ := hrep
    cases p with
    | nil =>
      rw [walk_nil] at h
      simp only [T.id, Option.some.injEq] at h
      omega
    | cons d ds =>
      rw [walk_node_cons hc] at h
      simp only [T.leaves, List.mem_append]
      cases d with
      | false => exact Or.inl (iha ra ds i h)
      | true => exact Or.inr (ihb rb ds i h)

theorem walk_exists {ch : Array (Int × Int)} : ∀ (t : T), Rep ch t → ∀ (i : Nat), i ∈ t.leaves →
    ∃ p, walk ch t.id p = some (2 * (i : Int)) := by
  intro t
  induction t with
  | leaf j =>
    intro _ i hi
    simp only [T.leaves, List.mem_singleton] at hi
    subst hi
    exact ⟨[], by rw [walk_nil]; rfl⟩
  | node k a b iha ihb =>
    intro hrep i hi
    obtain ⟨hc, ra, rb⟩ := hrep
    simp only [T.leaves, List.mem_append] at hi
    rcases hi with hi | hi
    · obtain ⟨p, hp⟩ := iha ra i hi
      exact ⟨false :: p, (walk_node_cons hc false p).trans hp⟩
    · obtain ⟨p, hp⟩ := ihb rb i hi
      exact ⟨true :: p, (walk_node_cons hc true p).trans hp⟩

theorem walk_unique {ch : Array (Int × Int)} : ∀ (t : T), Rep ch t → t.leaves.Nodup →
    ∀ (i : Nat) (p p' : List Bool),
      walk ch t.id p = some (2 * (i : Int)) → walk ch t.id p' = some (2 * (i : Int)) → p = p' := by
  intro t
  induction t with
  | leaf j =>
    intro _ _ i p p' h h'
    cases p with
    | cons d ds => rw [walk_leaf_cons] at h; cases h
    | nil =>
      cases p' with
      | nil => rfl
      | cons d ds => rw [walk_leaf_cons] at h'; cases h'
  | node k a b iha ihb =>
    intro hrep hnd i p p' h h'
    obtain ⟨hc, ra, rb⟩ := hrep
    simp only [T.leaves, List.nodup_append] at hnd
    obtain ⟨na, nb, nab⟩ := hnd
    cases p with
    | nil =>
      rw [walk_nil] at h
      simp only [T.id, Option.some.injEq] at h; omega
    | cons d ds =>
      cases p' with
      | nil =>
        rw [walk_nil] at h'
        simp only [T.id, Option.some.injEq] at h'; omega
      | cons d' ds' =>
        rw [walk_node_cons hc] at h h'
        cases d with
        | false =>
          cases d' with
          | false =>
            rw [iha ra na i ds ds' h h']
          | true =>
            exfalso
            exact nab i (walk_leaf_mem a ra ds i h) i
              (walk_leaf_mem b rb ds' i h') rfl
        | true =>
          cases d' with
          | false =>
            exfalso
            exact nab i (walk_leaf_mem a ra ds' i h') i
              (walk_leaf_mem b rb ds i h) rfl
          | true =>
            rw [ihb rb nb i ds ds' h h']

/-- **Unique paths.**  Every leaf is reached from the root by exactly one path. -/
theorem unique_path_of_wf {ch : Array (Int × Int)} {parent : Array Int} {n : Nat}
    (hwf : wfTree ch parent n = true) (i : Nat) (hi : i < n) :
    ∃ p, walk ch kRoot p = some (2 * (i : Int)) ∧
      ∀ p', walk ch kRoot p' = some (2 * (i : Int)) → p' = p := by
  obtain ⟨t, c⟩ := wfTree_iff.mp hwf
  have hid : t.id = kRoot := c.id_eq
  obtain ⟨p, hp⟩ := walk_exists t c.rep i ((c.mem_leaves i).mpr hi)
  exact ⟨p, hid ▸ hp, fun p' hp' => walk_unique t c.rep c.nodup_leaves i p' p (hid ▸ hp') hp⟩

end MV.Collider
