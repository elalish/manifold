/-!
Association lists `List (κ × β)` read through `List.lookup`: the first entry of a key is its value.
What consing an entry and filtering a key out do to `lookup`, and a list without repeated keys as a function.
Core Lean only.
-/

namespace MV
open List

variable {κ β : Type} [BEq κ] [LawfulBEq κ] [DecidableEq κ]

theorem lookup_cons_eq (l : List (κ × β)) (k k' : κ) (v : β) :
    ((k, v) :: l).lookup k' = if k' = k then some v else l.lookup k' := by
  rw [lookup_cons]
  by_cases e : k' = k
  · rw [if_pos e, beq_iff_eq.mpr e]
  · rw [if_neg e, beq_eq_false_iff_ne.mpr e]

theorem lookup_filter_ne (l : List (κ × β)) (k k' : κ) :
    (l.filter fun p => p.1 != k).lookup k' = if k' = k then none else l.lookup k' := by
  induction l with
  | nil => rw [filter_nil, lookup_nil, ite_self]
  | cons p ps ih =>
    obtain ⟨a, v⟩ := p
    rw [filter_cons, lookup_cons_eq]
    by_cases ha : a = k
    · rw [if_neg (by simpa using ha), ih, ha]
      split <;> rfl
    · rw [if_pos (by simpa using ha), lookup_cons_eq, ih]
      by_cases e : k' = a
      · rw [if_pos e, if_neg (e ▸ ha), if_pos e]
      · rw [if_neg e, if_neg e]

theorem mem_of_lookup_eq_some {l : List (κ × β)} {k : κ} {v : β} (h : l.lookup k = some v) : (k, v) ∈ l := by
  induction l with
  | nil => cases h
  | cons p ps ih =>
    obtain ⟨a, w⟩ := p
    rw [lookup_cons_eq] at h
    split at h
    · next e => rw [e, Option.some.inj h]; exact mem_cons_self
    · exact mem_cons_of_mem _ (ih h)

omit [BEq κ] [LawfulBEq κ] [DecidableEq κ] in
/-- an association list without repeated keys is a function -/
theorem eq_of_fst_eq_of_nodup {l : List (κ × β)} (hd : (l.map Prod.fst).Nodup) {x y : κ × β}
    (hx : x ∈ l) (hy : y ∈ l) (h : x.1 = y.1) : x = y := by
  induction l with
  | nil => cases hx
  | cons p ps ih =>
    rw [map_cons, nodup_cons] at hd
    rcases mem_cons.1 hx with rfl | hx' <;> rcases mem_cons.1 hy with rfl | hy'
    · rfl
    · exact absurd (h ▸ mem_map_of_mem (f := Prod.fst) hy') hd.1
    · exact absurd (h ▸ mem_map_of_mem (f := Prod.fst) hx') hd.1
    · exact ih hd.2 hx' hy'

end MV
