import MV.Proof.EarClipAlgebra
import MV.Model.Extrude
/-!
Lemmas for `extrude_closed` / `revolve_closed` (MV/Props/C17.lean).  Core Lean only.

Everything is a computation with `net`, the class of an edge list in the free abelian group on
directed edges modulo `(a,b) = −(b,a)`.  The side walls of both constructors are BANDS between
two closed vertex rings `W`, `W'` (two layers of an extrusion, a layer and the apex, two slices
of a revolve): `band` says the quads of a band have boundary `ring W − ring W'`.
-/
namespace MV.Extrude
open MV.EarClip

theorem net_map_eq_wsum (f : Nat → Nat) (es : List Edge) (a b : Nat) :
    net (es.map fun e => (f e.1, f e.2)) a b = wsum (fun x y => ind (f x) (f y) a b) es := by
  rw [net_eq_wsum, wsum_map]; rfl

theorem wsum_perm (g : Nat → Nat → Int) {es fs : List Edge} (h : es.Perm fs) : wsum g es = wsum g fs := by
  induction h with
  | nil => rfl
  | cons e _ ih => simp only [wsum, lsum] at ih ⊢; rw [ih]
  | swap e e' l => simp only [wsum, lsum]; omega
  | trans _ _ ih1 ih2 => exact ih1.trans ih2

theorem wsum_map_swap (g : Nat → Nat → Int) (hg : ∀ x y, g y x = - g x y) (es : List Edge) :
    wsum g (es.map fun e => (e.2, e.1)) = - wsum g es := by
  induction es with
  | nil => rfl
  | cons e es ih => simp only [List.map_cons, wsum, lsum] at ih ⊢; rw [ih, hg]; omega

/-- `net` is the universal antisymmetric weight: an edge list of class zero consists of loops and of
    pairs of opposite edges (drop a loop at the head, or the head together with an opposite edge) -/
theorem wsum_eq_zero_of_net (g : Nat → Nat → Int) (hg : ∀ x y, g y x = - g x y) (n : Nat) :
    ∀ es : List Edge, es.length = n → (∀ a b, net es a b = 0) → wsum g es = 0 := by
  induction n using Nat.strongRecOn with
  | _ n ih =>
    intro es hn h0
    match es, hn, h0 with
    | [], _, _ => rfl
    | (x, y) :: es, hn, h0 =>
      by_cases hxy : x = y
      · subst hxy
        have := hg x x
        have := ih es.length (by simp at hn; omega) es rfl fun a b => by
          have := h0 a b; rw [net_cons, ind_self] at this; omega
        simp only [wsum, lsum] at this ⊢; omega
      · have hmem : (y, x) ∈ es := by
          have h := h0 x y
          unfold net at h
          rw [List.count_cons_self, List.count_cons_of_ne (by intro h; simp only [Prod.mk.injEq] at h; omega)] at h
          exact List.count_pos_iff.1 (by omega)
        have hp := List.perm_cons_erase hmem
        have hz := ih (es.erase (y, x)).length (by rw [List.length_erase_of_mem hmem]; simp at hn; omega) _ rfl
          fun a b => by
            have := h0 a b
            rw [net_cons, net_perm hp, net_cons] at this
            have := ind_swap x y a b; omega
        have e := wsum_perm g hp
        have := hg x y
        simp only [wsum, lsum] at hz e ⊢; omega

/-- edge lists with the same class have the same weighted sum for every antisymmetric weight -/
theorem wsum_congr_net (g : Nat → Nat → Int) (hg : ∀ x y, g y x = - g x y) (es fs : List Edge)
    (h : ∀ x y, net es x y = net fs x y) : wsum g es = wsum g fs := by
  have := wsum_eq_zero_of_net g hg _ (es ++ fs.map fun e => (e.2, e.1)) rfl fun a b => by
    rw [net_append, net_map_swap, h]; omega
  rw [wsum, lsum_append, ← wsum, ← wsum, wsum_map_swap g hg] at this; omega

/-- **vertex maps respect classes**: if two edge lists have the same class, so have their images
    under any (not necessarily injective) vertex map -/
theorem net_map_congr (f : Nat → Nat) (es fs : List Edge) (h : ∀ x y, net es x y = net fs x y)
    (a b : Nat) :
    net (es.map fun e => (f e.1, f e.2)) a b = net (fs.map fun e => (f e.1, f e.2)) a b := by
  rw [net_map_eq_wsum, net_map_eq_wsum]
  exact wsum_congr_net _ (fun x y => by have := ind_swap (f x) (f y) a b; omega) es fs h

/-- class of the closed ring `W 0 → W 1 → … → W (n-1) → W 0` -/
def ringP (n : Nat) (W : Nat → Nat) (a b : Nat) : Int := sumTo n (fun v => ind (W (pr n v)) (W v) a b)

theorem ringP_congr {n : Nat} {W W' : Nat → Nat} (h : ∀ v, v < n → W v = W' v) (a b : Nat) :
    ringP n W a b = ringP n W' a b :=
  sumTo_congr (fun v hv => by rw [h v hv, h _ (pr_lt hv)])

theorem ringP_const (n c a b : Nat) : ringP n (fun _ => c) a b = 0 := by
  unfold ringP
  rw [← sumTo_zero n]
  exact sumTo_congr (fun v _ => ind_self c a b)

/-- boundary of the quad `W v → W' v → W' (pr v) → W (pr v)` between two rings -/
def quad (n : Nat) (W W' : Nat → Nat) (v a b : Nat) : Int :=
  ind (W v) (W' v) a b + ind (W' v) (W' (pr n v)) a b
    + ind (W' (pr n v)) (W (pr n v)) a b + ind (W (pr n v)) (W v) a b

/-- **band lemma**: the quads between two rings have boundary `ring W − ring W'` -/
theorem band (n : Nat) (W W' : Nat → Nat) (a b : Nat) :
    sumTo n (fun v => quad n W W' v a b) = ringP n W a b - ringP n W' a b := by
  unfold quad
  rw [sumTo_add, sumTo_add, sumTo_add]
  have h3 : sumTo n (fun v => ind (W' (pr n v)) (W (pr n v)) a b) = sumTo n (fun v => ind (W' v) (W v) a b) :=
    sumTo_cyc_pred n (fun v => ind (W' v) (W v) a b)
  have h1 : sumTo n (fun v => ind (W v) (W' v) a b) = - sumTo n (fun v => ind (W' v) (W v) a b) := by
    rw [← sumTo_neg]; exact sumTo_congr (fun v _ => by have := ind_swap (W v) (W' v) a b; omega)
  have h2 : sumTo n (fun v => ind (W' v) (W' (pr n v)) a b) = - ringP n W' a b := by
    unfold ringP; rw [← sumTo_neg]
    exact sumTo_congr (fun v _ => by have := ind_swap (W' v) (W' (pr n v)) a b; omega)
  rw [h1, h2, h3]; unfold ringP; omega

/-- the image of a contour under a vertex map is a ring -/
theorem net_polyEdges_map (f : Nat → Nat) (p : List Nat) (a b : Nat) :
    net ((polyEdges p).map fun e => (f e.1, f e.2)) a b = ringP p.length (fun v => f (p.getD v 0)) a b := by
  rw [net_map_eq_wsum, wsum_polyEdges, ringP,
    ← sumTo_cyc_pred p.length fun i => ind (f (p.getD i 0)) (f (p.getD (nx p.length i) 0)) a b]
  exact sumTo_congr fun v hv => by rw [nx_pr hv]

theorem contourEdges_cons (c : List Nat) (cs : List (List Nat)) :
    contourEdges (c :: cs) = polyEdges c ++ contourEdges cs := by simp [contourEdges]

/-- the image of all contours under a vertex map: one ring per polygon -/
theorem net_contours_map (f : Nat → Nat) (sizes : List Nat) (j start a b : Nat) :
    net ((contourEdges (contoursFrom start sizes)).map fun e => (f e.1, f e.2)) a b
      = lsum (fun p => ringP p.2.2 (fun v => f (p.2.1 + v)) a b) (polyTable j start sizes) := by
  induction sizes generalizing j start with
  | nil => simp [contoursFrom, polyTable, contourEdges, lsum]
  | cons s rest ih =>
    simp only [contoursFrom, polyTable, contourEdges_cons, List.map_append, net_append, lsum]
    rw [net_polyEdges_map, ih, List.length_map, List.length_range]
    exact congrArg (· + _) (ringP_congr (fun v hv => by simp [List.getD, hv]) a b)

theorem triEdges_map (f : Nat → Nat) (ts : List Tri) :
    triEdges (ts.map fun t => (f t.1, f t.2.1, f t.2.2)) = (triEdges ts).map fun e => (f e.1, f e.2) := by
  induction ts with
  | nil => rfl
  | cons t ts ih =>
    simp only [List.map_cons, triEdges, List.flatMap_cons, List.map_append] at ih ⊢
    rw [ih]; rfl

/-- a cap: the image of a triangulation of the contours under any vertex map has the class of
    the rings -/
theorem net_cap_map (f : Nat → Nat) (sizes : List Nat) (top : List Tri)
    (htop : ∀ x y, net (triEdges top) x y = bdContours (contours sizes) x y) (a b : Nat) :
    net (triEdges (top.map fun t => (f t.1, f t.2.1, f t.2.2))) a b
      = lsum (fun p => ringP p.2.2 (fun v => f (p.2.1 + v)) a b) (polyTable 0 0 sizes) := by
  rw [triEdges_map, net_map_congr f _ _ htop, contours, net_contours_map f sizes 0 0]

/-- reversing the orientation of a triangle negates its boundary -/
theorem net_triEdgesOf_rev (x y z a b : Nat) :
    net (triEdgesOf (x, z, y)) a b = - net (triEdgesOf (x, y, z)) a b ∧
    net (triEdgesOf (z, y, x)) a b = - net (triEdgesOf (x, y, z)) a b := by
  rw [bdTri_eq, bdTri_eq, bdTri_eq]
  have h1 := ind_swap x y a b; have h2 := ind_swap y z a b; have h3 := ind_swap z x a b
  omega

theorem net_triEdges_rev (σ : Tri → Tri)
    (hσ : ∀ t a b, net (triEdgesOf (σ t)) a b = - net (triEdgesOf t) a b)
    (ts : List Tri) (a b : Nat) : net (triEdges (ts.map σ)) a b = - net (triEdges ts) a b := by
  induction ts with
  | nil => simp
  | cons t ts ih => rw [List.map_cons, net_triEdges_cons, net_triEdges_cons, ih, hσ]; omega

/-- class of layer `i`: one ring per polygon -/
def layerNet (sizes : List Nat) (i a b : Nat) : Int :=
  lsum (fun p => ringP p.2.2 (fun v => p.2.1 + v + sizes.sum * i) a b) (polyTable 0 0 sizes)

theorem sideTris_eq (nC N : Nat) (isCone : Bool) (k j idx sz vert : Nat) :
    sideTris nC N isCone (k + 1) j idx sz vert =
      if k + 1 = N ∧ isCone = true then
        [(nC * (k + 1) + j, idx + pr sz vert + nC * k, idx + vert + nC * k)]
      else
        [(idx + vert + nC * (k + 1), idx + pr sz vert + nC * (k + 1), idx + vert + nC * k),
         (idx + pr sz vert + nC * (k + 1), idx + pr sz vert + nC * k, idx + vert + nC * k)] := by
  have e1 : vert + (idx + nC * (k + 1)) = idx + vert + nC * (k + 1) := by omega
  have e2 : (if vert = 0 then sz else vert) - 1 + (idx + nC * (k + 1)) = idx + pr sz vert + nC * (k + 1) := by
    unfold pr; split <;> omega
  have e3 : idx + vert + nC * (k + 1) - nC = idx + vert + nC * k := by rw [Nat.mul_succ]; omega
  have e4 : idx + pr sz vert + nC * (k + 1) - nC = idx + pr sz vert + nC * k := by rw [Nat.mul_succ]; omega
  simp only [sideTris, e1, e2, e3, e4]

theorem side_quads (nC N k j idx sz : Nat) (isCone : Bool) (hc : ¬ (k + 1 = N ∧ isCone = true)) (a b : Nat) :
    sumTo sz (fun vert => net (triEdges (sideTris nC N isCone (k + 1) j idx sz vert)) a b)
      = ringP sz (fun v => idx + v + nC * k) a b - ringP sz (fun v => idx + v + nC * (k + 1)) a b := by
  rw [← band]
  refine sumTo_congr (fun v _ => ?_)
  rw [sideTris_eq, if_neg hc]
  simp only [quad, net_triEdges_cons, net_triEdges_nil, bdTri_eq]
  have := ind_swap (idx + pr sz v + nC * (k + 1)) (idx + v + nC * k) a b
  omega

/-- the apex fan is the band between the last layer and the constant ring at the apex -/
theorem side_cone (nC k j idx sz : Nat) (a b : Nat) :
    sumTo sz (fun vert => net (triEdges (sideTris nC (k + 1) true (k + 1) j idx sz vert)) a b)
      = ringP sz (fun v => idx + v + nC * k) a b := by
  have hb := band sz (fun v => idx + v + nC * k) (fun _ => nC * (k + 1) + j) a b
  rw [ringP_const, Int.sub_zero] at hb
  rw [← hb]
  refine sumTo_congr (fun v _ => ?_)
  rw [sideTris_eq, if_pos ⟨rfl, rfl⟩]
  simp only [quad, net_triEdges_cons, net_triEdges_nil, bdTri_eq, ind_self]
  have := ind_swap (nC * (k + 1) + j) (idx + v + nC * k) a b
  omega

/-- the side triangles between layers `i0` and `i0 + 1`, all polygons -/
theorem layer_net (sizes : List Nat) (N : Nat) (isCone : Bool) (i0 : Nat)
    (hc : ¬ (i0 + 1 = N ∧ isCone = true)) (a b : Nat) :
    net (triEdges ((polyTable 0 0 sizes).flatMap fun p =>
        (List.range p.2.2).flatMap fun vert => sideTris sizes.sum N isCone (i0 + 1) p.1 p.2.1 p.2.2 vert)) a b
      = layerNet sizes i0 a b - layerNet sizes (i0 + 1) a b := by
  rw [net_triEdges_flatMap]
  unfold layerNet
  rw [← lsum_sub]
  exact lsum_congr (fun p _ => by rw [net_triEdges_flatMap_range, side_quads _ _ _ _ _ _ _ hc])

theorem sum_layers (sizes : List Nat) (n a b : Nat) :
    sumTo n (fun i => layerNet sizes i a b - layerNet sizes (i + 1) a b)
      = layerNet sizes 0 a b - layerNet sizes n a b := by
  have := sumTo_telescope n (fun i => - layerNet sizes i a b)
  rw [sumTo_congr (g' := fun i => - layerNet sizes (i + 1) a b - - layerNet sizes i a b)
    (fun i _ => by omega), this]
  omega

theorem sideAll_net_nocone (sizes : List Nat) (N : Nat) (a b : Nat) :
    net (triEdges (sideAll sizes N false)) a b = layerNet sizes 0 a b - layerNet sizes N a b := by
  unfold sideAll
  rw [net_triEdges_flatMap_range, sumTo_congr (fun i0 _ => layer_net sizes N false i0 (by simp) a b),
    sum_layers]

theorem sideAll_net_cone (sizes : List Nat) (n : Nat) (a b : Nat) :
    net (triEdges (sideAll sizes (n + 1) true)) a b = layerNet sizes 0 a b := by
  unfold sideAll
  rw [net_triEdges_flatMap_range, sumTo,
    sumTo_congr (fun i0 hi => layer_net sizes (n + 1) true i0 (by omega) a b), sum_layers]
  have hl : net (triEdges ((polyTable 0 0 sizes).flatMap fun p =>
        (List.range p.2.2).flatMap fun vert => sideTris sizes.sum (n + 1) true (n + 1) p.1 p.2.1 p.2.2 vert)) a b
      = layerNet sizes n a b := by
    rw [net_triEdges_flatMap]
    exact lsum_congr (fun p _ => by rw [net_triEdges_flatMap_range, side_cone])
  rw [hl]; omega

theorem capTris_net (nC N : Nat) (isCone : Bool) (top : List Tri) (a b : Nat) :
    net (triEdges (capTris nC N isCone top)) a b
      = net (triEdges (top.map fun t => (t.1, t.2.2, t.2.1))) a b
        + (if isCone then 0 else
            net (triEdges (top.map fun t => (t.1 + nC * N, t.2.1 + nC * N, t.2.2 + nC * N))) a b) := by
  induction top with
  | nil => cases isCone <;> simp [capTris]
  | cons t ts ih =>
    unfold capTris at ih ⊢
    rw [List.flatMap_cons, net_triEdges_append, ih]
    cases isCone
    · simp only [List.map_cons, net_triEdges_cons, net_triEdges_nil, Bool.false_eq_true, if_false]; omega
    · simp only [List.map_cons, net_triEdges_cons, net_triEdges_nil, if_true]; omega

theorem layerNet_zero_eq (sizes : List Nat) (top : List Tri)
    (htop : ∀ x y, net (triEdges top) x y = bdContours (contours sizes) x y) (a b : Nat) :
    net (triEdges top) a b = layerNet sizes 0 a b := by
  have h := net_cap_map (fun x => x) sizes top htop a b
  have e : (top.map fun t : Tri => (t.1, t.2.1, t.2.2)) = top := by
    induction top with
    | nil => rfl
    | cons t ts ih => simp
  rw [e] at h
  rw [h]; unfold layerNet
  exact lsum_congr (fun p _ => ringP_congr (fun v _ => by simp) a b)

/-- **the net of all emitted triangles is zero on every edge** -/
theorem extrude_net_zero (sizes : List Nat) (nDiv : Nat) (isCone : Bool) (top : List Tri)
    (htop : ∀ x y, net (triEdges top) x y = bdContours (contours sizes) x y) (a b : Nat) :
    net (triEdges (extrudeTris sizes nDiv isCone top)) a b = 0 := by
  unfold extrudeTris
  rw [net_triEdges_append, capTris_net, net_triEdges_rev _ fun t a b => (net_triEdgesOf_rev t.1 t.2.1 t.2.2 a b).1,
    layerNet_zero_eq sizes top htop]
  cases isCone
  · rw [sideAll_net_nocone]
    simp only [Bool.false_eq_true, if_false]
    have := net_cap_map (fun x => x + sizes.sum * (nDiv + 1)) sizes top htop a b
    rw [this]; unfold layerNet; omega
  · rw [sideAll_net_cone]; simp only [if_true]; omega

theorem polyTable_bounds (sizes : List Nat) (j idx : Nat) :
    ∀ p ∈ polyTable j idx sizes, idx ≤ p.2.1 ∧ p.2.1 + p.2.2 ≤ idx + sizes.sum ∧
      j ≤ p.1 ∧ p.1 < j + sizes.length ∧ p.2.2 ∈ sizes := by
  induction sizes generalizing j idx with
  | nil => intro p hp; cases hp
  | cons s rest ih =>
    intro p hp
    simp only [polyTable, List.mem_cons] at hp
    rcases hp with rfl | hp
    · simp only [List.sum_cons, List.length_cons, List.mem_cons, true_or, and_true]; omega
    · have := ih (j + 1) (idx + s) p hp
      simp only [List.sum_cons, List.length_cons, List.mem_cons]
      refine ⟨by omega, by omega, by omega, by omega, Or.inr this.2.2.2.2⟩

theorem polyTable_cover (sizes : List Nat) (j idx r : Nat) (h1 : idx ≤ r) (h2 : r < idx + sizes.sum) :
    ∃ p ∈ polyTable j idx sizes, p.2.1 ≤ r ∧ r < p.2.1 + p.2.2 := by
  induction sizes generalizing j idx with
  | nil => simp at h2; omega
  | cons s rest ih =>
    simp only [List.sum_cons] at h2
    by_cases h : r < idx + s
    · exact ⟨(j, idx, s), by simp [polyTable], h1, h⟩
    · obtain ⟨p, hp, hb⟩ := ih (j + 1) (idx + s) (by omega) (by omega)
      exact ⟨p, by simp [polyTable, hp], hb⟩

theorem polyTable_nth (sizes : List Nat) (j idx k : Nat) (hk : k < sizes.length) :
    ∃ p ∈ polyTable j idx sizes, p.1 = j + k := by
  induction sizes generalizing j idx k with
  | nil => simp at hk
  | cons s rest ih =>
    cases k with
    | zero => exact ⟨(j, idx, s), by simp [polyTable], rfl⟩
    | succ k =>
      obtain ⟨p, hp, he⟩ := ih (j + 1) (idx + s) k (by simpa using hk)
      exact ⟨p, by simp [polyTable, hp], by omega⟩

theorem mem_sideAll (sizes : List Nat) (N : Nat) (isCone : Bool) (t : Tri) :
    t ∈ sideAll sizes N isCone ↔ ∃ i0, i0 < N ∧ ∃ p ∈ polyTable 0 0 sizes, ∃ vert, vert < p.2.2 ∧
      t ∈ sideTris sizes.sum N isCone (i0 + 1) p.1 p.2.1 p.2.2 vert := by
  simp only [sideAll, List.mem_flatMap, List.mem_range]

def TriLt (n : Nat) (t : Tri) : Prop := t.1 < n ∧ t.2.1 < n ∧ t.2.2 < n
def TriHas (v : Nat) (t : Tri) : Prop := t.1 = v ∨ t.2.1 = v ∨ t.2.2 = v
instance (n : Nat) (t : Tri) : Decidable (TriLt n t) := by unfold TriLt; infer_instance
instance (v : Nat) (t : Tri) : Decidable (TriHas v t) := by unfold TriHas; infer_instance

/-- vertex `r` of layer `l` lies below layer `M` -/
theorem layer_lt {nC r l M : Nat} (hr : r < nC) (hl : l < M) : r + nC * l < nC * M := by
  have := Nat.mul_le_mul_left nC (Nat.succ_le_of_lt hl)
  rw [Nat.mul_succ] at this
  omega

/-- the side triangles of layer `k + 1 ≤ N` use the layers `k`, `k + 1` and, at the tip of a cone,
    one of the `L` apex copies that follow layer `N - 1` -/
theorem sideTris_lt (nC N L : Nat) (isCone : Bool) (k j idx sz vert : Nat) (hv : vert < sz)
    (hb : idx + sz ≤ nC) (hk : k < N) (hj : j < L) :
    ∀ t ∈ sideTris nC N isCone (k + 1) j idx sz vert,
      TriLt (if isCone then nC * N + L else nC * N + nC) t := by
  intro t ht
  have hp := pr_lt hv
  have l0 := layer_lt (show idx + vert < nC by omega) hk
  have l0' := layer_lt (show idx + pr sz vert < nC by omega) hk
  rw [sideTris_eq] at ht
  unfold TriLt
  split at ht
  · next hc =>
    rw [List.mem_singleton.1 ht, hc.2, ← hc.1, if_pos rfl]
    rw [← hc.1] at l0 l0'
    dsimp only
    omega
  · next hc =>
    -- not the tip: either no cone, or layer `k + 1` is below `N`
    have l2 := layer_lt (show idx + vert < nC by omega) (show k + 1 < N + 1 by omega)
    have l2' := layer_lt (show idx + pr sz vert < nC by omega) (show k + 1 < N + 1 by omega)
    rw [Nat.mul_succ] at l2 l2'
    simp only [List.mem_cons, List.not_mem_nil, or_false] at ht
    cases isCone
    · simp only [Bool.false_eq_true, if_false]
      rcases ht with rfl | rfl <;> dsimp only <;> exact ⟨by omega, by omega, by omega⟩
    · have hk' : k + 1 < N := by
        have : k + 1 ≠ N := fun e => hc ⟨e, rfl⟩
        omega
      have l1 := layer_lt (show idx + vert < nC by omega) hk'
      have l1' := layer_lt (show idx + pr sz vert < nC by omega) hk'
      simp only [if_true]
      rcases ht with rfl | rfl <;> dsimp only <;> omega

theorem extrude_in_range (sizes : List Nat) (nDiv : Nat) (isCone : Bool) (top : List Tri)
    (htop : ∀ t ∈ top, TriLt sizes.sum t) :
    ∀ t ∈ extrudeTris sizes nDiv isCone top, TriLt (extrudeNumVert sizes nDiv isCone) t := by
  intro t ht
  have e : extrudeNumVert sizes nDiv isCone =
      if isCone then sizes.sum * (nDiv + 1) + sizes.length else sizes.sum * (nDiv + 1) + sizes.sum := by
    unfold extrudeNumVert; split <;> rfl
  rw [e]
  unfold extrudeTris at ht
  rcases List.mem_append.1 ht with hs | hc
  · obtain ⟨i0, hi0, p, hp, vert, hv, hm⟩ := (mem_sideAll _ _ _ _).1 hs
    obtain ⟨_, hb, _, hj, _⟩ := polyTable_bounds sizes 0 0 p hp
    exact sideTris_lt _ _ _ _ _ _ _ _ _ hv (by omega) hi0 (by omega) t hm
  · unfold capTris at hc
    obtain ⟨t0, ht0, hm⟩ := List.mem_flatMap.1 hc
    obtain ⟨h1, h2, h3⟩ := htop t0 ht0
    have hge : sizes.sum ≤ sizes.sum * (nDiv + 1) := Nat.le_mul_of_pos_right _ (by omega)
    unfold TriLt
    rcases List.mem_cons.1 hm with rfl | hm
    · cases isCone <;> simp only [Bool.false_eq_true, if_false, if_true] <;> omega
    · cases isCone
      · simp only [Bool.false_eq_true, if_false, List.mem_singleton] at hm ⊢
        subst hm
        dsimp only
        omega
      · simp at hm

/-- every vertex is a corner of some emitted triangle (for a cone: every polygon non-empty,
    else its apex duplicate is never referenced) -/
theorem extrude_all_used (sizes : List Nat) (nDiv : Nat) (isCone : Bool) (top : List Tri)
    (hpos : isCone = true → ∀ s ∈ sizes, 0 < s) :
    ∀ v, v < extrudeNumVert sizes nDiv isCone → ∃ t ∈ extrudeTris sizes nDiv isCone top, TriHas v t := by
  intro v hv
  -- a vertex of layer i < N is the third corner of the triangles of layer i+1 above it
  have lower : ∀ i r, i < nDiv + 1 → r < sizes.sum → v = r + sizes.sum * i →
      ∃ t ∈ extrudeTris sizes nDiv isCone top, TriHas v t := by
    intro i r hi hr hvr
    obtain ⟨p, hp, h1, h2⟩ := polyTable_cover sizes 0 0 r (by omega) (by omega)
    have hmem : ∀ t, t ∈ sideTris sizes.sum (nDiv + 1) isCone (i + 1) p.1 p.2.1 p.2.2 (r - p.2.1) →
        t ∈ extrudeTris sizes nDiv isCone top := fun t ht =>
      List.mem_append_left _ ((mem_sideAll _ _ _ _).2 ⟨i, hi, p, hp, r - p.2.1, by omega, ht⟩)
    rw [sideTris_eq] at hmem
    by_cases hc : i + 1 = nDiv + 1 ∧ isCone = true
    · rw [if_pos hc] at hmem
      exact ⟨_, hmem _ (List.mem_singleton.2 rfl), Or.inr (Or.inr (by dsimp only; omega))⟩
    · rw [if_neg hc] at hmem
      exact ⟨_, hmem _ (List.mem_cons_self ..), Or.inr (Or.inr (by dsimp only; omega))⟩
  unfold extrudeNumVert at hv
  by_cases hlow : v < sizes.sum * (nDiv + 1)
  · have hpos' : 0 < sizes.sum := by
      rcases Nat.eq_zero_or_pos sizes.sum with h | h
      · rw [h] at hlow; simp at hlow
      · exact h
    have hd := Nat.div_add_mod v sizes.sum
    have hm := Nat.mod_lt v hpos'
    have hi : v / sizes.sum < nDiv + 1 := (Nat.div_lt_iff_lt_mul hpos').2 (by rw [Nat.mul_comm]; exact hlow)
    exact lower (v / sizes.sum) (v % sizes.sum) hi hm (by omega)
  · cases isCone
    · -- top layer of a prism: first corner of the first triangle of layer N
      simp only [Bool.false_eq_true, if_false] at hv
      have e1 : sizes.sum * (nDiv + 2) = sizes.sum * (nDiv + 1) + sizes.sum := by rw [Nat.mul_succ]
      obtain ⟨p, hp, h1, h2⟩ := polyTable_cover sizes 0 0 (v - sizes.sum * (nDiv + 1)) (by omega) (by omega)
      have hmem : ∀ t, t ∈ sideTris sizes.sum (nDiv + 1) false (nDiv + 1) p.1 p.2.1 p.2.2 (v - sizes.sum * (nDiv + 1) - p.2.1) →
          t ∈ extrudeTris sizes nDiv false top := fun t ht =>
        List.mem_append_left _ ((mem_sideAll _ _ _ _).2 ⟨nDiv, by omega, p, hp, _, by omega, ht⟩)
      rw [sideTris_eq, if_neg (by simp)] at hmem
      exact ⟨_, hmem _ (List.mem_cons_self ..), Or.inl (by dsimp only; omega)⟩
    · -- apex duplicate j of a cone: first corner of the apex triangle of polygon j, vertex 0
      simp only [if_true] at hv
      obtain ⟨p, hp, hj⟩ := polyTable_nth sizes 0 0 (v - sizes.sum * (nDiv + 1)) (by omega)
      have hsz : 0 < p.2.2 := hpos rfl _ (polyTable_bounds sizes 0 0 p hp).2.2.2.2
      have hmem : ∀ t, t ∈ sideTris sizes.sum (nDiv + 1) true (nDiv + 1) p.1 p.2.1 p.2.2 0 →
          t ∈ extrudeTris sizes nDiv true top := fun t ht =>
        List.mem_append_left _ ((mem_sideAll _ _ _ _).2 ⟨nDiv, by omega, p, hp, 0, hsz, ht⟩)
      rw [sideTris_eq, if_pos ⟨rfl, rfl⟩] at hmem
      exact ⟨_, hmem _ (List.mem_singleton.2 rfl), Or.inl (by dsimp only; omega)⟩

theorem pushedBy_succ (nS : Nat) (poly : List Bool) (k : Nat) (hk : k < poly.length) :
    pushedBy nS poly (k + 1) = pushedBy nS poly k + cnt nS (poly.getD k false) := by
  unfold pushedBy
  rw [List.take_add_one, List.map_append, List.sum_append]
  simp [List.getD, List.getElem?_eq_getElem hk]

theorem sum_map_cnt (nS : Nat) (poly : List Bool) :
    (poly.map (cnt nS)).sum = poly.count false + nS * poly.count true := by
  induction poly with
  | nil => simp
  | cons b rest ih =>
    cases b <;> simp [cnt, ih, Nat.mul_add] <;> omega

theorem pushedBy_total (nS : Nat) (poly : List Bool) :
    pushedBy nS poly poly.length = poly.count false + nS * poly.count true := by
  unfold pushedBy; rw [List.take_length, sum_map_cnt]

theorem pushedBy_zero (nS : Nat) (poly : List Bool) : pushedBy nS poly 0 = 0 := by simp [pushedBy]

theorem prevIdx_eq_pr (len pv : Nat) : prevIdx len pv = pr len pv := by
  unfold prevIdx pr; split <;> omega

/-- the C++ expression for `prevStartPosIndex` is the start index of the previous polygon vertex -/
theorem prevStart_eq (nS : Nat) (poly : List Bool) (base pv : Nat) (hpv : pv < poly.length) :
    (prevStartOf nS poly (startOf nS poly base pv) pv).toNat = startOf nS poly base (pr poly.length pv) := by
  unfold prevStartOf startOf
  rw [prevIdx_eq_pr]
  have hp := pr_lt hpv
  have hs := pushedBy_succ nS poly (pr poly.length pv) hp
  by_cases h0 : pv = 0
  · subst h0
    have ht := pushedBy_total nS poly
    have hz := pushedBy_zero nS poly
    have e : pr poly.length 0 + 1 = poly.length := by unfold pr; simp; omega
    rw [e] at hs
    simp only [if_true]
    cases hb : poly.getD (pr poly.length 0) false <;>
      simp only [hb, cnt, Bool.false_eq_true, if_false, if_true] at hs ⊢ <;> omega
  · have e : pr poly.length pv + 1 = pv := by unfold pr; simp [h0]; omega
    rw [e] at hs
    simp only [h0, if_false]
    cases hb : poly.getD (pr poly.length pv) false <;>
      simp only [hb, cnt, Bool.false_eq_true, if_false, if_true] at hs ⊢ <;> omega

/-- output index of polygon vertex `k` on slice `s` -/
def V (nS : Nat) (poly : List Bool) (base k s : Nat) : Nat :=
  startOf nS poly base k + (if poly.getD k false then s else 0)

theorem V_on {nS : Nat} {poly : List Bool} {k : Nat} (base s : Nat) (h : poly.getD k false = false) :
    V nS poly base k s = startOf nS poly base k := by rw [V, h]; rfl

theorem V_off {nS : Nat} {poly : List Bool} {k : Nat} (base s : Nat) (h : poly.getD k false = true) :
    V nS poly base k s = startOf nS poly base k + s := by rw [V, h]; rfl

/-- the triangles of polygon vertex `pv` on slice `slice`, over the output indices `V`: with `pv'`
    the previous polygon vertex and `ls` the previous slice, `(pv, slice) (pv, ls) (pv', ls)` if
    `pv` is off the axis and `(pv', ls) (pv', slice) (pv, slice)` if `pv'` is -/
theorem revolveVertTris_eq (nDiv nS : Nat) (isFull : Bool) (poly : List Bool) (base pv slice : Nat)
    (hpv : pv < poly.length) :
    revolveVertTris nDiv nS isFull poly base pv slice =
      if isFull || decide (slice > 0) then
        (if poly.getD pv false then
          [(V nS poly base pv slice, V nS poly base pv (pr nDiv slice),
            V nS poly base (pr poly.length pv) (pr nDiv slice))] else []) ++
        (if poly.getD (pr poly.length pv) false then
          [(V nS poly base (pr poly.length pv) (pr nDiv slice), V nS poly base (pr poly.length pv) slice,
            V nS poly base pv slice)] else [])
      else [] := by
  unfold revolveVertTris
  dsimp only
  rw [prevStart_eq nS poly base pv hpv, prevIdx_eq_pr]
  cases h1 : poly.getD pv false <;> cases h2 : poly.getD (pr poly.length pv) false <;>
    simp only [V, h1, h2, Bool.false_eq_true, if_false, if_true, Nat.add_zero] <;> rfl

theorem vert_tris_net (nDiv nS : Nat) (isFull : Bool) (poly : List Bool) (base pv slice : Nat)
    (hpv : pv < poly.length) (hg : (isFull || decide (slice > 0)) = true) (a b : Nat) :
    net (triEdges (revolveVertTris nDiv nS isFull poly base pv slice)) a b
      = quad poly.length (fun k => V nS poly base k slice) (fun k => V nS poly base k (pr nDiv slice)) pv a b := by
  rw [revolveVertTris_eq nDiv nS isFull poly base pv slice hpv, if_pos hg]
  simp only [quad]
  unfold V
  generalize pr nDiv slice = ls
  generalize startOf nS poly base pv = c
  generalize startOf nS poly base (pr poly.length pv) = p
  cases poly.getD pv false <;> cases poly.getD (pr poly.length pv) false <;>
    simp only [Bool.false_eq_true, if_false, if_true, List.append_nil, List.nil_append, List.cons_append,
      net_triEdges_cons, net_triEdges_nil, bdTri_eq, Nat.add_zero, ind_self]
  · have := ind_swap c p a b; omega
  · have := ind_swap c (p + ls) a b; omega
  · have := ind_swap p (c + slice) a b; omega
  · have := ind_swap (p + ls) (c + slice) a b; omega

/-- class of one polygon's ring on slice `s` -/
def polyRing (nS : Nat) (poly : List Bool) (base s a b : Nat) : Int :=
  ringP poly.length (fun k => V nS poly base k s) a b

theorem slice_net (nDiv nS : Nat) (isFull : Bool) (poly : List Bool) (base slice : Nat)
    (hg : (isFull || decide (slice > 0)) = true) (a b : Nat) :
    sumTo poly.length (fun pv => net (triEdges (revolveVertTris nDiv nS isFull poly base pv slice)) a b)
      = polyRing nS poly base slice a b - polyRing nS poly base (pr nDiv slice) a b := by
  unfold polyRing
  rw [← band]
  exact sumTo_congr (fun pv hpv => vert_tris_net nDiv nS isFull poly base pv slice hpv hg a b)

theorem slice_net_off (nDiv nS : Nat) (poly : List Bool) (base : Nat) (a b : Nat) :
    sumTo poly.length (fun pv => net (triEdges (revolveVertTris nDiv nS false poly base pv 0)) a b) = 0 := by
  rw [← sumTo_zero poly.length]
  exact sumTo_congr (fun pv _ => by simp [revolveVertTris])

theorem poly_net_swap (nDiv nS : Nat) (isFull : Bool) (poly : List Bool) (base a b : Nat) :
    net (triEdges (revolvePolyTris nDiv nS isFull poly base)) a b
      = sumTo nS (fun slice => sumTo poly.length (fun pv =>
          net (triEdges (revolveVertTris nDiv nS isFull poly base pv slice)) a b)) := by
  unfold revolvePolyTris
  rw [net_triEdges_flatMap_range, ← sumTo_comm]
  exact sumTo_congr (fun pv _ => net_triEdges_flatMap_range _ _ a b)

theorem poly_net_full (nDiv : Nat) (poly : List Bool) (base a b : Nat) :
    net (triEdges (revolvePolyTris nDiv nDiv true poly base)) a b = 0 := by
  rw [poly_net_swap]
  have h : ∀ slice, sumTo poly.length (fun pv => net (triEdges (revolveVertTris nDiv nDiv true poly base pv slice)) a b)
      = polyRing nDiv poly base slice a b - polyRing nDiv poly base (pr nDiv slice) a b :=
    fun slice => slice_net nDiv nDiv true poly base slice (by simp) a b
  simp only [h]
  rw [sumTo_sub, sumTo_cyc_pred nDiv (fun s => polyRing nDiv poly base s a b)]; omega

theorem poly_net_partial (nDiv : Nat) (poly : List Bool) (base a b : Nat) :
    net (triEdges (revolvePolyTris nDiv (nDiv + 1) false poly base)) a b
      = polyRing (nDiv + 1) poly base nDiv a b - polyRing (nDiv + 1) poly base 0 a b := by
  rw [poly_net_swap, sumTo_shift, slice_net_off]
  have h : ∀ k, sumTo poly.length (fun pv => net (triEdges (revolveVertTris nDiv (nDiv + 1) false poly base pv (k + 1))) a b)
      = polyRing (nDiv + 1) poly base (k + 1) a b - polyRing (nDiv + 1) poly base k a b := by
    intro k
    have := slice_net nDiv (nDiv + 1) false poly base (k + 1) (by simp) a b
    simpa [pr] using this
  simp only [h]
  rw [sumTo_telescope nDiv (fun s => polyRing (nDiv + 1) poly base s a b)]; omega

/-- class of all polygons' rings on slice `s` -/
def ringsAt (nS s a b : Nat) : Nat → List (List Bool) → Int
  | _, [] => 0
  | base, poly :: rest => polyRing nS poly base s a b + ringsAt nS s a b (base + pushedBy nS poly poly.length) rest

theorem sides_net_full (nDiv : Nat) (polys : List (List Bool)) (base a b : Nat) :
    net (triEdges (revolveSides nDiv nDiv true base polys)) a b = 0 := by
  induction polys generalizing base with
  | nil => simp [revolveSides]
  | cons poly rest ih => rw [revolveSides, net_triEdges_append, poly_net_full, ih]; rfl

theorem sides_net_partial (nDiv : Nat) (polys : List (List Bool)) (base a b : Nat) :
    net (triEdges (revolveSides nDiv (nDiv + 1) false base polys)) a b
      = ringsAt (nDiv + 1) nDiv a b base polys - ringsAt (nDiv + 1) 0 a b base polys := by
  induction polys generalizing base with
  | nil => simp [revolveSides, ringsAt]
  | cons poly rest ih => rw [revolveSides, net_triEdges_append, poly_net_partial, ih]; simp only [ringsAt]; omega

theorem getD_append_mid (pre mid post : List Nat) (v : Nat) (hv : v < mid.length) :
    (pre ++ (mid ++ post)).getD (pre.length + v) 0 = mid.getD v 0 := by
  simp [List.getD, List.getElem?_append_right, List.getElem?_append_left hv]

/-- the vertex table of slice `s`: contour after contour, the vertex `V … k s` of every contour
position `k` -/
def tblV (nS s : Nat) : Nat → List (List Bool) → List Nat
  | _, [] => []
  | base, poly :: rest =>
      (List.range poly.length).map (fun k => V nS poly base k s) ++ tblV nS s (base + pushedBy nS poly poly.length) rest

/-- reading `startPoses`-like tables through the contours gives the rings of the slice -/
theorem cap_rings (nS s a b : Nat) (polys : List (List Bool)) (pre : List Nat) (j base : Nat) :
    lsum (fun p => ringP p.2.2 (fun v => (pre ++ tblV nS s base polys).getD (p.2.1 + v) 0) a b)
        (polyTable j pre.length (polys.map List.length))
      = ringsAt nS s a b base polys := by
  induction polys generalizing pre j base with
  | nil => simp [polyTable, lsum, ringsAt]
  | cons poly rest ih =>
    simp only [List.map_cons, polyTable, lsum, ringsAt]
    rw [tblV]
    congr 1
    · unfold polyRing
      refine ringP_congr (fun v hv => ?_) a b
      rw [getD_append_mid _ _ _ _ (by simpa using hv)]
      simp [List.getD, hv]
    · have := ih (pre ++ (List.range poly.length).map (fun k => V nS poly base k s)) (j + 1)
        (base + pushedBy nS poly poly.length)
      simp only [List.length_append, List.length_map, List.length_range, List.append_assoc] at this
      exact this

theorem startPosList_eq (nS : Nat) (polys : List (List Bool)) (base : Nat) :
    startPosList nS base polys = tblV nS 0 base polys := by
  induction polys generalizing base with
  | nil => rfl
  | cons poly rest ih =>
    rw [startPosList, tblV, ih]
    congr 1
    exact List.map_congr_left (fun k _ => by simp [V])

theorem endPosList_eq (nS : Nat) (polys : List (List Bool)) (base : Nat) :
    endPosList (nS + 1) base polys = tblV (nS + 1) nS base polys := by
  induction polys generalizing base with
  | nil => rfl
  | cons poly rest ih =>
    rw [endPosList, tblV, ih]
    congr 1
    refine List.map_congr_left (fun k hk => ?_)
    have hk' : k < poly.length := List.mem_range.1 hk
    unfold V startOf
    rw [pushedBy_succ _ _ _ hk']
    unfold cnt
    split <;> omega

theorem caps_net (nDiv : Nat) (polys : List (List Bool)) (front : List Tri)
    (hfront : ∀ x y, net (triEdges front) x y = bdContours (revolveContours polys) x y) (a b : Nat) :
    net (triEdges (revolveCaps (startPosList (nDiv + 1) 0 polys) (endPosList (nDiv + 1) 0 polys) front)) a b
      = ringsAt (nDiv + 1) 0 a b 0 polys - ringsAt (nDiv + 1) nDiv a b 0 polys := by
  unfold revolveCaps
  rw [net_triEdges_append]
  have h1 := net_cap_map (fun c => (startPosList (nDiv + 1) 0 polys).getD c 0) (polys.map List.length) front hfront a b
  have h2 := net_cap_map (fun c => (endPosList (nDiv + 1) 0 polys).getD c 0) (polys.map List.length) front hfront a b
  have c1 := cap_rings (nDiv + 1) 0 a b polys [] 0 0
  have c2 := cap_rings (nDiv + 1) nDiv a b polys [] 0 0
  simp only [List.nil_append, List.length_nil] at c1 c2
  rw [startPosList_eq] at h1 ⊢
  rw [endPosList_eq] at h2 ⊢
  rw [c1] at h1
  rw [c2] at h2
  rw [h1]
  have e : (front.map fun t => ((tblV (nDiv + 1) nDiv 0 polys).getD t.2.2 0, (tblV (nDiv + 1) nDiv 0 polys).getD t.2.1 0,
        (tblV (nDiv + 1) nDiv 0 polys).getD t.1 0))
      = (front.map fun t => ((tblV (nDiv + 1) nDiv 0 polys).getD t.1 0, (tblV (nDiv + 1) nDiv 0 polys).getD t.2.1 0,
        (tblV (nDiv + 1) nDiv 0 polys).getD t.2.2 0)).map fun t => (t.2.2, t.2.1, t.1) := by
    rw [List.map_map]; rfl
  rw [e, net_triEdges_rev _ fun t a b => (net_triEdgesOf_rev t.1 t.2.1 t.2.2 a b).2, h2]; omega

/-- **the net of all triangles `Revolve` emits is zero on every edge** -/
theorem revolve_net_zero (polys : List (List Bool)) (nDiv : Nat) (isFull : Bool) (front : List Tri)
    (hfront : ∀ x y, net (triEdges front) x y = bdContours (revolveContours polys) x y) (a b : Nat) :
    net (triEdges (revolveTris polys nDiv isFull front)) a b = 0 := by
  unfold revolveTris
  cases isFull
  · simp only [nSlicesOf, Bool.false_eq_true, if_false]
    rw [net_triEdges_append, sides_net_partial, caps_net nDiv polys front hfront]; omega
  · simp only [nSlicesOf, if_true, List.append_nil]
    exact sides_net_full nDiv polys 0 a b

theorem pushedBy_le (nS : Nat) (poly : List Bool) (k : Nat) :
    pushedBy nS poly k ≤ pushedBy nS poly poly.length := by
  unfold pushedBy
  rw [List.take_length]
  conv => rhs; rw [← List.take_append_drop k poly]
  rw [List.map_append, List.sum_append]; omega

theorem startOf_succ_le (nS : Nat) (poly : List Bool) (base k : Nat) (hk : k < poly.length) :
    startOf nS poly base k + cnt nS (poly.getD k false) ≤ base + pushedBy nS poly poly.length := by
  have h1 := pushedBy_succ nS poly k hk
  have h2 := pushedBy_le nS poly (k + 1)
  unfold startOf; omega

theorem mem_revolvePolyTris (nDiv nS : Nat) (isFull : Bool) (poly : List Bool) (base : Nat) (t : Tri) :
    t ∈ revolvePolyTris nDiv nS isFull poly base ↔
      ∃ pv, pv < poly.length ∧ ∃ slice, slice < nS ∧ t ∈ revolveVertTris nDiv nS isFull poly base pv slice := by
  simp only [revolvePolyTris, List.mem_flatMap, List.mem_range]

theorem V_lt (nS : Nat) (poly : List Bool) (base : Nat) {k s : Nat} (hk : k < poly.length) (hs : s < nS) :
    V nS poly base k s < base + pushedBy nS poly poly.length := by
  have := startOf_succ_le nS poly base k hk
  unfold V; unfold cnt at this
  split <;> simp_all <;> omega

theorem vertTris_range (nDiv nS : Nat) (isFull : Bool) (poly : List Bool) (base pv slice : Nat)
    (hpv : pv < poly.length) (hs : slice < nS) (hd : 1 ≤ nDiv) (hdn : nDiv ≤ nS) :
    ∀ t ∈ revolveVertTris nDiv nS isFull poly base pv slice, TriLt (base + pushedBy nS poly poly.length) t := by
  intro t ht
  have hls : pr nDiv slice < nS := by unfold pr; split <;> omega
  rw [revolveVertTris_eq nDiv nS isFull poly base pv slice hpv] at ht
  split at ht
  · rcases List.mem_append.1 ht with h | h <;> split at h
    · rw [List.mem_singleton.1 h]
      exact ⟨V_lt nS poly base hpv hs, V_lt nS poly base hpv hls, V_lt nS poly base (pr_lt hpv) hls⟩
    · cases h
    · rw [List.mem_singleton.1 h]
      exact ⟨V_lt nS poly base (pr_lt hpv) hls, V_lt nS poly base (pr_lt hpv) hs, V_lt nS poly base hpv hs⟩
    · cases h
  · cases ht

theorem sides_range (nDiv nS : Nat) (isFull : Bool) (polys : List (List Bool)) (base : Nat)
    (hd : 1 ≤ nDiv) (hdn : nDiv ≤ nS) :
    ∀ t ∈ revolveSides nDiv nS isFull base polys,
      TriLt (base + (polys.map fun p => pushedBy nS p p.length).sum) t := by
  induction polys generalizing base with
  | nil => intro t ht; cases ht
  | cons poly rest ih =>
    intro t ht
    rw [revolveSides] at ht
    simp only [List.map_cons, List.sum_cons]
    rcases List.mem_append.1 ht with h | h
    · obtain ⟨pv, hpv, slice, hs, hm⟩ := (mem_revolvePolyTris _ _ _ _ _ _).1 h
      have := vertTris_range nDiv nS isFull poly base pv slice hpv hs hd hdn t hm
      unfold TriLt at this ⊢; omega
    · have := ih (base + pushedBy nS poly poly.length) t h
      unfold TriLt at this ⊢; omega

theorem tblV_length (nS s : Nat) (polys : List (List Bool)) (base : Nat) :
    (tblV nS s base polys).length = (polys.map List.length).sum := by
  induction polys generalizing base with
  | nil => rfl
  | cons poly rest ih => simp [tblV, ih]

theorem tblV_lt (nS s : Nat) (hs : s < nS) (polys : List (List Bool)) (base : Nat) :
    ∀ x ∈ tblV nS s base polys, x < base + (polys.map fun p => pushedBy nS p p.length).sum := by
  induction polys generalizing base with
  | nil => intro x hx; cases hx
  | cons poly rest ih =>
    intro x hx
    rw [tblV] at hx
    simp only [List.map_cons, List.sum_cons]
    rcases List.mem_append.1 hx with h | h
    · obtain ⟨k, hk, rfl⟩ := List.mem_map.1 h
      have := V_lt nS poly base (List.mem_range.1 hk) hs
      omega
    · have := ih (base + pushedBy nS poly poly.length) x h; omega

theorem revolve_in_range (polys : List (List Bool)) (nDiv : Nat) (isFull : Bool) (front : List Tri)
    (hd : 1 ≤ nDiv) (hfront : ∀ t ∈ front, TriLt (polys.map List.length).sum t) :
    ∀ t ∈ revolveTris polys nDiv isFull front, TriLt (revolveNumVert polys nDiv isFull) t := by
  intro t ht
  unfold revolveTris at ht
  unfold revolveNumVert
  rcases List.mem_append.1 ht with h | h
  · have := sides_range nDiv (nSlicesOf nDiv isFull) isFull polys 0 hd (by unfold nSlicesOf; split <;> omega) t h
    simpa using this
  · cases isFull
    · simp only [Bool.false_eq_true, if_false, nSlicesOf] at h ⊢
      rw [startPosList_eq, endPosList_eq] at h
      have hl0 := tblV_length (nDiv + 1) 0 polys 0
      have hl1 := tblV_length (nDiv + 1) nDiv polys 0
      have b0 := tblV_lt (nDiv + 1) 0 (by omega) polys 0
      have b1 := tblV_lt (nDiv + 1) nDiv (by omega) polys 0
      simp only [Nat.zero_add] at b0 b1
      unfold revolveCaps at h
      rcases List.mem_append.1 h with h | h
      · obtain ⟨t0, ht0, rfl⟩ := List.mem_map.1 h
        obtain ⟨h1, h2, h3⟩ := hfront t0 ht0
        exact ⟨b0 _ (getD_mem _ _ (by omega)), b0 _ (getD_mem _ _ (by omega)), b0 _ (getD_mem _ _ (by omega))⟩
      · obtain ⟨t0, ht0, rfl⟩ := List.mem_map.1 h
        obtain ⟨h1, h2, h3⟩ := hfront t0 ht0
        exact ⟨b1 _ (getD_mem _ _ (by omega)), b1 _ (getD_mem _ _ (by omega)), b1 _ (getD_mem _ _ (by omega))⟩
    · simp at h

theorem vertTris_A (nDiv nS : Nat) (isFull : Bool) (poly : List Bool) (base pv slice : Nat)
    (hpv : pv < poly.length) (hg : (isFull || decide (slice > 0)) = true) (hc : poly.getD pv false = true) :
    (V nS poly base pv slice, V nS poly base pv (pr nDiv slice),
      V nS poly base (pr poly.length pv) (pr nDiv slice)) ∈ revolveVertTris nDiv nS isFull poly base pv slice := by
  rw [revolveVertTris_eq nDiv nS isFull poly base pv slice hpv, if_pos hg, hc]
  exact List.mem_append_left _ (List.mem_singleton.2 rfl)

theorem vertTris_B (nDiv nS : Nat) (isFull : Bool) (poly : List Bool) (base pv slice : Nat)
    (hpv : pv < poly.length) (hg : (isFull || decide (slice > 0)) = true)
    (hp : poly.getD (pr poly.length pv) false = true) :
    (V nS poly base (pr poly.length pv) (pr nDiv slice), V nS poly base (pr poly.length pv) slice,
      V nS poly base pv slice) ∈ revolveVertTris nDiv nS isFull poly base pv slice := by
  rw [revolveVertTris_eq nDiv nS isFull poly base pv slice hpv, if_pos hg, hp]
  exact List.mem_append_right _ (List.mem_singleton.2 rfl)

theorem find_vertex (nS : Nat) (poly : List Bool) (base u : Nat) (m : Nat) (hm : m ≤ poly.length)
    (h1 : base ≤ u) (h2 : u < base + pushedBy nS poly m) :
    ∃ k, k < m ∧ startOf nS poly base k ≤ u ∧ u < startOf nS poly base k + cnt nS (poly.getD k false) := by
  obtain ⟨k, hk, hlo, hhi⟩ := exists_block (fun k => base + pushedBy nS poly k) m u
    (by rw [pushedBy_zero]; exact h1) h2
  rw [pushedBy_succ nS poly k (by omega)] at hhi
  exact ⟨k, hk, hlo, by unfold startOf; omega⟩

/-- the hypothesis of the coverage clause: every axis vertex has a neighbour off the axis -/
def AxisOk (poly : List Bool) : Prop :=
  ∀ k, k < poly.length → poly.getD k false = false →
    poly.getD (pr poly.length k) false = true ∨ poly.getD (nx poly.length k) false = true

theorem poly_used (nDiv : Nat) (isFull : Bool) (poly : List Bool) (base u : Nat) (hd : 1 ≤ nDiv)
    (hH : AxisOk poly) (h1 : base ≤ u) (h2 : u < base + pushedBy (nSlicesOf nDiv isFull) poly poly.length) :
    ∃ t ∈ revolvePolyTris nDiv (nSlicesOf nDiv isFull) isFull poly base, TriHas u t := by
  obtain ⟨k, hk, hlo, hhi⟩ := find_vertex _ poly base u poly.length (Nat.le_refl _) h1 h2
  -- a slice on which triangles are emitted
  have hs0 : ∃ s0, s0 < nSlicesOf nDiv isFull ∧ (isFull || decide (s0 > 0)) = true := by
    cases isFull
    · exact ⟨1, by simp [nSlicesOf]; omega, by simp⟩
    · exact ⟨0, by simp [nSlicesOf]; omega, by simp⟩
  cases hpos : poly.getD k false
  · -- axis vertex
    rw [hpos] at hhi
    simp only [cnt, Bool.false_eq_true, if_false] at hhi
    have hu : u = startOf (nSlicesOf nDiv isFull) poly base k := by omega
    obtain ⟨s0, hs0, hg⟩ := hs0
    rcases hH k hk hpos with hp | hn
    · exact ⟨_, (mem_revolvePolyTris _ _ _ _ _ _).2 ⟨k, hk, s0, hs0, vertTris_B nDiv _ isFull poly base k s0 hk hg hp⟩,
        Or.inr (Or.inr (by rw [V_on _ _ hpos]; exact hu.symm))⟩
    · have hpv := nx_lt hk
      have hA := vertTris_A nDiv (nSlicesOf nDiv isFull) isFull poly base (nx poly.length k) s0 hpv hg hn
      rw [pr_nx hk] at hA
      exact ⟨_, (mem_revolvePolyTris _ _ _ _ _ _).2 ⟨_, hpv, s0, hs0, hA⟩,
        Or.inr (Or.inr (by rw [V_on _ _ hpos]; exact hu.symm))⟩
  · -- vertex off the axis, slice s = u - start
    rw [hpos] at hhi
    simp only [cnt, if_true] at hhi
    by_cases hg : (isFull || decide (u - startOf (nSlicesOf nDiv isFull) poly base k > 0)) = true
    · exact ⟨_, (mem_revolvePolyTris _ _ _ _ _ _).2 ⟨k, hk, _, by omega, vertTris_A nDiv _ isFull poly base k _ hk hg hpos⟩,
        Or.inl (by rw [V_off _ _ hpos]; omega)⟩
    · have hf : isFull = false := by
        cases isFull
        · rfl
        · exact absurd rfl hg
      subst hf
      have hz : u = startOf (nSlicesOf nDiv false) poly base k := by
        simp only [Bool.false_or, decide_eq_true_eq] at hg; omega
      have hA := vertTris_A nDiv (nSlicesOf nDiv false) false poly base k 1 hk (by simp) hpos
      exact ⟨_, (mem_revolvePolyTris _ _ _ _ _ _).2 ⟨k, hk, 1, by simp [nSlicesOf]; omega, hA⟩,
        Or.inr (Or.inl (by rw [hz]; exact V_off base 0 hpos))⟩

theorem sides_used (nDiv : Nat) (isFull : Bool) (polys : List (List Bool)) (base u : Nat) (hd : 1 ≤ nDiv)
    (hH : ∀ poly ∈ polys, AxisOk poly) (h1 : base ≤ u)
    (h2 : u < base + (polys.map fun p => pushedBy (nSlicesOf nDiv isFull) p p.length).sum) :
    ∃ t ∈ revolveSides nDiv (nSlicesOf nDiv isFull) isFull base polys, TriHas u t := by
  induction polys generalizing base with
  | nil => simp at h2; omega
  | cons poly rest ih =>
    simp only [List.map_cons, List.sum_cons] at h2
    rw [revolveSides]
    by_cases h : u < base + pushedBy (nSlicesOf nDiv isFull) poly poly.length
    · obtain ⟨t, ht, hu⟩ := poly_used nDiv isFull poly base u hd (hH poly (List.mem_cons_self ..)) h1 h
      exact ⟨t, List.mem_append_left _ ht, hu⟩
    · obtain ⟨t, ht, hu⟩ := ih (base + pushedBy (nSlicesOf nDiv isFull) poly poly.length)
        (fun p hp => hH p (List.mem_cons_of_mem _ hp)) (by omega) (by omega)
      exact ⟨t, List.mem_append_right _ ht, hu⟩

theorem revolve_all_used (polys : List (List Bool)) (nDiv : Nat) (isFull : Bool) (front : List Tri)
    (hd : 1 ≤ nDiv) (hH : ∀ poly ∈ polys, AxisOk poly) :
    ∀ v, v < revolveNumVert polys nDiv isFull → ∃ t ∈ revolveTris polys nDiv isFull front, TriHas v t := by
  intro v hv
  obtain ⟨t, ht, hu⟩ := sides_used nDiv isFull polys 0 v hd hH (Nat.zero_le _) (by simpa [revolveNumVert] using hv)
  exact ⟨t, List.mem_append_left _ ht, hu⟩

end MV.Extrude
