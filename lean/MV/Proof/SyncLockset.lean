/-
Lock-set discipline ⇒ happens-before race freedom (property C06).

If the lock monitor `lsAccept` accepts a trace and every access to a variable names the same guard,
then any two conflicting accesses are ordered by `HB`: between them the first thread released the
guard and the second one acquired it afterwards.
-/
import MV.Proof.SyncSpec

namespace MV.Sync

/-- `e` is a plain access by thread `t` that names lock `l` as its guard -/
def IsAcc (e : Ev) (t l : Nat) : Prop := ∃ x, e = .rd t x (l + 1) ∨ e = .wr t x (l + 1)

/-- only `acq` and `rel` change the monitor's state -/
theorem lsStep_same {rank : Nat → Nat} {h h' : Held} {e : Ev} (hs : lsStep rank h e = some h')
    (ha : ∀ t l m, e ≠ .acq t l m) (hr : ∀ t l, e ≠ .rel t l) : h' = h := by
  cases e with
  | acq t l m => exact absurd rfl (ha t l m)
  | rel t l => exact absurd rfl (hr t l)
  | rd | wr => simp only [lsStep] at hs; grind
  | fadd => exact (Option.some.inj hs).symm

/-- a lock stays with its owner unless the owner releases it -/
theorem lsStep_keep {rank : Nat → Nat} {h h' : Held} {e : Ev} (hs : lsStep rank h e = some h')
    {l t d rk : Nat} (hg : AMap.get h l = some (t, d, rk)) :
    (∃ d' rk', AMap.get h' l = some (t, d', rk')) ∨ e = .rel t l := by
  cases e with
  | acq | rel => simp only [lsStep] at hs; grind [AMap.get_set, AMap.get_del]
  | _ => rw [lsStep_same hs nofun nofun]; exact Or.inl ⟨d, rk, hg⟩

/-- an accepted guarded access holds its guard, and does not change the state -/
theorem lsStep_acc {rank : Nat → Nat} {h h' : Held} {e : Ev} (hs : lsStep rank h e = some h')
    {t l : Nat} (ha : IsAcc e t l) :
    h' = h ∧ ∃ d rk, AMap.get h l = some (t, d, rk) := by
  obtain ⟨x, rfl | rfl⟩ := ha <;> simp only [lsStep] at hs <;> grind

/-- a held lock was either held by the same owner before (and the event is not a release by
somebody else) or is being acquired by the owner right now -/
theorem lsStep_origin {rank : Nat → Nat} {h h' : Held} {e : Ev} (hs : lsStep rank h e = some h')
    {l o d rk : Nat} (hg : AMap.get h' l = some (o, d, rk)) :
    ((∃ d' rk', AMap.get h l = some (o, d', rk')) ∧ ∀ t', e = .rel t' l → t' = o) ∨
      ∃ m, e = .acq o l m := by
  cases e with
  | acq t l' mode =>
    by_cases hc : t = o ∧ l' = l
    · exact Or.inr ⟨mode, by rw [hc.1, hc.2]⟩
    · left
      simp only [lsStep] at hs
      grind [AMap.get_set, AMap.get_del]
  | rel t l' => simp only [lsStep] at hs; grind [AMap.get_set, AMap.get_del]
  | _ => rw [lsStep_same hs nofun nofun] at hg; exact Or.inl ⟨⟨d, rk, hg⟩, nofun⟩

/-- every guarded access before position `k`: its thread still owns the guard, or released it later -/
def Q1 (tr : List Ev) (k : Nat) (h : Held) : Prop :=
  ∀ (i : Nat) (e : Ev) (t l : Nat), i < k → tr[i]? = some e → IsAcc e t l →
    (∃ d rk, AMap.get h l = some (t, d, rk)) ∨ ∃ r : Nat, i < r ∧ r < k ∧ tr[r]? = some (Ev.rel t l)

/-- every lock held at position `k`: its owner acquired it after every release of it by another thread -/
def Q2 (tr : List Ev) (k : Nat) (h : Held) : Prop :=
  ∀ (l o d rk : Nat), AMap.get h l = some (o, d, rk) →
    ∃ a m : Nat, a < k ∧ tr[a]? = some (Ev.acq o l m) ∧
      ∀ r t' : Nat, r < k → tr[r]? = some (Ev.rel t' l) → t' ≠ o → r < a

section step
variable {rank : Nat → Nat} {tr : List Ev} {k : Nat} {h h' : Held} {e : Ev}

theorem Q1_step (he : tr[k]? = some e) (hs : lsStep rank h e = some h') (q : Q1 tr k h) :
    Q1 tr (k + 1) h' := by
  intro i e' t l hi hie ha
  rcases Nat.lt_succ_iff_lt_or_eq.1 hi with hik | rfl
  · rcases q i e' t l hik hie ha with ⟨d, rk, hg⟩ | ⟨r, hir, hrk, hr⟩
    · rcases lsStep_keep hs hg with hk | rfl
      · exact Or.inl hk
      · exact Or.inr ⟨k, hik, Nat.lt_succ_self k, he⟩
    · exact Or.inr ⟨r, hir, Nat.lt_succ_of_lt hrk, hr⟩
  · cases he.symm.trans hie
    obtain ⟨rfl, hg⟩ := lsStep_acc hs ha
    exact Or.inl hg

theorem Q2_step (he : tr[k]? = some e) (hs : lsStep rank h e = some h') (q : Q2 tr k h) :
    Q2 tr (k + 1) h' := by
  intro l o d rk hg
  rcases lsStep_origin hs hg with ⟨⟨d', rk', hg'⟩, hrel⟩ | ⟨m, rfl⟩
  · obtain ⟨a, m, hak, ha, hbefore⟩ := q l o d' rk' hg'
    refine ⟨a, m, Nat.lt_succ_of_lt hak, ha, fun r t' hr hrt hne => ?_⟩
    rcases Nat.lt_succ_iff_lt_or_eq.1 hr with hrk | rfl
    · exact hbefore r t' hrk hrt hne
    · exact absurd (hrel t' (Option.some.inj (he.symm.trans hrt))) hne
  · refine ⟨k, m, Nat.lt_succ_self k, he, fun r t' hr hrt _ => ?_⟩
    rcases Nat.lt_succ_iff_lt_or_eq.1 hr with hrk | rfl
    · exact hrk
    · cases he.symm.trans hrt

end step

theorem lsRun_cons (rank : Nat → Nat) (h : Held) (e : Ev) (es : List Ev) (hf : Held)
    (hr : lsRun rank h (e :: es) = some hf) : ∃ h', lsStep rank h e = some h' ∧ lsRun rank h' es = some hf := by
  simp only [lsRun] at hr
  split at hr
  · exact ⟨_, ‹_›, hr⟩
  · cases hr

theorem acc_of_guarded {guard : Nat → Nat} {tr : List Ev} (hg : allGuarded guard tr = true)
    {i : Nat} {a : Ev} (hi : tr[i]? = some a) {x : Nat} {w : Bool} (ha : a.access = some (x, w)) :
    IsAcc a a.tid (guard x) := by
  have := (List.all_eq_true.1 hg) a (List.mem_of_getElem? hi)
  rcases Ev.access_eq_some ha with ⟨t, g, rfl, _⟩ | ⟨t, g, rfl, _⟩ <;>
    simp only [decide_eq_true_eq] at this
  · exact ⟨x, Or.inl (by rw [this]; rfl)⟩
  · exact ⟨x, Or.inr (by rw [this]; rfl)⟩

/-- Lock-set discipline is sound: if the lock monitor accepts the trace (mutexes are exclusive, every
access that names a guard holds it) and every access to a variable `x` names the same guard `guard x`,
then no two conflicting accesses are unordered by happens-before. -/
theorem lockset_sound (rank : Nat → Nat) (guard : Nat → Nat) (tr : List Ev)
    (hls : lsAccept rank tr = true) (hg : allGuarded guard tr = true) : RaceFree tr := by
  obtain ⟨hf, hrun⟩ := Option.isSome_iff_exists.1 hls
  refine raceFree_of_monitor (lsRun_cons rank) (fun k h => Q1 tr k h ∧ Q2 tr k h) tr
    (fun k h b h' ⟨q1, q2⟩ hj hs => ⟨⟨Q1_step hj hs q1, Q2_step hj hs q2⟩, fun i a hij hi hc => ?_⟩)
    ⟨fun _ _ _ _ hi => absurd hi (Nat.not_lt_zero _), fun _ _ _ _ hg => by cases hg⟩ hrun
  obtain ⟨htid, x, wa, wb, haa, hab, _⟩ := hc
  obtain ⟨-, db, rkb, hgb⟩ := lsStep_acc hs (acc_of_guarded hg hj hab)
  -- the earlier thread still owns the guard, or it released it and the later one acquired it afterwards
  rcases q1 i a a.tid (guard x) hij hi (acc_of_guarded hg hi haa) with ⟨d, rk, hga⟩ | ⟨r, hir, hrj, hr⟩
  · rw [hga] at hgb
    injection hgb with hgb
    injection hgb with hgb
    exact absurd hgb htid
  · obtain ⟨p, m, hpj, hp, hbefore⟩ := q2 (guard x) b.tid db rkb hgb
    have hrp : r < p := hbefore r a.tid hrj hr htid
    exact HB.trans (HB.po hir hi hr rfl) (HB.trans (HB.sync hrp hr hp) (HB.po hpj hp hj rfl))

/-- non-vacuity: a two-thread trace that meets both hypotheses -/
example :
    lsAccept (fun _ => 0) [.acq 0 7 0, .wr 0 3 8, .rel 0 7, .acq 1 7 0, .rd 1 3 8, .rel 1 7] = true ∧
    allGuarded (fun _ => 7) [.acq 0 7 0, .wr 0 3 8, .rel 0 7, .acq 1 7 0, .rd 1 3 8, .rel 1 7] = true := by
  decide

/-- the guard is held by another thread: rejected -/
example : lsAccept (fun _ => 0) [.acq 0 7 0, .rd 1 3 8] = false := by decide

/-- exclusion: a second thread cannot acquire a held mutex -/
example : lsAccept (fun _ => 0) [.acq 0 7 0, .acq 1 7 0] = false := by decide

end MV.Sync
