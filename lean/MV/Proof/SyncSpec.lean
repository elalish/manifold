/-
Specification vocabulary for synchronisation traces (property C06): happens-before, conflict,
data race.  `MV.Sync.Ev`, the monitors and their state live in `MV/Model/Sync.lean`.
`raceFree_of_monitor` is the induction over the trace that both soundness proofs share.
-/
import MV.Model.Sync

namespace MV.Sync

/-- the variable a plain access touches and whether it writes -/
def Ev.access : Ev → Option (Nat × Bool)
  | .rd _ x _ => some (x, false)
  | .wr _ x _ => some (x, true)
  | _ => none

/-- Happens-before between positions of a trace: program order, release → later acquire of the
same lock (or token: thread start / join), closed under transitivity.  Atomics contribute
nothing (a sound under-approximation of the C++ relation: fewer edges, more races). -/
inductive HB (tr : List Ev) : Nat → Nat → Prop
  | po {i j : Nat} {a b : Ev} (hij : i < j) (hi : tr[i]? = some a) (hj : tr[j]? = some b)
      (ht : a.tid = b.tid) : HB tr i j
  | sync {i j t u l m : Nat} (hij : i < j) (hi : tr[i]? = some (.rel t l))
      (hj : tr[j]? = some (.acq u l m)) : HB tr i j
  | trans {i j k : Nat} : HB tr i j → HB tr j k → HB tr i k

/-- two accesses of different threads to the same variable, at least one a write -/
def Conflict (a b : Ev) : Prop :=
  a.tid ≠ b.tid ∧ ∃ x wa wb, a.access = some (x, wa) ∧ b.access = some (x, wb) ∧ (wa = true ∨ wb = true)

/-- No data race: every two conflicting accesses are ordered by happens-before. -/
def RaceFree (tr : List Ev) : Prop :=
  ∀ i j a b, i < j → tr[i]? = some a → tr[j]? = some b → Conflict a b → HB tr i j

/-- a plain access is a read or a write of its variable -/
theorem Ev.access_eq_some {e : Ev} {x : Nat} {w : Bool} (h : e.access = some (x, w)) :
    (∃ t g, e = .rd t x g ∧ w = false) ∨ (∃ t g, e = .wr t x g ∧ w = true) := by
  cases e <;> simp only [Ev.access, Option.some.injEq, Prod.mk.injEq, reduceCtorEq] at h
  · exact Or.inl ⟨_, _, by rw [h.1], h.2.symm⟩
  · exact Or.inr ⟨_, _, by rw [h.1], h.2.symm⟩

theorem HB.lt {tr : List Ev} {i j : Nat} (h : HB tr i j) : i < j := by
  induction h with
  | po hij _ _ _ => exact hij
  | sync hij _ _ => exact hij
  | trans _ _ ih1 ih2 => exact Nat.lt_trans ih1 ih2


/-! association lists: `get` after `del` / `set` is function update -/
namespace AMap
variable {β : Type}

theorem get_del (m : AMap β) (k k' : Nat) :
    get (del m k) k' = if k' = k then none else get m k' := by
  induction m with
  | nil => simp [del, get]
  | cons p m ih =>
    obtain ⟨a, v⟩ := p
    by_cases h1 : a = k
    · have e1 : del ((a, v) :: m) k = del m k := by simp [del, h1]
      rw [e1, ih]
      by_cases h2 : k' = k
      · simp [h2]
      · have h3 : ¬ a = k' := fun h => h2 (h.symm.trans h1)
        simp [get, h2, h3]
    · have e1 : del ((a, v) :: m) k = (a, v) :: del m k := by simp [del, h1]
      rw [e1]
      simp only [get, ih]
      by_cases h2 : a = k'
      · have h3 : ¬ k' = k := fun h => h1 (h2.trans h)
        simp [h2, h3]
      · simp [h2]

theorem get_set (m : AMap β) (k k' : Nat) (v : β) :
    get (set m k v) k' = if k' = k then some v else get m k' := by
  unfold set
  simp only [get, get_del]
  by_cases h : k = k'
  · simp [h]
  · have : ¬ k' = k := fun h' => h h'.symm
    simp [h, this]

theorem getD_set (m : AMap β) (k k' : Nat) (v d : β) :
    getD (set m k v) k' d = if k' = k then v else getD m k' d := by
  unfold getD
  rw [get_set]
  by_cases h : k' = k <;> simp [h]

end AMap

theorem drop_eq_cons {α : Type} {l : List α} {k : Nat} {e : α} {es : List α} (h : l.drop k = e :: es) :
    l[k]? = some e ∧ l.drop (k + 1) = es := by
  constructor
  · have h0 := List.getElem?_drop (xs := l) (i := k) (j := 0)
    rw [h] at h0
    simpa using h0.symm
  · have h2 : l.drop (k + 1) = (l.drop k).drop 1 := by rw [List.drop_drop]
    rw [h2, h]
    rfl

/-- One soundness argument for the monitors that run over a trace: a monitor whose accepted steps keep an
invariant `I k s` (`k` events read) under which the event just read comes after every earlier event it
conflicts with accepts race-free traces only. -/
theorem raceFree_of_monitor {σ : Type} {step : σ → Ev → Option σ} {run : σ → List Ev → Option σ}
    (hcons : ∀ s e es sf, run s (e :: es) = some sf → ∃ s', step s e = some s' ∧ run s' es = some sf)
    (I : Nat → σ → Prop) (tr : List Ev)
    (hstep : ∀ k s e s', I k s → tr[k]? = some e → step s e = some s' →
      I (k + 1) s' ∧ ∀ i a, i < k → tr[i]? = some a → Conflict a e → HB tr i k)
    {s0 sf : σ} (h0 : I 0 s0) (hrun : run s0 tr = some sf) : RaceFree tr := by
  -- the pairs whose later member lies in the part of the trace still to be read
  have main : ∀ (suf : List Ev) (k : Nat) (s : σ), tr.drop k = suf → I k s → run s suf = some sf →
      ∀ i j a b, i < j → k ≤ j → tr[i]? = some a → tr[j]? = some b → Conflict a b → HB tr i j := by
    intro suf
    induction suf with
    | nil =>
      intro k s hd _ _ i j a b _ hkj _ hb
      have := List.drop_eq_nil_iff.1 hd
      rw [List.getElem?_eq_none (by omega)] at hb
      cases hb
    | cons e es ih =>
      intro k s hd hI hr i j a b hij hkj ha hb hc
      obtain ⟨he, hd'⟩ := drop_eq_cons hd
      obtain ⟨s', hs, hr'⟩ := hcons s e es sf hr
      obtain ⟨hI', hord⟩ := hstep k s e s' hI he hs
      rcases Nat.eq_or_lt_of_le hkj with rfl | hlt
      · cases he.symm.trans hb
        exact hord i a hij ha hc
      · exact ih (k + 1) s' hd' hI' hr' i j a b hij hlt ha hb hc
  exact fun i j a b hij => main tr 0 s0 rfl h0 hrun i j a b hij (Nat.zero_le j)

end MV.Sync
