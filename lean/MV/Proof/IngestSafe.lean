import MV.Proof.Ingest
/-!
Property C09, the loops of `Impl(MeshGLP)` (impl.h:377-499) under the facts of the ladder: each is
free of faults and leaves the invariant the next one needs; `ingest_sat` chains them.
-/
namespace MV.Ingest
open MV.Mesh

@[simp] theorem castIdx_fixed (x : Nat) : castIdx Guards.fixed x = x := rfl

/-- invariant of the `prop2vert` loop -/
def P2V (nv : Nat) (p : Array Nat) : Prop := p.size = nv ∧ ∀ k (hk : k < p.size), p[k] < nv

theorem p2v_init (nv : Nat) : P2V nv (Array.range nv) := by
  refine ⟨by simp, ?_⟩
  intro k hk
  simp at hk ⊢
  exact hk

theorem p2v_set {nv : Nat} {p : Array Nat} (h : P2V nv p) {i v : Nat} (hv : v < nv) :
    P2V nv (p.set! i v) := by
  refine ⟨by simp [h.1], ?_⟩
  intro k hk
  have hk' : k < p.size := by simpa using hk
  simp only [Array.set!_eq_setIfInBounds]
  rw [Array.getElem_setIfInBounds hk']
  split
  · exact hv
  · exact h.2 k hk'

/-- one iteration of the merge loop after its two reads -/
theorem mergeStep_fixed (s : MeshShape) (nv i : Nat) (p : Array Nat) (hi : i < s.mergeFrom.size)
    (hlen : s.mergeFrom.size = s.mergeTo.size) :
    mergeStep Guards.fixed s nv i p =
      if s.mergeFrom[i] ≥ nv ∨ s.mergeTo[i]'(hlen ▸ hi) ≥ nv then fail .mergeIndexOutOfBounds
      else wr 387 p s.mergeFrom[i] (s.mergeTo[i]'(hlen ▸ hi)) := by
  unfold mergeStep
  simp only [monad_bind, rd_safe 381 s.mergeFrom i hi, rd_safe 382 s.mergeTo i (hlen ▸ hi), bind_ok, castIdx_fixed]
  rfl

theorem mergeStep_sat (s : MeshShape) (nv : Nat) (hlen : s.mergeFrom.size = s.mergeTo.size)
    (i : Nat) (p : Array Nat) (hi : i < s.mergeFrom.size) (hp : P2V nv p) :
    (mergeStep Guards.fixed s nv i p).Sat (P2V nv) := by
  rw [mergeStep_fixed s nv i p hi hlen]
  split
  · exact sat_fail _ _
  · rename_i hc
    rw [wr_safe 387 p _ _ (by rw [hp.1]; omega)]
    exact p2v_set hp (by omega)

/-- `prop2vert` is either empty or a total map into `[0, numVert)` -/
def P2VOk (nv : Nat) (p : Array Nat) : Prop := p.size = 0 ∨ P2V nv p

theorem buildProp2vert_sat (s : MeshShape) (nv : Nat) (hlen : s.mergeFrom.size = s.mergeTo.size) :
    (buildProp2vert Guards.fixed s nv).Sat (P2VOk nv) := by
  unfold buildProp2vert
  split
  · exact sat_ok (Or.inl rfl)
  · exact (forRange_sat (fun _ p => P2V nv p) _ s.mergeFrom.size 0 (Array.range nv) (p2v_init nv)
      fun i p _ hi hp => mergeStep_sat s nv hlen i p (by omega) hp).imp fun _ _ h => Or.inr h

/-- impl.h:400-406 never reads past `vertProperties` -/
theorem copyVerts_ok (s : MeshShape) (_hnp : 0 < s.numProp) :
    forRange (copyVert s) 0 (s.nVertProp / s.numProp) () = .ok () := by
  apply forRange_unit_safe
  intro i _ hi
  unfold copyVert
  apply forRange_unit_safe
  intro j _ hj
  exact chk_safe _ _ _ (stride_lt (by omega) (by omega))

/-- impl.h:409-413 never reads past `halfedgeTangent` -/
theorem copyTangents_ok (s : MeshShape) : forRange (copyTangent s) 0 (s.nTangent / 4) () = .ok () := by
  apply forRange_unit_safe
  intro i _ hi
  unfold copyTangent
  apply forRange_unit_safe
  intro j _ hj
  exact chk_safe _ _ _ (by omega)

/-- invariant of the run loop: `triRef` has one slot per triangle and the first `c` are filled -/
def Covered (nt c : Nat) (tr : Array (Option Nat)) : Prop :=
  tr.size = nt ∧ ∀ t, t < c → ∃ r, tr[t]? = some (some r)

theorem covered_set {nt c : Nat} {tr : Array (Option Nat)} (h : Covered nt c tr) (hc : c < nt) (r : Nat) :
    Covered nt (c + 1) (tr.set! c (some r)) := by
  refine ⟨by simp [h.1], ?_⟩
  intro t ht
  simp only [Array.set!_eq_setIfInBounds, Array.getElem?_setIfInBounds]
  by_cases e : c = t
  · subst e; simp [h.1, hc]
  · simp only [e, ↓reduceIte]; exact h.2 t (by omega)

/-- inner loop of one run (impl.h:441-448) -/
theorem runInner_sat (s : MeshShape) (nt i lo n : Nat) (tr : Array (Option Nat))
    (hface : s.nFaceID = 0 ∨ s.nFaceID = nt) (hn : lo + n ≤ nt) (h : Covered nt lo tr) :
    (forRange (fun tri (tr : Array (Option Nat)) => (wr 444 tr tri (some i)).bind fun tr =>
      if s.nFaceID ≠ 0 then (chk 446 s.nFaceID tri).bind fun _ => R.ok tr else R.ok tr) lo n tr).Sat
      (Covered nt (lo + n)) := by
  refine forRange_sat (fun c tr => Covered nt c tr) _ n lo tr h fun c tr' _ hc hcov => ?_
  rw [wr_safe 444 tr' c (some i) (by rw [hcov.1]; omega), bind_ok]
  have hnext := covered_set hcov (show c < nt by omega) i
  split
  · rw [chk_safe 446 _ c (by omega)]; exact hnext
  · exact hnext

theorem rd_bang {ln : Nat} (a : Array Nat) (i : Nat) (h : i < a.size) : rd ln a i = .ok a[i]! := by
  rw [rd_safe ln a i h, getElem!_pos a i h]

/-- the transform of run `i` lies inside `runTransform` (impl.h:455) -/
theorem transform_idx_lt {s : MeshShape} (htr : s.nRunTransform = 0 ∨ 12 * s.nRunID = s.nRunTransform)
    (hz : s.nRunTransform ≠ 0) {i : Nat} (hi : i < nRun s) : 12 * i + 11 < s.nRunTransform := by
  unfold nRun at hi
  split at hi <;> omega

theorem runStep_sat (s : MeshShape) (i : Nat) (tr : Array (Option Nat))
    (hface : s.nFaceID = 0 ∨ s.nFaceID = numTriOf s)
    (htr : s.nRunTransform = 0 ∨ 12 * s.nRunID = s.nRunTransform)
    (hrt : runTableOk s = true) (hi : i < nRun s)
    (h : Covered (numTriOf s) ((normRunIndex s)[i]! / 3) tr) :
    (runStep s (normRunIndex s) i tr).Sat (Covered (numTriOf s) ((normRunIndex s)[i + 1]! / 3)) := by
  obtain ⟨hsz, _, hend, hmono⟩ := runTable_facts hrt
  have hab := hmono i hi
  have hle2 : (normRunIndex s)[i + 1]! ≤ s.triVerts.size :=
    hend ▸ run_mono hmono (nRun s) (Nat.le_refl _) (i + 1) hi
  have hi1 : i + 1 < (normRunIndex s).size := Nat.lt_of_lt_of_le (Nat.succ_lt_succ hi) hsz
  unfold runStep
  simp only [monad_bind, rd_bang (normRunIndex s) i (Nat.lt_of_succ_lt hi1), rd_bang (normRunIndex s) (i + 1) hi1,
    bind_ok]
  generalize (normRunIndex s)[i]! = a at h hab ⊢
  generalize (normRunIndex s)[i + 1]! = b at hab hle2 ⊢
  -- the run covers the triangles `a/3 … b/3 - 1`, all of them below `numTri`
  have hb : a / 3 + (b / 3 - a / 3) = b / 3 := Nat.add_sub_cancel' (Nat.div_le_div_right hab)
  have inner := runInner_sat s (numTriOf s) i (a / 3) (b / 3 - a / 3) tr hface
    (by rw [hb]; exact Nat.div_le_div_right hle2) h
  rw [hb] at inner
  refine sat_bind inner fun tr1 hc => ?_
  split
  · rename_i hz
    rw [chk_safe 455 _ _ (transform_idx_lt htr hz hi)]; exact hc
  · exact sat_ok hc

/-- the whole run loop (impl.h:431-459): afterwards every triangle has a run -/
theorem runLoop_sat (s : MeshShape)
    (hface : s.nFaceID = 0 ∨ s.nFaceID = numTriOf s)
    (htr : s.nRunTransform = 0 ∨ 12 * s.nRunID = s.nRunTransform)
    (hrt : runTableOk s = true) :
    (forRange (runStep s (normRunIndex s)) 0 (nRun s) (Array.replicate (numTriOf s) none)).Sat
      (Covered (numTriOf s) (numTriOf s)) := by
  obtain ⟨_, h0, hend, _⟩ := runTable_facts hrt
  have := forRange_sat (fun i tr => Covered (numTriOf s) ((normRunIndex s)[i]! / 3) tr)
    (runStep s (normRunIndex s)) (nRun s) 0 (Array.replicate (numTriOf s) none)
    (by rw [h0]; exact ⟨by simp, fun t ht => by omega⟩)
    (fun i tr _ hi hc => runStep_sat s i tr hface htr hrt (by omega) hc)
  rwa [Nat.zero_add, hend] at this

/-- one corner (impl.h:478-486) after its first read -/
theorem corner_fixed (s : MeshShape) (nv : Nat) (p : Array Nat) (k : Nat) (hk : k < s.triVerts.size) :
    corner Guards.fixed s nv p k =
      if s.triVerts[k] ≥ nv then fail .vertexOutOfBounds
      else if p.size = 0 then R.ok (s.triVerts[k], s.triVerts[k])
      else (rd 485 p s.triVerts[k]).bind fun t => R.ok (s.triVerts[k], t) := by
  unfold corner
  simp only [monad_bind, rd_safe 479 s.triVerts k hk, bind_ok, castIdx_fixed]
  rfl

theorem corner_sat (s : MeshShape) (nv : Nat) (p : Array Nat) (k : Nat) (hk : k < s.triVerts.size)
    (hp : P2VOk nv p) : (corner Guards.fixed s nv p k).Sat fun c => c.1 < nv ∧ c.2 < nv := by
  rw [corner_fixed s nv p k hk]
  split
  · exact sat_fail _ _
  · rename_i hv
    have hv : s.triVerts[k] < nv := Nat.lt_of_not_le hv
    split
    · exact sat_ok ⟨hv, hv⟩
    · rename_i hz
      have hP : P2V nv p := hp.resolve_left hz
      have hlt : s.triVerts[k] < p.size := hP.1 ▸ hv
      rw [rd_safe 485 p _ hlt]
      exact ⟨hv, hP.2 _ hlt⟩

/-- invariant of the triangle loop: every kept triangle is in range and non-degenerate -/
def KeptOk (nv : Nat) (k : Kept) : Prop :=
  k.triVert.size = k.triProp.size ∧ k.triVert.size = k.keptIdx.size ∧
  (∀ t ∈ k.triVert.toList, TriInRange nv t ∧ TriNondeg t) ∧ (∀ t ∈ k.triProp.toList, TriInRange nv t)

theorem keptOk_push {nv : Nat} {k : Kept} (h : KeptOk nv k) {a b : Tri} {i : Nat} (refs : Array Nat)
    (ha : TriInRange nv a) (hb : TriInRange nv b ∧ TriNondeg b) :
    KeptOk nv { triProp := k.triProp.push a, triVert := k.triVert.push b, refs := refs, keptIdx := k.keptIdx.push i } := by
  obtain ⟨h1, h2, h3, h4⟩ := h
  refine ⟨by simp [h1], by simp [h2], ?_, ?_⟩
  · intro t ht
    simp only [Array.toList_push, List.mem_append, List.mem_singleton] at ht
    cases ht with
    | inl h' => exact h3 t h'
    | inr h' => subst h'; exact hb
  · intro t ht
    simp only [Array.toList_push, List.mem_append, List.mem_singleton] at ht
    cases ht with
    | inl h' => exact h4 t h'
    | inr h' => subst h'; exact ha

theorem triStep_sat (s : MeshShape) (nv : Nat) (p : Array Nat) (tr : Array (Option Nat)) (i : Nat) (k : Kept)
    (hi : i < numTriOf s) (hp : P2VOk nv p) (hc : Covered (numTriOf s) (numTriOf s) tr) (hk : KeptOk nv k) :
    (triStep Guards.fixed s nv p tr i k).Sat (KeptOk nv) := by
  have h3 : 3 * i + 2 < s.triVerts.size := by unfold numTriOf at hi; omega
  unfold triStep
  simp only [monad_bind]
  refine sat_bind (corner_sat s nv p (3 * i) (by omega) hp) fun a ra => ?_
  refine sat_bind (corner_sat s nv p (3 * i + 1) (by omega) hp) fun b rb => ?_
  refine sat_bind (corner_sat s nv p (3 * i + 2) h3 hp) fun c rc => ?_
  split
  · rename_i hnd
    have push := fun refs => keptOk_push (i := i) (a := (a.1, b.1, c.1)) (b := (a.2, b.2, c.2)) hk refs
      ⟨ra.1, rb.1, rc.1⟩ ⟨⟨ra.2, rb.2, rc.2⟩, hnd⟩
    split
    · exact sat_ok (push _)
    · have hlt : i < tr.size := hc.1 ▸ hi
      -- the slot was written by the run loop
      obtain ⟨r, hr⟩ := hc.2 i hi
      rw [Array.getElem?_eq_getElem hlt, Option.some.injEq] at hr
      rw [rd_safe 495 tr i hlt, bind_ok, hr]
      exact push _
  · exact sat_ok hk

theorem triStep_size {g : Guards} {s : MeshShape} {nv : Nat} {p : Array Nat} {tr : Array (Option Nat)} {i : Nat}
    {k k' : Kept} (h : triStep g s nv p tr i k = .ok k') : k'.triVert.size ≤ k.triVert.size + 1 := by
  unfold triStep at h
  simp only [monad_bind] at h
  obtain ⟨a, _, h⟩ := bind_eq_ok h
  obtain ⟨b, _, h⟩ := bind_eq_ok h
  obtain ⟨c, _, h⟩ := bind_eq_ok h
  split at h
  · split at h
    · cases h; simp
    · obtain ⟨r, _, h⟩ := bind_eq_ok h
      split at h
      · cases h
      · cases h; simp
  · cases h; omega

theorem numVertOf_sat (s : MeshShape) :
    (numVertOf Guards.fixed s).Sat (· = if s.numProp = 0 then 0 else s.nVertProp / s.numProp) := by
  unfold numVertOf cdiv
  by_cases h : s.numProp = 0 <;> simp [Guards.fixed, h, R.Sat]

/-- what `ingest` hands to `CreateHalfedges` / `SortGeometry` -/
def HandOver (s : MeshShape) (r : Ingested) : Prop :=
  3 ≤ s.numProp ∧ r.numVert = s.nVertProp / s.numProp ∧
  (∀ t ∈ r.kept.triVert.toList, TriInRange r.numVert t ∧ TriNondeg t) ∧
  (∀ t ∈ r.kept.triProp.toList, TriInRange r.numVert t) ∧
  r.kept.triVert.size % 2 = 0 ∧ r.kept.triVert.size ≤ numTriOf s + 0 * r.numVert ∧
  (r.nTang = 0 ∨ r.nTang = 3 * r.kept.triVert.size)

/-- the repaired constructor, from entry to the call of `CreateHalfedges`: every loop is entered
with the invariant the ladder or the loop before it established -/
theorem ingest_sat (s : MeshShape) : (ingest Guards.fixed s).Sat (HandOver s) := by
  unfold ingest
  refine sat_bind (numVertOf_sat s) ?_
  rintro _ rfl
  refine sat_bind (sat_self (ladder_safe _ s _)) fun _ hl => ?_
  have F := ladder_facts hl
  have hnp : s.numProp ≠ 0 := by have := F.numProp; omega
  simp only [hnp, ↓reduceIte]
  refine sat_bind (buildProp2vert_sat s _ F.mergeLen) fun p hp => ?_
  refine sat_bind (numVertOf_sat s) ?_
  rintro _ rfl
  simp only [hnp, ↓reduceIte]
  rw [copyVerts_ok s (by omega), bind_ok, copyTangents_ok s, bind_ok]
  refine sat_bind (runLoop_sat s F.faceID F.transform F.runTable) fun tr hcov => ?_
  refine sat_bind (forRange_sat (fun i k => KeptOk (s.nVertProp / s.numProp) k ∧ k.triVert.size ≤ i) _
    (numTriOf s) 0 ⟨#[], #[], #[], #[]⟩ ⟨⟨rfl, rfl, by simp, by simp⟩, Nat.le_refl 0⟩
    fun i k _ hi hk => (triStep_sat s _ p tr i k (by omega) hp hcov hk.1).imp
      fun k' e h' => ⟨h', Nat.le_trans (triStep_size e) (by omega)⟩) fun kept hk => ?_
  unfold ingestTail
  split
  · exact sat_fail _ _
  · rename_i heven
    refine sat_ok ⟨F.numProp, rfl, hk.1.2.2.1, hk.1.2.2.2, (by show kept.triVert.size % 2 = 0; omega),
      by simpa using hk.2, ?_⟩
    by_cases hz : s.nTangent = 0 <;> simp [hz]

end MV.Ingest
