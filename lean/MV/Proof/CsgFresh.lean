import MV.Proof.Csg
/-
Result meshes get consecutive fresh names. Hence a valuation can be extended event by event to one
that respects the events of a run; every run of the machine, of `toLeaf`/`force`
and of a session emits such well scoped events; denotations depend only on the meshes named in the
store; and Boolean checks establish the hypotheses for concrete stores.
-/
set_option autoImplicit false
namespace MV.Csg
open SolidAlg XfAct

variable {M S : Type}

def LeafId.below (b : Nat) : LeafId → Bool
  | .res k => decide (k < b)
  | _ => true

def leavesBelow (b : Nat) (ls : List (Leaf M)) : Bool := ls.all (fun l => l.id.below b)

/-- the events only mention result meshes created before, and the fresh ones are numbered
consecutively from `b` -/
def Scoped [One M] : Nat → List (Event M) → Prop
  | _, [] => True
  | b, e :: es => leavesBelow b e.pos = true ∧ leavesBelow b e.neg = true ∧
      (if e.fresh = true then e.res = ⟨.res b, 1⟩ ∧ Scoped (b + 1) es else Scoped b es)

instance decScoped [One M] [DecidableEq M] :
    (b : Nat) → (evs : List (Event M)) → Decidable (Scoped b evs)
  | _, [] => isTrue trivial
  | b, e :: es => by
    unfold Scoped
    have := decScoped (b + 1) es
    have := decScoped b es
    infer_instance

def Agree (b : Nat) (L L' : Val S) : Prop := L.orig = L'.orig ∧ ∀ j, j < b → L.res j = L'.res j

theorem Agree.refl (b : Nat) (L : Val S) : Agree b L L := ⟨rfl, fun _ _ => rfl⟩

theorem Agree.trans {b : Nat} {L L' L'' : Val S} (a : Agree b L L') (c : Agree b L' L'') :
    Agree b L L'' := ⟨a.1.trans c.1, fun j hj => (a.2 j hj).trans (c.2 j hj)⟩

theorem Agree.mono {b b' : Nat} {L L' : Val S} (a : Agree b' L L') (h : b ≤ b') : Agree b L L' :=
  ⟨a.1, fun j hj => a.2 j (by omega)⟩

section
variable [One M] [Mul M] [SolidAlg S] [XfAct M S]

def Val.set (L : Val S) (k : Nat) (v : S) : Val S :=
  { L with res := fun j => if j = k then v else L.res j }

/-- give every fresh result mesh the value of the operation that created it -/
def Val.extend (L : Val S) : List (Event M) → Val S
  | [] => L
  | e :: es =>
    if e.fresh then
      match e.res.id with
      | .res k => (L.set k (evSem L e.op e.pos e.neg)).extend es
      | _ => L.extend es
    else L.extend es

theorem leaf_congr {b : Nat} {L L' : Val S} (a : Agree b L L') {l : Leaf M}
    (h : l.id.below b = true) : L.leaf l = L'.leaf l := by
  obtain ⟨id, xf⟩ := l
  cases id with
  | orig k => simp [Val.leaf, Val.leafId, a.1]
  | res k =>
    have : k < b := by simpa [LeafId.below] using h
    simp [Val.leaf, Val.leafId, a.2 k this]
  | empty => rfl

theorem leaves_congr {b : Nat} {L L' : Val S} (a : Agree b L L') {ls : List (Leaf M)}
    (h : leavesBelow b ls = true) : L.leaves ls = L'.leaves ls := by
  simp only [Val.leaves]
  apply List.map_congr_left
  intro l hl
  simp only [leavesBelow, List.all_eq_true] at h
  exact leaf_congr a (h l hl)

theorem evSem_congr {b : Nat} {L L' : Val S} (a : Agree b L L') (o : Op) {pos neg : List (Leaf M)}
    (hp : leavesBelow b pos = true) (hn : leavesBelow b neg = true) :
    evSem L o pos neg = evSem L' o pos neg := by
  simp only [evSem, leaves_congr a hp, leaves_congr a hn]

/-- extending a valuation along well scoped events leaves it alone on the meshes that existed
and makes it respect the events -/
theorem extend_spec : ∀ (evs : List (Event M)) (b : Nat) (L : Val S), Scoped b evs →
    Agree b L (L.extend evs) ∧ Respects (L.extend evs) evs := by
  intro evs
  induction evs with
  | nil => intro b L _; exact ⟨Agree.refl b L, Respects_nil _⟩
  | cons e es ih =>
    intro b L h
    obtain ⟨hp, hn, h3⟩ := h
    by_cases hf : e.fresh = true
    · rw [if_pos hf] at h3
      obtain ⟨hres, hs⟩ := h3
      have hext : L.extend (e :: es) = (L.set b (evSem L e.op e.pos e.neg)).extend es := by
        simp [Val.extend, hf, hres]
      obtain ⟨ag, re⟩ := ih (b + 1) (L.set b (evSem L e.op e.pos e.neg)) hs
      rw [hext]
      have a1 : Agree b L (L.set b (evSem L e.op e.pos e.neg)) :=
        ⟨rfl, fun j hj => by simp [Val.set, Nat.ne_of_lt hj]⟩
      have hag := a1.trans (ag.mono (Nat.le_succ b))
      refine ⟨hag, fun e' he' hf' => ?_⟩
      rcases List.mem_cons.1 he' with rfl | he'
      · rw [← evSem_congr hag e'.op hp hn, hres]
        simp only [Val.leaf, Val.leafId, act_one, ← ag.2 b (by omega)]
        simp [Val.set]
      · exact re e' he' hf'
    · rw [if_neg hf] at h3
      obtain ⟨ag, re⟩ := ih b L h3
      rw [show L.extend (e :: es) = L.extend es by simp [Val.extend, hf]]
      refine ⟨ag, fun e' he' hf' => ?_⟩
      rcases List.mem_cons.1 he' with rfl | he'
      · exact absurd hf' hf
      · exact re e' he' hf'

end
end MV.Csg

/-! ### every run produces well scoped events -/
namespace MV.Csg

variable {M : Type}

def nfresh (evs : List (Event M)) : Nat := (evs.filter (·.fresh)).length

theorem nfresh_append (a c : List (Event M)) : nfresh (a ++ c) = nfresh a + nfresh c := by
  simp [nfresh]

theorem LeafId.below_mono {b b' : Nat} (h : b ≤ b') {i : LeafId} (hi : i.below b = true) :
    i.below b' = true := by
  cases i <;> simp_all [LeafId.below]
  omega

theorem leavesBelow_mono {b b' : Nat} (h : b ≤ b') {ls : List (Leaf M)}
    (hl : leavesBelow b ls = true) : leavesBelow b' ls = true := by
  simp only [leavesBelow, List.all_eq_true] at hl ⊢
  exact fun l hm => LeafId.below_mono h (hl l hm)

/-- all meshes named in the store were created before `nextRes` -/
def StoreBelow (s : Store M) : Prop :=
  ∀ (n : Nat) (l : Leaf M), s.nodes[n]? = some (Node.leaf l) → l.id.below s.nextRes = true

def FrameBelow (b : Nat) (F : Frame M) : Prop :=
  leavesBelow b F.pos = true ∧ leavesBelow b F.neg = true

theorem pushDest_below {b : Nat} {stk : List (Frame M)} (h : ∀ F ∈ stk, FrameBelow b F)
    (d : Dest) (l : Leaf M) (hl : l.id.below b = true) :
    ∀ F ∈ pushDest stk d l, FrameBelow b F := by
  induction stk with
  | nil => simp [pushDest]
  | cons f fs ih =>
    simp only [pushDest]
    have hf := h f (by simp)
    have hfs : ∀ F ∈ fs, FrameBelow b F := fun F hF => h F (by simp [hF])
    split
    · intro F hF
      rcases List.mem_cons.1 hF with rfl | hF
      · have hl' : leavesBelow b [l] = true := by simpa [leavesBelow] using hl
        simp only [Frame.push]
        split
        · refine ⟨hf.1, ?_⟩
          simp only [leavesBelow, List.all_append, Bool.and_eq_true] at hf hl' ⊢
          exact ⟨hf.2, hl'⟩
        · refine ⟨?_, hf.2⟩
          simp only [leavesBelow, List.all_append, Bool.and_eq_true] at hf hl' ⊢
          exact ⟨hf.1, hl'⟩
      · exact hfs F hF
    · intro F hF
      rcases List.mem_cons.1 hF with rfl | hF
      · exact hf
      · exact ih hfs F hF

theorem pushO_below {b : Nat} {stk : List (Frame M)} (h : ∀ F ∈ stk, FrameBelow b F)
    (d : Option Dest) (l : Leaf M) (hl : l.id.below b = true) :
    ∀ F ∈ pushO stk d l, FrameBelow b F := by
  cases d with
  | none => exact h
  | some d => exact pushDest_below h d l hl

section
variable [Mul M]

theorem addChildren_below {st : Store M} (hst : StoreBelow st) (o : Op) (xf : M)
    (pd nd : Option Dest) (cs : List Nat) (first : Bool) (acc : List (Frame M) × Bool)
    (h : ∀ F ∈ acc.1, FrameBelow st.nextRes F) :
    ∀ F ∈ (addChildren st o xf pd nd cs first acc).1, FrameBelow st.nextRes F := by
  induction cs generalizing first acc with
  | nil => simpa [addChildren] using h
  | cons c cs ih =>
    simp only [addChildren]
    apply ih
    simp only [addChild]
    split
    · rename_i lf hlf
      split
      · exact pushDest_below h _ _ (by simpa [Leaf.transform] using hst c lf hlf)
      · exact h
    · intro F hF
      rcases List.mem_cons.1 hF with rfl | hF
      · exact ⟨rfl, rfl⟩
      · exact h F hF
    · exact h

end

variable [One M]

theorem scoped_append : ∀ (a c : List (Event M)) (b : Nat),
    Scoped b (a ++ c) ↔ Scoped b a ∧ Scoped (b + nfresh a) c := by
  intro a
  induction a with
  | nil => intro c b; simp [Scoped, nfresh]
  | cons e es ih =>
    intro c b
    simp only [List.cons_append, Scoped]
    by_cases hf : e.fresh = true
    · simp only [hf, if_true, ih]
      have : nfresh (e :: es) = nfresh es + 1 := by simp [nfresh, hf]
      rw [this, show b + (nfresh es + 1) = b + 1 + nfresh es by omega]
      constructor
      · rintro ⟨h1, h2, h3, h4, h5⟩; exact ⟨⟨h1, h2, h3, h4⟩, h5⟩
      · rintro ⟨⟨h1, h2, h3, h4⟩, h5⟩; exact ⟨h1, h2, h3, h4, h5⟩
    · simp only [hf, if_false, ih, Bool.false_eq_true]
      have : nfresh (e :: es) = nfresh es := by simp [nfresh, hf]
      rw [this]
      constructor
      · rintro ⟨h1, h2, h3, h4⟩; exact ⟨⟨h1, h2, h3⟩, h4⟩
      · rintro ⟨⟨h1, h2, h3⟩, h4⟩; exact ⟨h1, h2, h3, h4⟩

theorem finalizeResult_fresh (fr : Leaf M) (o : Op) (pos neg : List (Leaf M)) (b : Nat)
    (hp : leavesBelow b pos = true) :
    ((finalizeResult fr o pos neg).2.1 = true → (finalizeResult fr o pos neg).1 = fr) ∧
    ((finalizeResult fr o pos neg).2.1 = false →
      (finalizeResult fr o pos neg).1.id.below b = true) := by
  obtain ⟨_, hfr, hnf⟩ := finalizeResult_spec fr o pos neg
  refine ⟨hfr, fun hf => ?_⟩
  rcases hnf hf with ⟨h, _⟩ | ⟨h, _⟩
  · rw [h]; rfl
  · rw [h] at hp
    simpa [leavesBelow] using hp

/-- Bookkeeping of result meshes: the events `evs` emitted since the counter stood at `b0` are
well scoped, the counter has advanced by the number of fresh ones, and the store only names meshes
created before it. -/
structure Fresh (b0 : Nat) (st : Store M) (evs : List (Event M)) : Prop where
  sc : Scoped b0 evs
  nx : st.nextRes = b0 + nfresh evs
  sb : StoreBelow st

theorem Fresh.append {b0 : Nat} {s s' : Store M} {evs evs' : List (Event M)}
    (h : Fresh b0 s evs) (h' : Fresh s.nextRes s' evs') : Fresh b0 s' (evs ++ evs') :=
  ⟨(scoped_append _ _ _).2 ⟨h.sc, h.nx ▸ h'.sc⟩,
    by rw [h'.nx, h.nx, nfresh_append, Nat.add_assoc], h'.sb⟩

theorem Fresh.refl {s : Store M} (hs : StoreBelow s) : Fresh s.nextRes s [] :=
  ⟨trivial, rfl, hs⟩

variable [Mul M]

/-- invariant of the loop: the bookkeeping, and the frames only hold meshes created so far -/
structure FreshInv (b0 : Nat) (σ : EvalState M) : Prop extends Fresh b0 σ.st σ.evs where
  fb : ∀ F ∈ σ.stack, FrameBelow σ.st.nextRes F

theorem step_fresh {b0 : Nat} {σ : EvalState M} (inv : FreshInv b0 σ) : FreshInv b0 (step σ) := by
  cases hs : σ.stack with
  | nil => rw [step_nil hs]; exact inv
  | cons G rest =>
    have hG : FrameBelow σ.st.nextRes G := inv.fb G (by simp [hs])
    have hrest : ∀ F ∈ rest, FrameBelow σ.st.nextRes F := fun F hF => inv.fb F (by simp [hs, hF])
    by_cases hn : ∃ i o nxf cache, σ.st.nodes[G.node]? = some (Node.op i o nxf cache)
    · obtain ⟨i, o, nxf, cache, hn⟩ := hn
      cases hf : G.finalize with
      | false =>
        rw [step_visit hs hn hf]
        refine ⟨inv.toFresh, addChildren_below inv.sb _ _ _ _ _ _ _ ?_⟩
        simp only
        split
        · exact hrest
        · exact fun F hF => (List.mem_cons.1 hF).elim (fun e => e ▸ hG) (hrest F)
      | true =>
        cases cache with
        | some c =>
          rw [step_finalize_cached hs hn hf]
          cases hc : σ.st.leafAt? c with
          | none => exact ⟨inv.toFresh, hrest⟩
          | some cl =>
            have hcl : cl.id.below σ.st.nextRes = true := by
              simp only [Store.leafAt?] at hc
              split at hc
              · rename_i l hl; cases hc; exact inv.sb c _ hl
              · cases hc
            exact ⟨inv.toFresh, pushO_below hrest _ _ hcl⟩
        | none =>
          rw [step_finalize_compute hs hn hf]
          obtain ⟨hfr, hnf⟩ := finalizeResult_fresh (⟨.res σ.st.nextRes, 1⟩ : Leaf M) o
            G.pos G.neg σ.st.nextRes hG.1
          generalize finalizeResult (⟨.res σ.st.nextRes, 1⟩ : Leaf M) o G.pos G.neg = rr
            at hfr hnf
          obtain ⟨res, fresh, ub'⟩ := rr
          simp only at hfr hnf ⊢
          -- the finalize as an evaluation of its own, appended to what happened before
          have hle : σ.st.nextRes ≤ (finStore σ.st G.node i o nxf res fresh).nextRes := by
            show _ ≤ (if fresh = true then _ else _); split <;> omega
          have hres : res.id.below (finStore σ.st G.node i o nxf res fresh).nextRes = true := by
            show res.id.below (if fresh = true then _ else _) = true
            cases fresh with
            | true => rw [hfr rfl]; simp [LeafId.below]
            | false => simpa using hnf rfl
          have hone : Fresh σ.st.nextRes (finStore σ.st G.node i o nxf res fresh)
              [{ op := o, pos := G.pos, neg := G.neg, res := res, fresh := fresh }] := by
            refine ⟨⟨hG.1, hG.2, ?_⟩, ?_, ?_⟩
            · cases fresh with
              | true => exact ⟨hfr rfl, trivial⟩
              | false => exact trivial
            · show (if fresh = true then _ else _) = _
              cases fresh <;> simp [nfresh]
            · intro k l hk
              rcases finStore_cases hk with ⟨_, _, h'⟩ | ⟨_, _, h'⟩ | ⟨_, h'⟩ | ⟨_, h'⟩
              · exact LeafId.below_mono hle (inv.sb k l h')
              · cases h'
              · cases h'; exact hres
              · cases h'; exact hres
          refine ⟨inv.toFresh.append hone, pushO_below (fun F hF => ?_) _ _
            (by simpa [Leaf.transform] using hres)⟩
          exact ⟨leavesBelow_mono hle (hrest F hF).1, leavesBelow_mono hle (hrest F hF).2⟩
    · rw [step_dangling hs (fun i o m c h => hn ⟨i, o, m, c, h⟩)]
      exact ⟨inv.toFresh, hrest⟩

theorem run_fresh {b0 : Nat} (f : Nat) {σ : EvalState M} (inv : FreshInv b0 σ) :
    FreshInv b0 (run f σ) := by
  induction f generalizing σ with
  | zero => exact inv
  | succ f ih => rw [run_succ]; exact ih (step_fresh inv)

end MV.Csg

/-! ### freshness for `toLeaf`, `force`, and the node-building operations -/
namespace MV.Csg

variable {M : Type}

theorem grow_below {s : Store M} (hs : StoreBelow s) (nd : Node M) (is : List (List Nat))
    (hnd : ∀ l, nd = Node.leaf l → l.id.below s.nextRes = true) : StoreBelow (s.grow nd is) := by
  intro k l hk
  rcases grow_node_cases hk with h | ⟨_, h⟩
  · exact hs k l h
  · exact hnd l h.symm

variable [One M]

/-- adding a node that names no new mesh leaves the bookkeeping alone -/
theorem Fresh.addNode {b0 : Nat} {s : Store M} {evs : List (Event M)} (h : Fresh b0 s evs)
    (nd : Node M) (hnd : ∀ l, nd = Node.leaf l → l.id.below s.nextRes = true) :
    Fresh b0 (s.addNode nd).1 evs := by
  rw [addNode_eq]; exact ⟨h.sc, h.nx, grow_below h.sb _ _ hnd⟩

theorem Fresh.newOp {b0 : Nat} {s : Store M} {evs : List (Event M)} (h : Fresh b0 s evs)
    (ch : List Nat) (o : Op) : Fresh b0 (s.newOp ch o).1 evs :=
  ⟨h.sc, h.nx, grow_below h.sb (Node.op s.impls.length o 1 none) [ch] (fun l e => by cases e)⟩

theorem sessFresh_empty : Fresh 0 ({} : Sess M).st ({} : Sess M).evs :=
  ⟨trivial, rfl, fun n l h => by simp at h⟩

variable [Mul M]

theorem toLeaf_fresh (s : Store M) (hs : StoreBelow s) (n : Nat) (orc : List Bool) (fuel : Nat) :
    Fresh s.nextRes (toLeaf s n orc fuel).st (toLeaf s n orc fuel).evs := by
  cases hnd : s.nodes[n]? with
  | none => simp only [toLeaf, hnd]; exact Fresh.refl hs
  | some nd =>
    cases nd with
    | leaf l =>
      simp only [toLeaf, hnd, addNode_eq]
      exact ⟨trivial, rfl, grow_below hs _ _ (fun l' e => by cases e; exact hs n l hnd)⟩
    | op i o nxf cache =>
      cases cache with
      | some c => simp only [toLeaf, hnd]; exact Fresh.refl hs
      | none =>
        have inv := run_fresh fuel (b0 := s.nextRes)
          (σ := { st := s, stack := [{ finalize := false, parentOp := o, xf := 1, posDest := none,
                                       negDest := none, node := n }],
                  orc := orc, used := 0, evs := [], ub := false })
          ⟨Fresh.refl hs, fun F hF => by
            simp only [List.mem_singleton] at hF; subst hF; exact ⟨rfl, rfl⟩⟩
        simp only [toLeaf, hnd]
        split <;> exact inv.toFresh

theorem force_fresh (s : Store M) (hs : StoreBelow s) (n : Nat) (orc : List Bool) :
    Fresh s.nextRes (force s n orc).st (force s n orc).evs := by
  simp only [force]
  split
  · exact Fresh.refl hs
  · exact toLeaf_fresh s hs n orc _

theorem exec_fresh {σ : Sess M} (inv : Fresh 0 σ.st σ.evs) (c : Cmd M) :
    Fresh 0 (σ.exec c).st (σ.exec c).evs := by
  cases c with
  | leaf h => exact inv.addNode _ (fun l e => by cases e; rfl)
  | bool h o a b =>
    simp only [Sess.exec]
    split
    · simp only [Store.boolean]
      split <;> exact inv.newOp _ _
    · exact inv
  | batch h o as =>
    simp only [Sess.exec]
    split
    · simp only [Store.batch]
      split
      · exact inv.addNode _ (fun l e => by cases e; rfl)
      · exact inv
      · exact inv.newOp _ _
    · exact inv
  | xf h a m =>
    simp only [Sess.exec]
    split
    · rename_i na _
      simp only [Store.transform]
      split
      · rename_i l hl
        exact inv.addNode _ (fun l' e => by cases e; exact inv.sb na l hl)
      · exact inv.addNode _ (fun l e => by cases e)
      · exact inv
    · exact inv
  | drop h => exact inv
  | force h orc =>
    simp only [Sess.exec]
    split
    · rename_i n _
      split
      · exact inv.append (force_fresh σ.st inv.sb n orc)
      · exact inv
    · exact inv

theorem run_sess_fresh (prog : List (Cmd M)) (σ : Sess M) (inv : Fresh 0 σ.st σ.evs) :
    Fresh 0 (σ.run prog).st (σ.run prog).evs := by
  induction prog generalizing σ with
  | nil => exact inv
  | cons c cs ih => exact ih (σ.exec c) (exec_fresh inv c)

end MV.Csg

/-! ### denotations only depend on the meshes named in the store -/
namespace MV.Csg
open SolidAlg XfAct

variable {M S : Type} [One M] [Mul M] [SolidAlg S] [XfAct M S]

theorem denoteF_congr {L L' : Val S} {s : Store M} (hs : StoreBelow s)
    (a : Agree s.nextRes L L') : ∀ f n, denoteF L s f n = denoteF L' s f n := by
  intro f
  induction f with
  | zero => intro n; rfl
  | succ f ih =>
    intro n
    simp only [denoteF]
    cases hn : s.nodes[n]? with
    | none => rfl
    | some nd =>
      cases nd with
      | leaf l => exact leaf_congr a (hs n l hn)
      | op i o m c =>
        simp only
        congr 2
        apply List.map_congr_left
        intro c _
        exact ih c

theorem denote_congr {L L' : Val S} {s : Store M} (hs : StoreBelow s)
    (a : Agree s.nextRes L L') (n : Nat) : denote L s n = denote L' s n :=
  denoteF_congr hs a _ n

theorem cacheOK_congr {L L' : Val S} {s : Store M} (hs : StoreBelow s)
    (a : Agree s.nextRes L L') (hc : CacheOK L s) : CacheOK L' s := by
  intro n i o m c hn
  rw [← denote_congr hs a, ← denote_congr hs a]
  exact hc hn

end MV.Csg

/-! ### executable checks for concrete stores -/
namespace MV.Csg
open SolidAlg XfAct

variable {M S : Type}

def Store.belowB (s : Store M) : Bool :=
  s.nodes.all (fun nd => match nd with
    | .leaf l => l.id.below s.nextRes
    | _ => true)

theorem storeBelow_of_check {s : Store M} (h : s.belowB = true) : StoreBelow s := by
  intro n l hn
  simp only [Store.belowB, List.all_eq_true] at h
  exact h _ (List.mem_of_getElem? hn)

def Store.noCacheB (s : Store M) : Bool :=
  s.nodes.all (fun nd => match nd with
    | .op _ _ _ (some _) => false
    | _ => true)

theorem cacheOK_of_noCache [One M] [Mul M] [SolidAlg S] [XfAct M S] (L : Val S) {s : Store M}
    (h : s.noCacheB = true) : CacheOK L s := by
  intro n i o m c hn
  simp only [Store.noCacheB, List.all_eq_true] at h
  have := h _ (List.mem_of_getElem? hn)
  simp at this

end MV.Csg
