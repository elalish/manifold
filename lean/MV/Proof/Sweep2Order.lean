import MV.Model.Sweep2
/-!
The orders of the 2-D sweep (`LexLess`, `PairLexLess`) as Boolean strict total orders, and the one operation all
its `std::map`s are updated by: find the key in a list sorted by such an order, insert a fresh value in key
order when it is absent, update or erase the value when it is present; and the sum of an integer-valued map over
a set of keys (`dsum`), which an additive update changes by the added value.
-/
namespace MV.Sweep2

/-- a strict total order given by a Boolean comparison -/
structure StrictTotal {α : Type} (lt : α → α → Bool) : Prop where
  irrefl : ∀ a, lt a a = false
  trans : ∀ {a b c}, lt a b = true → lt b c = true → lt a c = true
  tri : ∀ {a b}, lt a b = false → lt b a = false → a = b

namespace StrictTotal
variable {α β : Type}

theorem asymm {lt : α → α → Bool} (h : StrictTotal lt) {a b : α} (h1 : lt a b = true) : lt b a = false := by
  cases h2 : lt b a
  · rfl
  · have := h.trans h1 h2
    rw [h.irrefl] at this
    cases this

theorem lt_of_ne {lt : α → α → Bool} (h : StrictTotal lt) {a b : α} (hne : a ≠ b) (h1 : lt b a = false) :
    lt a b = true := by
  cases h2 : lt a b
  · exact absurd (h.tri h2 h1) hne
  · rfl

/-- the lexicographic product of two strict total orders -/
theorem lex {lt1 : α → α → Bool} {lt2 : β → β → Bool} (h1 : StrictTotal lt1) (h2 : StrictTotal lt2)
    {lt : α × β → α × β → Bool}
    (hlt : ∀ a b, lt a b = true ↔ lt1 a.1 b.1 = true ∨ (a.1 = b.1 ∧ lt2 a.2 b.2 = true)) :
    StrictTotal lt where
  irrefl a := by
    cases h : lt a a
    · rfl
    · rcases (hlt a a).mp h with h | ⟨_, h⟩
      · rw [h1.irrefl] at h; cases h
      · rw [h2.irrefl] at h; cases h
  trans := by
    intro a b c hab hbc
    rw [hlt] at *
    rcases hab with h | ⟨e, h⟩ <;> rcases hbc with h' | ⟨e', h'⟩
    · exact .inl (h1.trans h h')
    · exact .inl (e' ▸ h)
    · exact .inl (e ▸ h')
    · exact .inr ⟨e.trans e', h2.trans h h'⟩
  tri := by
    intro a b hab hba
    have not_lt : ∀ {x y : α × β}, lt x y = false →
        lt1 x.1 y.1 = false ∧ (x.1 = y.1 → lt2 x.2 y.2 = false) := by
      intro x y hxy
      constructor
      · cases h : lt1 x.1 y.1
        · rfl
        · rw [(hlt x y).mpr (.inl h)] at hxy; cases hxy
      · intro e
        cases h : lt2 x.2 y.2
        · rfl
        · rw [(hlt x y).mpr (.inr ⟨e, h⟩)] at hxy; cases hxy
    have e1 := h1.tri (not_lt hab).1 (not_lt hba).1
    exact Prod.ext e1 (h2.tri ((not_lt hab).2 e1) ((not_lt hba).2 e1.symm))

end StrictTotal

theorem intLt_order : StrictTotal (fun a b : Int => decide (a < b)) where
  irrefl a := by simp
  trans := by intro a b c; simp only [decide_eq_true_eq]; omega
  tri := by intro a b; simp only [decide_eq_false_iff_not]; omega

theorem lexLess_iff (a b : Pt) : lexLess a b = true ↔ a.1 < b.1 ∨ (a.1 = b.1 ∧ a.2 < b.2) := by
  simp [lexLess]

theorem lexLess_order : StrictTotal lexLess :=
  intLt_order.lex intLt_order fun a b => by simp [lexLess]

theorem pairLexLess_iff (a b : Key) :
    pairLexLess a b = true ↔ lexLess a.1 b.1 = true ∨ (a.1 = b.1 ∧ lexLess a.2 b.2 = true) := by
  unfold pairLexLess
  by_cases h1 : lexLess a.1 b.1 = true
  · simp [h1]
  · by_cases h2 : lexLess b.1 a.1 = true
    · simp only [h1, h2, if_true, if_false, Bool.false_eq_true, false_or, false_iff, not_and]
      intro e; rw [e, lexLess_order.irrefl] at h2; cases h2
    · have h1' : lexLess a.1 b.1 = false := by simpa using h1
      have h2' : lexLess b.1 a.1 = false := by simpa using h2
      simp only [h1', h2', if_false, Bool.false_eq_true, false_or]
      exact ⟨fun h => ⟨lexLess_order.tri h1' h2', h⟩, fun h => h.2⟩

theorem pairLexLess_order : StrictTotal pairLexLess :=
  lexLess_order.lex lexLess_order pairLexLess_iff

theorem pairLexLess_asymm {a b : Key} (h1 : pairLexLess a b = true) : pairLexLess b a = false :=
  pairLexLess_order.asymm h1

section
variable {κ ν : Type} (lt : κ → κ → Bool) (v0 : ν) (g : ν → Option ν)

/-- `find k`; absent: `emplace (k, v0)` in key order; present with value `v`: replace it by `g v`, `none` erases
    (two keys are the same slot when neither is less than the other) -/
def upsert : List (κ × ν) → κ → List (κ × ν)
  | [], k => [(k, v0)]
  | (k', v) :: rest, k =>
    if lt k k' then (k, v0) :: (k', v) :: rest
    else if lt k' k then (k', v) :: upsert rest k
    else match g v with
      | none => rest
      | some v' => (k', v') :: rest

variable {lt v0 g}

/-- an entry after the update is an old entry, or the entry of `k` with the fresh or the updated value -/
theorem mem_upsert (h : StrictTotal lt) {l : List (κ × ν)} {k : κ} {e : κ × ν} (he : e ∈ upsert lt v0 g l k) :
    e ∈ l ∨ (e.1 = k ∧ (e.2 = v0 ∨ ∃ v, (k, v) ∈ l ∧ g v = some e.2)) := by
  induction l with
  | nil => rw [upsert, List.mem_singleton] at he; rw [he]; exact .inr ⟨rfl, .inl rfl⟩
  | cons e0 rest ih =>
    obtain ⟨k', v⟩ := e0
    unfold upsert at he
    split at he
    · rcases List.mem_cons.mp he with rfl | he
      · exact .inr ⟨rfl, .inl rfl⟩
      · exact .inl he
    · split at he
      · rcases List.mem_cons.mp he with rfl | he
        · exact .inl List.mem_cons_self
        · refine (ih he).imp (List.mem_cons_of_mem _) (And.imp_right (Or.imp_right ?_))
          exact fun ⟨v, hv, hg⟩ => ⟨v, List.mem_cons_of_mem _ hv, hg⟩
      · next h1 h2 =>
        have hk : k = k' := h.tri (by simpa using h1) (by simpa using h2)
        subst hk
        split at he
        · exact .inl (List.mem_cons_of_mem _ he)
        · next v' hg =>
          rcases List.mem_cons.mp he with rfl | he
          · exact .inr ⟨rfl, .inr ⟨v, List.mem_cons_self, hg⟩⟩
          · exact .inl (List.mem_cons_of_mem _ he)

theorem mem_upsert_key (h : StrictTotal lt) {l : List (κ × ν)} {k : κ} {e : κ × ν}
    (he : e ∈ upsert lt v0 g l k) : e.1 = k ∨ e ∈ l :=
  (mem_upsert h he).symm.imp_left And.left

/-- the keys stay strictly increasing -/
theorem pairwise_upsert (h : StrictTotal lt) {l : List (κ × ν)} (k : κ)
    (hs : l.Pairwise fun a b => lt a.1 b.1 = true) :
    (upsert lt v0 g l k).Pairwise fun a b => lt a.1 b.1 = true := by
  induction l with
  | nil => exact List.pairwise_singleton _ _
  | cons e0 rest ih =>
    obtain ⟨k', v⟩ := e0
    have hp := List.pairwise_cons.mp hs
    unfold upsert
    split
    · next h1 =>
      refine List.pairwise_cons.mpr ⟨fun a ha => ?_, hs⟩
      rcases List.mem_cons.mp ha with rfl | ha
      · exact h1
      · exact h.trans h1 (hp.1 a ha)
    · split
      · next h2 =>
        refine List.pairwise_cons.mpr ⟨fun a ha => ?_, ih hp.2⟩
        rcases mem_upsert_key h ha with e | ha
        · rw [e]; exact h2
        · exact hp.1 a ha
      · split
        · exact hp.2
        · exact List.pairwise_cons.mpr ⟨hp.1, hp.2⟩

end

/-- sum of the values at the keys that satisfy `P`: with `P = (· = k)` the stored multiplicity of `k`, with
    `P = (· < y)` the running coverage just below `y` -/
def dsum {κ : Type} (P : κ → Prop) [DecidablePred P] (d : List (κ × Int)) : Int :=
  (d.map fun e => if P e.1 then e.2 else 0).sum

section
variable {κ : Type} (P : κ → Prop) [DecidablePred P]

theorem dsum_cons (e : κ × Int) (d : List (κ × Int)) :
    dsum P (e :: d) = (if P e.1 then e.2 else 0) + dsum P d := by
  simp only [dsum, List.map_cons, List.sum_cons]

theorem dsum_eq_zero {d : List (κ × Int)} (h : ∀ e ∈ d, ¬ P e.1) : dsum P d = 0 := by
  induction d with
  | nil => rfl
  | cons e rest ih =>
    rw [dsum_cons, if_neg (h e List.mem_cons_self), ih fun e he => h e (List.mem_cons_of_mem _ he)]
    rfl

/-- an update that adds the fresh value to the old one (an erased entry counting as zero) adds it to the sum -/
theorem dsum_upsert {lt : κ → κ → Bool} (h : StrictTotal lt) {v0 : Int} {g : Int → Option Int}
    (hg : ∀ v, (g v).getD 0 = v + v0) (l : List (κ × Int)) (k : κ) :
    dsum P (upsert lt v0 g l k) = dsum P l + (if P k then v0 else 0) := by
  induction l with
  | nil => simp [upsert, dsum]
  | cons e0 rest ih =>
    obtain ⟨k', v⟩ := e0
    unfold upsert
    split
    · rw [dsum_cons]; exact Int.add_comm _ _
    · split
      · rw [dsum_cons, dsum_cons, ih]; exact (Int.add_assoc _ _ _).symm
      · next h1 h2 =>
        have hk : k = k' := h.tri (by simpa using h1) (by simpa using h2)
        subst hk
        have hv := hg v
        -- the value `v` of `k` becomes `g v`, of weight `v + v0`
        cases hgv : g v <;> simp only [hgv, Option.getD_none, Option.getD_some] at hv <;>
          simp only [dsum_cons] <;> split <;> omega

end

end MV.Sweep2
