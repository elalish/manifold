import MV.Proof.CsgStore
/-
The store update performed by one finalize, and the extension relation between stores.
-/
set_option autoImplicit false
namespace MV.Csg
open SolidAlg XfAct

variable {M S : Type}

/-- structural extension, what an evaluation may do to the store: nodes are only added, the op
nodes stay the same op nodes (up to their cache), and no cost grows -/
structure Ext (s s' : Store M) : Prop where
  len : s.nodes.length ≤ s'.nodes.length
  op : ∀ {k i : Nat} {o : Op} {m : M}, (∃ c, s.nodes[k]? = some (Node.op i o m c)) ↔
    ∃ c', s'.nodes[k]? = some (Node.op i o m c')
  cost : ∀ k, cost s' k ≤ cost s k

theorem Ext.refl (s : Store M) : Ext s s :=
  ⟨Nat.le_refl _, Iff.rfl, fun _ => Nat.le_refl _⟩

theorem Ext.trans {s s' s'' : Store M} (a : Ext s s') (b : Ext s' s'') : Ext s s'' :=
  ⟨Nat.le_trans a.len b.len, a.op.trans b.op, fun k => Nat.le_trans (b.cost k) (a.cost k)⟩

section Sem
variable [One M] [Mul M] [SolidAlg S] [XfAct M S]

/-- caches hold the value of their node -/
def CacheOK (L : Val S) (s : Store M) : Prop :=
  ∀ {n i : Nat} {o : Op} {m : M} {c : Nat}, s.nodes[n]? = some (Node.op i o m (some c)) →
    denote L s c = denote L s n

/-- denotations of existing nodes are unchanged -/
def SemExt (L : Val S) (s s' : Store M) : Prop :=
  ∀ k, k < s.nodes.length → denote L s' k = denote L s k

theorem SemExt.refl (L : Val S) (s : Store M) : SemExt L s s := fun _ _ => rfl

theorem SemExt.trans {L : Val S} {s s' s'' : Store M} (e : s.nodes.length ≤ s'.nodes.length)
    (a : SemExt L s s') (b : SemExt L s' s'') : SemExt L s s'' := fun k hk => by
  rw [b k (by omega), a k hk]

/-- A store update keeps all denotations if it keeps the leaves, keeps every op node up to its
cache, and gives every op node an impl that still evaluates to the node's value, given that the
old children have kept their values. -/
theorem semExt_of {L : Val S} {s s' : Store M} (h : WFs s) (h' : WFs s')
    (hleaf : ∀ {k : Nat} {l : Leaf M}, s.nodes[k]? = some (Node.leaf l) →
      s'.nodes[k]? = some (Node.leaf l))
    (hop : ∀ {k i : Nat} {o : Op} {m : M} {c : Option Nat},
      s.nodes[k]? = some (Node.op i o m c) → ∃ c', s'.nodes[k]? = some (Node.op i o m c'))
    (himpl : ∀ {k i : Nat} {o : Op} {m : M} {c : Option Nat},
      s.nodes[k]? = some (Node.op i o m c) →
      (∀ c' ∈ s.impls.getD i [], denote L s' c' = denote L s c') →
      act m (opSem o ((s'.impls.getD i []).map (denote L s'))) = denote L s k) :
    SemExt L s s' := by
  refine h.induction (P := fun k => k < s.nodes.length → denote L s' k = denote L s k) ?_
  intro k ih hk
  cases hnd : s.nodes[k]? with
  | none => rw [List.getElem?_eq_getElem hk] at hnd; cases hnd
  | some nd =>
    cases nd with
    | leaf l => rw [denote_leaf L (hleaf hnd), denote_leaf L hnd]
    | op j o m c =>
      obtain ⟨c', hk'⟩ := hop hnd
      rw [denote_op L h' hk',
        himpl hnd (fun c' hc' => ih hnd c' hc' (h.child_lt (h.impl_get hnd) hc'))]

end Sem

/-! ### the finalize update -/

/-- l.770-796: `*impl = {res}; cache_ = (*impl)[0]->Transform(transform_)` -/
def finStore [Mul M] (s : Store M) (n i : Nat) (o : Op) (nxf : M) (res : Leaf M) (fresh : Bool) :
    Store M :=
  { nodes := s.nodes.set n (.op i o nxf (some (s.nodes.length + 1)))
               ++ [.leaf res, .leaf (res.transform nxf)],
    impls := s.impls.set i [s.nodes.length],
    nextRes := if fresh then s.nextRes + 1 else s.nextRes }

section FinStore
variable [Mul M] {s : Store M} {n i : Nat} {o : Op} {nxf : M} {res : Leaf M} {fresh : Bool}
  {c : Option Nat}

theorem finStore_lt {k : Nat} (hk : k < s.nodes.length) :
    (finStore s n i o nxf res fresh).nodes[k]? =
      if n = k then some (.op i o nxf (some (s.nodes.length + 1))) else s.nodes[k]? := by
  simp only [finStore]
  rw [List.getElem?_append_left (by simpa using hk), List.getElem?_set]
  split
  · simp [*]
  · rfl

theorem finStore_n (hn : n < s.nodes.length) :
    (finStore s n i o nxf res fresh).nodes[n]? =
      some (.op i o nxf (some (s.nodes.length + 1))) := by
  rw [finStore_lt hn]; simp

theorem finStore_len0 :
    (finStore s n i o nxf res fresh).nodes[s.nodes.length]? = some (.leaf res) := by
  simp only [finStore]
  rw [List.getElem?_append_right (by simp)]
  simp

theorem finStore_len1 :
    (finStore s n i o nxf res fresh).nodes[s.nodes.length + 1]? =
      some (.leaf (res.transform nxf)) := by
  simp only [finStore]
  rw [List.getElem?_append_right (by simp)]
  simp

theorem finStore_length :
    (finStore s n i o nxf res fresh).nodes.length = s.nodes.length + 2 := by
  simp [finStore]

theorem finStore_ilen : (finStore s n i o nxf res fresh).impls.length = s.impls.length := by
  simp [finStore]

theorem finStore_impl (hi : i < s.impls.length) (j : Nat) :
    (finStore s n i o nxf res fresh).impls[j]? =
      if i = j then some [s.nodes.length] else s.impls[j]? := by
  simp only [finStore, List.getElem?_set, hi, if_true]

theorem finStore_getD (hi : i < s.impls.length) (j : Nat) :
    (finStore s n i o nxf res fresh).impls.getD j [] =
      if i = j then [s.nodes.length] else s.impls.getD j [] := by
  simp only [List.getD, finStore_impl hi]
  split <;> rfl

/-- case analysis of a node of the new store -/
theorem finStore_cases {k : Nat} {nd : Node M}
    (h : (finStore s n i o nxf res fresh).nodes[k]? = some nd) :
    (k < s.nodes.length ∧ k ≠ n ∧ s.nodes[k]? = some nd) ∨
    (k = n ∧ n < s.nodes.length ∧ nd = .op i o nxf (some (s.nodes.length + 1))) ∨
    (k = s.nodes.length ∧ nd = .leaf res) ∨
    (k = s.nodes.length + 1 ∧ nd = .leaf (res.transform nxf)) := by
  by_cases hk : k < s.nodes.length
  · rw [finStore_lt hk] at h
    split at h
    · rename_i e; subst e
      right; left; exact ⟨rfl, hk, (Option.some.inj h).symm⟩
    · rename_i e
      left; exact ⟨hk, fun e' => e e'.symm, h⟩
  · have hlen := (List.getElem?_eq_some_iff.1 h).1
    rw [finStore_length] at hlen
    have : k = s.nodes.length ∨ k = s.nodes.length + 1 := by omega
    rcases this with rfl | rfl
    · rw [finStore_len0] at h
      right; right; left; exact ⟨rfl, (Option.some.inj h).symm⟩
    · rw [finStore_len1] at h
      right; right; right; exact ⟨rfl, (Option.some.inj h).symm⟩

theorem finStore_leaf_old (hn : s.nodes[n]? = some (Node.op i o nxf c))
    {k : Nat} {l : Leaf M}
    (h : s.nodes[k]? = some (Node.leaf l)) :
    (finStore s n i o nxf res fresh).nodes[k]? = some (Node.leaf l) := by
  have hk := (List.getElem?_eq_some_iff.1 h).1
  rw [finStore_lt hk]
  split
  · rename_i e; subst e; rw [hn] at h; cases h
  · exact h

theorem finStore_op_old (hn : s.nodes[n]? = some (Node.op i o nxf c))
    {k j : Nat} {o' : Op} {m : M} {c' : Option Nat}
    (h : s.nodes[k]? = some (Node.op j o' m c')) :
    ∃ c'', (finStore s n i o nxf res fresh).nodes[k]? = some (Node.op j o' m c'') := by
  have hk := (List.getElem?_eq_some_iff.1 h).1
  rw [finStore_lt hk]
  split
  · rename_i e; subst e; rw [hn] at h; cases h; exact ⟨_, rfl⟩
  · exact ⟨_, h⟩

theorem finStore_op_inv (hn : s.nodes[n]? = some (Node.op i o nxf c))
    {k j : Nat} {o' : Op} {m : M} {c' : Option Nat}
    (h : (finStore s n i o nxf res fresh).nodes[k]? = some (Node.op j o' m c')) :
    ∃ c'', s.nodes[k]? = some (Node.op j o' m c'') := by
  rcases finStore_cases h with ⟨_, _, h'⟩ | ⟨rfl, _, h'⟩ | ⟨_, h'⟩ | ⟨_, h'⟩
  · exact ⟨_, h'⟩
  · cases h'; exact ⟨_, hn⟩
  · cases h'
  · cases h'

theorem finStore_wfs (h : WFs s) (hn : s.nodes[n]? = some (Node.op i o nxf c)) :
    WFs (finStore s n i o nxf res fresh) := by
  have hi := h.impl_lt hn
  have hnlt := (List.getElem?_eq_some_iff.1 hn).1
  refine ⟨?_, ?_, ?_, ?_, ?_⟩
  · intro k j o' m c' hk
    obtain ⟨c'', h'⟩ := finStore_op_inv hn hk
    rw [finStore_ilen]; exact h.impl_lt h'
  · intro j ch hj c' hc'
    rw [finStore_impl hi] at hj
    split at hj
    · rename_i e; subst e
      cases hj
      simp only [List.mem_singleton] at hc'
      subst hc'
      exact Or.inl ⟨_, finStore_len0⟩
    · rcases h.child hj c' hc' with ⟨l, hl⟩ | ⟨i', o', m', k', hk', hlt⟩
      · exact Or.inl ⟨l, finStore_leaf_old hn hl⟩
      · obtain ⟨c'', h''⟩ := finStore_op_old (res := res) (fresh := fresh) hn hk'
        exact Or.inr ⟨i', o', m', c'', h'', hlt⟩
  · intro j ch hj
    rw [finStore_impl hi] at hj
    split at hj
    · cases hj
      exact Or.inr ⟨_, _, rfl, finStore_len0⟩
    · rcases h.shape hj with h2 | ⟨c', l, rfl, hl⟩
      · exact Or.inl h2
      · exact Or.inr ⟨c', l, rfl, finStore_leaf_old hn hl⟩
  · intro k k' j o1 o2 m1 m2 c1 c2 h1 h2
    obtain ⟨_, h1'⟩ := finStore_op_inv hn h1
    obtain ⟨_, h2'⟩ := finStore_op_inv hn h2
    exact h.op_same h1' h2'
  · intro k j o' m c' hk
    rcases finStore_cases hk with ⟨_, _, h'⟩ | ⟨rfl, _, h'⟩ | ⟨_, h'⟩ | ⟨_, h'⟩
    · obtain ⟨⟨l, hl⟩, c2, l2, hi2, hl2⟩ := h.cache h'
      refine ⟨⟨l, finStore_leaf_old hn hl⟩, ?_⟩
      rw [finStore_impl hi]
      split
      · exact ⟨_, _, rfl, finStore_len0⟩
      · exact ⟨c2, l2, hi2, finStore_leaf_old hn hl2⟩
    · cases h'
      refine ⟨⟨_, finStore_len1⟩, ?_⟩
      rw [finStore_impl hi, if_pos rfl]
      exact ⟨_, _, rfl, finStore_len0⟩
    · cases h'
    · cases h'

theorem sum_map_le {l : List Nat} {f g : Nat → Nat} (h : ∀ c ∈ l, f c ≤ g c) :
    (l.map f).sum ≤ (l.map g).sum := by
  induction l with
  | nil => simp
  | cons x xs ih =>
    simp only [List.map_cons, List.sum_cons]
    have := h x (by simp)
    have := ih (fun c hc => h c (by simp [hc]))
    omega

theorem finStore_cost (h : WFs s) (hn : s.nodes[n]? = some (Node.op i o nxf c)) :
    ∀ k, cost (finStore s n i o nxf res fresh) k ≤ cost s k := by
  have h' := finStore_wfs (res := res) (fresh := fresh) h hn
  have hi := h.impl_lt hn
  refine h.induction ?_
  intro k ih
  cases hnd : s.nodes[k]? with
  | none =>
    -- new or non-existent node: cost 0 in the new store
    cases hnd' : (finStore s n i o nxf res fresh).nodes[k]? with
    | none => rw [cost_none hnd']; exact Nat.zero_le _
    | some nd =>
      rcases finStore_cases hnd' with ⟨_, _, h1⟩ | ⟨rfl, _, _⟩ | ⟨_, rfl⟩ | ⟨_, rfl⟩
      · rw [hnd] at h1; cases h1
      · rw [hn] at hnd; cases hnd
      · rw [cost_leaf hnd']; exact Nat.zero_le _
      · rw [cost_leaf hnd']; exact Nat.zero_le _
  | some nd =>
    cases nd with
    | leaf l => rw [cost_leaf (finStore_leaf_old hn hnd)]; exact Nat.zero_le _
    | op j o' m c' =>
      obtain ⟨c'', hk'⟩ := finStore_op_old (res := res) (fresh := fresh) hn hnd
      rw [cost_op h' hk', cost_op h hnd, finStore_getD hi]
      split
      · simp [cost_leaf finStore_len0]
      · have := sum_map_le (ih hnd)
        omega

theorem finStore_ext (h : WFs s) (hn : s.nodes[n]? = some (Node.op i o nxf c)) :
    Ext s (finStore s n i o nxf res fresh) where
  len := by rw [finStore_length]; omega
  op := ⟨fun ⟨_, ho⟩ => finStore_op_old hn ho, fun ⟨_, ho⟩ => finStore_op_inv hn ho⟩
  cost := finStore_cost h hn

end FinStore

section FinSem
variable [One M] [Mul M] [SolidAlg S] [XfAct M S]
variable {s : Store M} {n i : Nat} {o : Op} {nxf : M} {res : Leaf M} {fresh : Bool} {c : Option Nat}

/-- replacing the children of impl `i` by one leaf that has the value of the operation leaves
every denotation unchanged -/
theorem finStore_sem (L : Val S) (h : WFs s)
    (hn : s.nodes[n]? = some (Node.op i o nxf c))
    (hres : ∀ {k : Nat} {o' : Op} {m : M} {c' : Option Nat},
      s.nodes[k]? = some (Node.op i o' m c') → denote L s k = act m (L.leaf res)) :
    SemExt L s (finStore s n i o nxf res fresh) := by
  have hi := h.impl_lt hn
  refine semExt_of h (finStore_wfs h hn) (finStore_leaf_old hn) (finStore_op_old hn) ?_
  intro k j o' m c' hnd ih
  rw [finStore_getD hi]
  split
  · rename_i e; subst e
    rw [hres hnd, List.map_cons, List.map_nil, opSem_singleton, denote_leaf L finStore_len0]
  · rw [denote_op L h hnd, List.map_congr_left ih]

theorem finStore_denote_len0 (L : Val S) :
    denote L (finStore s n i o nxf res fresh) s.nodes.length = L.leaf res :=
  denote_leaf L finStore_len0

theorem finStore_denote_len1 (L : Val S) :
    denote L (finStore s n i o nxf res fresh) (s.nodes.length + 1) = act nxf (L.leaf res) := by
  rw [denote_leaf L finStore_len1, Val.leaf_transform]

theorem finStore_cacheOK (L : Val S) (h : WFs s)
    (hn : s.nodes[n]? = some (Node.op i o nxf none))
    (hc : CacheOK L s) (hv : denote L s n = act nxf (L.leaf res))
    (hsem : SemExt L s (finStore s n i o nxf res fresh)) :
    CacheOK L (finStore s n i o nxf res fresh) := by
  intro k j o' m c' hk
  rcases finStore_cases hk with ⟨hlt, _, h'⟩ | ⟨rfl, hlt, h'⟩ | ⟨_, h'⟩ | ⟨_, h'⟩
  · obtain ⟨⟨l, hl⟩, _⟩ := h.cache h'
    rw [hsem k hlt, hsem c' (List.getElem?_eq_some_iff.1 hl).1]
    exact hc h'
  · cases h'
    rw [hsem k hlt, finStore_denote_len1, hv]
  · cases h'
  · cases h'

end FinSem
end MV.Csg
