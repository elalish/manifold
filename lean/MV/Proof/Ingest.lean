import MV.Model.Ingest
/-!
Lemmas for property C09: the checked-primitive calculus (`R.Safe`, loops with invariants) and the
facts the ladder of `Impl(MeshGLP)` establishes.
-/
namespace MV.Ingest

@[simp] theorem bind_ok {α β : Type} (a : α) (f : α → R β) : (R.ok a).bind f = f a := rfl
@[simp] theorem bind_err {α β : Type} (e : Err) (f : α → R β) : (R.err e : R α).bind f = .err e := rfl
@[simp] theorem bind_fault {α β : Type} (x : Fault) (f : α → R β) : (R.fault x : R α).bind f = .fault x := rfl
@[simp] theorem monad_bind {α β : Type} (x : R α) (f : α → R β) : (x >>= f) = x.bind f := rfl
@[simp] theorem monad_pure {α : Type} (a : α) : (pure a : R α) = .ok a := rfl

@[simp] theorem safe_ok {α : Type} (a : α) : (R.ok a).Safe := trivial
@[simp] theorem safe_err {α : Type} (e : Err) : (R.err e : R α).Safe := trivial
@[simp] theorem safe_fail {α : Type} (e : Err) : (fail e : R α).Safe := trivial

theorem bind_eq_ok {α β : Type} {x : R α} {f : α → R β} {b : β} (h : x.bind f = .ok b) :
    ∃ a, x = .ok a ∧ f a = .ok b := by
  cases x with
  | ok a => exact ⟨a, rfl, h⟩
  | err e => cases h
  | fault y => cases h

/-! ## triples: no fault, and the value returned (if any) satisfies `Q` -/

def R.Sat {α : Type} (x : R α) (Q : α → Prop) : Prop :=
  match x with
  | .ok a => Q a
  | .err _ => True
  | .fault _ => False

theorem R.Sat.safe {α : Type} {x : R α} {Q : α → Prop} (h : x.Sat Q) : x.Safe := by
  cases x <;> first | trivial | exact h

theorem R.Sat.of_ok {α : Type} {x : R α} {Q : α → Prop} {a : α} (h : x.Sat Q) (e : x = .ok a) : Q a := by
  subst e; exact h

/-- the postcondition may be weakened, using what was returned -/
theorem R.Sat.imp {α : Type} {x : R α} {P Q : α → Prop} (h : x.Sat P)
    (hpq : ∀ a, x = .ok a → P a → Q a) : x.Sat Q := by
  cases x with
  | ok a => exact hpq a rfl h
  | err e => trivial
  | fault y => exact h

theorem sat_self {α : Type} {x : R α} (h : x.Safe) : x.Sat fun a => x = .ok a := by
  cases x <;> first | rfl | trivial | exact h

theorem sat_ok {α : Type} {a : α} {Q : α → Prop} (h : Q a) : (R.ok a).Sat Q := h
theorem sat_fail {α : Type} (e : Err) (Q : α → Prop) : (fail e : R α).Sat Q := trivial

theorem sat_bind {α β : Type} {x : R α} {f : α → R β} {P : α → Prop} {Q : β → Prop} (hx : x.Sat P)
    (hf : ∀ a, P a → (f a).Sat Q) : (x.bind f).Sat Q := by
  cases x with
  | ok a => exact hf a hx
  | err e => trivial
  | fault y => exact hx

theorem rd_safe {α : Type} (ln : Nat) (a : Array α) (i : Nat) (h : i < a.size) : rd ln a i = .ok a[i] := by
  simp [rd, h]

theorem rd_ok {α : Type} {ln : Nat} {a : Array α} {i : Nat} {v : α} (h : rd ln a i = .ok v) :
    ∃ hi : i < a.size, v = a[i] := by
  unfold rd at h
  split at h
  · rename_i hi; cases h; exact ⟨hi, rfl⟩
  · cases h

theorem wr_safe {α : Type} (ln : Nat) (a : Array α) (i : Nat) (v : α) (h : i < a.size) :
    wr ln a i v = .ok (a.set! i v) := by
  simp [wr, h]

theorem wr_ok {α : Type} {ln : Nat} {a b : Array α} {i : Nat} {v : α} (h : wr ln a i v = .ok b) :
    i < a.size ∧ b = a.set! i v := by
  unfold wr at h
  split at h
  · rename_i hi; cases h; exact ⟨hi, rfl⟩
  · cases h

theorem chk_safe (ln len i : Nat) (h : i < len) : chk ln len i = .ok () := by simp [chk, h]

/-- the loop rule: an invariant `P i` that every iteration carries from `i` to `i + 1` -/
theorem forRange_sat {σ : Type} (P : Nat → σ → Prop) (f : Nat → σ → R σ) :
    ∀ (n lo : Nat) (s : σ), P lo s →
      (∀ i s, lo ≤ i → i < lo + n → P i s → (f i s).Sat (P (i + 1))) →
      (forRange f lo n s).Sat (P (lo + n)) := by
  intro n
  induction n with
  | zero => intro lo s h0 _; exact h0
  | succ n ih =>
    intro lo s h0 hstep
    refine sat_bind (hstep lo s (Nat.le_refl _) (by omega) h0) fun s1 h1 => ?_
    rw [show lo + (n + 1) = lo + 1 + n by omega]
    exact ih (lo + 1) s1 h1 fun i s hi hi2 hp => hstep i s (by omega) (by omega) hp

/-- the loop rule for total correctness: every iteration returns and carries `P i` to `P (i + 1)` -/
theorem forRange_total {σ : Type} (P : Nat → σ → Prop) (f : Nat → σ → R σ) :
    ∀ (n lo : Nat) (s : σ), P lo s →
      (∀ i s, lo ≤ i → i < lo + n → P i s → ∃ s', f i s = .ok s' ∧ P (i + 1) s') →
      ∃ s', forRange f lo n s = .ok s' ∧ P (lo + n) s' := by
  intro n
  induction n with
  | zero => intro lo s h0 _; exact ⟨s, rfl, by simpa using h0⟩
  | succ n ih =>
    intro lo s h0 hstep
    obtain ⟨s1, h1, hp1⟩ := hstep lo s (Nat.le_refl _) (by omega) h0
    obtain ⟨s2, h2, hp2⟩ := ih (lo + 1) s1 hp1 (fun i s hi hi2 hp => hstep i s (by omega) (by omega) hp)
    refine ⟨s2, ?_, ?_⟩
    · show ((f lo s).bind fun s' => forRange f (lo + 1) n s') = .ok s2
      rw [h1]; exact h2
    · have e : lo + 1 + n = lo + (n + 1) := by omega
      rw [e] at hp2; exact hp2

theorem forRange_unit_safe (f : Nat → Unit → R Unit) (n lo : Nat)
    (h : ∀ i, lo ≤ i → i < lo + n → f i () = .ok ()) : forRange f lo n () = .ok () :=
  match forRange_total (fun _ _ => True) f n lo () trivial fun i _ hi hi2 _ => ⟨(), h i hi hi2, trivial⟩ with
  | ⟨(), e, _⟩ => e

theorem stride_lt {np len i j : Nat} (hi : i < len / np) (hj : j < np) : np * i + j < len := by
  have hnp : 0 < np := by omega
  have h1 : np * (i + 1) ≤ np * (len / np) := Nat.mul_le_mul_left np hi
  have h2 : np * (len / np) ≤ len := Nat.mul_div_le len np
  have h3 : np * (i + 1) = np * i + np := Nat.mul_succ np i
  omega

theorem firstMatch_eq_none_iff {l : List (Bool × Err)} :
    firstMatch l = none ↔ ∀ p ∈ l, p.1 = false := by
  induction l with
  | nil => simp [firstMatch]
  | cons a t ih =>
    obtain ⟨c, e⟩ := a
    cases c <;> simp [firstMatch, ih]

theorem ladder_ok {g : Guards} {s : MeshShape} {nv : Nat} (h : ladder g s nv = .ok ()) :
    ∀ p ∈ rungs g s nv, p.1 = false := by
  unfold ladder at h
  split at h
  · cases h
  · rename_i hn; exact firstMatch_eq_none_iff.1 hn

theorem ladder_safe (g : Guards) (s : MeshShape) (nv : Nat) : (ladder g s nv).Safe := by
  unfold ladder; split <;> simp

/-- a rung `n != 0 && a != b` that does not fire: the optional array is absent or has the right length -/
theorem rung_pair {n a b : Nat} (h : (n != 0 && a != b) = false) : n = 0 ∨ a = b :=
  Decidable.or_iff_not_imp_left.2 (by simpa [Bool.and_eq_false_iff] using h)

/-- what the fixed ladder guarantees when it lets the input through -/
structure LadderFacts (s : MeshShape) (nv : Nat) : Prop where
  numProp : 3 ≤ s.numProp
  nv4 : 4 ≤ nv
  nt4 : 4 ≤ numTriOf s
  mergeLen : s.mergeFrom.size = s.mergeTo.size
  transform : s.nRunTransform = 0 ∨ 12 * s.nRunID = s.nRunTransform
  runTable : runTableOk s = true
  faceID : s.nFaceID = 0 ∨ s.nFaceID = numTriOf s
  tangent : s.nTangent = 0 ∨ s.nTangent = 12 * numTriOf s
  vertFinite : s.vertFinite = true
  transformFinite : s.transformFinite = true
  tangentFinite : s.tangentFinite = true

theorem ladder_facts {s : MeshShape} {nv : Nat} (h : ladder Guards.fixed s nv = .ok ()) :
    LadderFacts s nv := by
  have hl := ladder_ok h
  simp only [rungs, Guards.fixed, List.mem_cons, List.mem_nil_iff, or_false, forall_eq_or_imp, forall_eq,
    Bool.true_and] at hl
  obtain ⟨_, h2, h3, h4, h5, _, h7, h8, h9, h10, h11, h12⟩ := hl
  simp only [Bool.or_eq_false_iff, decide_eq_false_iff_not, Nat.not_lt] at h2
  have h3' : 3 ≤ s.numProp := by simpa using h3
  have h4' : s.mergeFrom.size = s.mergeTo.size := by simpa using h4
  have h7' : runTableOk s = true := by simpa using h7
  exact ⟨h3', h2.1, h2.2, h4', rung_pair h5, h7', rung_pair h8, rung_pair h9,
    by simpa using h10, by simpa using h11, by simpa using h12⟩

theorem runTable_facts {s : MeshShape} (h : runTableOk s = true) :
    nRun s + 1 ≤ (normRunIndex s).size ∧ (normRunIndex s)[0]! = 0 ∧
    (normRunIndex s)[nRun s]! = s.triVerts.size ∧
    ∀ i, i < nRun s → (normRunIndex s)[i]! ≤ (normRunIndex s)[i + 1]! := by
  unfold runTableOk at h
  simp only [Bool.and_eq_true, decide_eq_true_eq, beq_iff_eq, List.all_eq_true, List.mem_range] at h
  exact ⟨h.1.1.1, h.1.1.2, h.1.2, h.2⟩

theorem run_mono {ri : Array Nat} {n : Nat} (hm : ∀ i, i < n → ri[i]! ≤ ri[i + 1]!) :
    ∀ j, j ≤ n → ∀ i, i ≤ j → ri[i]! ≤ ri[j]! := by
  intro j
  induction j with
  | zero => intro _ i hi; have : i = 0 := by omega
            subst this; exact Nat.le_refl _
  | succ j ih =>
    intro hj i hi
    by_cases h : i = j + 1
    · subst h; exact Nat.le_refl _
    · exact Nat.le_trans (ih (by omega) i (by omega)) (hm j (by omega))

end MV.Ingest
