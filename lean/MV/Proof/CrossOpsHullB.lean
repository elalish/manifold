import MV.Proof.CrossOpsHullA
/-!
Convex hull, part B: the invariant of one monotone chain (`chain = foldl hullPush []`), for any
order that behaves like the lexicographic one (so that it applies to the lower chain with `lle` and
to the upper chain with the reversed order).  Stacks are lists with the TOP FIRST.
-/
namespace MV.CrossOps
set_option linter.unusedSectionVars false

variable {F : Type} [Field F] [LinearOrder F] [IsStrictOrderedRing F]

/-- what the chain invariant needs from the order the input is sorted by: a total order in which
the differences of ordered points form a salient convex cone (`lle.comb`) -/
structure GoodOrd (le : V2 F → V2 F → Prop) : Prop where
  total : ∀ a b, le a b ∨ le b a
  antisymm : ∀ {a b}, le a b → le b a → a = b
  trans : ∀ {a b c}, le a b → le b c → le a c
  comb : ∀ {k₀ k₁ u₀ u₁ v₀ v₁ : V2 F} {X A B : F}, le k₀ k₁ → k₀ ≠ k₁ → le u₀ u₁ → le v₀ v₁ →
    0 ≤ A → 0 ≤ B → (k₁.x - k₀.x) * X = (u₁.x - u₀.x) * A + (v₁.x - v₀.x) * B →
    (k₁.y - k₀.y) * X = (u₁.y - u₀.y) * A + (v₁.y - v₀.y) * B → 0 ≤ X

theorem goodOrd_lle : GoodOrd (lle (F := F)) := ⟨lle_total, lle_antisymm, lle_trans, lle.comb⟩

/-- the reversed order: negate both equations -/
theorem goodOrd_gle : GoodOrd (fun a b : V2 F => lle b a) where
  total := fun a b => lle_total b a
  antisymm := fun h1 h2 => lle_antisymm h2 h1
  trans := fun h1 h2 => lle_trans h2 h1
  comb := fun hk hne hu hv hA hB hx hy =>
    lle.comb hk (Ne.symm hne) hu hv hA hB (by linear_combination -hx) (by linear_combination -hy)

namespace GoodOrd
variable {le : V2 F → V2 F → Prop} (G : GoodOrd le)
include G

/-- points before the stop vertex `t` see the new edge `(t, p)` -/
theorem L1 {a t p q : V2 F} (hat : le a t) (hqt : le q t) (htp : le t p)
    (h1 : 0 ≤ orient a t q) (h2 : 0 < orient a t p) : 0 ≤ orient t p q :=
  -- `(t - a) • orient t p q = (p - t) • orient a t q + (t - q) • orient a t p`
  G.comb hat (fun e => by rw [e, orient_self_left] at h2; exact lt_irrefl _ h2) htp hqt h1 h2.le
    (by unfold orient; ring) (by unfold orient; ring)

/-- one pop, the point is between the new top and the popped vertex -/
theorem L2b {a b p q : V2 F} (haq : le a q) (hqb : le q b) (hbp : le b p)
    (h1 : orient a b p ≤ 0) (h2 : 0 ≤ orient a b q) : 0 ≤ orient a p q := by
  have hab := G.trans haq hqb
  by_cases e : a = b
  · rw [G.antisymm (e ▸ hqb) haq, orient_self_mid]
  · -- `(b - a) • orient a p q = (p - a) • orient a b q + (q - a) • -orient a b p`
    exact G.comb hab e (G.trans hab hbp) haq h2 (neg_nonneg.2 h1)
      (by unfold orient; ring) (by unfold orient; ring)

/-- an older edge sees the new point -/
theorem L3 {a b c p : V2 F} (hab : le a b) (hbc : le b c) (hcp : le c p)
    (h1 : 0 < orient a b c) (h2 : 0 ≤ orient b c p) : 0 ≤ orient a b p :=
  -- `(c - b) • orient a b p = (p - b) • orient a b c + (b - a) • orient b c p`
  G.comb hbc (fun e => by rw [e, orient_self_right] at h1; exact lt_irrefl _ h1)
    (G.trans hbc hcp) hab h1.le h2 (by unfold orient; ring) (by unfold orient; ring)

/-- both neighbours strictly before the joint `m`: a flat joint forces every point that both joint
edges see onto the line of the joint -/
theorem J {s m t q : V2 F} (hs : le s m) (hsm : s ≠ m) (ht : le t m) (htm : t ≠ m)
    (h0 : orient s m t = 0) (h1 : 0 ≤ orient s m q) (h2 : 0 ≤ orient m t q) :
    orient s m q = 0 ∧ orient m t q = 0 :=
  -- `(m - t) • orient s m q + (m - s) • orient m t q = (m - q) • orient s m t = 0`: each summand is
  -- minus the other, and both are nonnegative multiples of vectors of the cone
  ⟨le_antisymm (neg_nonneg.1 (G.comb (X := -orient s m q) (B := 0) ht htm hs hs h2 le_rfl
      (by unfold orient at h0 ⊢; linear_combination (q.x - m.x) * h0)
      (by unfold orient at h0 ⊢; linear_combination (q.y - m.y) * h0))) h1,
    le_antisymm (neg_nonneg.1 (G.comb (X := -orient m t q) (B := 0) hs hsm ht ht h1 le_rfl
      (by unfold orient at h0 ⊢; linear_combination (q.x - m.x) * h0)
      (by unfold orient at h0 ⊢; linear_combination (q.y - m.y) * h0))) h2⟩

end GoodOrd

/-- every edge `(a, b)` of the stack (bottom-to-top direction) has `q` on its left or on it -/
def Sees (S : List (V2 F)) (q : V2 F) : Prop :=
  ∀ l1 l2 a b, S = l1 ++ b :: a :: l2 → 0 ≤ orient a b q

/-- every three consecutive stack vertices (bottom-to-top) make a strict left turn -/
def Turns (S : List (V2 F)) : Prop :=
  ∀ l1 l2 a b c, S = l1 ++ c :: b :: a :: l2 → 0 < orient a b c

theorem Sees.suffix {R S : List (V2 F)} {q : V2 F} (h : Sees S q) (hs : R <:+ S) : Sees R q := by
  obtain ⟨pre, rfl⟩ := hs
  intro l1 l2 a b e
  exact h (pre ++ l1) l2 a b (by rw [e, List.append_assoc])

theorem Turns.suffix {R S : List (V2 F)} (h : Turns S) (hs : R <:+ S) : Turns R := by
  obtain ⟨pre, rfl⟩ := hs
  intro l1 l2 a b c e
  exact h (pre ++ l1) l2 a b c (by rw [e, List.append_assoc])

theorem Sees.cons {S : List (V2 F)} {q x : V2 F} (h : Sees S q)
    (hx : ∀ a r, S = a :: r → 0 ≤ orient a x q) : Sees (x :: S) q := by
  intro l1 l2 a b e
  cases l1 with
  | nil =>
    simp only [List.nil_append, List.cons.injEq] at e
    obtain ⟨rfl, e⟩ := e
    exact hx a l2 e
  | cons y l1 =>
    simp only [List.cons_append, List.cons.injEq] at e
    exact h l1 l2 a b e.2

theorem Turns.cons {S : List (V2 F)} {x : V2 F} (h : Turns S)
    (hx : ∀ b a r, S = b :: a :: r → 0 < orient a b x) : Turns (x :: S) := by
  intro l1 l2 a b c e
  cases l1 with
  | nil =>
    simp only [List.nil_append, List.cons.injEq] at e
    obtain ⟨rfl, e⟩ := e
    exact hx b a l2 e
  | cons y l1 =>
    simp only [List.cons_append, List.cons.injEq] at e
    exact h l1 l2 a b c e.2

theorem sees_nil (q : V2 F) : Sees [] q := by
  intro l1 l2 a b e
  cases l1 <;> simp at e

theorem sees_single (x q : V2 F) : Sees [x] q :=
  (sees_nil q).cons (fun a r e => by simp at e)

theorem turns_nil : Turns ([] : List (V2 F)) := by
  intro l1 l2 a b c e
  cases l1 <;> simp at e

theorem turns_single (x : V2 F) : Turns [x] :=
  turns_nil.cons (fun b a r e => by simp at e)

/-- the pops of `HullBacktrack` -/
theorem backtrack_spec {le : V2 F → V2 F → Prop} (G : GoodOrd le) (Q : List (V2 F)) (p : V2 F) :
    ∀ (below : List (V2 F)) (b : V2 F),
      (∀ s ∈ b :: below, le s p) →
      (b :: below).Pairwise (fun hi lo => le lo hi) →
      (∀ q ∈ Q, Sees (b :: below) q) →
      (∀ q ∈ Q, le b q → 0 ≤ orient b p q) →
      ∃ t R', hullBacktrack p b below = t :: R' ∧ (t :: R') <:+ (b :: below) ∧
        (∀ a r, R' = a :: r → 0 < orient a t p) ∧ (∀ q ∈ Q, le t q → 0 ≤ orient t p q) := by
  intro below
  induction below with
  | nil =>
    intro b _ _ _ hb
    refine ⟨b, [], by simp [hullBacktrack], List.suffix_refl _, ?_, hb⟩
    intro a r e; simp at e
  | cons a rest ih =>
    intro b hS hD hSees hb
    have hiff : (ccw a b p (Scalar.zero : F) ≤ 0) ↔ orient a b p ≤ 0 := ccw_zero_le_iff a b p
    by_cases h : orient a b p ≤ 0
    · have hpop : hullBacktrack p b (a :: rest) = hullBacktrack p a rest := by
        rw [hullBacktrack, if_pos (hiff.2 h)]
      have hsuf : (a :: rest) <:+ (b :: a :: rest) := List.suffix_cons b _
      have hD' := List.Pairwise.sublist hsuf.sublist hD
      have hbp : le b p := hS b (by simp)
      obtain ⟨t, R', hR, hs, ht, hq⟩ := ih a (fun s hs => hS s (List.mem_cons_of_mem _ hs)) hD'
        (fun q hq => (hSees q hq).suffix hsuf)
        (fun q hq haq => by
          have hedge : 0 ≤ orient a b q := hSees q hq [] rest a b rfl
          rcases G.total b q with hbq | hqb
          · exact orient_L2a h hedge (hb q hq hbq)
          · exact G.L2b haq hqb hbp h hedge)
      exact ⟨t, R', hpop.trans hR, hs.trans hsuf, ht, hq⟩
    · have hkeep : hullBacktrack p b (a :: rest) = b :: a :: rest := by
        rw [hullBacktrack, if_neg (fun hc => h (hiff.1 hc))]
      refine ⟨b, a :: rest, hkeep, List.suffix_refl _, ?_, hb⟩
      intro a' r e
      simp only [List.cons.injEq] at e
      obtain ⟨rfl, _⟩ := e
      exact not_le.1 h

/-- older edges see the new point -/
theorem sees_old {le : V2 F → V2 F → Prop} (G : GoodOrd le) (p : V2 F) :
    ∀ R : List (V2 F), (∀ s ∈ R, le s p) → R.Pairwise (fun hi lo => le lo hi) → Turns R →
      (∀ c b r, R = c :: b :: r → 0 ≤ orient b c p) → Sees R p := by
  intro R
  induction R with
  | nil => intro _ _ _ _; exact sees_nil p
  | cons c R ih =>
    intro hS hD hT h0
    have hsuf : R <:+ c :: R := List.suffix_cons c R
    refine Sees.cons (ih (fun s hs => hS s (List.mem_cons_of_mem _ hs))
      (List.Pairwise.sublist hsuf.sublist hD) (hT.suffix hsuf) ?_) ?_
    · intro c' b' r e
      subst e
      have h1 : 0 < orient b' c' c := hT [] r b' c' c rfl
      have h2 : 0 ≤ orient c' c p := h0 c c' (b' :: r) rfl
      have hD1 := List.pairwise_cons.1 hD
      have hD2 := List.pairwise_cons.1 hD1.2
      exact G.L3 (hD2.1 b' (by simp)) (hD1.1 c' (by simp)) (hS c (by simp)) h1 h2
    · intro a r e
      subst e
      exact h0 c a r rfl

/-- the invariant of a chain: stack `S` (top first) after the points `Q` were processed -/
structure Inv (le : V2 F → V2 F → Prop) (S Q : List (V2 F)) : Prop where
  sub : ∀ s ∈ S, s ∈ Q
  desc : S.Pairwise (fun hi lo => le lo hi)
  turns : Turns S
  sees : ∀ q ∈ Q, Sees S q
  top : ∀ t r, S = t :: r → ∀ q ∈ Q, le q t
  bot : ∀ l t, S = l ++ [t] → ∀ q ∈ Q, le t q
  ne : Q ≠ [] → S ≠ []
  len : 2 ≤ Q.length → 2 ≤ S.length

theorem inv_nil (le : V2 F → V2 F → Prop) : Inv le [] [] where
  sub := by simp
  desc := List.Pairwise.nil
  turns := turns_nil
  sees := by simp
  top := by simp
  bot := by simp
  ne := by simp
  len := by simp

theorem inv_push {le : V2 F → V2 F → Prop} (G : GoodOrd le) {S Q : List (V2 F)} {p : V2 F}
    (h : Inv le S Q) (hp : ∀ q ∈ Q, le q p) : Inv le (hullPush S p) (Q ++ [p]) := by
  have hpp : le p p := (G.total p p).elim id id
  have hp' : ∀ q ∈ Q ++ [p], le q p := by
    intro q hq
    rcases List.mem_append.1 hq with hq | hq
    · exact hp q hq
    · rw [List.mem_singleton.1 hq]; exact hpp
  cases S with
  | nil =>
    have hQ : Q = [] := by
      by_contra hne; exact h.ne hne rfl
    subst hQ
    simp only [hullPush, List.nil_append]
    exact {
      sub := by simp
      desc := List.pairwise_singleton _ _
      turns := turns_single p
      sees := fun q _ => sees_single p q
      top := by
        intro t r e q hq
        simp only [List.cons.injEq] at e
        rw [← e.1]; exact hp' q (by simpa using hq)
      bot := by
        intro l t e q hq
        have : t = p := by
          cases l with
          | nil => simp at e; exact e.symm
          | cons x l => simp at e
        rw [this, List.mem_singleton.1 hq]; exact hpp
      ne := by simp
      len := by simp }
  | cons b below =>
    have hSp : ∀ s ∈ b :: below, le s p := fun s hs => hp s (h.sub s hs)
    obtain ⟨t, R', hR, hsuf, hturn, hsee⟩ := backtrack_spec G Q p below b hSp h.desc h.sees
      (fun q hq hbq => by
        have : q = b := G.antisymm (h.top b below rfl q hq) hbq
        rw [this]; exact le_of_eq (orient_self_mid b p).symm)
    have hpush : hullPush (b :: below) p = p :: t :: R' := by
      simp only [hullPush, hR]
    rw [hpush]
    have hRp : ∀ s ∈ t :: R', le s p := fun s hs => hSp s (hsuf.subset hs)
    have hRD : (t :: R').Pairwise (fun hi lo => le lo hi) :=
      List.Pairwise.sublist hsuf.sublist h.desc
    have hRT : Turns (t :: R') := h.turns.suffix hsuf
    have hT : Turns (p :: t :: R') := by
      refine hRT.cons ?_
      intro b' a' r e
      simp only [List.cons.injEq] at e
      obtain ⟨rfl, e⟩ := e
      exact hturn a' r e
    exact {
      sub := by
        intro s hs
        rcases List.mem_cons.1 hs with hs | hs
        · rw [hs]; simp
        · exact List.mem_append_left _ (h.sub s (hsuf.subset hs))
      desc := List.pairwise_cons.2 ⟨hRp, hRD⟩
      turns := hT
      sees := by
        intro q hq
        rcases List.mem_append.1 hq with hq | hq
        · refine ((h.sees q hq).suffix hsuf).cons ?_
          intro a r e
          simp only [List.cons.injEq] at e
          obtain ⟨rfl, rfl⟩ := e
          rcases G.total t q with htq | hqt
          · exact hsee q hq htq
          · cases R' with
            | nil =>
              obtain ⟨pre, hpre⟩ := hsuf
              exact hsee q hq (h.bot pre t hpre.symm q hq)
            | cons a r =>
              have hat : le a t := (List.pairwise_cons.1 hRD).1 a (by simp)
              have h1 : 0 ≤ orient a t q := ((h.sees q hq).suffix hsuf) [] r a t rfl
              exact G.L1 hat hqt (hRp t (by simp)) h1 (hturn a r rfl)
        · rw [List.mem_singleton.1 hq]
          refine (sees_old G p (t :: R') hRp hRD hRT ?_).cons ?_
          · intro c b' r e
            simp only [List.cons.injEq] at e
            obtain ⟨rfl, e⟩ := e
            exact le_of_lt (hturn b' r e)
          · intro a r e
            simp only [List.cons.injEq] at e
            obtain ⟨rfl, _⟩ := e
            exact le_of_eq (orient_self_right _ p).symm
      top := by
        intro t' r e q hq
        simp only [List.cons.injEq] at e
        rw [← e.1]; exact hp' q hq
      bot := by
        intro l t' e q hq
        cases l with
        | nil => simp at e
        | cons x l =>
          simp only [List.cons_append, List.cons.injEq] at e
          obtain ⟨pre, hpre⟩ := hsuf
          have hS : b :: below = (pre ++ l) ++ [t'] := by
            rw [← hpre, e.2, List.append_assoc]
          rcases List.mem_append.1 hq with hq | hq
          · exact h.bot _ t' hS q hq
          · rw [List.mem_singleton.1 hq]
            exact hSp t' (by rw [hS]; simp)
      ne := by simp
      len := by simp }

theorem chain_inv_aux {le : V2 F → V2 F → Prop} (G : GoodOrd le) :
    ∀ (suf pre S : List (V2 F)), (pre ++ suf).Pairwise le → Inv le S pre →
      Inv le (suf.foldl hullPush S) (pre ++ suf) := by
  intro suf
  induction suf with
  | nil => intro pre S _ h; simpa using h
  | cons p suf ih =>
    intro pre S hP h
    have hp : ∀ q ∈ pre, le q p := by
      intro q hq
      exact (List.pairwise_append.1 hP).2.2 q hq p (by simp)
    have e : pre ++ p :: suf = (pre ++ [p]) ++ suf := by simp
    rw [List.foldl_cons, e]
    exact ih (pre ++ [p]) (hullPush S p) (e ▸ hP) (inv_push G h hp)

theorem chain_inv {le : V2 F → V2 F → Prop} (G : GoodOrd le) (l : List (V2 F))
    (hl : l.Pairwise le) : Inv le (chain l) l := by
  have := chain_inv_aux G l [] [] (by simpa using hl) (inv_nil le)
  simpa [chain] using this

/-- two equal neighbours on the stack: every processed point is that point -/
theorem Inv.allEq {le : V2 F → V2 F → Prop} (G : GoodOrd le) {S Q : List (V2 F)} (h : Inv le S Q)
    {l1 l2 : List (V2 F)} {a b : V2 F} (hS : S = l1 ++ b :: a :: l2) (hab : a = b) :
    ∀ q ∈ Q, q = a := by
  subst hab
  cases l2 with
  | cons a' l2 =>
    have := h.turns l1 l2 a' a a hS
    rw [orient_self_right] at this
    exact absurd this (lt_irrefl _)
  | nil =>
    rcases List.eq_nil_or_concat l1 with e | ⟨l1', c, e⟩
    · subst e
      intro q hq
      have h1 : le q a := h.top a [a] hS q hq
      have h2 : le a q := h.bot [a] a hS q hq
      exact G.antisymm h1 h2
    · subst e
      have := h.turns l1' [] a a c (by rw [hS]; simp)
      rw [orient_self_left] at this
      exact absurd this (lt_irrefl _)

end MV.CrossOps
