/-
Which `unite` pairs the links come from.  In every reachable state the classes of the links
made so far lie between the closure of the COMPLETED `unite` pairs and the closure of the
STARTED ones (completed or in progress); at quiescence both are the closure of all pairs of the
programs, hence "same root" = equivalence closure of all pairs.
-/
import MV.Proof.Dsu
import MV.Proof.ListArray

namespace MV.Dsu

@[simp] theorem startOp_progEq (t : Thr) : (Thr.startOp t).prog = t.prog := by
  unfold Thr.startOp; split <;> rfl

@[simp] theorem finishOp_prog (t : Thr) (r : Nat) : (t.finishOp r).prog = t.prog := by
  unfold Thr.finishOp; simp

@[simp] theorem findRet_prog (t : Thr) (r : Nat) : (t.findRet r).prog = t.prog := by
  unfold Thr.findRet; split <;> (try split) <;> simp

@[simp] theorem next_prog (t : Thr) (w : Word) (ok : Bool) : (t.next w ok).prog = t.prog := by
  unfold Thr.next; split <;> (try dsimp only) <;> (try split) <;> (try split) <;> simp [Thr.uniteRetry]

theorem startOp_opIdx (t : Thr) : t.startOp.opIdx = t.opIdx := by
  unfold Thr.startOp; split <;> rfl

theorem finishOp_opIdx (t : Thr) (r : Nat) : (t.finishOp r).opIdx = t.opIdx + 1 := by
  unfold Thr.finishOp; rw [startOp_opIdx]

theorem findRet_opIdx (t : Thr) (r : Nat) : t.opIdx ≤ (t.findRet r).opIdx := by
  unfold Thr.findRet; split <;> (try split) <;> simp [finishOp_opIdx]

theorem next_opIdx (t : Thr) (w : Word) (ok : Bool) : t.opIdx ≤ (t.next w ok).opIdx := by
  unfold Thr.next
  split <;> (try dsimp only) <;> (try split) <;> (try split) <;>
    simp [Thr.uniteRetry, finishOp_opIdx, findRet_opIdx]

theorem mem_unitePairs {p : List Op} {a b : Nat} : (a, b) ∈ unitePairs p ↔ Op.unite a b ∈ p := by
  unfold unitePairs
  rw [List.mem_filterMap]
  constructor
  · rintro ⟨op, hop, hs⟩
    cases op <;> simp at hs
    obtain ⟨rfl, rfl⟩ := hs; exact hop
  · exact fun h => ⟨_, h, rfl⟩

theorem mem_flatten_thr {s : State} {g : Thr → List (Nat × Nat)} {x : Nat × Nat} :
    x ∈ (s.thr.map g).flatten ↔ ∃ (tid : Nat) (t : Thr), s.thr[tid]? = some t ∧ x ∈ g t := by
  simp only [List.mem_flatten, List.mem_map, List.mem_iff_getElem? (l := s.thr)]
  constructor
  · rintro ⟨_, ⟨t, ⟨tid, h⟩, rfl⟩, hx⟩; exact ⟨tid, t, h, hx⟩
  · rintro ⟨tid, t, h, hx⟩; exact ⟨_, ⟨t, ⟨tid, h⟩, rfl⟩, hx⟩

/-- all `unite` pairs of all programs of a state -/
def allPairs (s : State) : List (Nat × Nat) := (s.thr.map fun t => unitePairs t.prog).flatten

/-- pairs of the `unite`s thread `t` has completed -/
def Thr.donePairs (t : Thr) : List (Nat × Nat) := unitePairs (t.prog.take t.opIdx)
/-- pairs of the `unite`s thread `t` has completed or is executing -/
def Thr.startedPairs (t : Thr) : List (Nat × Nat) := unitePairs (t.prog.take (t.opIdx + 1))

def donePairs (s : State) : List (Nat × Nat) := (s.thr.map Thr.donePairs).flatten
def startedPairs (s : State) : List (Nat × Nat) := (s.thr.map Thr.startedPairs).flatten

theorem unitePairs_take_sub {p : List Op} {k k' : Nat} (h : k ≤ k') {x : Nat × Nat}
    (hx : x ∈ unitePairs (p.take k)) : x ∈ unitePairs (p.take k') :=
  mem_unitePairs.2 ((List.take_prefix_take_left h).subset (mem_unitePairs.1 hx))

theorem startedPairs_sub_allPairs {s : State} {x : Nat × Nat} (hx : x ∈ startedPairs s) :
    x ∈ allPairs s := by
  obtain ⟨tid, t, ht, h⟩ := mem_flatten_thr.1 hx
  exact mem_flatten_thr.2 ⟨tid, t, ht, mem_unitePairs.2 (List.mem_of_mem_take (mem_unitePairs.1 h))⟩

theorem curOp_mem_started {s : State} {tid : Nat} {t : Thr} (hget : s.thr[tid]? = some t)
    {a b : Nat} (hc : t.curOp = some (.unite a b)) : (a, b) ∈ startedPairs s := by
  refine mem_flatten_thr.2 ⟨tid, t, hget, mem_unitePairs.2 (List.mem_iff_getElem?.2 ⟨t.opIdx, ?_⟩)⟩
  rw [List.getElem?_take_of_lt (Nat.lt_succ_self _)]; exact hc

theorem step_allPairs (s : State) (tid : Nat) (sp : Bool) :
    allPairs (step s tid sp).1 = allPairs s := by
  rcases step_cases s tid sp with h | ⟨t, _, w, ok, _, _, hget, _, _, _, _, h⟩
  · rw [h]
  · rw [h]; unfold allPairs
    rw [List.map_set_same _ _ _ t _ hget (by rw [next_prog])]

theorem exec_allPairs (s : State) (sched : List (Nat × Bool)) :
    allPairs (exec s sched) = allPairs s := by
  induction sched generalizing s with
  | nil => rfl
  | cons e rest ih => exact (ih _).trans (step_allPairs s e.1 e.2)

theorem init_allPairs (n : Nat) (progs : List (List Op)) :
    allPairs (init n progs) = (progs.map unitePairs).flatten := by
  unfold allPairs init
  simp [List.map_map, Function.comp_def]

theorem step_startedPairs_mono (s : State) (tid : Nat) (sp : Bool) {x : Nat × Nat}
    (hx : x ∈ startedPairs s) : x ∈ startedPairs (step s tid sp).1 := by
  rcases step_cases s tid sp with h | ⟨t, _, w, ok, _, _, hget, _, _, _, _, h⟩
  · rw [h]; exact hx
  rw [h]
  obtain ⟨i, t0, hget0, hx0⟩ := mem_flatten_thr.1 hx
  refine mem_flatten_thr.2 ?_
  by_cases e : tid = i
  · subst e
    rw [hget] at hget0; cases hget0
    refine ⟨tid, _, List.getElem?_set_self (List.getElem?_eq_some_iff.1 hget).1, ?_⟩
    unfold Thr.startedPairs at hx0 ⊢
    rw [next_prog]
    exact unitePairs_take_sub (Nat.succ_le_succ (next_opIdx t w ok)) hx0
  · exact ⟨i, t0, by rw [← hget0]; exact List.getElem?_set_ne e, hx0⟩

def LinksStarted (s : State) : Prop := ∀ a b, (a, b) ∈ s.links → Conn (startedPairs s) a b

/-- a successful link CAS of a thread inside `unite x y` joins the classes of `x` and `y`, and
`(x, y)` is a started pair -/
theorem step_linksStarted {n : Nat} {s : State} (tid : Nat) (sp : Bool) (hI : Inv n s)
    (hL : LinksStarted s) : LinksStarted (step s tid sp).1 := by
  have hold : ∀ a b, (a, b) ∈ s.links → Conn (startedPairs (step s tid sp).1) a b :=
    fun a b h => (hL a b h).mono fun _ => step_startedPairs_mono s tid sp
  rcases step_cases s tid sp with h | ⟨t, op, w, ok, m', E', hget, _, hc, _, heff, h⟩
  · rw [h]; exact hL
  intro a b hab
  rw [h] at hab
  cases heff with
  | link hpc _ =>
    rcases List.mem_cons.1 hab with e | hab
    · cases e
      obtain ⟨ids, u⟩ := (hI.thr tid t hget).cur op hc
      rw [hpc] at u
      obtain ⟨⟨x, y, rfl⟩, _⟩ := u
      have hxy : Conn (startedPairs s) x y := .base (curOp_mem_started hget hc)
      refine Conn.mono (fun _ => step_startedPairs_mono s tid sp) ?_
      rcases ids.2.2 with ⟨c1, c2⟩ | ⟨c1, c2⟩
      · exact (c1.of_sub hL).trans (hxy.trans (c2.of_sub hL).symm)
      · exact (c1.of_sub hL).trans (hxy.symm.trans (c2.of_sub hL).symm)
    · exact hold a b hab
  | _ => exact hold a b hab

/-- every successful link CAS `(i, j)` is performed by a thread inside some `unite a b`, and
`{i, j}` lie in the classes of `{a, b}` -/
theorem step_link_joins {n : Nat} {s : State} (hI : Inv n s) (tid : Nat) (sp : Bool) {i j : Nat}
    (hl : (step s tid sp).1.links = (i, j) :: s.links) :
    ∃ t a b, s.thr[tid]? = some t ∧ t.curOp = some (.unite a b) ∧ t.pc = .uLink ∧
      ((Conn s.links i a ∧ Conn s.links j b) ∨ (Conn s.links i b ∧ Conn s.links j a)) := by
  have hne : ∀ (l : List (Nat × Nat)) x, x :: l ≠ l := fun l x h => by
    have := congrArg List.length h; simp at this
  rcases step_cases s tid sp with e | ⟨t, op, w, ok, m', E', hget, _, hc, _, heff, e⟩
  · rw [e] at hl; exact (hne _ _ hl.symm).elim
  rw [e] at hl
  cases heff with
  | link hpc _ =>
    obtain ⟨rfl, rfl⟩ : t.id1 = i ∧ t.id2 = j := Prod.mk.inj (List.cons.inj hl).1
    obtain ⟨ids, u⟩ := (hI.thr tid t hget).cur op hc
    rw [hpc] at u
    obtain ⟨⟨a, b, rfl⟩, _⟩ := u
    exact ⟨t, a, b, hget, hc, hpc, ids.2.2⟩
  | _ => exact (hne _ _ hl.symm).elim

theorem init_linksStarted (n : Nat) (progs : List (List Op)) : LinksStarted (init n progs) :=
  fun a b h => by cases h

def ProgsOk (n : Nat) (progs : List (List Op)) : Prop := ∀ p, p ∈ progs → ∀ op, op ∈ p → op.Ok n

/-- every completed `unite a b` has `a`, `b` in one class of the links -/
theorem done_sub_links {n : Nat} {s : State} (hI : Inv n s) {a b : Nat}
    (h : (a, b) ∈ donePairs s) : Conn s.links a b := by
  obtain ⟨tid, t, hget, hab⟩ := mem_flatten_thr.1 h
  obtain ⟨j, hj⟩ := List.mem_iff_getElem?.1 (mem_unitePairs.1 hab)
  rw [List.getElem?_take] at hj
  split at hj
  · rename_i hlt
    have hb := (hI.thr tid t hget).base
    have hjr : j < t.results.length := by rw [hb.resLen]; exact hlt
    exact (hb.resOk j (.unite a b) t.results[j] hj (List.getElem?_eq_getElem hjr)).1
  · cases hj

/-- the classes of the links lie between those of the completed and of the started pairs -/
theorem links_between {n : Nat} {s : State} (hI : Inv n s) (hL : LinksStarted s) (a b : Nat) :
    (Conn (donePairs s) a b → Conn s.links a b) ∧
    (Conn s.links a b → Conn (startedPairs s) a b) :=
  ⟨fun c => c.of_sub fun _ _ h => done_sub_links hI h, fun c => c.of_sub hL⟩

theorem finished_opIdx {n : Nat} {E : List (Nat × Nat)} {t : Thr} (hb : TBase n E t)
    (hfin : t.finished = true) : t.opIdx = t.prog.length := by
  unfold Thr.finished Thr.curOp at hfin
  have := List.getElem?_eq_none_iff.1 (by simpa using hfin : t.prog[t.opIdx]? = none)
  have := hb.idxLe
  omega

/-- at quiescence the classes of the links are exactly the classes of the programs' pairs -/
theorem quiescent_conn_iff {n : Nat} {s : State} (hI : Inv n s) (hL : LinksStarted s)
    (hq : quiescent s = true) (a b : Nat) : Conn s.links a b ↔ Conn (allPairs s) a b := by
  refine ⟨fun c => (c.of_sub hL).mono fun _ => startedPairs_sub_allPairs,
    fun c => c.of_sub fun x y h => done_sub_links hI ?_⟩
  obtain ⟨tid, t, hget, hxy⟩ := mem_flatten_thr.1 h
  refine mem_flatten_thr.2 ⟨tid, t, hget, ?_⟩
  have hfin : t.finished = true :=
    List.all_eq_true.1 (by unfold quiescent at hq; exact hq) t (List.mem_of_getElem? hget)
  unfold Thr.donePairs
  rw [List.take_of_length_le (Nat.le_of_eq (finished_opIdx (hI.thr tid t hget).base hfin).symm)]
  exact hxy

end MV.Dsu
