import MV.Proof.EdgeOpBasic
/-!
`UpdateVert` (edge_op.cpp:755-769) evaluated along a trail `c ↦ Pair(Next(c))`, the fuel bound for
that walk under `PairInv` (`walk_simple`), and the fan of a minimal walk (`Fan`): the halfedges
`UpdateVert` relabels.
-/
namespace MV.EdgeOp
open MV.Halfedge (HErr rd wr nextHalfedge)

/-! ## the walk only reads `paired` -/

theorem walk_congr {s s' : HE} (h : s'.paired = s.paired) (c i : Nat) :
    s'.walk c i = s.walk c i := by
  induction i with
  | zero => rfl
  | succ i ih => rw [walk_succ, walk_succ, ih]; unfold HE.Pn; rw [h]

theorem walk_add (s : HE) (c i j : Nat) : s.walk c (i + j) = s.walk (s.walk c i) j := by
  induction j with
  | zero => rfl
  | succ j ih => rw [← Nat.add_assoc, walk_succ, walk_succ, ih]

/-! ## trails; `UpdateVert` -/

/-- In the state `t` an orbit loop (`UpdateVert`, "Orbit endVert", "Orbit startVert": each steps
`current ↦ Pair(NextHalfedge(current))` until `current = stop`) started at `w 0` visits `w 0, …, w k`
and stops there.  `w` is any sequence; in the applications it is `s.walk c0` for a reference state
`s` whose pairing `t` shares on the cells the loop reads (`Trail.congr`). -/
structure Trail (t : HE) (w : Nat → Nat) (k : Nat) (stop : Int) : Prop where
  lt : ∀ i, i ≤ k → w i < t.start.size
  step : ∀ i, i < k → t.P (nx (w i)) = ((w (i + 1) : Nat) : Int)
  hit : ((w k : Nat) : Int) = stop
  min : ∀ i, i < k → ((w i : Nat) : Int) ≠ stop

namespace Trail
variable {t t' : HE} {w : Nat → Nat} {k : Nat} {stop : Int}

theorem tail (T : Trail t w (k + 1) stop) : Trail t (fun i => w (i + 1)) k stop :=
  ⟨fun _ hi => T.lt _ (Nat.succ_le_succ hi), fun _ hi => T.step _ (Nat.succ_lt_succ hi), T.hit,
    fun _ hi => T.min _ (Nat.succ_lt_succ hi)⟩

/-- a trail only depends on the size and on `paired` at the cells the loop reads -/
theorem congr (T : Trail t w k stop) (hsz : t'.start.size = t.start.size)
    (hP : ∀ i, i < k → t'.P (nx (w i)) = t.P (nx (w i))) : Trail t' w k stop :=
  ⟨fun i hi => hsz ▸ T.lt i hi, fun i hi => (hP i hi).trans (T.step i hi), T.hit, T.min⟩

/-- the trail of a walk -/
theorem of_walk {s : HE} {c0 : Nat} (hr : ∀ i, i ≤ k → s.walk c0 i < s.start.size)
    (hp : ∀ i, i < k → 0 ≤ s.P (nx (s.walk c0 i))) (hend : ((s.walk c0 k : Nat) : Int) = stop)
    (hmin : ∀ i, i < k → ((s.walk c0 i : Nat) : Int) ≠ stop) : Trail s (s.walk c0) k stop :=
  ⟨hr, fun i hi => (Pn_cast s _ (hp i hi)).symm, hend, hmin⟩
end Trail

/-- `UpdateVert` along a trail: it succeeds, writes only `start_`, exactly at `Next(w i)`, `i < k` -/
theorem updateVertLoop_trail (vert stop : Int) (k : Nat) :
    ∀ (f : Nat) (s : HE) (w : Nat → Nat), WF s → k < f → Trail s w k stop →
    ∃ s', updateVertLoop vert stop f (w 0 : Int) s = .ok s' ∧ s'.paired = s.paired ∧
      s'.prop = s.prop ∧ s'.nVert = s.nVert ∧ s'.nPropVert = s.nPropVert ∧
      s'.start.size = s.start.size ∧
      (∀ i, i < k → s'.S (nx (w i)) = vert) ∧
      (∀ j, (∀ i, i < k → j ≠ nx (w i)) → s'.S j = s.S j) := by
  induction k with
  | zero =>
    intro f s w _ hf T
    rcases f with _ | f
    · exact absurd hf (Nat.lt_irrefl 0)
    refine ⟨s, ?_, rfl, rfl, rfl, rfl, rfl, fun i hi => absurd hi (Nat.not_lt_zero i), fun j _ => rfl⟩
    rw [updateVertLoop, if_pos T.hit]; rfl
  | succ k ih =>
    intro f s w hw hf T
    rcases f with _ | f
    · exact absurd hf (Nat.not_lt_zero _)
    have hn : nx (w 0) < s.start.size := nx_lt hw.2.2 (T.lt 0 (Nat.zero_le _))
    -- `SetEnd(c)` and `SetStart(Next(c))` write the same cell `start[nx c]`: hence `setS` twice
    obtain ⟨s', h1, h2, h3, h4, h5, h6, h7, h8⟩ :=
      ih f ((s.setS (nx (w 0)) vert).setS (nx (w 0)) vert) _
        (WF_setS _ _ _ (WF_setS _ _ _ hw)) (Nat.lt_of_succ_lt_succ hf)
        (T.tail.congr (by simp) (fun i _ => by rw [P_setS, P_setS]))
    refine ⟨s', ?_, h2.trans (by rw [paired_setS, paired_setS]), h3.trans (by rw [prop_setS, prop_setS]),
      h4.trans (by rw [nVert_setS, nVert_setS]), h5.trans (by unfold HE.setS; rfl),
      by simpa using h6, ?_, ?_⟩
    · have hP : ((s.setS (nx (w 0)) vert).setS (nx (w 0)) vert).P (nx (w 0)) = ((w 1 : Nat) : Int) :=
        T.step 0 (Nat.succ_pos k)
      simp only [updateVertLoop, if_neg (T.min 0 (Nat.succ_pos k)), setEnd_ok, nextI_cast,
        setStart_ok, getPair_ok, ok_bind, hP, start_size_setS, paired_size_setS, ← hw.1, hn]
      exact h1
    · intro i hi
      rcases i with _ | i
      · by_cases hex : ∃ i', i' < k ∧ nx (w 0) = nx (w (i' + 1))
        · obtain ⟨i', hi', he⟩ := hex
          rw [he]; exact h7 i' hi'
        · rw [h8 (nx (w 0)) (fun i' hi' he => hex ⟨i', hi', he⟩)]; simp [hn]
      · exact h7 i (Nat.lt_of_succ_lt_succ hi)
    · intro j hj
      rw [h8 j (fun i hi => hj (i + 1) (Nat.succ_lt_succ hi))]
      simp [Ne.symm (hj 0 (Nat.succ_pos k))]

/-- `UpdateVert(vert, w 0, stop)` along a trail of `k ≤ size` steps: it succeeds, writes only
`start_`, exactly at `Next(w i)`, `i < k`. -/
theorem updateVert_trail (s : HE) (vert : Int) (w : Nat → Nat) (k : Nat) (stop : Int)
    (hw : WF s) (hk : k ≤ s.start.size) (T : Trail s w k stop) :
    ∃ s', updateVert s vert (w 0 : Int) stop = .ok s' ∧ s'.paired = s.paired ∧ s'.prop = s.prop ∧
      s'.nVert = s.nVert ∧ s'.nPropVert = s.nPropVert ∧ s'.start.size = s.start.size ∧
      (∀ i, i < k → s'.S (nx (w i)) = vert) ∧
      (∀ j, (∀ i, i < k → j ≠ nx (w i)) → s'.S j = s.S j) := by
  unfold updateVert HE.size
  exact updateVertLoop_trail vert stop k (s.start.size + 1) s w hw (Nat.lt_succ_of_le hk) T

/-- a tetrahedron -/
def tetraHE : HE :=
  { start := #[0,2,1, 0,1,3, 1,2,3, 2,0,3], paired := #[9,6,3, 2,8,10, 1,11,4, 0,5,7],
    prop := #[0,2,1, 0,1,3, 1,2,3, 2,0,3], nVert := 4, nPropVert := 4 }

theorem tetraHE_walk : PairInv tetraHE ∧ 2 < tetraHE.start.size ∧ tetraHE.P 2 ≠ -1 ∧
    tetraHE.walk 2 2 = 5 ∧ (∀ i, i < 2 → tetraHE.walk 2 i ≠ 5) := by decide +kernel

example : PairInv tetraHE := tetraHE_walk.1

/-- non-vacuity of `updateVert_spec`: relabel two of the three halfedges out of vertex 0 -/
example : WF tetraHE ∧ 2 ≤ tetraHE.start.size ∧
    (∀ i, i ≤ 2 → tetraHE.walk 2 i < tetraHE.start.size) ∧
    (∀ i, i < 2 → 0 ≤ tetraHE.P (nx (tetraHE.walk 2 i))) ∧
    ((tetraHE.walk 2 2 : Nat) : Int) = 5 ∧
    (∀ i, i < 2 → ((tetraHE.walk 2 i : Nat) : Int) ≠ 5) := by decide +kernel

/-! ## the fuel bound: under `PairInv` a minimal walk is duplicate-free, hence shorter than `size` -/

theorem walk_live (s : HE) (c0 : Nat) (h : PairInv s) (hc0 : c0 < s.start.size) (hl0 : s.P c0 ≠ -1) :
    ∀ i, s.walk c0 i < s.start.size ∧ s.P (s.walk c0 i) ≠ -1 ∧ 0 ≤ s.P (nx (s.walk c0 i)) ∧
      s.S (nx (s.walk c0 i)) = s.S (nx c0) := by
  intro i
  induction i with
  | zero => exact ⟨hc0, hl0, ((liveF h hc0 hl0).next h).p0, rfl⟩
  | succ i ih =>
    obtain ⟨a, b, _, d⟩ := ih
    have Ln := (liveF h a b).next h
    exact ⟨Ln.plt, Ln.ppl, ((liveF h Ln.plt Ln.ppl).next h).p0, by rw [walk_succ, ← Ln.se, d]⟩

/-- a minimal walk in a `PairInv` state is a trail -/
theorem Trail.of_live {s : HE} {c0 k t : Nat} (h : PairInv s) (hc0 : c0 < s.start.size)
    (hl0 : s.P c0 ≠ -1) (hk : s.walk c0 k = t) (hmin : ∀ i, i < k → s.walk c0 i ≠ t) :
    Trail s (s.walk c0) k (t : Int) :=
  Trail.of_walk (fun i _ => (walk_live s c0 h hc0 hl0 i).1)
    (fun i _ => (walk_live s c0 h hc0 hl0 i).2.2.1) (by rw [hk])
    (fun i hi q => hmin i hi (Int.ofNat_inj.1 q))

/-- the step is injective on live in-range halfedges -/
theorem step_inj {s : HE} (h : PairInv s) {e e' : Nat} (he : e < s.start.size) (hl : s.P e ≠ -1)
    (he' : e' < s.start.size) (hl' : s.P e' ≠ -1) (heq : s.Pn (nx e) = s.Pn (nx e')) : e = e' := by
  have q := ((liveF h he hl).next h).pp
  rw [heq, ((liveF h he' hl').next h).pp] at q
  exact nx_inj (Int.ofNat_inj.1 q).symm

theorem walk_back {s : HE} {c0 : Nat} (h : PairInv s) (hc0 : c0 < s.start.size) (hl0 : s.P c0 ≠ -1) :
    ∀ i j, s.walk c0 i = s.walk c0 (i + j) → c0 = s.walk c0 j := by
  intro i
  induction i with
  | zero => intro j hj; simpa using hj
  | succ i ih =>
    intro j hj
    apply ih
    have e : i + 1 + j = (i + j) + 1 := Nat.add_right_comm i 1 j
    rw [e, walk_succ, walk_succ] at hj
    obtain ⟨a, b, _⟩ := walk_live s c0 h hc0 hl0 i
    obtain ⟨a', b', _⟩ := walk_live s c0 h hc0 hl0 (i + j)
    exact step_inj h a b a' b' hj

/-- FUEL BOUND.  Under `PairInv`, the walk `c ↦ Pair(Next(c))` from a live halfedge `c0` up to the
FIRST visit of `t` never repeats a halfedge, hence takes fewer than `size` steps. -/
theorem walk_simple (s : HE) (c0 k t : Nat) (h : PairInv s) (hc0 : c0 < s.start.size)
    (hl0 : s.P c0 ≠ -1) (hk : s.walk c0 k = t) (hmin : ∀ i, i < k → s.walk c0 i ≠ t) :
    (∀ i j, i < j → j ≤ k → s.walk c0 i ≠ s.walk c0 j) ∧ k < s.start.size := by
  have hnd : ∀ i j, i < j → j ≤ k → s.walk c0 i ≠ s.walk c0 j := by
    intro i j hij hjk heq
    have e : j = i + (j - i) := (Nat.add_sub_cancel' (Nat.le_of_lt hij)).symm
    rw [e] at heq
    have hper := walk_back h hc0 hl0 i (j - i) heq
    have e2 : k = (j - i) + (k - (j - i)) :=
      (Nat.add_sub_cancel' (Nat.le_trans (Nat.sub_le j i) hjk)).symm
    have : s.walk c0 (k - (j - i)) = t := by
      rw [← hk]; conv => rhs; rw [e2, walk_add, ← hper]
    exact hmin _ (Nat.sub_lt (Nat.lt_of_lt_of_le (Nat.zero_lt_of_lt hij) hjk) (Nat.sub_pos_of_lt hij)) this
  exact ⟨hnd, pigeon _ k (s.walk c0) (fun i _ => (walk_live s c0 h hc0 hl0 i).1) hnd⟩

example : PairInv tetraHE ∧ 2 < tetraHE.start.size ∧ tetraHE.P 2 ≠ -1 ∧ tetraHE.walk 2 2 = 5 ∧
    (∀ i, i < 2 → tetraHE.walk 2 i ≠ 5) := tetraHE_walk

theorem Pn_inj {s : HE} (h : PairInv s) {e e' : Nat} (he : e < s.start.size) (hl : s.P e ≠ -1)
    (he' : e' < s.start.size) (hl' : s.P e' ≠ -1) (heq : s.Pn e = s.Pn e') : e = e' := by
  rw [← (liveF h he hl).pn, ← (liveF h he' hl').pn, heq]

/-! ## the fan of a minimal walk -/

/-- the halfedges `Next(c_i)`, `i < k`, of the walk `c_0 = c0`, `c_{i+1} = Pair(Next(c_i))`: the
cells `UpdateVert` writes -/
def Fan (s : HE) (c0 k : Nat) (e : Nat) : Prop := ∃ i, i < k ∧ e = nx (s.walk c0 i)

section fan
variable {s : HE} {c0 k t : Nat} (h : PairInv s) (hc0 : c0 < s.start.size) (hl0 : s.P c0 ≠ -1)
  (hk : s.walk c0 k = t) (hmin : ∀ i, i < k → s.walk c0 i ≠ t)
include h hc0 hl0

theorem fan_live {e : Nat} (hf : Fan s c0 k e) :
    e < s.start.size ∧ s.P e ≠ -1 ∧ s.S e = s.S (nx c0) := by
  obtain ⟨i, _, rfl⟩ := hf
  obtain ⟨a, b, _, d⟩ := walk_live s c0 h hc0 hl0 i
  exact ⟨(liveF h a b).nlt, (liveF h a b).npl, d⟩

omit h hc0 hl0 in
theorem fan_first (hk0 : 0 < k) : Fan s c0 k (nx c0) := ⟨0, hk0, rfl⟩

include hk in
/-- the last member of the fan is the partner of `t` -/
theorem fan_last_eq (hk0 : 0 < k) : nx (s.walk c0 (k - 1)) = s.Pn t := by
  obtain ⟨k', rfl⟩ : ∃ k', k = k' + 1 := ⟨k - 1, (Nat.sub_add_cancel hk0).symm⟩
  obtain ⟨a, b, _⟩ := walk_live s c0 h hc0 hl0 k'
  rw [← hk, walk_succ]
  exact ((liveF h a b).next h).pn.symm

include hk in
theorem fan_last (hk0 : 0 < k) : Fan s c0 k (s.Pn t) :=
  ⟨k - 1, Nat.sub_lt hk0 Nat.one_pos, (fan_last_eq h hc0 hl0 hk hk0).symm⟩

omit h hc0 hl0 in
include hmin in
theorem fan_not_next : ¬ Fan s c0 k (nx t) := by
  rintro ⟨i, hi, he⟩
  exact hmin i hi (nx_inj he).symm

include hk hmin in
theorem fan_not_pair : ¬ Fan s c0 k (s.Pn c0) := by
  rintro ⟨i, hi, he⟩
  have h1 : s.walk c0 (i + 1) = c0 := by
    rw [walk_succ, ← he]; exact (liveF h hc0 hl0).pn
  exact (walk_simple s c0 k t h hc0 hl0 hk hmin).1 0 (i + 1) (Nat.succ_pos i) hi (by simpa using h1.symm)

include hk in
theorem fan_iff {e : Nat} (he : e < s.start.size) (hl : s.P e ≠ -1) (h1 : e ≠ s.Pn c0)
    (h2 : e ≠ s.Pn t) : Fan s c0 k e ↔ Fan s c0 k (nx (s.Pn e)) := by
  constructor
  · rintro ⟨i, hi, rfl⟩
    by_cases hik : i + 1 < k
    · exact ⟨i + 1, hik, by rw [walk_succ]⟩
    · have : i + 1 = k := Nat.le_antisymm hi (Nat.le_of_not_lt hik)
      subst this
      exfalso; apply h2
      rw [← hk, walk_succ]; exact ((liveF h he hl).pn).symm
  · rintro ⟨j, hj, hej⟩
    have hp := nx_inj hej
    rcases j with _ | j
    · exfalso; apply h1
      simp only [walk_zero] at hp
      rw [← hp]; exact ((liveF h he hl).pn).symm
    · refine ⟨j, Nat.lt_of_succ_lt hj, ?_⟩
      obtain ⟨a, b, _⟩ := walk_live s c0 h hc0 hl0 j
      rw [walk_succ] at hp
      exact Pn_inj h he hl (liveF h a b).nlt (liveF h a b).npl hp
include hk in
/-- the closure `good_relabel` asks for: it holds at every live halfedge other than `c0`, `t` and
their partners (the four ends of the fan) -/
theorem fan_rot {e : Nat} (he : e < s.start.size) (hl : s.P e ≠ -1) (h1 : e ≠ s.Pn c0)
    (h2 : e ≠ s.Pn t) (h3 : e ≠ c0) (h4 : e ≠ t) :
    (Fan s c0 k e ↔ Fan s c0 k (nx (s.Pn e))) ∧ (Fan s c0 k (s.Pn e) ↔ Fan s c0 k (nx e)) := by
  have L := liveF h he hl
  refine ⟨fan_iff h hc0 hl0 hk he hl h1 h2, ?_⟩
  have := fan_iff h hc0 hl0 hk L.plt L.ppl (fun q => h3 (by rw [← L.pn, q, (liveF h hc0 hl0).pn]))
    (fun q => h4 (by rw [← L.pn, q]; exact
      (liveF h (hk ▸ (walk_live s c0 h hc0 hl0 k).1) (hk ▸ (walk_live s c0 h hc0 hl0 k).2.1)).pn))
  rwa [L.pn] at this

include hk hmin in
/-- a member of the fan other than the last is none of the four ends, and is paired with the next
point of the walk -/
theorem fan_inner {i : Nat} (hi : i + 1 < k) :
    nx (s.walk c0 i) ≠ c0 ∧ nx (s.walk c0 i) ≠ t ∧ nx (s.walk c0 i) ≠ s.Pn c0 ∧
      nx (s.walk c0 i) ≠ s.Pn t ∧ s.P (nx (s.walk c0 i)) = ((s.walk c0 (i + 1) : Nat) : Int) := by
  obtain ⟨a, b, c, d⟩ := walk_live s c0 h hc0 hl0 i
  obtain ⟨a', b', _, d'⟩ := walk_live s c0 h hc0 hl0 k
  rw [hk] at a' b' d'
  have hf : Fan s c0 k (nx (s.walk c0 i)) := ⟨i, Nat.lt_of_succ_lt hi, rfl⟩
  refine ⟨fun q => (liveF h hc0 hl0).nd (by rw [← d, q]),
    fun q => (liveF h a' b').nd (by rw [d', ← d, q]),
    fun q => fan_not_pair h hc0 hl0 hk hmin (q ▸ hf), fun q => ?_, by rw [walk_succ]; exact P_eq_Pn c⟩
  rw [← fan_last_eq h hc0 hl0 hk (Nat.zero_lt_of_lt hi)] at q
  exact absurd (nx_inj q) ((walk_simple s c0 k t h hc0 hl0 hk hmin).1 i (k - 1)
    (Nat.lt_sub_of_add_lt hi) (Nat.sub_le k 1))
end fan

/-! ## `ForVert` cycles -/

theorem reaches_refl (p : Array Int) (n e : Nat) : reaches p n e e = true := by
  cases n <;> simp [reaches]

theorem reaches_step {p : Array Int} {n e e' : Nat} (h : reaches p n (rotN p e) e' = true) :
    reaches p (n + 1) e e' = true := by
  simp [reaches, h]

theorem reaches_succ {p : Array Int} : ∀ {n e e' : Nat}, reaches p n e e' = true →
    reaches p (n + 1) e e' = true := by
  intro n
  induction n with
  | zero => intro e e' h; simp [reaches] at h ⊢; exact Or.inl h
  | succ n ih =>
    intro e e' h
    rw [reaches, Bool.or_eq_true] at h
    rcases h with h | h
    · rw [reaches, Bool.or_eq_true]; exact Or.inl h
    · exact reaches_step (ih h)

theorem reaches_mono {p : Array Int} {n n' e e' : Nat} (hn : n ≤ n') (h : reaches p n e e' = true) :
    reaches p n' e e' = true := by
  induction hn with
  | refl => exact h
  | step _ ih => exact reaches_succ ih

theorem reaches_trans {p : Array Int} : ∀ {a b x y z : Nat}, reaches p a x y = true →
    reaches p b y z = true → reaches p (a + b) x z = true := by
  intro a
  induction a with
  | zero =>
    intro b x y z h1 h2
    simp [reaches] at h1; subst h1; simpa using h2
  | succ a ih =>
    intro b x y z h1 h2
    rw [reaches, Bool.or_eq_true] at h1
    rcases h1 with h1 | h1
    · simp at h1; subst h1
      exact reaches_mono (by omega) h2
    · have := ih h1 h2
      have e : a + 1 + b = (a + b) + 1 := by omega
      rw [e]; exact reaches_step this

theorem rotN_of {p : Array Int} {e x : Nat} (h : p[e]! = (x : Int)) : rotN p e = nx x := by
  unfold rotN; simp only [h, cast_lt_zero, if_false, Int.toNat_natCast]

/-- a fan whose consecutive members are linked by `rotN`, the last one back to the first, is one
`rotN`-cycle -/
theorem fan_cycle (s : HE) (p' : Array Int) (c0 k : Nat) (hk0 : 0 < k)
    (hstep : ∀ i, i + 1 < k → p'[nx (s.walk c0 i)]! = ((s.walk c0 (i + 1) : Nat) : Int))
    (hlast : p'[nx (s.walk c0 (k - 1))]! = (c0 : Int)) :
    ∀ i j, i < k → j < k → reaches p' k (nx (s.walk c0 i)) (nx (s.walk c0 j)) = true := by
  have up : ∀ n i, i + n < k → reaches p' n (nx (s.walk c0 i)) (nx (s.walk c0 (i + n))) = true := by
    intro n
    induction n with
    | zero => intro i _; exact reaches_refl _ _ _
    | succ n ih =>
      intro i hi
      have e : i + 1 + n = i + (n + 1) := Nat.add_right_comm i 1 n
      apply reaches_step
      rw [rotN_of (hstep i (Nat.lt_of_le_of_lt (Nat.succ_le_succ (Nat.le_add_right i n)) hi)), ← e]
      exact ih (i + 1) (e ▸ hi)
  intro i j hi hj
  by_cases hij : i ≤ j
  · have e : i + (j - i) = j := Nat.add_sub_cancel' hij
    have := up (j - i) i (e.symm ▸ hj)
    rw [e] at this
    exact reaches_mono (Nat.le_trans (Nat.sub_le j i) (Nat.le_of_lt hj)) this
  · -- wrap around: i → k-1 → 0 → j
    have e1 : i + (k - 1 - i) = k - 1 := Nat.add_sub_cancel' (Nat.le_sub_one_of_lt hi)
    have h1 := up (k - 1 - i) i (e1.symm ▸ Nat.sub_lt hk0 Nat.one_pos)
    rw [e1] at h1
    have h2 : reaches p' 1 (nx (s.walk c0 (k - 1))) (nx (s.walk c0 0)) = true := by
      apply reaches_step
      rw [rotN_of hlast]; exact reaches_refl _ _ _
    have h3 := up j 0 ((Nat.zero_add j).symm ▸ hj)
    rw [Nat.zero_add] at h3
    exact reaches_mono (by omega) (reaches_trans (reaches_trans h1 h2) h3)

/-- when a new pairing `p'` agrees with the old one away from the four ends of the fan and pairs the
partner of `t` with `c0`, the fan is one `ForVert` cycle of `p'` -/
theorem fan_closes {s : HE} {c0 k t : Nat} (h : PairInv s) (hc0 : c0 < s.start.size)
    (hl0 : s.P c0 ≠ -1) (hk : s.walk c0 k = t) (hmin : ∀ i, i < k → s.walk c0 i ≠ t) (hk0 : 0 < k)
    (p' : Array Int)
    (hp : ∀ x, x ≠ c0 → x ≠ t → x ≠ s.Pn c0 → x ≠ s.Pn t → p'[x]! = s.P x)
    (hlast : p'[s.Pn t]! = (c0 : Int)) {e e' : Nat} (he : Fan s c0 k e) (he' : Fan s c0 k e') :
    reaches p' s.start.size e e' = true := by
  obtain ⟨i, hi, rfl⟩ := he
  obtain ⟨j, hj, rfl⟩ := he'
  refine reaches_mono (Nat.le_of_lt (walk_simple s c0 k t h hc0 hl0 hk hmin).2)
    (fan_cycle s p' c0 k hk0 (fun i hi => ?_) ?_ i j hi hj)
  · obtain ⟨n1, n2, n3, n4, q⟩ := fan_inner h hc0 hl0 hk hmin hi
    exact (hp _ n1 n2 n3 n4).trans q
  · rw [fan_last_eq h hc0 hl0 hk hk0]; exact hlast

end MV.EdgeOp
