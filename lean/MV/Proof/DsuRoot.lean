/-
Consequences of the memory invariant in a fixed memory: the parent graph is a forest
(`mu` strictly decreases along parent links), following parents reaches a root within
`n` steps, "same root" is exactly `Conn E`, and the sequential `findImpl` (`findSeq`, used by
`connectedComponents`) terminates with fuel `n`, returns the root, and keeps the invariant.

`Chain.length_lt`, `find_chain`: a chain in the key order is shorter than `n`, so `findImpl` is
wait-free.

`connectedComponents`: the labelling loop, abstracted over the root function, assigns labels
`0..k-1` such that two elements get the same label iff they have the same root -- provided
rank-0 roots are singletons (the shortcut of the C++ code, justified by (I3) at quiescence).
-/
import MV.Proof.Dsu
import MV.Proof.ListArray
import MV.Proof.AssocList

namespace MV.Dsu

instance (m : Mem) (a b : Nat) : Decidable (KLt m a b) := by unfold KLt; infer_instance

theorem countP_lt_of_imp {α : Type} (P Q : α → Bool) (l : List α)
    (himp : ∀ x, x ∈ l → P x = true → Q x = true)
    (hex : ∃ x, x ∈ l ∧ Q x = true ∧ P x = false) : l.countP P < l.countP Q := by
  induction l with
  | nil => obtain ⟨x, hx, _⟩ := hex; cases hx
  | cons y ys ih =>
    have hle : ys.countP P ≤ ys.countP Q :=
      List.countP_mono_left fun x hx => himp x (List.mem_cons_of_mem _ hx)
    rw [List.countP_cons, List.countP_cons]
    obtain ⟨x, hx, hq, hp⟩ := hex
    rcases List.mem_cons.1 hx with rfl | hx'
    · rw [hq, hp]; exact Nat.lt_succ_of_le hle
    · have := ih (fun x hx => himp x (List.mem_cons_of_mem _ hx)) ⟨x, hx', hq, hp⟩
      cases hpy : P y
      · exact Nat.lt_of_lt_of_le this (Nat.le_add_right _ _)
      · rw [himp y (List.mem_cons_self ..) hpy]; exact Nat.add_lt_add_right this 1

/-- number of elements with a strictly larger key: decreases along parent links -/
def mu (m : Mem) (n : Nat) (i : Nat) : Nat := (List.range n).countP fun j => decide (KLt m i j)

theorem mu_lt_n (m : Mem) {n i : Nat} (hi : i < n) : mu m n i < n := by
  have := countP_lt_of_imp (fun j => decide (KLt m i j)) (fun _ => true) (List.range n)
    (fun _ _ _ => rfl) ⟨i, List.mem_range.2 hi, rfl, by simp [KLt.irrefl]⟩
  simpa [mu] using this

theorem mu_lt_of_klt (m : Mem) {n a b : Nat} (hb : b < n) (h : KLt m a b) :
    mu m n b < mu m n a := by
  unfold mu
  apply countP_lt_of_imp
  · intro x _ hx
    simp only [decide_eq_true_eq] at hx ⊢
    exact h.trans hx
  · exact ⟨b, List.mem_range.2 hb, by simpa using h, by simp [KLt.irrefl]⟩

theorem mu_par_lt {n : Nat} {m : Mem} {E : List (Nat × Nat)} (hm : MemInv n m E) {i : Nat}
    (hi : i < n) (hnr : par m i ≠ i) : mu m n (par m i) < mu m n i :=
  mu_lt_of_klt m (hm.bound i hi) (hm.klt i hi hnr)

def rootF (m : Mem) : Nat → Nat → Nat
  | 0, i => i
  | f + 1, i => if par m i = i then i else rootF m f (par m i)

/-- the representative of `i` -/
def root (m : Mem) (i : Nat) : Nat := rootF m m.length i

theorem rootF_spec {n : Nat} {m : Mem} {E : List (Nat × Nat)} (hm : MemInv n m E) :
    ∀ (f i : Nat), i < n → mu m n i < f →
      rootF m f i < n ∧ par m (rootF m f i) = rootF m f i ∧ Conn E i (rootF m f i) := by
  intro f
  induction f with
  | zero => intro i _ h; omega
  | succ f ih =>
    intro i hi hmu
    unfold rootF
    by_cases hr : par m i = i
    · rw [if_pos hr]; exact ⟨hi, hr, .refl _⟩
    · rw [if_neg hr]
      have := mu_par_lt hm hi hr
      obtain ⟨h1, h2, h3⟩ := ih (par m i) (hm.bound i hi) (by omega)
      exact ⟨h1, h2, (hm.edge i hi).trans h3⟩

theorem root_spec {n : Nat} {m : Mem} {E : List (Nat × Nat)} (hm : MemInv n m E) {i : Nat}
    (hi : i < n) : root m i < n ∧ par m (root m i) = root m i ∧ Conn E i (root m i) := by
  unfold root; rw [hm.len]; exact rootF_spec hm n i hi (mu_lt_n m hi)

/-- (I2) the partition induced by "same root" is the equivalence closure of the links -/
theorem root_eq_iff {n : Nat} {m : Mem} {E : List (Nat × Nat)} (hm : MemInv n m E) {a b : Nat}
    (ha : a < n) (hb : b < n) : root m a = root m b ↔ Conn E a b := by
  obtain ⟨a1, a2, a3⟩ := root_spec hm ha
  obtain ⟨b1, b2, b3⟩ := root_spec hm hb
  constructor
  · intro h; exact a3.trans (h ▸ b3.symm)
  · intro h; exact hm.uroot _ _ a1 b1 (a3.symm.trans (h.trans b3)) a2 b2

theorem root_of_isRoot {n : Nat} {m : Mem} {E : List (Nat × Nat)} (hm : MemInv n m E) {r : Nat}
    (hr : r < n) (h : par m r = r) : root m r = r := by
  obtain ⟨a1, a2, a3⟩ := root_spec hm hr
  exact hm.uroot _ _ a1 hr a3.symm a2 h

theorem findSeq_spec {n : Nat} {E : List (Nat × Nat)} :
    ∀ (f : Nat) (m : Mem) (i : Nat), MemInv n m E → i < n → mu m n i < f →
      MemInv n (findSeq f m i).1 E ∧
      (findSeq f m i).2 < n ∧ par (findSeq f m i).1 (findSeq f m i).2 = (findSeq f m i).2 ∧
      Conn E i (findSeq f m i).2 ∧
      (∀ j, rk (findSeq f m i).1 j = rk m j) ∧
      (∀ j, par (findSeq f m i).1 j = j ↔ par m j = j) := by
  intro f
  induction f with
  | zero => intro m i _ _ h; omega
  | succ f ih =>
    intro m i hm hi hmu
    unfold findSeq
    by_cases hr : (rd m i).parent = i
    · rw [if_pos hr]
      exact ⟨hm, hi, hr, .refl _, fun _ => rfl, fun _ => Iff.rfl⟩
    · rw [if_neg hr]
      have hr' : par m i ≠ i := hr
      -- p = parent, g = grandparent
      have hp : (rd m i).parent < n := hm.bound i hi
      have hg : (rd m (rd m i).parent).parent < n := hm.bound _ hp
      have hmu1 := mu_par_lt hm hi hr'
      by_cases hpg : (rd m (rd m i).parent).parent = (rd m i).parent
      · -- parent is a root: value = new_value, no CAS
        have e : (rd m i) = ⟨(rd m i).rank, (rd m (rd m i).parent).parent⟩ := by
          rw [hpg]
        simp only [ne_eq, ← e, not_true_eq_false, if_false]
        have hmu2 : mu m n (rd m (rd m i).parent).parent < f := by
          rw [hpg]; unfold par at hmu1; omega
        obtain ⟨r1, r3, r4, r5, r6, r7⟩ := ih m _ hm hg hmu2
        refine ⟨r1, r3, r4, ?_, r6, r7⟩
        have : Conn E i (rd m i).parent := hm.edge i hi
        rw [hpg] at r5 ⊢
        exact this.trans r5
      · have hpg' : par m (rd m i).parent ≠ (rd m i).parent := hpg
        have hne : rd m i ≠ ⟨(rd m i).rank, (rd m (rd m i).parent).parent⟩ := by
          intro e
          have := congrArg Word.parent e
          exact hpg this.symm
        simp only [ne_eq, hne, not_false_eq_true, if_true]
        have hk := hm.klt _ hp hpg'
        obtain ⟨hm', _, hrk, hroot⟩ := halve_mem (g := (rd m (rd m i).parent).parent) hm hi rfl hr' hg
          (hm.edge _ hp) hk
        have hmu2 := mu_par_lt hm hp hpg'
        -- ranks are unchanged, so `mu` is unchanged
        have hmu' : ∀ j, mu (wr m i ⟨(rd m i).rank, (rd m (rd m i).parent).parent⟩) n j = mu m n j := by
          intro j; unfold mu KLt; simp only [hrk]
        have hmu3 : mu (wr m i ⟨(rd m i).rank, (rd m (rd m i).parent).parent⟩) n
            (rd m (rd m i).parent).parent < f := by
          rw [hmu']; unfold par at hmu1 hmu2; omega
        obtain ⟨r1, r3, r4, r5, r6, r7⟩ := ih _ _ hm' hg hmu3
        exact ⟨r1, r3, r4, (hm.edge i hi).trans ((hm.edge _ hp).trans r5),
          fun j => (r6 j).trans (hrk j), fun j => (r7 j).trans (hroot j)⟩

structure Lab where
  toLabel : List (Nat × Nat) := []
  lonely : Nat := 0
  comps : List Nat := []

def labStep (rt : Nat → Nat) (z : Nat → Bool) (st : Lab) (i : Nat) : Lab :=
  if z (rt i) then
    { st with comps := st.comps ++ [st.toLabel.length + st.lonely], lonely := st.lonely + 1 }
  else
    match st.toLabel.lookup (rt i) with
    | none => { st with toLabel := (rt i, st.toLabel.length + st.lonely) :: st.toLabel,
                        comps := st.comps ++ [st.toLabel.length + st.lonely] }
    | some l => { st with comps := st.comps ++ [l] }

def Lab.count (st : Lab) : Nat := st.toLabel.length + st.lonely

structure LabInv (rt : Nat → Nat) (z : Nat → Bool) (i : Nat) (st : Lab) : Prop where
  len : st.comps.length = i
  lt : ∀ a, a < i → st.comps.getD a 0 < st.count
  surj : ∀ l, l < st.count → ∃ a, a < i ∧ st.comps.getD a 0 = l
  same : ∀ a b, a < i → b < i → (st.comps.getD a 0 = st.comps.getD b 0 ↔ rt a = rt b)
  tl : ∀ r l, (r, l) ∈ st.toLabel → ∃ a, a < i ∧ rt a = r ∧ st.comps.getD a 0 = l
  look : ∀ a, a < i → z (rt a) = false → st.toLabel.lookup (rt a) = some (st.comps.getD a 0)

/-- recording the label `x` for element `i`, given what the new table and counter look like -/
theorem LabInv.snoc {rt : Nat → Nat} {z : Nat → Bool} {i x : Nat} {st st' : Lab}
    (h : LabInv rt z i st) (hcomps : st'.comps = st.comps ++ [x])
    (hcnt : st.count ≤ st'.count) (hx : x < st'.count)
    (hsurj : ∀ l, l < st'.count → l < st.count ∨ l = x)
    (hsame : ∀ a, a < i → (st.comps.getD a 0 = x ↔ rt a = rt i))
    (htl : ∀ r l, (r, l) ∈ st'.toLabel → (r, l) ∈ st.toLabel ∨ (r = rt i ∧ l = x))
    (hlook : ∀ a, a < i → z (rt a) = false →
      st'.toLabel.lookup (rt a) = st.toLabel.lookup (rt a))
    (hlooki : z (rt i) = false → st'.toLabel.lookup (rt i) = some x) :
    LabInv rt z (i + 1) st' := by
  have hlt : ∀ a, a < i → st'.comps.getD a 0 = st.comps.getD a 0 :=
    fun a ha => by rw [hcomps, List.getD_concat, h.len, if_pos ha]
  have heq : st'.comps.getD i 0 = x := by
    rw [hcomps, List.getD_concat, h.len, if_neg (Nat.lt_irrefl _), if_pos rfl]
  have split : ∀ a, a < i + 1 → a < i ∨ a = i := fun a ha => by omega
  refine ⟨by rw [hcomps]; simp [h.len], ?_, ?_, ?_, ?_, ?_⟩
  · intro a ha
    rcases split a ha with ha | rfl
    · rw [hlt a ha]; exact Nat.lt_of_lt_of_le (h.lt a ha) hcnt
    · rw [heq]; exact hx
  · intro l hl
    rcases hsurj l hl with hl | rfl
    · obtain ⟨a, ha, hla⟩ := h.surj l hl
      exact ⟨a, by omega, by rw [hlt a ha]; exact hla⟩
    · exact ⟨i, by omega, heq⟩
  · intro a b ha hb
    rcases split a ha with ha | rfl <;> rcases split b hb with hb | rfl
    · rw [hlt a ha, hlt b hb]; exact h.same a b ha hb
    · rw [hlt a ha, heq]; exact hsame a ha
    · rw [hlt b hb, heq, eq_comm, eq_comm (a := rt a)]; exact hsame b hb
    · exact ⟨fun _ => rfl, fun _ => rfl⟩
  · intro r l hrl
    rcases htl r l hrl with hrl | ⟨rfl, rfl⟩
    · obtain ⟨a, ha, h1, h2⟩ := h.tl r l hrl
      exact ⟨a, by omega, h1, by rw [hlt a ha]; exact h2⟩
    · exact ⟨i, by omega, rfl, heq⟩
  · intro a ha hza
    rcases split a ha with ha | rfl
    · rw [hlt a ha, hlook a ha hza]; exact h.look a ha hza
    · rw [heq]; exact hlooki hza

theorem labStep_inv {rt : Nat → Nat} {z : Nat → Bool} {i : Nat} {st : Lab}
    (hz : z (rt i) = true → ∀ a, a < i → rt a ≠ rt i)
    (h : LabInv rt z i st) : LabInv rt z (i + 1) (labStep rt z st i) := by
  -- if no earlier element has the root of `i`, the new label `count` separates `i` from them
  have fresh_same : (∀ a, a < i → rt a ≠ rt i) →
      ∀ a, a < i → (st.comps.getD a 0 = st.count ↔ rt a = rt i) :=
    fun fr a ha => ⟨fun e => absurd e (Nat.ne_of_lt (h.lt a ha)), fun e => (fr a ha e).elim⟩
  unfold labStep
  by_cases hzi : z (rt i) = true
  · -- singleton shortcut
    rw [if_pos hzi]
    exact h.snoc (x := st.count) rfl (by simp only [Lab.count]; omega)
      (by simp only [Lab.count]; omega) (fun l hl => by simp only [Lab.count] at hl ⊢; omega)
      (fresh_same (hz hzi)) (fun r l hrl => .inl hrl) (fun _ _ _ => rfl)
      (fun h0 => by rw [hzi] at h0; cases h0)
  · have hzi' : z (rt i) = false := by simpa using hzi
    rw [if_neg hzi]
    cases hlk : st.toLabel.lookup (rt i) with
    | none =>
      have fresh : ∀ a, a < i → rt a ≠ rt i := by
        intro a ha e
        have := h.look a ha (e ▸ hzi')
        rw [e, hlk] at this; cases this
      refine h.snoc (x := st.count) rfl (by simp only [Lab.count, List.length_cons]; omega)
        (by simp only [Lab.count, List.length_cons]; omega)
        (fun l hl => by simp only [Lab.count, List.length_cons] at hl ⊢; omega)
        (fresh_same fresh) ?_ ?_ (fun _ => by simp [List.lookup, Lab.count])
      · intro r l hrl
        rcases List.mem_cons.1 hrl with e | hrl
        · cases e; exact .inr ⟨rfl, rfl⟩
        · exact .inl hrl
      · intro a ha _
        have hne : (rt a == rt i) = false := by simpa using fresh a ha
        simp only [List.lookup, hne]
    | some l =>
      obtain ⟨a0, ha0, hr0, hl0⟩ := h.tl _ _ (mem_of_lookup_eq_some hlk)
      refine h.snoc (x := l) rfl (Nat.le_refl _) (hl0 ▸ h.lt a0 ha0) (fun l' hl' => .inl hl')
        (fun a ha => ?_) (fun r l' hrl => .inl hrl) (fun _ _ _ => rfl) (fun _ => hlk)
      rw [← hl0, ← hr0]; exact h.same a a0 ha ha0

def labRun (rt : Nat → Nat) (z : Nat → Bool) (k : Nat) : Lab :=
  (List.range k).foldl (labStep rt z) {}

theorem labRun_succ (rt : Nat → Nat) (z : Nat → Bool) (k : Nat) :
    labRun rt z (k + 1) = labStep rt z (labRun rt z k) k := by
  unfold labRun; rw [List.range_succ, List.foldl_append]; rfl

theorem labRun_inv {rt : Nat → Nat} {z : Nat → Bool} {n : Nat}
    (hz : ∀ i, i < n → z (rt i) = true → ∀ a, a < i → rt a ≠ rt i) :
    ∀ k, k ≤ n → LabInv rt z k (labRun rt z k) := by
  intro k
  induction k with
  | zero =>
    intro _
    refine ⟨rfl, fun a h => by omega, fun l h => ?_, fun a b h => by omega, fun r l h => ?_,
      fun a h => by omega⟩
    · simp [labRun, Lab.count] at h
    · simp [labRun] at h
  | succ k ih =>
    intro hk
    rw [labRun_succ]
    exact labStep_inv (hz k (by omega)) (ih (by omega))

theorem rootF_child {m : Mem} {r : Nat} : ∀ (f i : Nat), rootF m f i = r → par m r = r → i ≠ r →
    ∃ j, j ≠ r ∧ par m j = r ∧ (∃ g, j = rootF m g i) := by
  intro f
  induction f with
  | zero => intro i h _ hne; exact (hne h).elim
  | succ f ih =>
    intro i h hr hne
    unfold rootF at h
    by_cases hi : par m i = i
    · rw [if_pos hi] at h; exact (hne h).elim
    · rw [if_neg hi] at h
      by_cases hp : par m i = r
      · exact ⟨i, hne, hp, 0, rfl⟩
      · obtain ⟨j, h1, h2, g, h3⟩ := ih (par m i) h hr hp
        refine ⟨j, h1, h2, g + 1, ?_⟩
        rw [h3]; show rootF m g (par m i) = rootF m (g + 1) i
        conv => rhs; unfold rootF
        rw [if_neg hi]

theorem rootF_lt {n : Nat} {m : Mem} {E : List (Nat × Nat)} (hm : MemInv n m E) :
    ∀ (g i : Nat), i < n → rootF m g i < n := by
  intro g
  induction g with
  | zero => intro i hi; exact hi
  | succ g ih =>
    intro i hi; unfold rootF
    by_cases h : par m i = i
    · rw [if_pos h]; exact hi
    · rw [if_neg h]; exact ih _ (hm.bound i hi)

/-- with (I3), a rank-0 root is alone in its class -/
theorem singleton_of_rank0 {n : Nat} {m : Mem} {E : List (Nat × Nat)} (hm : MemInv n m E)
    (h3 : NoChild0 n m) {i : Nat} (hi : i < n) (hz : rk m (root m i) = 0) : root m i = i := by
  obtain ⟨r1, r2, _⟩ := root_spec hm hi
  apply Classical.byContradiction
  intro hne
  obtain ⟨j, hj1, hj2, g, hj3⟩ := rootF_child m.length i rfl r2 (fun e => hne e.symm)
  have hjn : j < n := hj3 ▸ rootF_lt hm g i hi
  exact hj1 (h3 _ j r1 hjn r2 hz hj2)

def CC.lab (st : CC) : Lab := ⟨st.toLabel, st.lonely, st.comps⟩

/-- the memory stays a version of the original one: invariant, same ranks, same roots -/
structure SameRoots (n : Nat) (E : List (Nat × Nat)) (m m' : Mem) : Prop where
  inv : MemInv n m' E
  rk : ∀ j, rk m' j = rk m j
  rt : ∀ j, par m' j = j ↔ par m j = j

theorem ccStep_lab {n : Nat} {m : Mem} {E : List (Nat × Nat)} (hm : MemInv n m E) {st : CC}
    (hs : SameRoots n E m st.mem) {i : Nat} (hi : i < n) :
    SameRoots n E m (ccStep st i).mem ∧
    (ccStep st i).lab = labStep (root m) (fun r => decide (rk m r = 0)) st.lab i := by
  have hlen : st.mem.length = n := hs.inv.len
  have hmu := mu_lt_n st.mem hi
  obtain ⟨f1, f2, f3, f4, f5, f6⟩ := findSeq_spec (E := E) st.mem.length st.mem i hs.inv hi
    (by rw [hlen]; exact hmu)
  -- the element returned is the root of `i` in the original memory
  have hr : (findSeq st.mem.length st.mem i).2 = root m i := by
    obtain ⟨a1, a2, a3⟩ := root_spec hm hi
    exact hm.uroot _ _ f2 a1 (f4.symm.trans a3) ((hs.rt _).1 ((f6 _).1 f3)) a2
  have hrk : (rd (findSeq st.mem.length st.mem i).1 (findSeq st.mem.length st.mem i).2).rank
      = rk m (root m i) := by
    have := (f5 (findSeq st.mem.length st.mem i).2).trans (hs.rk _)
    rw [hr] at this; rw [hr]; exact this
  have hs' : SameRoots n E m (findSeq st.mem.length st.mem i).1 :=
    ⟨f1, fun j => (f5 j).trans (hs.rk j), fun j => (f6 j).trans (hs.rt j)⟩
  unfold ccStep labStep CC.lab
  rcases hfs : findSeq st.mem.length st.mem i with ⟨m', r⟩
  rw [hfs] at hr hrk hs'
  dsimp only at hr hrk hs' ⊢
  subst hr
  by_cases hz : rk m (root m i) = 0
  · have : (rd m' (root m i)).rank = 0 := hrk.trans hz
    simp only [this, hz, decide_true, if_true]
    exact ⟨hs', trivial⟩
  · have : ¬ (rd m' (root m i)).rank = 0 := fun e => hz (hrk.symm.trans e)
    simp only [this, hz, decide_false, if_false, Bool.false_eq_true]
    cases st.toLabel.lookup (root m i) <;> exact ⟨hs', rfl⟩

theorem ccRun_lab {n : Nat} {m : Mem} {E : List (Nat × Nat)} (hm : MemInv n m E) :
    ∀ k, k ≤ n →
      SameRoots n E m ((List.range k).foldl ccStep { mem := m }).mem ∧
      ((List.range k).foldl ccStep { mem := m }).lab =
        labRun (root m) (fun r => decide (rk m r = 0)) k := by
  intro k
  induction k with
  | zero => intro _; exact ⟨⟨hm, fun _ => rfl, fun _ => Iff.rfl⟩, rfl⟩
  | succ k ih =>
    intro hk
    obtain ⟨h1, h2⟩ := ih (by omega)
    rw [List.range_succ, List.foldl_append, labRun_succ]
    simp only [List.foldl_cons, List.foldl_nil]
    obtain ⟨g1, g2⟩ := ccStep_lab hm h1 (show k < n by omega)
    exact ⟨g1, by rw [g2, h2]⟩

/-- `connectedComponents` on a memory satisfying the invariant and (I3): returns `k` and labels
`0..k-1`, all used, two elements get the same label iff they are in the same class -/
theorem connectedComponents_spec {n : Nat} {m : Mem} {E : List (Nat × Nat)} (hm : MemInv n m E)
    (h3 : NoChild0 n m) :
    (connectedComponents m).2.length = n ∧
    (∀ a, a < n → (connectedComponents m).2.getD a 0 < (connectedComponents m).1) ∧
    (∀ l, l < (connectedComponents m).1 → ∃ a, a < n ∧ (connectedComponents m).2.getD a 0 = l) ∧
    (∀ a b, a < n → b < n →
      ((connectedComponents m).2.getD a 0 = (connectedComponents m).2.getD b 0 ↔ Conn E a b)) := by
  have hz : ∀ i, i < n → decide (rk m (root m i) = 0) = true → ∀ a, a < i → root m a ≠ root m i := by
    intro i hi hz a ha e
    have hz' : rk m (root m i) = 0 := by simpa using hz
    have h1 := singleton_of_rank0 hm h3 hi hz'
    have h2 := singleton_of_rank0 hm h3 (show a < n by omega) (e ▸ hz')
    omega
  have hinv := labRun_inv (rt := root m) (z := fun r => decide (rk m r = 0)) hz n (Nat.le_refl n)
  obtain ⟨_, hlab⟩ := ccRun_lab hm n (Nat.le_refl n)
  have hcc : connectedComponents m =
      ((labRun (root m) (fun r => decide (rk m r = 0)) n).count,
       (labRun (root m) (fun r => decide (rk m r = 0)) n).comps) := by
    unfold connectedComponents ccRun
    rw [hm.len, ← hlab]; rfl
  rw [hcc]
  refine ⟨hinv.len, hinv.lt, hinv.surj, fun a b ha hb => ?_⟩
  exact (hinv.same a b ha hb).trans (root_eq_iff hm ha hb)

theorem Chain.length_lt {n : Nat} {m : Mem} : ∀ {l : List Nat} {id : Nat}, Chain n m l id →
    id < n → l.length + mu m n id < n
  | [], id, _, hid => by simpa using mu_lt_n m hid
  | x :: rest, id, ⟨h1, _, h3, h4⟩, hid => by
    have := Chain.length_lt h4 h1
    have := mu_lt_of_klt m hid h3
    simp only [List.length_cons]; omega

/-- `findImpl` is wait-free: under arbitrary interference by other threads, one call performs
fewer than `n` loop iterations.  The earlier values of `id` (the ghost `Thr.trail`) form a
strictly increasing chain of non-roots in the key order; non-roots have frozen keys, so the chain
stays a chain whatever the other threads do (`At`). -/
theorem find_chain {n : Nat} {s : State} (hI : Inv n s) {tid : Nat} {t : Thr}
    (hget : s.thr[tid]? = some t)
    (hfin : t.finished = false) (hp : FindPc t.pc) :
    t.trail.length < n ∧ Chain n s.mem t.trail t.id := by
  obtain ⟨op, hc⟩ := curOp_of_unfinished hfin
  have h := ((hI.thr tid t hget).cur op hc).2
  have : t.id < n ∧ Chain n s.mem t.trail t.id := by
    cases hpc : t.pc <;> rw [hpc] at h hp <;> first | exact hp.elim | skip
    · exact ⟨h.2.1, h.2.2.2⟩
    · exact ⟨h.1.2.1, h.1.2.2.2⟩
    · exact ⟨h.1.2.1, h.1.2.2.2⟩
    · exact ⟨h.1.2.1, h.1.2.2.2⟩
  have := this.2.length_lt this.1
  exact ⟨by omega, ‹_ ∧ _›.2⟩

end MV.Dsu
