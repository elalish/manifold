import MV.Model.PolyGeom
import MV.Proof.CrossOpsField
/-!
The exact instance of `MV.CrossOps.ScalarSqrt` used by MV/Props/C10b.lean: `Option F` over a linearly
ordered field `F`, `none` = NaN.  Arithmetic is exact, `none` is absorbing, every comparison with
`none` is false (IEEE), `x / 0 = none` (the only division `IsConvex` performs is by `length(edge)`,
which is zero exactly when the numerator is the zero vector: `0/0 = NaN`; `normalize_lift` shows that
the `x ≠ 0` case never arises there).  `std::sqrt` is any function positive on the positives with
`sqrt 0 = 0` (class `HasSqrt`): the theorems hold for every such normaliser, in particular for the real
square root.

Also here: the loop of `IsConvex` as a statement about all corners (`isConvexFn_iff`, generic in the
scalar), the corner test at the exact instance (`icReject_lift`, `icReject_nan`), and the propagation of a
property once around a cycle.
-/
set_option linter.unusedSectionVars false
namespace MV.PolyGeom
open MV.CrossOps

/-- what the theorems need from `std::sqrt` -/
class HasSqrt (F : Type) [Field F] [LinearOrder F] where
  sqrt : F → F
  sqrt_pos : ∀ x, 0 < x → 0 < sqrt x
  sqrt_zero : sqrt 0 = 0

section Inst
variable {F : Type} [Field F] [LinearOrder F] [HasSqrt F]

def oBin (f : F → F → F) : Option F → Option F → Option F
  | some x, some y => some (f x y)
  | _, _ => none
def oCmp (f : F → F → Bool) : Option F → Option F → Bool
  | some x, some y => f x y
  | _, _ => false
def oDiv : Option F → Option F → Option F
  | some x, some y => if y = 0 then none else some (x / y)
  | _, _ => none
def oSqrt : Option F → Option F
  | some x => if x < 0 then none else some (HasSqrt.sqrt x)
  | none => none

instance optScalar : ScalarSqrt (Option F) where
  zero := some 0
  one := some 1
  add := oBin (· + ·)
  sub := oBin (· - ·)
  mul := oBin (· * ·)
  div := oDiv
  neg a := a.map (- ·)
  abs a := a.map (|·|)
  lt := oCmp (fun x y => decide (x < y))
  le := oCmp (fun x y => decide (x ≤ y))
  beq := oCmp (fun x y => decide (x = y))
  isFinite a := a.isSome
  sqrt := oSqrt

@[simp] theorem o_zero : (Scalar.zero : Option F) = some 0 := rfl
@[simp] theorem o_add (a b : F) : Scalar.add (some a) (some b) = some (a + b) := rfl
@[simp] theorem o_sub (a b : F) : Scalar.sub (some a) (some b) = some (a - b) := rfl
@[simp] theorem o_mul (a b : F) : Scalar.mul (some a) (some b) = some (a * b) := rfl
@[simp] theorem o_div (a b : F) : Scalar.div (some a) (some b) = if b = 0 then none else some (a / b) := rfl
@[simp] theorem o_abs (a : F) : Scalar.abs (some a) = some |a| := rfl
@[simp] theorem o_lt (a b : F) : Scalar.lt (some a) (some b) = decide (a < b) := rfl
@[simp] theorem o_le (a b : F) : Scalar.le (some a) (some b) = decide (a ≤ b) := rfl
@[simp] theorem o_sqrt (a : F) : ScalarSqrt.sqrt (some a) = if a < 0 then none else some (HasSqrt.sqrt a) := rfl
@[simp] theorem o_mul_none_l (b : Option F) : Scalar.mul (none : Option F) b = none := rfl
@[simp] theorem o_mul_none_r (a : Option F) : Scalar.mul a (none : Option F) = none := by cases a <;> rfl
@[simp] theorem o_sub_none_l (b : Option F) : Scalar.sub (none : Option F) b = none := rfl
@[simp] theorem o_sub_none_r (a : Option F) : Scalar.sub a (none : Option F) = none := by cases a <;> rfl
@[simp] theorem o_add_none_l (b : Option F) : Scalar.add (none : Option F) b = none := rfl
@[simp] theorem o_add_none_r (a : Option F) : Scalar.add a (none : Option F) = none := by cases a <;> rfl
@[simp] theorem o_abs_none : Scalar.abs (none : Option F) = none := rfl
@[simp] theorem o_le_none_l (b : Option F) : Scalar.le (none : Option F) b = false := rfl
@[simp] theorem o_lt_none_l (b : Option F) : Scalar.lt (none : Option F) b = false := rfl

/-- a finite point -/
def lift (v : V2 F) : V2 (Option F) := ⟨some v.x, some v.y⟩
/-- `vec2(NaN, NaN)` -/
def nan2 : V2 (Option F) := ⟨none, none⟩

def vsubF (a b : V2 F) : V2 F := ⟨a.x - b.x, a.y - b.y⟩
def crossF (a b : V2 F) : F := a.x * b.y - a.y * b.x
def dotF (a b : V2 F) : F := a.x * b.x + a.y * b.y
def len2F (a : V2 F) : F := a.x * a.x + a.y * a.y

@[simp] theorem sub_lift (a b : V2 F) : (lift a).sub (lift b) = lift (vsubF a b) := rfl
@[simp] theorem cross_lift (a b : V2 F) : cross (lift a) (lift b) = some (crossF a b) := rfl
@[simp] theorem dot_lift (a b : V2 F) : dot (lift a) (lift b) = some (dotF a b) := by
  simp [dot, lift, dotF]
@[simp] theorem cross_nan (b : V2 (Option F)) : cross (nan2 : V2 (Option F)) b = none := by
  simp [cross, nan2]
@[simp] theorem dot_nan (b : V2 (Option F)) : dot (nan2 : V2 (Option F)) b = none := by
  simp [dot, nan2]

end Inst

section Ordered
variable {F : Type} [Field F] [LinearOrder F] [IsStrictOrderedRing F] [HasSqrt F]

omit [HasSqrt F] in
theorem len2F_nonneg (a : V2 F) : 0 ≤ len2F a :=
  add_nonneg (mul_self_nonneg a.x) (mul_self_nonneg a.y)

omit [HasSqrt F] in
theorem len2F_eq_zero_iff (a : V2 F) : len2F a = 0 ↔ a.x = 0 ∧ a.y = 0 :=
  mul_self_add_mul_self_eq_zero

/-- the length the code divides by -/
def lenF (a : V2 F) : F := HasSqrt.sqrt (len2F a)

theorem lenF_pos {a : V2 F} (h : len2F a ≠ 0) : 0 < lenF a :=
  HasSqrt.sqrt_pos _ (lt_of_le_of_ne (len2F_nonneg a) (Ne.symm h))

/-- `la::normalize` of a finite vector: NaN in both components exactly for the zero vector (0/0), the
vector divided by its positive length otherwise.  In particular `x/0` with `x ≠ 0` never occurs. -/
theorem normalize_lift (a : V2 F) :
    normalize (lift a) = if len2F a = 0 then nan2 else lift ⟨a.x / lenF a, a.y / lenF a⟩ := by
  have hnn : ¬ len2F a < 0 := not_lt.2 (len2F_nonneg a)
  have hd : dot (lift a) (lift a) = some (len2F a) := by simp [dotF, len2F]
  show (lift a).divs (ScalarSqrt.sqrt (dot (lift a) (lift a))) = _
  rw [hd, o_sqrt, if_neg hnn]
  by_cases h0 : len2F a = 0
  · rw [if_pos h0, h0, HasSqrt.sqrt_zero]; simp [V2.divs, lift, nan2]
  · have hne : HasSqrt.sqrt (len2F a) ≠ 0 := ne_of_gt (lenF_pos h0)
    rw [if_neg h0]; simp [V2.divs, lift, lenF, hne]

/-- a NaN `lastEdge` never rejects: every comparison is false -/
theorem icReject_nan (eps : Option F) (e : V2 (Option F)) : icReject eps nan2 e = false := by
  simp [icReject]

/-- the corner test on finite vectors -/
theorem icReject_lift (eps : F) (a b : V2 F) :
    icReject (some eps) (lift a) (lift b)
      = (decide (crossF a b ≤ 0) || (decide (|crossF a b| < eps) && decide (dotF a b < 0))) := by
  simp [icReject]

theorem crossF_div (a b : V2 F) (s : F) :
    crossF ⟨a.x / s, a.y / s⟩ b = crossF a b / s := by
  unfold crossF; simp only []; ring
theorem dotF_div (a b : V2 F) (s : F) :
    dotF ⟨a.x / s, a.y / s⟩ b = dotF a b / s := by
  unfold dotF; simp only []; ring

omit [HasSqrt F] in
theorem orient_eq_crossF (a b c : V2 F) : orient a b c = crossF a b + crossF b c + crossF c a := by
  simp only [orient, crossF]; ring
omit [HasSqrt F] in
theorem crossF_swap (a b : V2 F) : crossF b a = -crossF a b := by
  simp only [crossF]; ring

end Ordered

section Loop
variable {α : Type} [ScalarSqrt α]

/-- `lastEdge` when the loop reaches index `v` -/
def icLast (p : Nat → V2 α) (n : Nat) (firstEdge : V2 α) (v : Nat) : V2 α :=
  if v = 0 then normalize firstEdge else normalize (icEdge p n firstEdge (v - 1))

theorem icLoop_iff (eps : α) (p : Nat → V2 α) (n : Nat) (fe : V2 α) :
    ∀ fuel v, icLoop eps p n fe fuel v (icLast p n fe v) = true ↔
      ∀ j, v ≤ j → j < v + fuel → icReject eps (icLast p n fe j) (icEdge p n fe j) = false := by
  intro fuel
  induction fuel with
  | zero => intro v; simp only [icLoop, true_iff]; intro j h1 h2; omega
  | succ f ih =>
    intro v
    have hl : normalize (icEdge p n fe v) = icLast p n fe (v + 1) := by simp [icLast]
    simp only [icLoop]
    by_cases hr : icReject eps (icLast p n fe v) (icEdge p n fe v) = true
    · simp only [hr, if_true, Bool.false_eq_true, false_iff]
      intro h
      have := h v (le_refl _) (by omega)
      rw [hr] at this; cases this
    · have hr' : icReject eps (icLast p n fe v) (icEdge p n fe v) = false :=
        Bool.eq_false_iff.2 hr
      simp only [hr', Bool.false_eq_true, if_false, hl, ih (v + 1)]
      constructor
      · intro h j h1 h2
        by_cases hj : j = v
        · subst hj; exact hr'
        · exact h j (by omega) (by omega)
      · intro h j h1 h2; exact h j (by omega) (by omega)

/-- `IsConvex` on one contour accepts exactly when the contour has at least three vertices and NO
corner trips the test (the early return is invisible) -/
theorem isConvexFn_iff (eps : α) (p : Nat → V2 α) (n : Nat) :
    isConvexFn eps p n = true ↔
      3 ≤ n ∧ ∀ v, v < n →
        icReject eps (icLast p n ((p 0).sub (p (n - 1))) v) (icEdge p n ((p 0).sub (p (n - 1))) v) = false := by
  unfold isConvexFn
  by_cases hn : n < 3
  · simp only [hn, if_true, Bool.false_eq_true, false_iff]; intro h; omega
  · simp only [hn, if_false]
    have h0 : normalize ((p 0).sub (p (n - 1))) = icLast p n ((p 0).sub (p (n - 1))) 0 := by simp [icLast]
    rw [h0, icLoop_iff]
    constructor
    · intro h; exact ⟨by omega, fun v hv => h v (Nat.zero_le _) (by omega)⟩
    · rintro ⟨_, h⟩ j _ hj; exact h j (by omega)

end Loop

theorem stripLoop_right {f i k : Nat} (h : i + 1 < k) :
    stripLoop (f + 1) i k true = (i, i + 1, k) :: stripLoop f (i + 1) k false := by
  simp [stripLoop, h]
theorem stripLoop_left {f i k : Nat} (h : i + 1 < k) :
    stripLoop (f + 1) i k false = (i, k - 1, k) :: stripLoop f i (k - 1) true := by
  simp [stripLoop, h]
theorem stripLoop_stop {f i k : Nat} {right : Bool} (h : ¬ i + 1 < k) : stripLoop f i k right = [] := by
  cases f <;> simp [stripLoop, h]

/-- the cyclic predecessor index -/
def cpred (n v : Nat) : Nat := if v = 0 then n - 1 else v - 1

/-- a property of cyclic positions that passes from every position to its successor holds
everywhere once it holds somewhere -/
theorem cyclic_closed {P : Nat → Prop} {n : Nat} (step : ∀ v, v < n → P (cpred n v) → P v)
    {u : Nat} (hun : u < n) (hu : P u) : ∀ w, w < n → P w := by
  have up : ∀ a, P a → ∀ d, a + d < n → P (a + d) := by
    intro a ha d
    induction d with
    | zero => exact fun _ => ha
    | succ d ih =>
      intro h
      refine step _ h ?_
      rw [show cpred n (a + (d + 1)) = a + d from if_neg (by omega)]
      exact ih (by omega)
  have hl : P (n - 1) := by
    have := up u hu (n - 1 - u) (by omega)
    rwa [show u + (n - 1 - u) = n - 1 by omega] at this
  intro w hw
  have := up 0 (step 0 (by omega) hl) w (by omega)
  rwa [Nat.zero_add] at this

end MV.PolyGeom
