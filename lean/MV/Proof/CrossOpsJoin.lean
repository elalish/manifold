import MV.Proof.CrossOpsField
/-!
The corner-join constructors of the polygon offset (boolean2_offset.cpp: `MiterPoint` l.112-126,
`AppendSquareJoin` l.87-107, `AppendRoundJoin`/`RotateDegrees` l.57-79, `ValidMiterLimit` l.128-130)
at the exact instance `fieldScalar F` of a linearly ordered field.

Vocabulary: `dot a b = a.x*b.x + a.y*b.y` (`dot_eq`); "unit" is `dot n n = 1`; the point `P` is "on the
offset line of an edge with unit normal `n` at distance `delta` from `V`" when
`dot (P.sub V) n = delta`; squared distance from `V` is `dot (P.sub V) (P.sub V)`.
-/
namespace MV.CrossOps

section Join
variable {F : Type} [Field F] [LinearOrder F]

/-- the main branch (`denom > 0`) -/
theorem miterPoint_of_pos (V nP nN : V2 F) (delta : F) (hd : 0 < 1 + dot nP nN) :
    miterPoint V nP nN delta = V.add (V2.smul delta ((nP.add nN).divs (1 + dot nP nN))) := by
  have : ¬ (1 + dot nP nN ≤ 0) := not_le.2 hd
  simp only [miterPoint, sc_le, sc_one, sc_add, sc_zero, decide_eq_true_eq, this, if_false]

/-- fallback branch (`denom ≤ 0`): the point is the plain offset endpoint -/
theorem miter_fallback (V nP nN : V2 F) (delta : F) (hd : 1 + dot nP nN ≤ 0) :
    miterPoint V nP nN delta = V.add (V2.smul delta nP) := by
  simp only [miterPoint, sc_le, sc_one, sc_add, sc_zero, decide_eq_true_eq, hd, if_true]

/-- `ValidMiterLimit` always returns a limit `≥ 2` -/
theorem validMiterLimit_ge (m : F) : 2 ≤ validMiterLimit m := by
  simp only [validMiterLimit, sc_isFinite, sc_le, two_eq, Bool.true_and, decide_eq_true_eq]
  split
  · assumption
  · exact le_refl _

/-- … and returns the argument itself when that is `≥ 2` -/
theorem validMiterLimit_of_ge (m : F) (h : 2 ≤ m) : validMiterLimit m = m := by
  simp only [validMiterLimit, sc_isFinite, sc_le, two_eq, Bool.true_and, decide_eq_true_eq, h, if_true]

variable [IsStrictOrderedRing F]

omit [IsStrictOrderedRing F] in
/-- the offset vector of the main branch: `δ (nP + nN) / (1 + nP·nN)` -/
theorem miterPoint_sub (V nP nN : V2 F) (delta : F) (hd : 0 < 1 + dot nP nN) :
    (miterPoint V nP nN delta).sub V = V2.smul delta ((nP.add nN).divs (1 + dot nP nN)) := by
  rw [miterPoint_of_pos V nP nN delta hd, V2.add_sub_self]

/-- the miter point lies on BOTH offset lines -/
theorem miter_on_both_offsets (V nP nN : V2 F) (delta : F) (hP : dot nP nP = 1) (hN : dot nN nN = 1)
    (hd : 0 < 1 + dot nP nN) :
    dot ((miterPoint V nP nN delta).sub V) nP = delta ∧
    dot ((miterPoint V nP nN delta).sub V) nN = delta := by
  rw [miterPoint_sub V nP nN delta hd]
  simp only [dot_smul_left, dot_divs_left, dot_add_left, hP, hN, dot_comm nN nP]
  rw [add_comm (dot nP nN) 1, div_self hd.ne', mul_one]
  exact ⟨rfl, rfl⟩

omit [IsStrictOrderedRing F] in
/-- its squared distance from the vertex is `2δ²/(1 + nP·nN)` -/
theorem miter_dist2 (V nP nN : V2 F) (delta : F) (hP : dot nP nP = 1) (hN : dot nN nN = 1)
    (hd : 0 < 1 + dot nP nN) :
    dot ((miterPoint V nP nN delta).sub V) ((miterPoint V nP nN delta).sub V) =
      2 * delta ^ 2 / (1 + dot nP nN) := by
  rw [miterPoint_sub V nP nN delta hd]
  simp only [dot_smul_left, dot_smul_right, dot_divs_left, dot_divs_right, dot_add_left, dot_add_right,
    hP, hN, dot_comm nN nP]
  have hne := hd.ne'
  field_simp
  ring

omit [IsStrictOrderedRing F] in
/-- the miter point is on the bisector direction `nP + nN` through `V` -/
theorem miter_on_bisector (V nP nN : V2 F) (delta : F) (hd : 0 < 1 + dot nP nN) :
    cross ((miterPoint V nP nN delta).sub V) (nP.add nN) = 0 := by
  rw [miterPoint_sub V nP nN delta hd, cross_smul_left, cross_divs_left, cross_self, zero_div, mul_zero]

/-- whenever the denominator is at least `m > 0` (the code refuses to miter when
`1 + dotN < kMinMiterDenom`), the squared distance is at most `2δ²/m` -/
theorem miter_within_min (V nP nN : V2 F) (delta m : F) (hP : dot nP nP = 1) (hN : dot nN nN = 1)
    (hm : 0 < m) (hbr : m ≤ 1 + dot nP nN) :
    dot ((miterPoint V nP nN delta).sub V) ((miterPoint V nP nN delta).sub V) ≤ 2 * delta ^ 2 / m := by
  have hd : 0 < 1 + dot nP nN := lt_of_lt_of_le hm hbr
  rw [miter_dist2 V nP nN delta hP hN hd]
  exact div_le_div_of_nonneg_left (mul_nonneg zero_le_two (sq_nonneg delta)) hm hbr

/-- with a tie tolerance `tie` (the code squares the corner when `dotN + tie < 2/L² − 1`, so in the
miter branch `2/L² − 1 ≤ dotN + tie`) the bound degrades gracefully:
distance² `≤ 2δ²/(2/L² − tie)` as long as `tie < 2/L²` -/
theorem miter_within_limit_tie (V nP nN : V2 F) (delta L tie : F) (hP : dot nP nP = 1)
    (hN : dot nN nN = 1) (htie : tie < 2 / (L * L)) (hbr : 2 / (L * L) - 1 ≤ dot nP nN + tie) :
    dot ((miterPoint V nP nN delta).sub V) ((miterPoint V nP nN delta).sub V) ≤
      2 * delta ^ 2 / (2 / (L * L) - tie) := by
  apply miter_within_min V nP nN delta _ hP hN (sub_pos.2 htie)
  linear_combination hbr

/-- … hence within the miter limit whenever the code takes the miter branch with `tie = 0`
(exact arithmetic): the distance is `≤ L·|δ|`.  (`_hd` follows from `hbr`; kept for the caller.) -/
theorem miter_within_limit (V nP nN : V2 F) (delta L : F) (hP : dot nP nP = 1) (hN : dot nN nN = 1)
    (hL : 0 < L) (hbr : 2 / (L * L) - 1 ≤ dot nP nN) (_hd : 0 < 1 + dot nP nN) :
    dot ((miterPoint V nP nN delta).sub V) ((miterPoint V nP nN delta).sub V) ≤ (L * delta) ^ 2 := by
  have hLL : 0 < L * L := mul_pos hL hL
  have h := miter_within_min V nP nN delta (2 / (L * L)) hP hN (div_pos zero_lt_two hLL)
    (by linear_combination hbr)
  have e : 2 * delta ^ 2 / (2 / (L * L)) = (L * delta) ^ 2 := by
    rw [div_div_eq_mul_div, mul_assoc, mul_div_cancel_left₀ _ two_ne_zero]
    ring
  rw [e] at h
  exact h

/-- the test of the miter branch of `OffsetContour` (l.219-224) in exact arithmetic: the miter point
is emitted iff both guards fail -/
theorem miter_branch_cond (dotN tie L md : F) :
    (Scalar.lt (Scalar.add dotN tie) (Scalar.sub (Scalar.div two (Scalar.mul L L)) Scalar.one) ||
      Scalar.lt (Scalar.add Scalar.one dotN) md) = false ↔
    2 / (L * L) - 1 ≤ dotN + tie ∧ md ≤ 1 + dotN := by
  simp [not_lt]

/-- everything the miter branch gives, from the code's own guards: for unit normals, a positive
`kMinMiterDenom`, the miter point is on both offset lines and at squared distance
`≤ 2δ²/kMinMiterDenom`, and `≤ 2δ²/(2/L² − tie)` when `tie < 2/L²` -/
theorem miter_branch_spec (V nP nN : V2 F) (delta L tie md : F) (hP : dot nP nP = 1)
    (hN : dot nN nN = 1) (hmd : 0 < md)
    (hbr : (Scalar.lt (Scalar.add (dot nP nN) tie)
        (Scalar.sub (Scalar.div two (Scalar.mul L L)) Scalar.one) ||
      Scalar.lt (Scalar.add Scalar.one (dot nP nN)) md) = false) :
    dot ((miterPoint V nP nN delta).sub V) nP = delta ∧
    dot ((miterPoint V nP nN delta).sub V) nN = delta ∧
    dot ((miterPoint V nP nN delta).sub V) ((miterPoint V nP nN delta).sub V) ≤ 2 * delta ^ 2 / md ∧
    (tie < 2 / (L * L) →
      dot ((miterPoint V nP nN delta).sub V) ((miterPoint V nP nN delta).sub V) ≤
        2 * delta ^ 2 / (2 / (L * L) - tie)) := by
  obtain ⟨h1, h2⟩ := (miter_branch_cond _ _ _ _).1 hbr
  have hd : 0 < 1 + dot nP nN := lt_of_lt_of_le hmd h2
  obtain ⟨a, b⟩ := miter_on_both_offsets V nP nN delta hP hN hd
  exact ⟨a, b, miter_within_min V nP nN delta md hP hN hmd h2,
    fun htie => miter_within_limit_tie V nP nN delta L tie hP hN htie h1⟩

omit [IsStrictOrderedRing F] in
/-- `V + δ n` lies on the offset line and at distance `|δ|` -/
theorem endpoint_on_offset (V n : V2 F) (delta : F) (hn : dot n n = 1) :
    dot ((V.add (V2.smul delta n)).sub V) n = delta ∧
    dot ((V.add (V2.smul delta n)).sub V) ((V.add (V2.smul delta n)).sub V) = delta ^ 2 := by
  simp only [V2.add_sub_self, dot_smul_left, dot_smul_right, hn, mul_one]
  exact ⟨trivial, (sq delta).symm⟩

/-- a true rotation preserves the dot product -/
theorem rotateCS_dot (u v : V2 F) (c s : F) (h : c ^ 2 + s ^ 2 = 1) :
    dot (rotateCS u c s) (rotateCS v c s) = dot u v := by
  simp only [dot_eq, rotateCS, sc_mul, sc_sub, sc_add]
  linear_combination (u.x * v.x + u.y * v.y) * h

/-- round join: every sampled point is at distance `|δ|` from the vertex, for a true rotation
(`c² + s² = 1`) and a unit normal -/
theorem round_on_circle (V nP : V2 F) (delta : F) (rots : List (F × F)) (hP : dot nP nP = 1)
    (hrot : ∀ cs ∈ rots, cs.1 ^ 2 + cs.2 ^ 2 = 1) :
    ∀ P ∈ roundJoin V nP delta rots, dot (P.sub V) (P.sub V) = delta ^ 2 := by
  intro P hPm
  simp only [roundJoin, List.mem_map] at hPm
  obtain ⟨cs, hcs, rfl⟩ := hPm
  rw [V2.add_sub_self, dot_smul_left, dot_smul_right, rotateCS_dot _ _ _ _ (hrot cs hcs), hP, mul_one,
    sq]

omit [IsStrictOrderedRing F] in
/-- … and one point per sampled rotation, the `i`-th being `V + δ·R_i nP` -/
theorem round_length (V nP : V2 F) (delta : F) (rots : List (F × F)) :
    (roundJoin V nP delta rots).length = rots.length := by
  simp [roundJoin]

/-- the sampled point makes with `nP` the cosine of its rotation:
`(P − V)·nP = δ·c` -/
theorem round_angle (V nP : V2 F) (delta c s : F) (hP : dot nP nP = 1) :
    dot ((V.add (V2.smul delta (rotateCS nP c s))).sub V) nP = delta * c := by
  simp only [dot_eq] at hP
  simp only [dot_eq, V2.add, V2.sub, V2.smul, rotateCS, sc_mul, sc_sub, sc_add]
  linear_combination delta * c * hP

omit [IsStrictOrderedRing F] in
/-- the component of the two cap points `mid ∓ half·t` along ANY direction `n`: the tangent `t` is
the bisector `b` turned by a right angle, so `t·n = cross b n` -/
theorem squareCap_dot (V b n : V2 F) (delta half : F) :
    dot (((squareCap V b delta half).headD V).sub V) n = delta * dot b n - half * cross b n ∧
    dot (((squareCap V b delta half).getD 1 V).sub V) n = delta * dot b n + half * cross b n := by
  simp only [squareCap, List.headD_cons, List.getD_cons_succ, List.getD_cons_zero, dot_eq, cross_eq,
    V2.add, V2.sub, V2.smul, sc_mul, sc_sub, sc_add, sc_neg]
  constructor <;> ring

/-- square cap: both cap points lie on the line tangent to the circle of radius `|δ|` at the
bisector (their component along the unit bisector `b` is `δ`), at squared distance `δ² + half²`
from `V` -/
theorem squareCap_spec (V b : V2 F) (delta half : F) (hb : dot b b = 1) :
    ∀ P ∈ squareCap V b delta half,
      dot (P.sub V) b = delta ∧ dot (P.sub V) (P.sub V) = delta ^ 2 + half ^ 2 := by
  intro P hPm
  simp only [dot_eq] at hb
  simp only [squareCap, List.mem_cons, List.not_mem_nil, or_false] at hPm
  rcases hPm with rfl | rfl
  · simp only [dot_eq, V2.add, V2.sub, V2.smul, sc_mul, sc_sub, sc_add, sc_neg]
    constructor
    · linear_combination delta * hb
    · linear_combination (delta ^ 2 + half ^ 2) * hb
  · simp only [dot_eq, V2.add, V2.sub, V2.smul, sc_mul, sc_sub, sc_add, sc_neg]
    constructor
    · linear_combination delta * hb
    · linear_combination (delta ^ 2 + half ^ 2) * hb

/-- … symmetric about the bisector: the two points are `mid ∓ half·t`, `t = (−b.y, b.x)`, so their
components along the tangent are `−half` and `+half` -/
theorem squareCap_tangent (V b : V2 F) (delta half : F) (hb : dot b b = 1) :
    (squareCap V b delta half).map (fun P => dot (P.sub V) ⟨-b.y, b.x⟩) = [-half, half] := by
  simp only [dot_eq] at hb
  simp only [squareCap, List.map_cons, List.map_nil, dot_eq, V2.add, V2.sub, V2.smul, sc_mul,
    sc_sub, sc_add, sc_neg, List.cons.injEq, and_true]
  constructor
  · linear_combination (-half) * hb
  · linear_combination half * hb

/-- the code's half-width `|δ|·s/(1+c)` is at most `|δ|` (`c = cosHalf ≥ 0`, `s² = 1 − c²`) -/
theorem squareCap_half_le (delta c s : F) (hc : 0 ≤ c) (hcs : s ^ 2 = 1 - c ^ 2) :
    (|delta| * s / (1 + c)) ^ 2 ≤ delta ^ 2 := by
  have h1 : 0 < 1 + c := add_pos_of_pos_of_nonneg one_pos hc
  rw [div_pow, mul_pow, sq_abs, hcs, div_le_iff₀ (pow_pos h1 2)]
  -- the two sides differ by `2 δ² c (1 + c)`
  have h : 0 ≤ delta ^ 2 * c * (1 + c) := mul_nonneg (mul_nonneg (sq_nonneg _) hc) h1.le
  linear_combination 2 * h

/-- with the code's half-width `half = |δ|·s/(1+c)` where `c = b·nP ≥ 0`, `s² = 1 − c²`
(`s = sinHalf`, `c = cosHalf`): `half ≤ |δ|`, so the cap stays within `√2·|δ|` -/
theorem squareCap_dist2_le (V b : V2 F) (delta c s : F) (hb : dot b b = 1) (hc : 0 ≤ c)
    (hcs : s ^ 2 = 1 - c ^ 2) :
    ∀ P ∈ squareCap V b delta (|delta| * s / (1 + c)),
      dot (P.sub V) (P.sub V) ≤ 2 * delta ^ 2 := by
  intro P hPm
  rw [(squareCap_spec V b delta _ hb P hPm).2]
  linear_combination squareCap_half_le delta c s hc hcs

theorem squareCap_within (V b : V2 F) (delta c s : F) (hb : dot b b = 1) (hc : 0 ≤ c) (_hs : 0 ≤ s)
    (hcs : s ^ 2 = 1 - c ^ 2) :
    ∀ P ∈ squareCap V b delta (|delta| * s / (1 + c)),
      dot (P.sub V) (P.sub V) ≤ 2 * delta ^ 2 :=
  squareCap_dist2_le V b delta c s hb hc hcs

/-- … `≤ L·|δ|` for every valid miter limit `L ≥ 2`, since then `2 ≤ L²` -/
theorem squareCap_within_limit (V b : V2 F) (delta c s L : F) (hb : dot b b = 1) (hc : 0 ≤ c)
    (hcs : s ^ 2 = 1 - c ^ 2) (hL : 2 ≤ L) :
    ∀ P ∈ squareCap V b delta (|delta| * s / (1 + c)),
      dot (P.sub V) (P.sub V) ≤ (L * delta) ^ 2 := by
  intro P hPm
  have hL2 : 2 ≤ L ^ 2 := hL.trans (le_self_pow₀ (one_le_two.trans hL) two_ne_zero)
  rw [mul_pow]
  exact (squareCap_dist2_le V b delta c s hb hc hcs P hPm).trans
    (mul_le_mul_of_nonneg_right hL2 (sq_nonneg delta))

private theorem squareCap_aux (delta c s sgn : F) (hc1 : 0 < 1 + c) (hcs : s ^ 2 = 1 - c ^ 2)
    (hsgn : |delta| * sgn = delta) :
    |delta| * s / (1 + c) * (sgn * s) = delta * (1 - c) := by
  have hne : 1 + c ≠ 0 := ne_of_gt hc1
  have h1 : |delta| * s / (1 + c) * (1 + c) = |delta| * s := div_mul_cancel₀ _ hne
  apply mul_right_cancel₀ hne
  linear_combination (sgn * s) * h1 + s ^ 2 * hsgn + delta * hcs

private theorem abs_mul_sign (delta : F) : |delta| * (if 0 ≤ delta then 1 else -1) = delta := by
  split
  · rw [abs_of_nonneg ‹_›, mul_one]
  · rw [abs_of_neg (not_le.1 ‹_›), mul_neg_one, neg_neg]

/-- the first cap point lies on the previous edge's offset line: for unit `nP` with `b·nP = c`,
`cross(b, nP) = −sgn·s` where `sgn = 1` if `0 ≤ δ` else `−1` (the convex-corner orientation
`cross·deltaSign > 0` of the code), `1 + c > 0` -/
theorem squareCap_on_prev_offset (V b nP : V2 F) (delta c s : F) (_hb : dot b b = 1)
    (_hP : dot nP nP = 1) (hc : dot b nP = c) (hc1 : 0 < 1 + c) (hcs : s ^ 2 = 1 - c ^ 2)
    (hx : cross b nP = -(if 0 ≤ delta then 1 else -1) * s) :
    dot (((squareCap V b delta (|delta| * s / (1 + c))).headD V).sub V) nP = delta := by
  rw [(squareCap_dot V b nP delta _).1, hc, hx]
  linear_combination squareCap_aux delta c s _ hc1 hcs (abs_mul_sign delta)

/-- … and the second on the next edge's: for unit `nN` with `b·nN = c`, `cross(b, nN) = +sgn·s` -/
theorem squareCap_on_next_offset (V b nN : V2 F) (delta c s : F) (_hb : dot b b = 1)
    (_hN : dot nN nN = 1) (hc : dot b nN = c) (hc1 : 0 < 1 + c) (hcs : s ^ 2 = 1 - c ^ 2)
    (hx : cross b nN = (if 0 ≤ delta then 1 else -1) * s) :
    dot (((squareCap V b delta (|delta| * s / (1 + c))).getD 1 V).sub V) nN = delta := by
  rw [(squareCap_dot V b nN delta _).2, hc, hx]
  linear_combination squareCap_aux delta c s _ hc1 hcs (abs_mul_sign delta)

/-- for the bisector of two unit normals the hypotheses of the two theorems above hold together:
`b = (nP + nN)/‖nP + nN‖` gives `b·nP = b·nN` and `cross(b, nP) = −cross(b, nN)` -/
theorem bisector_symm (nP nN b : V2 F) (len : F) (hP : dot nP nP = 1) (hN : dot nN nN = 1)
    (hlen : len ≠ 0) (hb : b = (nP.add nN).divs len) :
    dot b nP = dot b nN ∧ cross b nP = -cross b nN := by
  subst hb
  simp only [dot_divs_left, cross_divs_left, dot_add_left, cross_add_left, cross_self, hP, hN,
    dot_comm nN nP, cross_swap nP nN, zero_add, add_zero, neg_div]
  exact ⟨by rw [add_comm], trivial⟩

end Join

section Examples

/-- a right-angle corner: unit normals `(1,0)`, `(0,1)`, `δ = 2`, miter point `(2,2)` -/
example : dot (⟨1, 0⟩ : V2 ℚ) ⟨1, 0⟩ = 1 ∧ dot (⟨0, 1⟩ : V2 ℚ) ⟨0, 1⟩ = 1 ∧
    0 < 1 + dot (⟨1, 0⟩ : V2 ℚ) ⟨0, 1⟩ := by
  decide +kernel
example : (miterPoint (⟨0, 0⟩ : V2 ℚ) ⟨1, 0⟩ ⟨0, 1⟩ 2).x = 2 ∧
    (miterPoint (⟨0, 0⟩ : V2 ℚ) ⟨1, 0⟩ ⟨0, 1⟩ 2).y = 2 := by decide +kernel
example : dot ((miterPoint (⟨0, 0⟩ : V2 ℚ) ⟨1, 0⟩ ⟨0, 1⟩ 2).sub ⟨0, 0⟩) ⟨1, 0⟩ = 2 :=
  (miter_on_both_offsets _ _ _ _ (by decide +kernel) (by decide +kernel) (by decide +kernel)).1
/-- miter limit `L = 2`: `2/L² − 1 = −1/2 ≤ 0 = nP·nN` -/
example : dot ((miterPoint (⟨0, 0⟩ : V2 ℚ) ⟨1, 0⟩ ⟨0, 1⟩ 2).sub ⟨0, 0⟩)
    ((miterPoint (⟨0, 0⟩ : V2 ℚ) ⟨1, 0⟩ ⟨0, 1⟩ 2).sub ⟨0, 0⟩) ≤ ((2 : ℚ) * 2) ^ 2 :=
  miter_within_limit _ _ _ _ 2 (by decide +kernel) (by decide +kernel) (by decide +kernel) (by decide +kernel)
    (by decide +kernel)
/-- with a tie tolerance `1/100` -/
example : dot ((miterPoint (⟨0, 0⟩ : V2 ℚ) ⟨1, 0⟩ ⟨0, 1⟩ 2).sub ⟨0, 0⟩)
    ((miterPoint (⟨0, 0⟩ : V2 ℚ) ⟨1, 0⟩ ⟨0, 1⟩ 2).sub ⟨0, 0⟩) ≤
      2 * (2 : ℚ) ^ 2 / (2 / (2 * 2) - 1 / 100) :=
  miter_within_limit_tie _ _ _ _ 2 (1 / 100) (by decide +kernel) (by decide +kernel) (by decide +kernel)
    (by decide +kernel)
/-- opposite normals: the fallback -/
example : miterPoint (⟨0, 0⟩ : V2 ℚ) ⟨1, 0⟩ ⟨-1, 0⟩ 2 = (⟨0, 0⟩ : V2 ℚ).add (V2.smul 2 ⟨1, 0⟩) :=
  miter_fallback _ _ _ _ (by decide +kernel)
/-- a true rational rotation `(3/5, 4/5)` of the unit normal `(4/5, 3/5)` -/
example : ∀ P ∈ roundJoin (⟨1, 1⟩ : V2 ℚ) ⟨4 / 5, 3 / 5⟩ 2 [(3 / 5, 4 / 5), (1, 0)],
    dot (P.sub ⟨1, 1⟩) (P.sub ⟨1, 1⟩) = 2 ^ 2 :=
  round_on_circle _ _ _ _ (by decide +kernel) (by decide +kernel)
example : dot (((⟨1, 1⟩ : V2 ℚ).add (V2.smul 2 ⟨4 / 5, 3 / 5⟩)).sub ⟨1, 1⟩) ⟨4 / 5, 3 / 5⟩ = 2 :=
  (endpoint_on_offset _ _ _ (by decide +kernel)).1
/-- the square cap of the corner with normals `(3/5, ∓4/5)`: bisector `(1,0)`, `c = 3/5`, `s = 4/5`,
`δ = 2`, half-width `2·(4/5)/(8/5) = 1`; cap points `(2, ∓1)` -/
example : ∀ P ∈ squareCap (⟨0, 0⟩ : V2 ℚ) ⟨1, 0⟩ 2 (|2| * (4 / 5) / (1 + 3 / 5)),
    dot (P.sub ⟨0, 0⟩) (P.sub ⟨0, 0⟩) ≤ 2 * 2 ^ 2 :=
  squareCap_within _ _ _ (3 / 5) (4 / 5) (by decide +kernel) (by decide +kernel) (by decide +kernel)
    (by decide +kernel)
example : dot (((squareCap (⟨0, 0⟩ : V2 ℚ) ⟨1, 0⟩ 2 (|2| * (4 / 5) / (1 + 3 / 5))).headD ⟨0, 0⟩).sub
    ⟨0, 0⟩) ⟨3 / 5, -4 / 5⟩ = 2 :=
  squareCap_on_prev_offset _ _ _ _ (3 / 5) (4 / 5) (by decide +kernel) (by decide +kernel) (by decide +kernel)
    (by decide +kernel) (by decide +kernel) (by decide +kernel)
example : dot (((squareCap (⟨0, 0⟩ : V2 ℚ) ⟨1, 0⟩ 2 (|2| * (4 / 5) / (1 + 3 / 5))).getD 1 ⟨0, 0⟩).sub
    ⟨0, 0⟩) ⟨3 / 5, 4 / 5⟩ = 2 :=
  squareCap_on_next_offset _ _ _ _ (3 / 5) (4 / 5) (by decide +kernel) (by decide +kernel) (by decide +kernel)
    (by decide +kernel) (by decide +kernel) (by decide +kernel)
/-- inset (`δ = −2`): orientation flips, `sgn = −1` -/
example : dot (((squareCap (⟨0, 0⟩ : V2 ℚ) ⟨1, 0⟩ (-2) (|-2| * (4 / 5) / (1 + 3 / 5))).headD
    ⟨0, 0⟩).sub ⟨0, 0⟩) ⟨3 / 5, 4 / 5⟩ = -2 :=
  squareCap_on_prev_offset _ _ _ _ (3 / 5) (4 / 5) (by decide +kernel) (by decide +kernel) (by decide +kernel)
    (by decide +kernel) (by decide +kernel) (by decide +kernel)
example : validMiterLimit (1 : ℚ) = 2 ∧ validMiterLimit (3 : ℚ) = 3 := by decide +kernel

end Examples

end MV.CrossOps
