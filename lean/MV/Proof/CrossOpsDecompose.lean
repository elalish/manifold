import MV.Proof.CrossOpsField
/-!
`DecomposeByContainment` (boolean2_offset.cpp:364-432): the combinatorial part.

`decomposeIdx parent isNeg isPos n` is the model of the seeding loop and the hole loop.  Everything
geometric (areas, the containment tests, hence `parent`, `isNeg`, `isPos`) is an arbitrary function
argument here, so the theorems of the first section hold for every outcome of the floating-point
tests.  The only hypothesis that is ever needed is `ParentInRange` (`parent[i]` is `-1` or an index
`< n`), and only for the statements that say a hole with a positive ancestor IS placed: without it
`compOf[p]` would be an out-of-bounds read in the C++.  It is proved for the `parent` the code
computes (`dParent_lt`).
-/
namespace MV.CrossOps

section Idx
variable (parent : Nat → Option Nat) (isNeg isPos : Nat → Bool) (n : Nat)

/-- the holes pushed into the component seeded by `p`, in the order they are pushed -/
def holesOf (p : Nat) : List Nat :=
  (List.range n).filter fun i => !isPos i && holeTarget parent isNeg isPos n i == some p

theorem decomposeIdx_eq : decomposeIdx parent isNeg isPos n =
    ((List.range n).filter isPos).map fun p => p :: holesOf parent isNeg isPos n p := rfl

theorem mem_holesOf {p i : Nat} : i ∈ holesOf parent isNeg isPos n p ↔
    i < n ∧ isPos i = false ∧ holeTarget parent isNeg isPos n i = some p := by
  simp [holesOf]

/-- `parent[i]` is `-1` or a ring index -/
def ParentInRange : Prop := ∀ i, i < n → ∀ q, parent i = some q → q < n

/-- `k`-th ancestor: follow `parent` `k` times -/
def anc : Nat → Option Nat → Option Nat
  | 0, p => p
  | k + 1, p => anc k (p.bind parent)

/-- the walk returns the `k`-th ancestor of its start for some `k ≤ fuel`, having passed through
negative rings only; what it returns is not a negative ring unless the hop budget ran out exactly
there (`k = fuel`) -/
theorem walkUp_eq_anc (fuel : Nat) (p : Option Nat) :
    ∃ k, k ≤ fuel ∧ walkUp parent isNeg fuel p = anc parent k p ∧
      (∀ j, j < k → ∃ r, anc parent j p = some r ∧ isNeg r = true) ∧
      (∀ q, anc parent k p = some q → isNeg q = false ∨ k = fuel) := by
  induction fuel generalizing p with
  | zero =>
    exact ⟨0, Nat.le_refl _, rfl, fun j hj => absurd hj (Nat.not_lt_zero j), fun _ _ => Or.inr rfl⟩
  | succ fuel ih =>
    cases p with
    | none =>
      exact ⟨0, Nat.zero_le _, rfl, fun j hj => absurd hj (Nat.not_lt_zero j), fun q hq => nomatch hq⟩
    | some r =>
      by_cases hr : isNeg r = true
      · obtain ⟨k, hk, he, hneg, hlast⟩ := ih (parent r)
        refine ⟨k + 1, Nat.succ_le_succ hk, ?_, ?_,
          fun q hq => Or.imp_right (congrArg (· + 1)) (hlast q hq)⟩
        · rw [walkUp, if_pos hr]; exact he
        · intro j hj
          cases j with
          | zero => exact ⟨r, rfl, hr⟩
          | succ j => exact hneg j (Nat.lt_of_succ_lt_succ hj)
      · refine ⟨0, Nat.zero_le _, ?_, fun j hj => absurd hj (Nat.not_lt_zero j), ?_⟩
        · rw [walkUp, if_neg hr]; rfl
        · intro q hq
          exact Or.inl (Option.some.inj hq ▸ Bool.eq_false_iff.2 hr)

/-- the weak form: the result is not negative, or the hop budget was used up -/
theorem walkUp_not_neg (fuel : Nat) (p : Option Nat) (q : Nat)
    (h : walkUp parent isNeg fuel p = some q) :
    isNeg q = false ∨ ∃ k, k = fuel ∧ anc parent k p = some q := by
  obtain ⟨k, _, he, _, hlast⟩ := walkUp_eq_anc parent isNeg fuel p
  have hq := he.symm.trans h
  exact (hlast q hq).imp_right fun h1 => ⟨k, h1, hq⟩

/-- completeness: if the first non-negative ancestor is reached within the hop budget, the walk
returns it -/
theorem walkUp_complete (fuel k : Nat) (p : Option Nat) (q : Nat) (hk : k < fuel)
    (hq : anc parent k p = some q)
    (hneg : ∀ j, j < k → ∃ r, anc parent j p = some r ∧ isNeg r = true)
    (hnn : isNeg q = false) : walkUp parent isNeg fuel p = some q := by
  -- the walk stops at the first ancestor that is not negative, and that is the `k`-th
  obtain ⟨k', _, he, hneg', hlast⟩ := walkUp_eq_anc parent isNeg fuel p
  rcases Nat.lt_trichotomy k' k with h | h | h
  · obtain ⟨r, hr, hrn⟩ := hneg k' h
    rcases hlast r hr with h1 | h1
    · rw [hrn] at h1; cases h1
    · omega
  · rw [he, h, hq]
  · obtain ⟨r, hr, hrn⟩ := hneg' k h
    rw [hq] at hr
    rw [← Option.some.inj hr, hnn] at hrn; cases hrn

/-- the walk ends at nothing only if the chain of negative ancestors ends at a root -/
theorem walkUp_none (fuel : Nat) (p : Option Nat) (h : walkUp parent isNeg fuel p = none) :
    ∃ k, k ≤ fuel ∧ anc parent k p = none ∧
      (∀ j, j < k → ∃ r, anc parent j p = some r ∧ isNeg r = true) := by
  obtain ⟨k, hk, he, hneg, _⟩ := walkUp_eq_anc parent isNeg fuel p
  exact ⟨k, hk, he.symm.trans h, hneg⟩

theorem walkUp_lt (hpar : ParentInRange parent n) (fuel : Nat) (p : Option Nat) (q : Nat)
    (hp : ∀ r, p = some r → r < n) (h : walkUp parent isNeg fuel p = some q) : q < n := by
  induction fuel generalizing p with
  | zero => exact hp q (by simpa [walkUp] using h)
  | succ fuel ih =>
    cases p with
    | none => simp [walkUp] at h
    | some r =>
      have hr := hp r rfl
      by_cases hneg : isNeg r = true
      · simp only [walkUp, hneg, if_true] at h
        exact ih (parent r) (fun s hs => hpar r hr s hs) h
      · simp only [walkUp, hneg] at h
        have : r = q := by simpa using h
        exact this ▸ hr

theorem holeTarget_eq_some {i p : Nat} : holeTarget parent isNeg isPos n i = some p ↔
    walkUp parent isNeg (n + 1) (parent i) = some p ∧ isPos p = true := by
  unfold holeTarget
  cases h : walkUp parent isNeg (n + 1) (parent i) with
  | none => simp
  | some q =>
    by_cases hq : isPos q = true
    · simp only [hq, if_true, Option.some.injEq]
      constructor
      · rintro rfl; exact ⟨rfl, hq⟩
      · exact fun h => h.1
    · simp only [hq, Option.some.injEq]
      constructor
      · intro h; cases h
      · rintro ⟨rfl, h2⟩; exact absurd h2 hq

/-- a hole's target is a positive ring reached from `parent[i]` through negative rings only -/
theorem holeTarget_spec {i p : Nat} (h : holeTarget parent isNeg isPos n i = some p) :
    isPos p = true ∧ ∃ k, k ≤ n + 1 ∧ anc parent k (parent i) = some p ∧
      ∀ j, j < k → ∃ r, anc parent j (parent i) = some r ∧ isNeg r = true := by
  obtain ⟨hw, hp⟩ := (holeTarget_eq_some parent isNeg isPos n).1 h
  obtain ⟨k, hk, he, hneg, _⟩ := walkUp_eq_anc parent isNeg (n + 1) (parent i)
  exact ⟨hp, k, hk, he.symm.trans hw, hneg⟩

theorem holeTarget_lt (hpar : ParentInRange parent n) {i p : Nat} (hi : i < n)
    (h : holeTarget parent isNeg isPos n i = some p) : p < n :=
  walkUp_lt parent isNeg n hpar _ _ _ (fun r hr => hpar i hi r hr)
    ((holeTarget_eq_some parent isNeg isPos n).1 h).1

/-- every positive ring seeds exactly one component, in increasing order, and is its first ring -/
theorem decompose_heads : (decomposeIdx parent isNeg isPos n).map List.head? =
    ((List.range n).filter isPos).map some := by
  simp [decomposeIdx, List.map_map, Function.comp_def]

theorem decompose_length :
    (decomposeIdx parent isNeg isPos n).length = ((List.range n).filter isPos).length := by
  simp [decomposeIdx]

/-- the rings after the first of a component are non-positive rings (holes) whose walk ended at that
component's seed -/
theorem decompose_tails : ∀ c ∈ decomposeIdx parent isNeg isPos n, ∀ p, c.head? = some p →
    ∀ i ∈ c.tail, i < n ∧ isPos i = false ∧ holeTarget parent isNeg isPos n i = some p := by
  intro c hc p hp i hi
  rw [decomposeIdx_eq, List.mem_map] at hc
  obtain ⟨q, _, rfl⟩ := hc
  have : q = p := by simpa using hp
  subst this
  exact (mem_holesOf parent isNeg isPos n).1 hi

/-- … and they are pushed in increasing order of ring index -/
theorem decompose_tails_sorted : ∀ c ∈ decomposeIdx parent isNeg isPos n,
    c.tail.Pairwise (· < ·) := by
  intro c hc
  rw [decomposeIdx_eq, List.mem_map] at hc
  obtain ⟨q, _, rfl⟩ := hc
  exact List.Pairwise.filter _ List.pairwise_lt_range

/-- a ring of the component seeded by `p` determines `p` -/
theorem seed_of_mem {p a : Nat} (hp : isPos p = true)
    (ha : a ∈ p :: holesOf parent isNeg isPos n p) :
    (if isPos a = true then some a else holeTarget parent isNeg isPos n a) = some p := by
  rcases List.mem_cons.1 ha with rfl | ha
  · exact if_pos hp
  · obtain ⟨_, h1, h2⟩ := (mem_holesOf parent isNeg isPos n).1 ha
    rw [if_neg (by rw [h1]; exact Bool.false_ne_true), h2]

/-- no ring index occurs twice over all components: every positive ring is in exactly one component
and every hole in at most one -/
theorem decompose_nodup : (decomposeIdx parent isNeg isPos n).flatten.Nodup := by
  rw [List.nodup_flatten]
  constructor
  · intro c hc
    rw [decomposeIdx_eq, List.mem_map] at hc
    obtain ⟨p, hp, rfl⟩ := hc
    rw [List.nodup_cons]
    refine ⟨?_, List.nodup_range.filter _⟩
    intro h
    have h1 := ((mem_holesOf parent isNeg isPos n).1 h).2.1
    have h2 : isPos p = true := (List.mem_filter.1 hp).2
    rw [h1] at h2; cases h2
  · rw [decomposeIdx_eq, List.pairwise_map]
    have hnd : ((List.range n).filter isPos).Pairwise (· ≠ ·) := List.nodup_range.filter _
    refine List.Pairwise.imp_of_mem ?_ hnd
    intro p q hp hq hpq a ha hb
    exact hpq (Option.some.inj
      ((seed_of_mem parent isNeg isPos n (List.mem_filter.1 hp).2 ha).symm.trans
        (seed_of_mem parent isNeg isPos n (List.mem_filter.1 hq).2 hb)))

/-- which rings appear at all, for EVERY `parent`: the positive ones and the holes whose walk ended
at a positive ring index below `n` -/
theorem decompose_mem' (i : Nat) : i ∈ (decomposeIdx parent isNeg isPos n).flatten ↔
    i < n ∧ (isPos i = true ∨ ∃ p, p < n ∧ holeTarget parent isNeg isPos n i = some p) := by
  rw [List.mem_flatten]
  constructor
  · rintro ⟨c, hc, hi⟩
    rw [decomposeIdx_eq, List.mem_map] at hc
    obtain ⟨p, hp, rfl⟩ := hc
    obtain ⟨hpn, hpp⟩ := List.mem_filter.1 hp
    rcases List.mem_cons.1 hi with rfl | hi
    · exact ⟨List.mem_range.1 hpn, Or.inl hpp⟩
    · have := (mem_holesOf parent isNeg isPos n).1 hi
      exact ⟨this.1, Or.inr ⟨p, List.mem_range.1 hpn, this.2.2⟩⟩
  · rintro ⟨hi, h⟩
    by_cases hpos : isPos i = true
    · refine ⟨i :: holesOf parent isNeg isPos n i, ?_, List.mem_cons_self⟩
      rw [decomposeIdx_eq, List.mem_map]
      exact ⟨i, List.mem_filter.2 ⟨List.mem_range.2 hi, hpos⟩, rfl⟩
    · rcases h with h | ⟨p, hp, ht⟩
      · exact absurd h hpos
      · refine ⟨p :: holesOf parent isNeg isPos n p, ?_, List.mem_cons_of_mem _ ?_⟩
        · rw [decomposeIdx_eq, List.mem_map]
          exact ⟨p, List.mem_filter.2 ⟨List.mem_range.2 hp,
            ((holeTarget_eq_some parent isNeg isPos n).1 ht).2⟩, rfl⟩
        · exact (mem_holesOf parent isNeg isPos n).2 ⟨hi, by simpa using hpos, ht⟩

/-- which rings appear at all: the positive ones and the holes that found a positive ancestor -/
theorem decompose_mem (hpar : ParentInRange parent n) (i : Nat) :
    i ∈ (decomposeIdx parent isNeg isPos n).flatten ↔
    i < n ∧ (isPos i = true ∨ (holeTarget parent isNeg isPos n i).isSome = true) := by
  rw [decompose_mem']
  constructor
  · rintro ⟨hi, h | ⟨p, _, hp⟩⟩
    · exact ⟨hi, Or.inl h⟩
    · exact ⟨hi, Or.inr (by simp [hp])⟩
  · rintro ⟨hi, h | h⟩
    · exact ⟨hi, Or.inl h⟩
    · obtain ⟨p, hp⟩ := Option.isSome_iff_exists.1 h
      exact ⟨hi, Or.inr ⟨p, holeTarget_lt parent isNeg isPos n hpar hi hp, hp⟩⟩

theorem decompose_mem_lt {i : Nat} (h : i ∈ (decomposeIdx parent isNeg isPos n).flatten) : i < n :=
  ((decompose_mem' parent isNeg isPos n i).1 h).1

/-- multiset of rings preserved: if no hole is orphaned, the components are a partition of all rings -/
theorem decompose_perm (hpar : ParentInRange parent n)
    (hall : ∀ i, i < n → isPos i = false → (holeTarget parent isNeg isPos n i).isSome = true) :
    (decomposeIdx parent isNeg isPos n).flatten.Perm (List.range n) := by
  refine (List.perm_ext_iff_of_nodup (decompose_nodup parent isNeg isPos n) List.nodup_range).2 ?_
  intro i
  rw [decompose_mem parent isNeg isPos n hpar, List.mem_range]
  constructor
  · exact fun h => h.1
  · intro hi
    refine ⟨hi, ?_⟩
    by_cases hpos : isPos i = true
    · exact Or.inl hpos
    · exact Or.inr (hall i hi (by simpa using hpos))

/-- in general the placed rings are a sublist-up-to-order of all rings: nothing is invented -/
theorem decompose_subperm :
    (decomposeIdx parent isNeg isPos n).flatten.Subperm (List.range n) := by
  refine (List.subperm_of_subset (decompose_nodup parent isNeg isPos n) ?_)
  intro i hi
  exact List.mem_range.2 (decompose_mem_lt parent isNeg isPos n hi)

/-- areas add up: for any additive weight `area`, the sum over components of the component sums is
the sum over all placed rings -/
theorem decompose_area_sum {M : Type} [AddCommMonoid M] (area : Nat → M) :
    ((decomposeIdx parent isNeg isPos n).map fun c => (c.map area).sum).sum =
    ((decomposeIdx parent isNeg isPos n).flatten.map area).sum := by
  generalize decomposeIdx parent isNeg isPos n = comps
  induction comps with
  | nil => simp
  | cons c cs ih => simp [List.sum_append, ih]

/-- … and equals the sum over ALL rings when no hole is orphaned -/
theorem decompose_area_total {M : Type} [AddCommMonoid M] (area : Nat → M)
    (hpar : ParentInRange parent n)
    (hall : ∀ i, i < n → isPos i = false → (holeTarget parent isNeg isPos n i).isSome = true) :
    ((decomposeIdx parent isNeg isPos n).map fun c => (c.map area).sum).sum =
    ((List.range n).map area).sum := by
  rw [decompose_area_sum]
  exact ((decompose_perm parent isNeg isPos n hpar hall).map area).sum_eq

end Idx

/-! ### non-vacuity: a concrete run (ring 0 positive; 1 a hole in 0; 2 a negative ring inside 1;
3 positive; 4 an orphan hole) -/

section Examples

private def exParent : Nat → Option Nat := fun i => [none, some 0, some 1, none, none].getD i none
private def exNeg : Nat → Bool := fun i => [false, true, true, false, true].getD i false
private def exPos : Nat → Bool := fun i => [true, false, false, true, false].getD i false

example : decomposeIdx exParent exNeg exPos 5 = [[0, 1, 2], [3]] := by decide
example : holeTarget exParent exNeg exPos 5 2 = some 0 := by decide
example : holeTarget exParent exNeg exPos 5 4 = none := by decide
example : ParentInRange exParent 5 := by
  intro i hi q; revert q; revert i; decide
/-- the hypothesis of `decompose_perm` on the first four rings -/
example : ∀ i, i < 4 → exPos i = false → (holeTarget exParent exNeg exPos 4 i).isSome = true := by
  decide
example : ParentInRange exParent 4 := by
  intro i hi q; revert q; revert i; decide
example : (decomposeIdx exParent exNeg exPos 4).flatten.Perm (List.range 4) :=
  decompose_perm _ _ _ _ (by intro i hi q; revert q; revert i; decide) (by decide)
example : walkUp exParent exNeg 6 (some 2) = some 0 := by decide
/-- `ParentInRange` cannot be dropped from `decompose_mem`/`decompose_perm` -/
example : (decomposeIdx (fun _ => some 7) (fun _ => false) (fun i => decide (i = 7)) 1).flatten = [] ∧
    (holeTarget (fun _ => some 7) (fun _ => false) (fun i => decide (i = 7)) 1 0).isSome = true := by
  decide
/-- the second disjunct of `walkUp_not_neg` is needed: a chain of negatives longer than the hop budget
ends on a negative ring -/
example : walkUp (fun i => some (i + 1)) (fun _ => true) 2 (some 0) = some 2 := by decide

end Examples

section Generic
variable {α : Type} [Scalar α]

/-- `info[i]` of the kept rings -/
def dInfo (epsOf : α → α) (polys : List (List (V2 α))) (i : Nat) : RingInfo α :=
  ((polys.filter (keepRing epsOf)).map (summarize epsOf)).getD i
    ⟨Scalar.zero, Scalar.zero, Scalar.zero, Scalar.zero, Scalar.zero, Scalar.zero⟩

/-- `BoxInside(info[i], info[j]) && RingInside(rings[i], rings[j], info[j].eps)` -/
def dContains (epsOf : α → α) (polys : List (List (V2 α))) (i j : Nat) : Bool :=
  boxInside (dInfo epsOf polys i) (dInfo epsOf polys j) &&
    ringInside ((polys.filter (keepRing epsOf)).getD i []) ((polys.filter (keepRing epsOf)).getD j [])
      (dInfo epsOf polys j).eps

/-- `parent[i]` as the code computes it -/
def dParent (epsOf : α → α) (polys : List (List (V2 α))) (i : Nat) : Option Nat :=
  ((List.range (polys.filter (keepRing epsOf)).length).map
    (parentOf (dContains epsOf polys) (fun j => Scalar.abs (dInfo epsOf polys j).area)
      (polys.filter (keepRing epsOf)).length)).getD i none

/-- `info[i].area < 0` / `info[i].area > 0` -/
def dNeg (epsOf : α → α) (polys : List (List (V2 α))) (i : Nat) : Bool :=
  Scalar.lt (dInfo epsOf polys i).area Scalar.zero
def dPos (epsOf : α → α) (polys : List (List (V2 α))) (i : Nat) : Bool :=
  Scalar.lt Scalar.zero (dInfo epsOf polys i).area

/-- `decompose` is `decomposeIdx` at the `parent` and the sign tests the code computes (any scalar
type, `Float` included) -/
theorem decompose_components_spec (epsOf : α → α) (polys : List (List (V2 α))) :
    decompose epsOf polys = (polys.filter (keepRing epsOf),
      decomposeIdx (dParent epsOf polys) (dNeg epsOf polys) (dPos epsOf polys)
        (polys.filter (keepRing epsOf)).length) := rfl

theorem decompose_rings (epsOf : α → α) (polys : List (List (V2 α))) :
    (decompose epsOf polys).1 = polys.filter (keepRing epsOf) := rfl

/-- the inner loop only ever records a `j < n`, `j ≠ i`, that passed the containment tests -/
theorem parentOf_spec (contains : Nat → Nat → Bool) (absArea : Nat → α) (n i j : Nat)
    (h : parentOf contains absArea n i = some j) : j < n ∧ j ≠ i ∧ contains i j = true := by
  unfold parentOf at h
  -- invariant of the scan: whatever is recorded passed the tests
  refine List.foldlRecOn (motive := fun st : Option α × Option Nat =>
    ∀ j, st.2 = some j → j < n ∧ j ≠ i ∧ contains i j = true) (List.range n) _ ?_ ?_ j h
  · intro j hj; cases hj
  · intro st hst a ha j' hj'
    by_cases h1 : a = i
    · rw [if_pos h1] at hj'; exact hst j' hj'
    · rw [if_neg h1] at hj'
      by_cases h2 : contains i a = true
      · simp only [h2, Bool.not_true, Bool.false_eq_true, if_false] at hj'
        have aux : ∀ b : Bool, (if b = true then ((some (absArea a), some a) : Option α × Option Nat)
            else st).2 = some j' → a = j' ∨ st.2 = some j' := by
          intro b hb
          cases b with
          | true => exact Or.inl (by simpa using hb)
          | false => exact Or.inr (by simpa using hb)
        rcases aux _ hj' with h3 | h3
        · subst h3
          exact ⟨List.mem_range.1 ha, h1, h2⟩
        · exact hst j' h3
      · have h2' : contains i a = false := by simpa using h2
        simp only [h2', Bool.not_false, if_true] at hj'
        exact hst j' hj'

theorem dParent_eq (epsOf : α → α) (polys : List (List (V2 α))) (i : Nat)
    (hi : i < (polys.filter (keepRing epsOf)).length) :
    dParent epsOf polys i = parentOf (dContains epsOf polys)
      (fun j => Scalar.abs (dInfo epsOf polys j).area) (polys.filter (keepRing epsOf)).length i := by
  simp [dParent, List.getD_eq_getElem?_getD, List.getElem?_map, List.getElem?_range hi]

/-- `parent[i]` is `-1` or a ring index: no out-of-bounds `compOf[p]` -/
theorem dParent_lt (epsOf : α → α) (polys : List (List (V2 α))) :
    ParentInRange (dParent epsOf polys) (polys.filter (keepRing epsOf)).length := by
  intro i hi q hq
  rw [dParent_eq epsOf polys i hi] at hq
  exact (parentOf_spec _ _ _ _ _ hq).1

/-- the parent is a different ring that contains ring `i` (box and ring tests) -/
theorem dParent_spec (epsOf : α → α) (polys : List (List (V2 α))) (i q : Nat)
    (hi : i < (polys.filter (keepRing epsOf)).length) (hq : dParent epsOf polys i = some q) :
    q < (polys.filter (keepRing epsOf)).length ∧ q ≠ i ∧ dContains epsOf polys i q = true := by
  rw [dParent_eq epsOf polys i hi] at hq
  exact parentOf_spec _ _ _ _ _ hq

end Generic

section Field
variable {F : Type} [Field F] [LinearOrder F]

/-- the two sign tests of `decompose` are exclusive … -/
theorem sign_tests_exclusive (a : F) : ¬ (Scalar.lt a 0 = true ∧ Scalar.lt 0 a = true) := by
  simp only [sc_lt, decide_eq_true_eq]
  exact fun h => lt_asymm h.1 h.2

/-- … and a ring of non-zero area passes one of them -/
theorem sign_tests_cover (a : F) (h : a ≠ 0) : Scalar.lt a 0 = true ∨ Scalar.lt 0 a = true := by
  simp only [sc_lt, decide_eq_true_eq]
  exact lt_or_gt_of_ne h

theorem dNeg_dPos_exclusive (epsOf : F → F) (polys : List (List (V2 F))) (i : Nat) :
    ¬ (dNeg epsOf polys i = true ∧ dPos epsOf polys i = true) :=
  sign_tests_exclusive _

/-- the target of a hole is positive, hence not negative: the walk did not stop for lack of hops -/
theorem holeTarget_not_neg (epsOf : F → F) (polys : List (List (V2 F))) (i p : Nat)
    (h : holeTarget (dParent epsOf polys) (dNeg epsOf polys) (dPos epsOf polys)
      (polys.filter (keepRing epsOf)).length i = some p) :
    dPos epsOf polys p = true ∧ dNeg epsOf polys p = false := by
  have hp := ((holeTarget_eq_some _ _ _ _).1 h).2
  refine ⟨hp, ?_⟩
  have := dNeg_dPos_exclusive epsOf polys p
  cases hn : dNeg epsOf polys p with
  | false => rfl
  | true => exact absurd ⟨hn, hp⟩ this

/-- `DecomposeByContainment` at exact arithmetic, for the `parent` computed by `parentOf`:
the components are seeded by the positive kept rings in increasing order; no kept ring is used
twice; exactly the positive rings and the holes with a positive ancestor are placed, all indices
are ring indices; weights (areas) add up; and when no hole is orphaned the components are a
partition of the kept rings and the total weight is preserved. -/
theorem decompose_partition (epsOf : F → F) (polys : List (List (V2 F))) :
    let rings := (decompose epsOf polys).1
    let comps := (decompose epsOf polys).2
    let n := rings.length
    let target := holeTarget (dParent epsOf polys) (dNeg epsOf polys) (dPos epsOf polys) n
    rings = polys.filter (keepRing epsOf) ∧
    comps.map List.head? = ((List.range n).filter (dPos epsOf polys)).map some ∧
    (∀ c ∈ comps, ∀ p, c.head? = some p → ∀ i ∈ c.tail,
      i < n ∧ dPos epsOf polys i = false ∧ target i = some p) ∧
    comps.flatten.Nodup ∧
    (∀ i, i ∈ comps.flatten ↔ i < n ∧ (dPos epsOf polys i = true ∨ (target i).isSome = true)) ∧
    (∀ {M : Type} [AddCommMonoid M] (area : Nat → M),
      (comps.map fun c => (c.map area).sum).sum = (comps.flatten.map area).sum) ∧
    ((∀ i, i < n → dPos epsOf polys i = false → (target i).isSome = true) →
      comps.flatten.Perm (List.range n) ∧
      ∀ {M : Type} [AddCommMonoid M] (area : Nat → M),
        (comps.map fun c => (c.map area).sum).sum = ((List.range n).map area).sum) := by
  intro rings comps n target
  have hpar := dParent_lt epsOf polys
  refine ⟨rfl, decompose_heads _ _ _ _, decompose_tails _ _ _ _, decompose_nodup _ _ _ _,
    decompose_mem _ _ _ _ hpar, fun area => decompose_area_sum _ _ _ _ area, ?_⟩
  intro hall
  exact ⟨decompose_perm _ _ _ _ hpar hall, fun area => decompose_area_total _ _ _ _ area hpar hall⟩

/-- the bounding box `Summarize` computes is not inverted -/
theorem summarize_box_le (epsOf : F → F) (ring : List (V2 F)) :
    (summarize epsOf ring).minx ≤ (summarize epsOf ring).maxx ∧
    (summarize epsOf ring).miny ≤ (summarize epsOf ring).maxy := by
  refine List.foldlRecOn (motive := fun b : F × F × F × F => b.1 ≤ b.2.2.1 ∧ b.2.1 ≤ b.2.2.2)
    ring.tail _ ⟨le_refl _, le_refl _⟩ ?_
  intro b hb v _
  simp only [lmin_eq, lmax_eq]
  exact ⟨le_trans (min_le_left _ _) (le_trans hb.1 (le_max_left _ _)),
    le_trans (min_le_left _ _) (le_trans hb.2 (le_max_left _ _))⟩

theorem dInfo_eq (epsOf : F → F) (polys : List (List (V2 F))) (i : Nat)
    (hi : i < (polys.filter (keepRing epsOf)).length) :
    dInfo epsOf polys i = summarize epsOf ((polys.filter (keepRing epsOf))[i]) := by
  simp [dInfo, List.getD_eq_getElem?_getD, hi]

variable [IsStrictOrderedRing F]

/-- a ring that survives the sliver filter has non-zero area (for a non-negative `eps`) -/
theorem keepRing_area_ne (epsOf : F → F) (heps : ∀ x, 0 ≤ epsOf x) (ring : List (V2 F))
    (h : keepRing epsOf ring = true) : (summarize epsOf ring).area ≠ 0 := by
  unfold keepRing at h
  split at h
  · cases h
  · simp only [sc_le, sc_abs, sc_sub, sc_mul, lmax_eq, Bool.not_eq_true', decide_eq_false_iff_not,
      not_le] at h
    intro h0
    rw [h0, abs_zero] at h
    have hb := summarize_box_le epsOf ring
    have h1 : 0 ≤ max ((summarize epsOf ring).maxx - (summarize epsOf ring).minx)
        ((summarize epsOf ring).maxy - (summarize epsOf ring).miny) :=
      le_max_of_le_left (sub_nonneg.2 hb.1)
    have h2 : 0 ≤ (summarize epsOf ring).eps := heps _
    exact absurd h (not_lt.2 (mul_nonneg h1 h2))

/-- every kept ring is negative or positive (never both: `dNeg_dPos_exclusive`), so
`dPos i = false` in `decompose_partition` means "ring `i` is a hole" -/
theorem decompose_kept_signed (epsOf : F → F) (heps : ∀ x, 0 ≤ epsOf x)
    (polys : List (List (V2 F))) (i : Nat) (hi : i < (polys.filter (keepRing epsOf)).length) :
    dNeg epsOf polys i = true ∨ dPos epsOf polys i = true := by
  unfold dNeg dPos
  rw [dInfo_eq epsOf polys i hi]
  apply sign_tests_cover
  apply keepRing_area_ne epsOf heps
  exact (List.mem_filter.1 (List.getElem_mem hi)).2

end Field

/-! ### non-vacuity at ℚ: the square `[0,4]²` with a square hole, `eps = 0` -/

section ExamplesQ

private def sqOuter : List (V2 ℚ) := [⟨0, 0⟩, ⟨4, 0⟩, ⟨4, 4⟩, ⟨0, 4⟩]
private def sqHole : List (V2 ℚ) := [⟨1, 1⟩, ⟨1, 2⟩, ⟨2, 2⟩, ⟨2, 1⟩]

example : keepRing (fun _ => (0 : ℚ)) sqOuter = true := by decide +kernel
example : (decompose (fun _ => (0 : ℚ)) [sqOuter, sqHole]).2 = [[0, 1]] := by decide +kernel
example : dParent (fun _ => (0 : ℚ)) [sqOuter, sqHole] 1 = some 0 := by decide +kernel
/-- the no-orphan hypothesis of the last part of `decompose_partition` holds here -/
example : ∀ i, i < 2 → dPos (fun _ => (0 : ℚ)) [sqOuter, sqHole] i = false →
    (holeTarget (dParent (fun _ => (0 : ℚ)) [sqOuter, sqHole]) (dNeg (fun _ => (0 : ℚ)) [sqOuter, sqHole])
      (dPos (fun _ => (0 : ℚ)) [sqOuter, sqHole]) 2 i).isSome = true := by decide +kernel
example : ¬ (Scalar.lt (-3 : ℚ) 0 = true ∧ Scalar.lt 0 (-3 : ℚ) = true) := sign_tests_exclusive _
example : Scalar.lt (-3 : ℚ) 0 = true ∨ Scalar.lt 0 (-3 : ℚ) = true :=
  sign_tests_cover _ (by decide)

end ExamplesQ

end MV.CrossOps
