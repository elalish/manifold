import MV.Model.LazyEval
import MV.Model.Sync
import MV.Proof.ConcLock

/-!
Proofs for property C06, part 2: the two-lock `std::lock` protocol (`MV.TwoLock`), the lock-rank
discipline (`MV.LockOrder`) and `fetch_add` ID reservation (`MV.Sync.reserveAll`).
-/

namespace MV.TwoLock

/-- the locks a program uses -/
def locksOf : Prog → List Nat
  | .one l => [l]
  | .two a b => [a, b]

@[simp] theorem locksOf_one (l : Nat) : locksOf (.one l) = [l] := rfl
@[simp] theorem locksOf_two (a b : Nat) : locksOf (.two a b) = [a, b] := rfl

theorem upd_same {α : Type} (f : Nat → α) (k : Nat) (v : α) : upd f k v k = v := if_pos rfl

theorem upd_ne {α : Type} (f : Nat → α) (k : Nat) (v : α) {i : Nat} (h : i ≠ k) : upd f k v i = f i :=
  if_neg h

theorem upd_eq_some (f : Nat → Option Nat) (k : Nat) (b : Option Nat) (i t : Nat) :
    upd f k b i = some t ↔ (i = k ∧ b = some t) ∨ (i ≠ k ∧ f i = some t) := by
  by_cases h : i = k
  · simp [h, upd_same]
  · simp [h, upd_ne]

/-- a thread with program `p` and record `x` holds lock `l` -/
def Holds (p : Prog) (x : Thread) (l : Nat) : Prop :=
  (x.pc = .crit ∧ l ∈ locksOf p) ∨ (x.pc = .first ∧ ∃ a b, p = .two a b ∧ l = fstLock a b x.swap)

theorem holds_one (l0 : Nat) (x : Thread) (l : Nat) :
    Holds (.one l0) x l ↔ x.pc = .crit ∧ l = l0 := by
  simp [Holds]

theorem holds_two (a b : Nat) (x : Thread) (l : Nat) :
    Holds (.two a b) x l ↔
      (x.pc = .crit ∧ (l = a ∨ l = b)) ∨ (x.pc = .first ∧ l = fstLock a b x.swap) := by
  have : (∃ a' b', Prog.two a b = .two a' b' ∧ l = fstLock a' b' x.swap) ↔ l = fstLock a b x.swap :=
    ⟨fun ⟨_, _, e, hl⟩ => by cases e; exact hl, fun hl => ⟨a, b, rfl, hl⟩⟩
  rw [Holds, this]; simp

/-- Ownership is consistent with the program counters. -/
def Inv (prog : Nat → Prog) (s : State) : Prop :=
  ∀ l t, s.owner l = some t ↔ Holds (prog t) (s.th t) l

theorem inv_init (prog : Nat → Prog) : Inv prog init := by
  intro l t
  simp [init, Holds]

/-- A step of thread `t0` to the record `x` and the owner map `ow` keeps the invariant if nothing changes
hands among the other threads and `t0` owns exactly what `x` says. -/
theorem Inv.update {prog : Nat → Prog} {s : State} (h : Inv prog s) (t0 : Nat) (x : Thread)
    (ow : Nat → Option Nat) (hother : ∀ t, t ≠ t0 → ∀ l, (ow l = some t ↔ s.owner l = some t))
    (hself : ∀ l, ow l = some t0 ↔ Holds (prog t0) x l) : Inv prog ⟨upd s.th t0 x, ow⟩ := by
  intro l t
  show ow l = some t ↔ Holds (prog t) (upd s.th t0 x t) l
  by_cases ht : t = t0
  · rw [ht, upd_same]; exact hself l
  · rw [upd_ne _ _ _ ht, hother t ht l]; exact h l t

theorem inv_step (prog : Nat → Prog) (s : State) (t0 : Nat) (h : Inv prog s) :
    Inv prog (step prog s t0) := by
  by_cases hen : enabled prog s t0 = true
  case neg => simp only [step, hen]; exact h
  have hme : ∀ l, s.owner l = some t0 ↔ Holds (prog t0) (s.th t0) l := fun l => h l t0
  rcases hpc : (s.th t0).pc with _ | _ | _ | _ <;> rcases hp : prog t0 with l0 | ⟨a, b⟩ <;>
    simp only [enabled, hpc, hp] at hen <;>
    simp only [step, enabled, hpc, hp, hen, Bool.not_true, Bool.false_eq_true, if_false] <;>
    try exact h
  all_goals simp only [hpc, hp, holds_one, holds_two] at hme
  · -- idle, one: holds nothing, takes the free lock `l0`
    have hfree : s.owner l0 = none := by simpa using hen
    refine h.update t0 _ _ (Lock.upd_other (Or.inl hfree) (Or.inr rfl)) fun l => ?_
    rw [hp, holds_one, upd_eq_some, hme l]; simp
  · -- idle, two: holds nothing, takes its first lock, which is free
    have hfree : s.owner (fstLock a b (s.th t0).swap) = none := by simpa using hen
    refine h.update t0 _ _ (Lock.upd_other (Or.inl hfree) (Or.inr rfl)) fun l => ?_
    rw [hp, holds_two, upd_eq_some, hme l]; simp
  · -- first, two: holds exactly its first lock
    have hme : ∀ l, s.owner l = some t0 ↔ l = fstLock a b (s.th t0).swap := by simpa using hme
    split
    · -- the second lock is free: takes it and holds both `a` and `b`
      next hfree =>
      have hfree : s.owner (sndLock a b (s.th t0).swap) = none := by simpa using hfree
      refine h.update t0 _ _ (Lock.upd_other (Or.inl hfree) (Or.inr rfl)) fun l => ?_
      rw [hp, holds_two, upd_eq_some, hme l]
      cases (s.th t0).swap <;> simp [fstLock, sndLock] <;> grind
    · -- `try_lock` fails: gives the first lock back and holds nothing
      refine h.update t0 _ _ (Lock.upd_other (Or.inr ((hme _).2 rfl)) (Or.inl rfl)) fun l => ?_
      rw [hp, holds_two, upd_eq_some, hme l]; simp
  · -- crit, one: gives `l0` back
    have hme : ∀ l, s.owner l = some t0 ↔ l = l0 := by simpa using hme
    refine h.update t0 _ _ (Lock.upd_other (Or.inr ((hme _).2 rfl)) (Or.inl rfl)) fun l => ?_
    rw [hp, holds_one, upd_eq_some, hme l]; simp
  · -- crit, two: gives `a` and `b` back
    have hme : ∀ l, s.owner l = some t0 ↔ l = a ∨ l = b := by simpa using hme
    have hb : upd s.owner a none b = none ∨ upd s.owner a none b = some t0 := by
      by_cases hba : b = a
      · rw [hba, upd_same]; exact Or.inl rfl
      · rw [upd_ne _ _ _ hba]; exact Or.inr ((hme b).2 (Or.inr rfl))
    refine h.update t0 _ _ (fun t ht l => (Lock.upd_other hb (Or.inl rfl) t ht l).trans
      (Lock.upd_other (Or.inr ((hme a).2 (Or.inl rfl))) (Or.inl rfl) t ht l)) fun l => ?_
    rw [hp, holds_two, upd_eq_some, upd_eq_some, hme l]; simp; omega

theorem inv_run (prog : Nat → Prog) (sched : List Nat) :
    ∀ s, Inv prog s → Inv prog (run prog s sched) := by
  induction sched with
  | nil => intro s h; exact h
  | cons t ts ih => intro s h; exact ih _ (inv_step prog s t h)

/-- the two-thread program of the examples: thread 0 locks `(0, 1)`, every other thread `(1, 0)` -/
def exProg : Nat → Prog := fun t => if t = 0 then .two 0 1 else .two 1 0

theorem exProg_ne : ∀ t a b, exProg t = .two a b → a ≠ b := by
  intro t a b h
  unfold exProg at h
  split at h <;> cases h <;> decide

/-- non-vacuity: after `[0, 1]` both threads are at `first`, each owning its first lock; after the
failed `try_lock` of thread 0 lock 0 is free again. -/
example : (run exProg init [0, 1]).owner 0 = some 0 ∧ (run exProg init [0, 1]).owner 1 = some 1 ∧
    ((run exProg init [0, 1]).th 0).pc = .first ∧ ((run exProg init [0, 1]).th 1).pc = .first ∧
    (run exProg init [0, 1, 0]).owner 0 = none ∧ (run exProg init [0, 1, 0]).th 0 = ⟨.idle, true⟩ := by
  decide

example : ∀ l t, (run exProg init [0, 1, 0, 1]).owner l = some t ↔
    ((((run exProg init [0, 1, 0, 1]).th t).pc = .crit ∧ l ∈ locksOf (exProg t)) ∨
     (((run exProg init [0, 1, 0, 1]).th t).pc = .first ∧
        ∃ a b, exProg t = .two a b ∧ l = fstLock a b ((run exProg init [0, 1, 0, 1]).th t).swap)) :=
  inv_run exProg [0, 1, 0, 1] init (inv_init exProg)

/-- Mutual exclusion: two threads inside their critical sections use disjoint locks. -/
theorem two_lock_mutex (prog : Nat → Prog) (hne : ∀ t a b, prog t = .two a b → a ≠ b) (sched : List Nat)
    (t u : Nat) (htu : t ≠ u) :
    let s := run prog init sched
    (s.th t).pc = .crit → (s.th u).pc = .crit → ∀ l, l ∈ locksOf (prog t) → l ∈ locksOf (prog u) → False := by
  -- (`hne` is not needed: the invariant also survives a degenerate `two a a`)
  have _ := hne
  intro s ht hu l hlt hlu
  have hinv : Inv prog s := inv_run prog sched init (inv_init prog)
  have h1 := (hinv l t).2 (Or.inl ⟨ht, hlt⟩)
  have h2 := (hinv l u).2 (Or.inl ⟨hu, hlu⟩)
  rw [h1] at h2
  exact htu (Option.some.inj h2)

/-- non-vacuity: a schedule that brings thread 1 into its critical section (holding both locks)
while thread 0 has been thrown back to `idle`. -/
example : ((run exProg init [0, 1, 0, 1]).th 1).pc = .crit ∧
    ((run exProg init [0, 1, 0, 1]).th 0).pc = .idle ∧
    (run exProg init [0, 1, 0, 1]).owner 0 = some 1 ∧ (run exProg init [0, 1, 0, 1]).owner 1 = some 1 := by
  decide

/-- No deadlock, for any number of threads and any lock pairs (including a = b' and b = a' in opposite
order): a thread that is not finished and cannot move waits for a lock whose owner can move. -/
theorem Inv.progress {prog : Nat → Prog} {s : State} (hinv : Inv prog s) (t : Nat)
    (hfin : (s.th t).pc ≠ .fin) (hdis : enabled prog s t = false) :
    ∃ u, u ≠ t ∧ enabled prog s u = true ∧ ((s.th u).pc = .first ∨ (s.th u).pc = .crit) := by
  -- a disabled, unfinished thread is `idle` and the lock it wants has an owner
  have key : (s.th t).pc = .idle ∧ ∃ l u, s.owner l = some u := by
    have held : ∀ {l : Nat}, (s.owner l).isNone = false → ∃ l u, s.owner l = some u := by
      intro l h
      cases ho : s.owner l with
      | none => rw [ho] at h; cases h
      | some u => exact ⟨l, u, ho⟩
    unfold enabled at hdis
    split at hdis
    · next hpc _ => exact ⟨hpc, held hdis⟩
    · next hpc _ => exact ⟨hpc, held hdis⟩
    · cases hdis
    · cases hdis
    · next hpc => exact absurd hpc hfin
  obtain ⟨hidle, l, u, ho⟩ := key
  have hpcu : (s.th u).pc = .first ∨ (s.th u).pc = .crit := by
    rcases (hinv l u).1 ho with ⟨h, _⟩ | ⟨h, _⟩
    · exact Or.inr h
    · exact Or.inl h
  refine ⟨u, ?_, ?_, hpcu⟩
  · intro hut
    rw [hut, hidle] at hpcu
    rcases hpcu with h | h <;> cases h
  · unfold enabled
    rcases hpcu with h | h <;> rw [h] <;> cases prog u <;> rfl

/-- non-vacuity: in the state after `[0, 1, 0, 1]` thread 0 is not finished and cannot move (it
waits for lock 1, held by thread 1, which is in its critical section and can move). -/
example : ((run exProg init [0, 1, 0, 1]).th 0).pc ≠ .fin ∧
    enabled exProg (run exProg init [0, 1, 0, 1]) 0 = false ∧
    enabled exProg (run exProg init [0, 1, 0, 1]) 1 = true := by
  decide

/-- The schedule `[0, 1, 0, 1, 1, 0, 0, 0]` : both threads take their first lock, thread 0's
`try_lock` fails (it releases lock 0 and flips to start with lock 1), thread 1 gets both locks and
finishes, then thread 0 locks `1`, `try_lock`s `0` and finishes. -/
example : (run exProg init [0, 1, 0]).th 0 = ⟨.idle, true⟩ ∧
    (run exProg init [0, 1, 0, 1, 1, 0, 0, 0]).th 0 = ⟨.fin, true⟩ ∧
    (run exProg init [0, 1, 0, 1, 1, 0, 0, 0]).th 1 = ⟨.fin, false⟩ ∧
    (run exProg init [0, 1, 0, 1, 1, 0, 0, 0]).owner 0 = none ∧
    (run exProg init [0, 1, 0, 1, 1, 0, 0, 0]).owner 1 = none := by
  decide

end MV.TwoLock

namespace MV.LockOrder

/-- A thread in a wait-for analysis: the locks it holds, and the lock it is blocked on (if any). -/
structure TSt where
  held : List Nat
  wait : Option Nat

/-- rank of the awaited lock (0 when not blocked) -/
def waitRank (rank : Nat → Nat) (th : TSt) : Nat :=
  match th.wait with
  | some l => rank l
  | none => 0

theorem exists_bound (f : TSt → Nat) (ths : List TSt) : ∃ B, ∀ th ∈ ths, f th ≤ B := by
  induction ths with
  | nil => exact ⟨0, by simp⟩
  | cons a as ih =>
    obtain ⟨B, hB⟩ := ih
    refine ⟨max (f a) B, ?_⟩
    intro th hth
    rcases List.mem_cons.1 hth with rfl | h
    · exact Nat.le_max_left _ _
    · exact Nat.le_trans (hB th h) (Nat.le_max_right _ _)

/-- Rank discipline excludes deadlock: if every blocked thread waits for a lock that some thread in the
system holds, and only holds locks of strictly smaller rank than the one it waits for, then some
thread that holds a lock is not blocked. (Lock ranks in the library: pNodeMutex_/pathsMutex_ 0 <
ConcurrentSharedPtr guard 1 < CsgLeafNode::mutex_ 2.) -/
theorem rank_no_deadlock (rank : Nat → Nat) (ths : List TSt)
    (hwait : ∀ th ∈ ths, ∀ l, th.wait = some l → ∃ th' ∈ ths, l ∈ th'.held)
    (hrank : ∀ th ∈ ths, ∀ l, th.wait = some l → ∀ h ∈ th.held, rank h < rank l)
    (hsome : ∃ th ∈ ths, th.wait ≠ none) :
    ∃ th ∈ ths, th.wait = none ∧ th.held ≠ [] := by
  obtain ⟨B, hB⟩ := exists_bound (waitRank rank) ths
  -- follow the waits-for edges: the rank of the awaited lock goes up and is bounded by `B`
  have main : ∀ n, ∀ th ∈ ths, ∀ l, th.wait = some l → B - rank l = n →
      ∃ th ∈ ths, th.wait = none ∧ th.held ≠ [] := by
    intro n
    induction n using Nat.strongRecOn with
    | ind n ih =>
      intro th hth l hl hn
      obtain ⟨th', hth', hmem⟩ := hwait th hth l hl
      cases hw : th'.wait with
      | none => exact ⟨th', hth', hw, List.ne_nil_of_mem hmem⟩
      | some l' =>
        have h1 := hrank th' hth' l' hw l hmem
        have h2 := hB th' hth'
        simp only [waitRank, hw] at h2
        exact ih (B - rank l') (by omega) th' hth' l' hw rfl
  obtain ⟨th, hth, hw⟩ := hsome
  cases hl : th.wait with
  | none => exact absurd hl hw
  | some l => exact main (B - rank l) th hth l hl rfl

/-- non-vacuity: thread A holds the `pNodeMutex_` (rank 0) and waits for the guard (rank 1), thread
B holds the guard and the leaf mutex and is not blocked. -/
example : ∃ th ∈ [TSt.mk [0] (some 1), TSt.mk [1, 2] none], th.wait = none ∧ th.held ≠ [] := by
  apply rank_no_deadlock (fun l => l)
  · simp
  · simp
  · simp

end MV.LockOrder

namespace MV.Sync

theorem disj_iff (o n a m : Nat) :
    (o + n ≤ a ∨ a + m ≤ o ∨ n = 0 ∨ m = 0) ↔
      ∀ id, o ≤ id → id < o + n → a ≤ id → id < a + m → False := by
  constructor
  · intro h id; omega
  · intro h
    by_cases hle : o ≤ a
    · refine Classical.byContradiction fun hc => h a ?_ ?_ ?_ ?_ <;> omega
    · refine Classical.byContradiction fun hc => h o ?_ ?_ ?_ ?_ <;> omega

/-- what `rangesDisjoint` decides -/
theorem rangesDisjoint_iff (rs : List (Nat × Nat)) :
    rangesDisjoint rs = true ↔
      rs.Pairwise (fun p q => ∀ id, p.1 ≤ id → id < p.1 + p.2 → q.1 ≤ id → id < q.1 + q.2 → False) := by
  induction rs with
  | nil => simp [rangesDisjoint]
  | cons r rs ih =>
    obtain ⟨o, n⟩ := r
    simp only [rangesDisjoint, Bool.and_eq_true, List.all_eq_true, Bool.or_eq_true, decide_eq_true_eq,
      List.pairwise_cons, ih]
    constructor
    · rintro ⟨h1, h2⟩
      refine ⟨fun q hq => ?_, h2⟩
      have := h1 q hq
      exact (disj_iff o n q.1 q.2).1 (by omega)
    · rintro ⟨h1, h2⟩
      refine ⟨fun q hq => ?_, h2⟩
      have := (disj_iff o n q.1 q.2).2 (h1 q hq)
      omega

example : rangesDisjoint [(1, 3), (7, 0), (4, 2), (6, 5)] = true ∧ rangesDisjoint [(1, 3), (3, 1)] = false := by
  decide

/-- every range starts at or after the initial counter value (no ID below `c` is handed out again) -/
theorem reserveAll_ge (c : Nat) (ns : List Nat) : ∀ p ∈ reserveAll c ns, c ≤ p.1 := by
  induction ns generalizing c with
  | nil => intro p hp; simp [reserveAll] at hp
  | cons n ns ih =>
    intro p hp
    simp only [reserveAll, List.mem_cons] at hp
    rcases hp with rfl | hp
    · exact Nat.le_refl _
    · have := ih (c + n) p hp; omega

example : ∀ p ∈ reserveAll 1 [3, 0, 2, 5], 1 ≤ p.1 := by decide

example : rangesDisjoint (reserveAll 1 [3, 0, 2, 5]) = true := by decide
example : reserveAll 1 [3, 0, 2, 5] = [(1, 3), (4, 0), (4, 2), (6, 5)] := by decide

example : ∃ p ∈ reserveAll 1 [3, 0, 2, 5], p.1 ≤ 5 ∧ 5 < p.1 + p.2 :=
  ⟨(4, 2), by decide, by decide, by decide⟩

end MV.Sync
