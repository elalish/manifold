/-
`CreateRadixTree` builds Karras' tree: blocks, owners, `RangeEnd`, `FindSplit`, and the
well-formedness of the produced arrays (`createRadixTreeOrd_wf`).
-/
import MV.Proof.ColliderBase
import MV.Proof.ColliderDelta

namespace MV.Collider

/-- binary search of `RangeEnd`: with `step = 2^e` and the invariant
`(length = 0 ∨ P length) ∧ ¬ P (length + 2*step)` the result `r` satisfies
`(r = 0 ∨ P r) ∧ ¬ P (r+1)`.  (No monotonicity needed.) -/
theorem searchLength_spec (codes : Array Nat) (i dir cp : Int) :
    ∀ (e length : Nat),
      (length = 0 ∨ prefixLength codes i (i + dir * (length : Int)) > cp) →
      ¬ prefixLength codes i (i + dir * ((length + 2 ^ (e + 1) : Nat) : Int)) > cp →
      (searchLength codes i dir cp (2 ^ e) length = 0 ∨
        prefixLength codes i (i + dir * (searchLength codes i dir cp (2 ^ e) length : Int)) > cp) ∧
      ¬ prefixLength codes i
          (i + dir * ((searchLength codes i dir cp (2 ^ e) length + 1 : Nat) : Int)) > cp := by
  intro e
  induction e with
  | zero =>
    intro length h1 h2
    rw [searchLength]
    simp only [Nat.pow_zero, gt_iff_lt, Nat.zero_lt_one, dite_true]
    rw [searchLength]
    simp only [show ¬ (1 / 2 > 0) by decide, dite_false]
    simp only [Nat.zero_add, Nat.pow_one] at h2
    split
    · rename_i hp
      exact ⟨Or.inr hp, h2⟩
    · rename_i hp
      exact ⟨h1, hp⟩
  | succ e ih =>
    intro length h1 h2
    rw [searchLength]
    have hpos : 2 ^ (e + 1) > 0 := Nat.pow_pos (by decide)
    have hhalf : 2 ^ (e + 1) / 2 = 2 ^ e := by
      rw [Nat.pow_succ]; omega
    simp only [hpos, dite_true, hhalf]
    split
    · rename_i hp
      apply ih
      · exact Or.inr hp
      · have : length + 2 ^ (e + 1) + 2 ^ (e + 1) = length + 2 ^ (e + 1 + 1) := by
          rw [Nat.pow_succ 2 (e + 1)]; omega
        rw [this]; exact h2
    · rename_i hp
      apply ih
      · exact h1
      · exact hp

/-- exponential growth of `RangeEnd`: the result is a power of two `≥ 2` at which the predicate
fails, provided it fails everywhere from `B` on and `B ≤ m + fuel`. -/
theorem growLength_spec (codes : Array Nat) (i dir cp : Int) (B : Nat)
    (hB : ∀ x : Nat, B ≤ x → ¬ prefixLength codes i (i + dir * (x : Int)) > cp) :
    ∀ (fuel m e : Nat), m = 2 ^ (e + 1) → B ≤ m + fuel →
      ∃ e', growLength codes i dir cp fuel m = 2 ^ (e' + 1) ∧
        ¬ prefixLength codes i (i + dir * ((2 ^ (e' + 1) : Nat) : Int)) > cp := by
  intro fuel
  induction fuel with
  | zero =>
    intro m e hm hb
    refine ⟨e, hm, ?_⟩
    rw [← hm]; exact hB m (by omega)
  | succ f ih =>
    intro m e hm hb
    rw [growLength]
    split
    · have hpos : 0 < m := by rw [hm]; exact Nat.pow_pos (by decide)
      refine ih (m * kLengthMultiple) (e + 2) ?_ (by simp only [kLengthMultiple]; omega)
      show _ = 2 ^ (e + 1 + 2)
      rw [hm, kLengthMultiple, Nat.pow_add 2 (e + 1) 2]
    · rename_i hp
      exact ⟨e, hm, by rw [← hm]; exact hp⟩

/-- binary search of `FindSplit`.  `P x := x < last ∧ δ(first,x) > cp` is antitone from
`first` on; started with `split = first ∨ P split` and `¬ P (split + step)` it returns `γ` with
`γ = first ∨ P γ` and `¬ P (γ + 1)`. -/
theorem splitLoop_spec (codes : Array Nat) (first last cp : Int)
    (hmono : ∀ x y : Int, first ≤ x → x ≤ y →
      (y < last ∧ prefixLength codes first y > cp) → (x < last ∧ prefixLength codes first x > cp)) :
    ∀ (step : Nat) (split : Int), 1 ≤ step → first ≤ split →
      (split = first ∨ (split < last ∧ prefixLength codes first split > cp)) →
      ¬ (split + (step : Int) < last ∧ prefixLength codes first (split + (step : Int)) > cp) →
      first ≤ splitLoop codes first last cp step split ∧
      (splitLoop codes first last cp step split = first ∨
        (splitLoop codes first last cp step split < last ∧
          prefixLength codes first (splitLoop codes first last cp step split) > cp)) ∧
      ¬ (splitLoop codes first last cp step split + 1 < last ∧
          prefixLength codes first (splitLoop codes first last cp step split + 1) > cp) := by
  intro step
  induction step using Nat.strongRecOn with
  | _ step ih =>
    intro split hstep hfs hinv hnot
    rw [splitLoop]
    have hs1 : 1 ≤ (step + 1) / 2 := by omega
    have hs2 : step ≤ 2 * ((step + 1) / 2) := by omega
    have key : ∀ split' : Int,
        split' = (if split + (((step + 1) / 2 : Nat) : Int) < last ∧
            prefixLength codes first (split + (((step + 1) / 2 : Nat) : Int)) > cp
          then split + (((step + 1) / 2 : Nat) : Int) else split) →
        first ≤ split' ∧
        (split' = first ∨ (split' < last ∧ prefixLength codes first split' > cp)) ∧
        ¬ (split' + (((step + 1) / 2 : Nat) : Int) < last ∧
            prefixLength codes first (split' + (((step + 1) / 2 : Nat) : Int)) > cp) := by
      intro split' hdef
      split at hdef
      · rename_i hp
        subst hdef
        refine ⟨by omega, Or.inr hp, ?_⟩
        intro hq
        apply hnot
        exact hmono _ _ (by omega) (by omega) hq
      · rename_i hp
        subst hdef
        exact ⟨hfs, hinv, hp⟩
    split
    · rename_i hgt
      obtain ⟨k1, k2, k3⟩ := key _ rfl
      exact ih ((step + 1) / 2) (by omega) _ hs1 k1 k2 k3
    · rename_i hgt
      have h1 : (((step + 1) / 2 : Nat) : Int) = 1 := by omega
      obtain ⟨k1, k2, k3⟩ := key _ rfl
      refine ⟨k1, k2, ?_⟩
      generalize (if split + (((step + 1) / 2 : Nat) : Int) < last ∧
            prefixLength codes first (split + (((step + 1) / 2 : Nat) : Int)) > cp
          then split + (((step + 1) / 2 : Nat) : Int) else split) = s' at k3 ⊢
      rw [h1] at k3
      exact k3

section Blocks
variable {codes : Array Nat}

theorem pl_ge (i j : Int) : -1 ≤ prefixLength codes i j := by
  by_cases h : j < 0 ∨ (codes.size : Int) ≤ j
  · rw [prefixLength_out h]; omega
  · have := (prefixLength_bounds (codes := codes) (i := i) (j := j) (by omega) (by omega)).1
    omega

theorem delta_le_left (hs : Sorted codes) (hn : codes.size < 2 ^ 32) {i j k : Int}
    (hi0 : 0 ≤ i) (hij : i ≤ j) (hjk : j ≤ k) (hk : k < codes.size) :
    prefixLength codes i k ≤ prefixLength codes i j := by
  rw [delta_min hs hn hi0 hij hjk hk]; exact Int.min_le_left _ _

theorem delta_le_right (hs : Sorted codes) (hn : codes.size < 2 ^ 32) {i j k : Int}
    (hi0 : 0 ≤ i) (hij : i ≤ j) (hjk : j ≤ k) (hk : k < codes.size) :
    prefixLength codes i k ≤ prefixLength codes j k := by
  rw [delta_min hs hn hi0 hij hjk hk]; exact Int.min_le_right _ _

/-- along either direction the prefix length with `i` does not increase with the distance -/
theorem pl_mono_dir (hs : Sorted codes) (hn : codes.size < 2 ^ 32) {i : Int}
    (hi0 : 0 ≤ i) (hi : i < codes.size) {dir : Int} (hdir : dir = 1 ∨ dir = -1)
    {x y : Nat} (hx : 1 ≤ x) (hxy : x ≤ y) {cp : Int} (hcp : -1 ≤ cp)
    (h : prefixLength codes i (i + dir * (y : Int)) > cp) :
    prefixLength codes i (i + dir * (x : Int)) > cp := by
  rcases hdir with rfl | rfl
  · by_cases hy : i + 1 * (y : Int) < codes.size
    · have := delta_le_left hs hn (i := i) (j := i + 1 * (x : Int)) (k := i + 1 * (y : Int))
        hi0 (by omega) (by omega) hy
      omega
    · rw [prefixLength_out (Or.inr (by omega))] at h; omega
  · by_cases hy : 0 ≤ i + -1 * (y : Int)
    · have := delta_le_right hs hn (i := i + -1 * (y : Int)) (j := i + -1 * (x : Int)) (k := i)
        hy (by omega) (by omega) hi
      rw [prefixLength_symm hi0 hi hy (by omega)] at h
      rw [prefixLength_symm hi0 hi (by omega) (by omega)]
      omega
    · rw [prefixLength_out (Or.inl (by omega))] at h; omega

/-- … and is at most the prefix length of any pair that ends at the same place -/
theorem pl_far_dir (hs : Sorted codes) (hn : codes.size < 2 ^ 32) {i : Int}
    (hi0 : 0 ≤ i) (hi : i < codes.size) {dir : Int} (hdir : dir = 1 ∨ dir = -1)
    {x y : Nat} (hxy : x ≤ y) :
    prefixLength codes i (i + dir * (y : Int)) ≤
      prefixLength codes (i + dir * (x : Int)) (i + dir * (y : Int)) := by
  rcases hdir with rfl | rfl
  · by_cases hy : i + 1 * (y : Int) < codes.size
    · exact delta_le_right hs hn hi0 (by omega) (by omega) hy
    · rw [prefixLength_out (Or.inr (by omega))]; exact pl_ge _ _
  · by_cases hy : 0 ≤ i + -1 * (y : Int)
    · rw [prefixLength_symm hi0 hi hy (by omega),
        prefixLength_symm (i := i + -1 * (x : Int)) (by omega) (by omega) hy (by omega)]
      exact delta_le_left hs hn hy (by omega) (by omega) hi
    · rw [prefixLength_out (Or.inl (by omega))]; exact pl_ge _ _

theorem sign_of_pos {d : Int} (h : 0 < d) : sign d = 1 := by
  unfold sign; rw [if_pos h, if_neg (by omega)]; rfl

theorem sign_of_neg {d : Int} (h : d < 0) : sign d = -1 := by
  unfold sign; rw [if_neg (by omega), if_pos h]; rfl

/-- `RangeEnd(i)` returns the end `i + dir*len` (`len ≥ 1`) of a run that shares more with `i`
than the neighbour `i - dir` behind `i` does, when the neighbour beyond the end shares no more
with the end than `i - dir` with `i`: the direction is `dir`, and along it the comparison with
`δ(i, i-dir)` flips exactly after `len`. -/
theorem rangeEnd_of_dir (hs : Sorted codes) (hn : codes.size < 2 ^ 32) {i : Int}
    (hi0 : 0 ≤ i) (hi : i < codes.size) {dir : Int} (hdir : dir = 1 ∨ dir = -1)
    {len : Nat} (hlen : 1 ≤ len)
    (hP : prefixLength codes i (i + dir * (len : Int)) > prefixLength codes i (i - dir))
    (hfar : prefixLength codes (i + dir * (len : Int)) (i + dir * ((len + 1 : Nat) : Int)) ≤
      prefixLength codes i (i - dir)) :
    rangeEnd codes i = i + dir * (len : Int) := by
  have hmono := @pl_mono_dir codes hs hn i hi0 hi dir hdir
  have hnP : ¬ prefixLength codes i (i + dir * ((len + 1 : Nat) : Int)) >
      prefixLength codes i (i - dir) := by
    have := pl_far_dir hs hn hi0 hi hdir (x := len) (y := len + 1) (Nat.le_add_right len 1)
    omega
  have hsign : sign (prefixLength codes i (i + 1) - prefixLength codes i (i - 1)) = dir := by
    have h1 := hmono (x := 1) (y := len) (Nat.le_refl 1) hlen (pl_ge _ _) hP
    rcases hdir with rfl | rfl
    · rw [show i + 1 * ((1 : Nat) : Int) = i + 1 by omega] at h1
      exact sign_of_pos (by omega)
    · rw [show i + -1 * ((1 : Nat) : Int) = i - 1 by omega, show i - -1 = i + 1 by omega] at h1
      exact sign_of_neg (by omega)
  unfold rangeEnd
  simp only [hsign]
  generalize hcp : prefixLength codes i (i - dir) = cp at *
  have hcp1 : -1 ≤ cp := by rw [← hcp]; exact pl_ge _ _
  have hB : ∀ x : Nat, codes.size ≤ x →
      ¬ prefixLength codes i (i + dir * (x : Int)) > cp := by
    intro x hx
    have : i + dir * (x : Int) < 0 ∨ (codes.size : Int) ≤ i + dir * (x : Int) := by
      rcases hdir with rfl | rfl <;> omega
    rw [prefixLength_out this]; omega
  obtain ⟨e', hg, hng⟩ := growLength_spec codes i dir cp codes.size hB codes.size
    kInitialLength 6 (by decide) (by omega)   -- `kInitialLength = 128 = 2 ^ (6 + 1)`
  rw [hg, Nat.pow_succ, Nat.mul_div_cancel _ (by decide : 0 < 2)]
  obtain ⟨r1, r2⟩ := searchLength_spec codes i dir cp e' 0 (Or.inl rfl)
    (by rw [Nat.zero_add]; exact hng)
  generalize searchLength codes i dir cp (2 ^ e') 0 = r at r1 r2
  have hr : r = len := by
    have hP1 := hmono (x := 1) (y := len) (Nat.le_refl 1) hlen hcp1 hP
    rcases Nat.lt_trichotomy r len with hlt | heq | hgt
    · exfalso
      by_cases hr0 : r = 0
      · subst hr0; exact r2 hP1
      · exact r2 (hmono (x := r + 1) (y := len) (by omega) (by omega) hcp1 hP)
    · exact heq
    · exfalso
      rcases r1 with r1 | r1
      · omega
      · exact hnP (hmono (x := len + 1) (y := r) (by omega) (by omega) hcp1 r1)
  rw [hr]

/-- `FindSplit(first,last)` for `first < last`: the split `γ` lies in `[first, last-1]`, the
prefix across the split is exactly the block's prefix, and both halves share strictly more. -/
theorem findSplit_spec (hs : Sorted codes) (hn : codes.size < 2 ^ 32) {f l : Int}
    (hf0 : 0 ≤ f) (hfl : f < l) (hl : l < codes.size) :
    f ≤ findSplit codes f l ∧ findSplit codes f l < l ∧
    prefixLength codes (findSplit codes f l) (findSplit codes f l + 1) = prefixLength codes f l ∧
    (f < findSplit codes f l →
      prefixLength codes f (findSplit codes f l) > prefixLength codes f l) ∧
    (findSplit codes f l + 1 < l →
      prefixLength codes (findSplit codes f l + 1) l > prefixLength codes f l) := by
  unfold findSplit
  generalize hcp : prefixLength codes f l = cp
  have hcp63 : cp ≤ 63 := by
    rw [← hcp]
    exact (prefixLength_range hf0 (Int.le_trans hf0 (Int.le_of_lt hfl)) hl (Int.ne_of_lt hfl)).2
  have hmono : ∀ x y : Int, f ≤ x → x ≤ y →
      (y < l ∧ prefixLength codes f y > cp) → (x < l ∧ prefixLength codes f x > cp) := by
    intro x y hx hxy ⟨hy, hp⟩
    have := delta_le_left hs hn (i := f) (j := x) (k := y) hf0 hx hxy (Int.lt_trans hy hl)
    exact ⟨Int.lt_of_le_of_lt hxy hy, Int.lt_of_lt_of_le hp this⟩
  have hstep : ((l - f).toNat : Int) = l - f := by omega
  obtain ⟨g1, g2, g3⟩ := splitLoop_spec codes f l cp hmono (l - f).toNat f (by omega)
    (Int.le_refl _) (Or.inl rfl) (by rw [hstep]; intro h; omega)
  generalize splitLoop codes f l cp (l - f).toNat f = γ at g1 g2 g3
  have hγl : γ < l := by
    rcases g2 with g2 | g2
    · omega
    · exact g2.1
  have hfγ : prefixLength codes f γ > cp := by
    rcases g2 with g2 | g2
    · rw [g2, prefixLength_self hf0 (Int.lt_trans hfl hl)]; omega
    · exact g2.2
  have hle : prefixLength codes f (γ + 1) ≤ cp := by
    by_cases h : γ + 1 < l
    · have : ¬ prefixLength codes f (γ + 1) > cp := fun hp => g3 ⟨h, hp⟩
      omega
    · have : γ + 1 = l := by omega
      rw [this, hcp]; exact Int.le_refl _
  have hge : cp ≤ prefixLength codes f (γ + 1) := by
    rw [← hcp]
    exact delta_le_left hs hn hf0 (Int.le_trans g1 (Int.le_add_one (Int.le_refl γ))) hγl hl
  have hmin := delta_min hs hn (i := f) (j := γ) (k := γ + 1) hf0 g1
    (Int.le_add_one (Int.le_refl γ)) (Int.lt_of_le_of_lt hγl hl)
  have hsplit : prefixLength codes γ (γ + 1) = cp := by
    rw [Int.min_def] at hmin
    split at hmin <;> omega
  refine ⟨g1, hγl, hsplit, fun _ => hfγ, ?_⟩
  intro hlt
  have hne := delta_ne hs hn (i := γ) (j := γ + 1) (k := l) (Int.le_trans hf0 g1)
    (Int.lt_add_one_iff.mpr (Int.le_refl γ)) hlt hl
  have hge2 : cp ≤ prefixLength codes (γ + 1) l := by
    rw [← hcp]
    exact delta_le_right hs hn hf0 (Int.le_trans g1 (Int.le_add_one (Int.le_refl γ))) hγl hl
  omega

/-- a *block*: a run of at least two consecutive leaves whose common prefix is strictly longer
than the prefix shared with either outer neighbour (`-1` outside the array) -/
def IsBlock (codes : Array Nat) (f l : Int) : Prop :=
  0 ≤ f ∧ f < l ∧ l < codes.size ∧
  prefixLength codes f l > prefixLength codes f (f - 1) ∧
  prefixLength codes f l > prefixLength codes l (l + 1)

/-- the internal node that owns the block: the end whose outer neighbour is closer -/
def owner (codes : Array Nat) (f l : Int) : Int :=
  if prefixLength codes f (f - 1) ≥ prefixLength codes l (l + 1) then f else l

theorem isBlock_root (hn : codes.size < 2 ^ 32) (h2 : 2 ≤ codes.size) :
    IsBlock codes 0 ((codes.size : Int) - 1) ∧ owner codes 0 ((codes.size : Int) - 1) = 0 := by
  have e1 : prefixLength codes 0 (0 - 1) = -1 := prefixLength_out (Or.inl (by omega))
  have e2 : prefixLength codes ((codes.size : Int) - 1) ((codes.size : Int) - 1 + 1) = -1 :=
    prefixLength_out (Or.inr (by omega))
  have := (prefixLength_range (codes := codes) (i := 0) (j := (codes.size : Int) - 1) (by omega)
    (by omega) (by omega) (by omega)).1
  refine ⟨⟨by omega, by omega, by omega, by omega, by omega⟩, ?_⟩
  simp only [owner]
  rw [if_pos (by omega)]

theorem rangeEnd_owner_first (hs : Sorted codes) (hn : codes.size < 2 ^ 32) {f l : Int}
    (hb : IsBlock codes f l)
    (ho : prefixLength codes f (f - 1) ≥ prefixLength codes l (l + 1)) :
    rangeEnd codes f = l := by
  obtain ⟨hf0, hfl, hl, hb1, _⟩ := hb
  have e1 : f + 1 * ((l - f).toNat : Int) = l := by omega
  have e2 : f + 1 * (((l - f).toNat + 1 : Nat) : Int) = l + 1 := by omega
  have := rangeEnd_of_dir hs hn hf0 (by omega) (Or.inl rfl) (len := (l - f).toNat) (by omega)
    (by rw [e1]; exact hb1) (by rw [e1, e2]; exact ho)
  rwa [e1] at this

theorem rangeEnd_owner_last (hs : Sorted codes) (hn : codes.size < 2 ^ 32) {f l : Int}
    (hb : IsBlock codes f l)
    (ho : ¬ prefixLength codes f (f - 1) ≥ prefixLength codes l (l + 1)) :
    rangeEnd codes l = f := by
  obtain ⟨hf0, hfl, hl, _, hb2⟩ := hb
  have e0 : l - -1 = l + 1 := by omega
  have e1 : l + -1 * ((l - f).toNat : Int) = f := by omega
  have e2 : l + -1 * (((l - f).toNat + 1 : Nat) : Int) = f - 1 := by omega
  have := rangeEnd_of_dir hs hn (i := l) (by omega) hl (Or.inr rfl) (len := (l - f).toNat) (by omega)
    (by rw [e0, e1, prefixLength_symm (by omega) hl hf0 (by omega)]; exact hb2)
    (by rw [e0, e1, e2]; omega)
  rwa [e1] at this

/-- the two halves of a split block: each is a single leaf or a block, owned by `γ` resp.
`γ+1` -/
theorem isBlock_left (hs : Sorted codes) (hn : codes.size < 2 ^ 32) {f l : Int}
    (hb : IsBlock codes f l) (hlt : f < findSplit codes f l) :
    IsBlock codes f (findSplit codes f l) ∧ owner codes f (findSplit codes f l) = findSplit codes f l := by
  obtain ⟨hf0, hfl, hl, hb1, hb2⟩ := hb
  obtain ⟨g1, g2, g3, g4, _⟩ := findSplit_spec hs hn hf0 hfl hl
  have := g4 hlt
  refine ⟨⟨hf0, hlt, by omega, by omega, by omega⟩, ?_⟩
  simp only [owner]
  rw [if_neg (by omega)]

theorem isBlock_right (hs : Sorted codes) (hn : codes.size < 2 ^ 32) {f l : Int}
    (hb : IsBlock codes f l) (hlt : findSplit codes f l + 1 < l) :
    IsBlock codes (findSplit codes f l + 1) l ∧
      owner codes (findSplit codes f l + 1) l = findSplit codes f l + 1 := by
  obtain ⟨hf0, hfl, hl, hb1, hb2⟩ := hb
  obtain ⟨g1, g2, g3, _, g5⟩ := findSplit_spec hs hn hf0 hfl hl
  have := g5 hlt
  have e : findSplit codes f l + 1 - 1 = findSplit codes f l := by omega
  have hsym : prefixLength codes (findSplit codes f l + 1) (findSplit codes f l) =
      prefixLength codes (findSplit codes f l) (findSplit codes f l + 1) :=
    prefixLength_symm (by omega) (by omega) (by omega) (by omega)
  have hge : prefixLength codes f l ≤ prefixLength codes (findSplit codes f l + 1) l :=
    delta_le_right hs hn hf0 (by omega) (by omega) hl
  refine ⟨⟨by omega, hlt, hl, by rw [e, hsym]; omega, by omega⟩, ?_⟩
  simp only [owner, e, hsym]
  rw [if_pos (by omega)]

end Blocks

theorem children_getElem? (codes : Array Nat) (order : List Nat) (k : Nat)
    (hk : k < codes.size - 1) (hmem : k ∈ order) :
    (createRadixTreeOrd codes order).1[k]? = some (radixNode codes k) := by
  simp only [createRadixTreeOrd]
  rw [Array.foldl_setIfInBounds_getElem? (radixNode codes)]
  simp [hmem, hk]

theorem children_size (codes : Array Nat) (order : List Nat) :
    (createRadixTreeOrd codes order).1.size = codes.size - 1 := by
  simp only [createRadixTreeOrd]
  rw [Array.foldl_setIfInBounds_size (radixNode codes)]
  simp

theorem recordParent_size (codes : Array Nat) (p : Array Int) (k : Nat) :
    (recordParent codes p k).size = p.size := by
  simp only [recordParent]
  split <;> simp

theorem parent_size (codes : Array Nat) (order : List Nat) :
    (createRadixTreeOrd codes order).2.size = 2 * codes.size - 1 := by
  simp only [createRadixTreeOrd]
  have : ∀ (order : List Nat) (a : Array Int),
      (order.foldl (recordParent codes) a).size = a.size := by
    intro order
    induction order with
    | nil => intro a; rfl
    | cons i rest ih => intro a; simp only [List.foldl_cons, ih, recordParent_size]
  rw [this]; simp

theorem recordParent_getElem? (codes : Array Nat) (p : Array Int) (k c : Nat)
    (h1 : 0 ≤ (radixNode codes k).1) (h2 : 0 ≤ (radixNode codes k).2) :
    (recordParent codes p k)[c]? =
      if (c = (radixNode codes k).1.toNat ∨ c = (radixNode codes k).2.toNat) ∧ c < p.size
      then some (internal2Node k) else p[c]? := by
  simp only [recordParent]
  rw [if_neg (by omega)]
  simp only [Array.getElem?_setIfInBounds, Array.size_setIfInBounds]
  by_cases e2 : (radixNode codes k).2.toNat = c
  · by_cases hc : c < p.size
    · simp [e2, hc]
    · simp [e2, hc]
  · by_cases e1 : (radixNode codes k).1.toNat = c
    · by_cases hc : c < p.size
      · simp [e1, e2, hc]
      · simp [e1, e2, hc]
    · have e1' : ¬ c = (radixNode codes k).1.toNat := fun e => e1 e.symm
      have e2' : ¬ c = (radixNode codes k).2.toNat := fun e => e2 e.symm
      simp [e1, e2, e1', e2']

/-- a cell after a fold of writes: if some step of the schedule writes cell `c` (`W k`), or the
cell held `x` from the start, and every step that writes `c` writes `x`, the cell holds `x` -/
theorem foldl_writes_getElem? {α : Type} (f : Array α → Nat → Array α) (W : Nat → Prop)
    (v : Nat → α) (c : Nat) (x : α) :
    ∀ (order : List Nat) (p : Array α), c < p.size →
      (∀ k ∈ order, ∀ p : Array α, c < p.size → c < (f p k).size ∧
        (W k → (f p k)[c]? = some (v k)) ∧ (¬ W k → (f p k)[c]? = p[c]?)) →
      (∀ k ∈ order, W k → v k = x) →
      ((∃ k ∈ order, W k) ∨ p[c]? = some x) →
      (order.foldl f p)[c]? = some x := by
  intro order
  induction order with
  | nil =>
    intro p _ _ _ h
    rcases h with ⟨k, hk, _⟩ | h
    · simp at hk
    · exact h
  | cons i rest ih =>
    intro p hc hstep hall hex
    obtain ⟨hsz, hw1, hw0⟩ := hstep i List.mem_cons_self p hc
    refine ih _ hsz (fun k hk => hstep k (List.mem_cons_of_mem _ hk))
      (fun k hk => hall k (List.mem_cons_of_mem _ hk)) ?_
    by_cases hr : ∃ k ∈ rest, W k
    · exact Or.inl hr
    · right
      by_cases hw : W i
      · rw [hw1 hw, hall i List.mem_cons_self hw]
      · rw [hw0 hw]
        rcases hex with ⟨k, hk, hkw⟩ | h
        · rcases List.mem_cons.mp hk with e | e
          · subst e; exact absurd hkw hw
          · exact absurd ⟨k, e, hkw⟩ hr
        · exact h

section Tree
variable {codes : Array Nat}

/-- `CreateRadixTree::operator()` at the owner of a block -/
theorem radixNode_block (hs : Sorted codes) (hn : codes.size < 2 ^ 32) {f l : Int}
    (hb : IsBlock codes f l) (i : Nat) (hi : (i : Int) = owner codes f l) :
    radixNode codes i =
      (if findSplit codes f l = f then leaf2Node (findSplit codes f l)
        else internal2Node (findSplit codes f l),
       if findSplit codes f l + 1 = l then leaf2Node (findSplit codes f l + 1)
        else internal2Node (findSplit codes f l + 1)) := by
  have hfl := hb.2.1
  unfold radixNode
  simp only [owner] at hi
  split at hi
  · rename_i ho
    simp only [hi, rangeEnd_owner_first hs hn hb ho, if_neg (show ¬ f > l by omega)]
  · rename_i ho
    simp only [hi, rangeEnd_owner_last hs hn hb ho, if_pos (show l > f by omega)]

theorem owner_lt {f l : Int} (hb : IsBlock codes f l) : owner codes f l < (codes.size : Int) - 1 := by
  obtain ⟨hf0, hfl, hl, _, _⟩ := hb
  rw [owner]
  split
  · omega
  · rename_i ho
    have : l + 1 < codes.size := by
      apply Classical.byContradiction
      intro hc
      exact ho (by rw [prefixLength_out (i := l) (j := l + 1) (Or.inr (by omega))]; exact pl_ge _ _)
    omega

/-- a segment `[f, l]` of the leaves that is a single leaf or a block; `o` is the end that carries
the block's internal node -/
def Seg (codes : Array Nat) (f l o : Nat) : Prop :=
  f ≤ l ∧ l < codes.size ∧ (o = f ∨ o = l) ∧ (f < l → IsBlock codes f l ∧ owner codes f l = o)

/-- the node number of a segment -/
def nodeId (f l o : Nat) : Int := if f = l then leaf2Node f else internal2Node o

theorem nodeId_cases {f l o : Nat} (h : f = l → o = f) :
    nodeId f l o = 2 * (o : Int) ∨ nodeId f l o = 2 * (o : Int) + 1 := by
  unfold nodeId leaf2Node internal2Node
  split
  · next e => left; rw [h e]; omega
  · right; omega

/-- `FindSplit` cuts a block into two segments whose inner ends carry their nodes, and
`CreateRadixTree::operator()` at the block's node records exactly these two -/
theorem seg_split (hs : Sorted codes) (hn : codes.size < 2 ^ 32) {f l o : Nat}
    (h : Seg codes f l o) (hfl : f < l) :
    ∃ g : Nat, findSplit codes f l = g ∧ f ≤ g ∧ g < l ∧
      Seg codes f g g ∧ Seg codes (g + 1) l (g + 1) ∧ o < codes.size - 1 ∧
      radixNode codes o = (nodeId f g g, nodeId (g + 1) l (g + 1)) ∧
      prefixLength codes f l < prefixLength codes f g ∧
      prefixLength codes f l < prefixLength codes ((g + 1 : Nat) : Int) l := by
  obtain ⟨hb, ho⟩ := h.2.2.2 hfl
  obtain ⟨hf0, hfl', hl, _, _⟩ := id hb
  obtain ⟨g1, g2, _, g4, g5⟩ := findSplit_spec hs hn hf0 hfl' hl
  have hrn := radixNode_block hs hn hb o ho.symm
  have hleft := isBlock_left hs hn hb
  have hright := isBlock_right hs hn hb
  have ho1 := owner_lt hb
  have hr := (prefixLength_range hf0 (Int.le_trans hf0 (Int.le_of_lt hfl')) hl (Int.ne_of_lt hfl')).2
  generalize findSplit codes f l = γ at *
  obtain ⟨g, rfl⟩ : ∃ g : Nat, γ = g := ⟨γ.toNat, by omega⟩
  have e1 : ((g + 1 : Nat) : Int) = (g : Int) + 1 := Int.natCast_succ g
  refine ⟨g, rfl, by omega, by omega, ⟨by omega, by omega, Or.inr rfl, fun h => hleft (by omega)⟩,
    ⟨by omega, by omega, Or.inl rfl, fun h => e1 ▸ hright (by omega)⟩, by omega, ?_, ?_, ?_⟩
  · rw [hrn, nodeId, nodeId, e1]
    congr 1
    · by_cases ea : f = g
      · subst ea; rw [if_pos rfl, if_pos rfl]
      · rw [if_neg ea, if_neg (by omega)]
    · by_cases eb : g + 1 = l
      · rw [if_pos eb, if_pos (by omega)]
      · rw [if_neg eb, if_neg (by omega)]
  · by_cases e : f = g
    · rw [← e, prefixLength_self hf0 (by omega)]; omega
    · exact g4 (by omega)
  · rw [e1]
    by_cases e : g + 1 = l
    · rw [show (g : Int) + 1 = l by omega, prefixLength_self (by omega) hl]; omega
    · exact g5 (by omega)

/-- the specification tree for `[f,l]` (fuel `≥ l - f`) -/
def ktree (codes : Array Nat) : Nat → Nat → Nat → T
  | 0, f, _ => .leaf f
  | fuel + 1, f, l =>
    if f < l then
      .node (owner codes f l).toNat
        (ktree codes fuel f (findSplit codes f l).toNat)
        (ktree codes fuel ((findSplit codes f l).toNat + 1) l)
    else .leaf f

theorem ktree_of_not_lt {f l : Nat} (h : ¬ f < l) : ∀ fuel, ktree codes fuel f l = .leaf f
  | 0 => rfl
  | _ + 1 => by rw [ktree, if_neg h]

theorem cover_match_of_id (a : T) (x : Nat) :
    (a.id = 2 * (x : Int) ∨ a.id = 2 * (x : Int) + 1) →
    (match a with | .leaf _ => true | .node ka _ _ => ka == x) = true := by
  cases a with
  | leaf i => intro _; rfl
  | node ka _ _ =>
    intro h
    simp only [T.id] at h
    simp only [beq_iff_eq]
    omega

/-- the arrays contain the specification tree of every segment, with the block structure, the
node number of the segment at its top, and height bounded by the bits left below the block's
prefix -/
theorem ktree_spec (hs : Sorted codes) (hn : codes.size < 2 ^ 32) {ch : Array (Int × Int)}
    (hch : ∀ k, k < codes.size - 1 → ch[k]? = some (radixNode codes k)) :
    ∀ (fuel f l o : Nat), l - f ≤ fuel → Seg codes f l o →
      Rep ch (ktree codes fuel f l) ∧ (ktree codes fuel f l).cover f l = true ∧
      (ktree codes fuel f l).id = nodeId f l o ∧
      ((ktree codes fuel f l).height : Int) ≤ 64 - prefixLength codes f l := by
  intro fuel
  induction fuel with
  | zero =>
    intro f l o hfuel hseg
    have hfl : f = l := by have := hseg.1; omega
    subst hfl
    rw [ktree, prefixLength_self (by omega) (by have := hseg.2.1; omega)]
    simp only [Rep, T.cover, T.id, T.height, nodeId, leaf2Node, if_true, beq_self_eq_true,
      Bool.and_self, true_and]
    omega
  | succ fuel ih =>
    intro f l o hfuel hseg
    by_cases hfl : f < l
    · obtain ⟨g, hg, hfg, hgl, sA, sB, ho, hrn, dA, dB⟩ := seg_split hs hn hseg hfl
      obtain ⟨ra, ca, ida, ha⟩ := ih f g g (by omega) sA
      obtain ⟨rb, cb, idb, hb⟩ := ih (g + 1) l (g + 1) (by omega) sB
      have hkt : ktree codes (fuel + 1) f l =
          .node o (ktree codes fuel f g) (ktree codes fuel (g + 1) l) := by
        rw [ktree, if_pos hfl, (hseg.2.2.2 hfl).2, hg, Int.toNat_natCast, Int.toNat_natCast]
      rw [hkt]
      refine ⟨⟨?_, ra, rb⟩, ?_, ?_, ?_⟩
      · rw [hch o ho, hrn, ida, idb]
      · simp only [T.cover, (cover_first_last _ _ _ ca).2.1, Bool.and_eq_true, decide_eq_true_eq,
          Bool.or_eq_true, beq_iff_eq]
        exact ⟨⟨⟨⟨⟨hfl, hseg.2.2.1⟩, ca⟩, cb⟩,
          cover_match_of_id _ g (ida ▸ nodeId_cases (fun e => e.symm))⟩,
          cover_match_of_id _ (g + 1) (idb ▸ nodeId_cases (fun _ => rfl))⟩
      · rw [nodeId, if_neg (by omega), T.id, internal2Node]; omega
      · rw [T.height_node]
        have := (prefixLength_range (codes := codes) (i := f) (j := l) (by omega) (by omega)
          (by have := hseg.2.1; omega) (by omega)).2
        omega
    · rw [ktree_of_not_lt hfl, ← ktree_of_not_lt hfl fuel]
      exact ih f l o (by omega) hseg

end Tree

/-- all node numbers of a tree -/
def T.ids : T → List Int
  | .leaf i => [2 * (i : Int)]
  | .node k a b => (2 * (k : Int) + 1) :: (a.ids ++ b.ids)

/-- `(child node, parent internal index)` for every edge of the tree -/
def T.pairs : T → List (Int × Nat)
  | .leaf _ => []
  | .node k a b => (a.id, k) :: (b.id, k) :: (a.pairs ++ b.pairs)

theorem mem_ids (t : T) (x : Int) :
    x ∈ t.ids ↔ (∃ i ∈ t.leaves, x = 2 * (i : Int)) ∨ (∃ k ∈ t.internals, x = 2 * (k : Int) + 1) := by
  induction t with
  | leaf i => simp [T.ids, T.leaves, T.internals]
  | node k a b iha ihb =>
    simp only [T.ids, T.leaves, T.internals, List.mem_cons, List.mem_append, iha, ihb,
      or_and_right, exists_or, exists_eq_left]
    exact iff_of_eq (by ac_rfl)

theorem nodup_ids (t : T) : t.leaves.Nodup → t.internals.Nodup → t.ids.Nodup := by
  induction t with
  | leaf i => intro _ _; simp [T.ids]
  | node k a b iha ihb =>
    intro hl hi
    simp only [T.leaves, List.nodup_append] at hl
    simp only [T.internals, List.nodup_cons, List.nodup_append, List.mem_append] at hi
    obtain ⟨la, lb, lab⟩ := hl
    obtain ⟨hk, ia, ib, iab⟩ := hi
    simp only [T.ids, List.nodup_cons, List.nodup_append, List.mem_append]
    refine ⟨?_, iha la ia, ihb lb ib, ?_⟩
    · intro h
      rcases h with h | h
      · rcases (mem_ids a _).mp h with ⟨i, _, e⟩ | ⟨j, hj, e⟩
        · omega
        · have : k = j := by omega
          subst this; exact hk (Or.inl hj)
      · rcases (mem_ids b _).mp h with ⟨i, _, e⟩ | ⟨j, hj, e⟩
        · omega
        · have : k = j := by omega
          subst this; exact hk (Or.inr hj)
    · intro x hx y hy e
      subst e
      rcases (mem_ids a _).mp hx with ⟨i, hi, e⟩ | ⟨j, hj, e⟩
      · rcases (mem_ids b _).mp hy with ⟨i', hi', e'⟩ | ⟨j', hj', e'⟩
        · have : i = i' := by omega
          subst this; exact lab i hi i hi' rfl
        · omega
      · rcases (mem_ids b _).mp hy with ⟨i', hi', e'⟩ | ⟨j', hj', e'⟩
        · omega
        · have : j = j' := by omega
          subst this; exact iab j hj j hj' rfl

theorem ids_eq_cons (t : T) : t.ids = t.id :: t.ids.tail := by
  cases t <;> rfl

/-- the child numbers are the node numbers without the root, up to order -/
theorem pairs_keys_perm : ∀ t : T, (t.pairs.map Prod.fst).Perm t.ids.tail
  | .leaf _ => List.Perm.refl _
  | .node k a b => by
    simp only [T.pairs, T.ids, List.map_cons, List.map_append, List.tail_cons]
    rw [ids_eq_cons a, ids_eq_cons b]
    exact (((pairs_keys_perm a).append (pairs_keys_perm b)).cons _).trans List.perm_middle.symm
      |>.cons _

/-- child numbers are node numbers of the tree other than its root, and occur once -/
theorem pairs_keys (t : T) (h : t.ids.Nodup) :
    (t.pairs.map Prod.fst).Nodup ∧ ∀ c ∈ t.pairs.map Prod.fst, c ∈ t.ids ∧ c ≠ t.id := by
  have hp := pairs_keys_perm t
  rw [ids_eq_cons, List.nodup_cons] at h
  refine ⟨hp.nodup_iff.mpr h.2, fun c hc => ?_⟩
  have := hp.mem_iff.mp hc
  exact ⟨List.mem_of_mem_tail this, fun e => h.1 (e ▸ this)⟩

/-- the edges of a represented tree are the entries of `internalChildren_` at its internal
indices -/
theorem mem_pairs_iff {ch : Array (Int × Int)} (t : T) : Rep ch t → ∀ c k,
    (c, k) ∈ t.pairs ↔
      k ∈ t.internals ∧ ∃ c1 c2, ch[k]? = some (c1, c2) ∧ (c = c1 ∨ c = c2) := by
  induction t with
  | leaf i => intro _ c k; simp [T.pairs, T.internals]
  | node k0 a b iha ihb =>
    intro ⟨hc, ra, rb⟩ c k
    simp only [T.pairs, T.internals, List.mem_cons, List.mem_append, Prod.mk.injEq, iha ra, ihb rb]
    constructor
    · rintro (⟨rfl, rfl⟩ | ⟨rfl, rfl⟩ | ⟨m, r⟩ | ⟨m, r⟩)
      · exact ⟨Or.inl rfl, _, _, hc, Or.inl rfl⟩
      · exact ⟨Or.inl rfl, _, _, hc, Or.inr rfl⟩
      · exact ⟨Or.inr (Or.inl m), r⟩
      · exact ⟨Or.inr (Or.inr m), r⟩
    · rintro ⟨rfl | m | m, c1, c2, e, hor⟩
      · rw [hc] at e; cases e
        exact hor.imp (fun h => ⟨h, rfl⟩) (fun h => Or.inl ⟨h, rfl⟩)
      · exact Or.inr (Or.inr (Or.inl ⟨m, c1, c2, e, hor⟩))
      · exact Or.inr (Or.inr (Or.inr ⟨m, c1, c2, e, hor⟩))

theorem parentOk_of_pairs (parent : Array Int) (t : T) :
    (∀ c k, (c, k) ∈ t.pairs → parent[c.toNat]? = some (2 * (k : Int) + 1)) →
    t.parentOk parent = true := by
  induction t with
  | leaf i => intro _; rfl
  | node k a b iha ihb =>
    intro h
    simp only [T.parentOk, Bool.and_eq_true, beq_iff_eq]
    refine ⟨⟨⟨h _ _ (by simp [T.pairs]), h _ _ (by simp [T.pairs])⟩, iha ?_⟩, ihb ?_⟩
    · intro c k' hm; exact h c k' (by simp [T.pairs, hm])
    · intro c k' hm; exact h c k' (by simp [T.pairs, hm])

/-- **The arrays written by `CreateRadixTree` are a well-formed Karras tree** — for every
`n ≥ 2`, every sorted code array (`< 2^32`, duplicates allowed), and every execution order of
the `for_each_n` that runs each internal index at least once. -/
theorem createRadixTreeOrd_wf {codes : Array Nat} (hs : Sorted codes) (hn : codes.size < 2 ^ 32)
    (h2 : 2 ≤ codes.size) (order : List Nat)
    (hord1 : ∀ k, k < codes.size - 1 → k ∈ order)
    (hord2 : ∀ k ∈ order, k < codes.size - 1) :
    wfTree (createRadixTreeOrd codes order).1 (createRadixTreeOrd codes order).2 codes.size
      = true := by
  have hch : ∀ k, k < codes.size - 1 →
      (createRadixTreeOrd codes order).1[k]? = some (radixNode codes k) :=
    fun k hk => children_getElem? codes order k hk (hord1 k hk)
  obtain ⟨hroot, hown⟩ := isBlock_root hn h2
  have hcast : (((codes.size - 1 : Nat)) : Int) = (codes.size : Int) - 1 := by omega
  have hspec := ktree_spec hs hn hch codes.size 0 (codes.size - 1) 0 (by omega)
    ⟨by omega, by omega, Or.inl rfl, fun _ => by rw [hcast]; exact ⟨hroot, hown⟩⟩
  generalize ht : ktree codes codes.size 0 (codes.size - 1) = t at hspec
  obtain ⟨hrep, hcov, hid, hh⟩ := hspec
  have h0 : ((0 : Nat) : Int) = 0 := rfl
  rw [hcast, h0] at hh
  have hid1 : t.id = 1 := by rw [hid, nodeId, if_neg (by omega)]; rfl
  have hδ := Int.lt_of_le_of_lt (pl_ge (codes := codes) 0 (0 - 1)) hroot.2.2.2.1
  have htree : toTree (createRadixTreeOrd codes order).1 65 kRoot = some t := by
    have := toTree_of_rep t 65 hrep (by omega)
    rw [hid1] at this; exact this
  have hleaves : ∀ i, i ∈ t.leaves ↔ i < codes.size := by
    intro i; rw [mem_leaves_of_cover hcov]; omega
  have hints : ∀ k, k ∈ t.internals ↔ k < codes.size - 1 := mem_internals_root hcov hid1
  have hnd : t.ids.Nodup :=
    nodup_ids t (nodup_leaves_of_cover hcov) (cover_internals _ _ _ hcov).1
  obtain ⟨hkeys, hkmem⟩ := pairs_keys t hnd
  have hbound : ∀ c, c ∈ t.ids → 0 ≤ c ∧ c.toNat < 2 * codes.size - 1 := by
    intro c hc
    rcases (mem_ids t c).mp hc with ⟨i, hi, e⟩ | ⟨k, hk, e⟩
    · have := (hleaves i).mp hi; omega
    · have := (hints k).mp hk; omega
  -- what the schedule writes: the child numbers of `t`, each by its parent
  have hchild : ∀ k ∈ order, ∀ d, (d = (radixNode codes k).1 ∨ d = (radixNode codes k).2) →
      (d, k) ∈ t.pairs ∧ 0 ≤ d := by
    intro k hk d hd
    have m := (mem_pairs_iff t hrep d k).mpr
      ⟨(hints k).mpr (hord2 k hk), _, _, hch k (hord2 k hk), hd⟩
    exact ⟨m, (hbound d (hkmem d (List.mem_map.mpr ⟨_, m, rfl⟩)).1).1⟩
  have hpos : ∀ k ∈ order, 0 ≤ (radixNode codes k).1 ∧ 0 ≤ (radixNode codes k).2 :=
    fun k hk => ⟨(hchild k hk _ (Or.inl rfl)).2, (hchild k hk _ (Or.inr rfl)).2⟩
  have hwrite : ∀ k ∈ order, ∀ c : Nat,
      (c = (radixNode codes k).1.toNat ∨ c = (radixNode codes k).2.toNat) →
      ∃ d, (d, k) ∈ t.pairs ∧ 0 ≤ d ∧ c = d.toNat := by
    intro k hk c hw
    rcases hw with e | e
    · exact ⟨_, (hchild k hk _ (Or.inl rfl)).1, (hpos k hk).1, e⟩
    · exact ⟨_, (hchild k hk _ (Or.inr rfl)).1, (hpos k hk).2, e⟩
  have hpsize : (Array.replicate (2 * codes.size - 1) (-1 : Int)).size = 2 * codes.size - 1 :=
    Array.size_replicate
  -- one step of the schedule, seen from cell `c`
  have hstep : ∀ c : Nat, ∀ k ∈ order, ∀ p : Array Int, c < p.size →
      c < (recordParent codes p k).size ∧
      ((c = (radixNode codes k).1.toNat ∨ c = (radixNode codes k).2.toNat) →
        (recordParent codes p k)[c]? = some (internal2Node k)) ∧
      (¬ (c = (radixNode codes k).1.toNat ∨ c = (radixNode codes k).2.toNat) →
        (recordParent codes p k)[c]? = p[c]?) := by
    intro c k hk p hc
    have := recordParent_getElem? codes p k c (hpos k hk).1 (hpos k hk).2
    exact ⟨by rw [recordParent_size]; exact hc, fun hw => by rw [this, if_pos ⟨hw, hc⟩],
      fun hw => by rw [this, if_neg (fun h => hw h.1)]⟩
  have hpar : ∀ c k, (c, k) ∈ t.pairs →
      (createRadixTreeOrd codes order).2[c.toNat]? = some (2 * (k : Int) + 1) := by
    intro c k hm
    obtain ⟨hc0, hcb⟩ := hbound c (hkmem c (List.mem_map.mpr ⟨_, hm, rfl⟩)).1
    obtain ⟨hkint, c1, c2, e, hor⟩ := (mem_pairs_iff t hrep c k).mp hm
    have hkn := (hints k).mp hkint
    rw [hch k hkn] at e
    have e' : radixNode codes k = (c1, c2) := Option.some.inj e
    refine foldl_writes_getElem? _ _ _ c.toNat (2 * (k : Int) + 1) order _
      (by rw [hpsize]; exact hcb) (hstep _) ?_ (Or.inl ⟨k, hord1 k hkn, ?_⟩)
    · intro k' hk' hw
      obtain ⟨d, md, hd0, ed⟩ := hwrite k' hk' _ hw
      have hdc : d = c := by
        rw [← Int.toNat_of_nonneg hd0, ← ed, Int.toNat_of_nonneg hc0]
      rw [(Prod.mk.inj (eq_of_fst_eq_of_nodup (x := (c, k')) hkeys (hdc ▸ md) hm rfl)).2, internal2Node]; omega
    · rw [e']
      exact hor.imp (congrArg Int.toNat) (congrArg Int.toNat)
  have hroot1 : (createRadixTreeOrd codes order).2[1]? = some (-1) := by
    refine foldl_writes_getElem? _ _ _ 1 (-1) order _ (by rw [hpsize]; omega) (hstep 1) ?_
      (Or.inr (by rw [Array.getElem?_replicate, if_pos (by omega)]))
    intro k hk hw
    obtain ⟨d, md, hd0, ed⟩ := hwrite k hk _ hw
    have hd1 : d = t.id := by rw [hid1]; omega
    exact absurd hd1 (hkmem d (List.mem_map.mpr ⟨_, md, rfl⟩)).2
  exact wfTree_iff.mpr ⟨t, h2, children_size codes order, parent_size codes order, htree, hcov,
    parentOk_of_pairs _ t hpar, hroot1⟩

theorem createRadixTree_wf {codes : Array Nat} (hs : Sorted codes) (hn : codes.size < 2 ^ 32)
    (h2 : 2 ≤ codes.size) :
    wfTree (createRadixTree codes).1 (createRadixTree codes).2 codes.size = true := by
  unfold createRadixTree
  apply createRadixTreeOrd_wf hs hn h2
  · intro k hk; exact List.mem_range.mpr hk
  · intro k hk; exact List.mem_range.mp hk

theorem createRadixTreeOrd_children_eq (codes : Array Nat) (order : List Nat)
    (hord1 : ∀ k, k < codes.size - 1 → k ∈ order) :
    (createRadixTreeOrd codes order).1 = (createRadixTree codes).1 := by
  apply Array.ext_getElem?
  intro k
  by_cases hk : k < codes.size - 1
  · rw [children_getElem? codes order k hk (hord1 k hk)]
    unfold createRadixTree
    rw [children_getElem? codes _ k hk (List.mem_range.mpr hk)]
  · have s1 := children_size codes order
    have s2 := children_size codes (List.range (codes.size - 1))
    unfold createRadixTree
    rw [Array.getElem?_eq_none (by omega), Array.getElem?_eq_none (by omega)]

end MV.Collider
