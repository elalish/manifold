import Mathlib.Analysis.Convex.Combination
import Mathlib.Analysis.Convex.PathConnected
import Mathlib.Topology.Connected.Clopen
import Mathlib.Topology.MetricSpace.HausdorffDistance
import Mathlib.Analysis.Normed.Module.Basic
/-!
Set-level theory behind `Manifold::Impl::Minkowski` (/repo/src/minkowski.cpp) for property C16.
Everything is stated in an arbitrary real normed space `E` (the code lives in `ℝ³`), with the
pointwise operations of Mathlib (`A + B = {a + b}`, `c +ᵥ A = {c + a}`).

The decompositions rest on one topological fact: a connected set that meets `A` and its complement
meets `frontier A` (applied to a segment, resp. to a reflected copy of `B`).
-/

open Set Pointwise Metric
set_option linter.unusedSectionVars false

namespace MV.Minkowski

section Topology
variable {X : Type*} [TopologicalSpace X]

/-- a preconnected set that meets `A` and the complement of `A` meets the frontier of `A` -/
theorem preconnected_meets_frontier {S A : Set X}
    (hS : IsPreconnected S) (h1 : (S ∩ A).Nonempty) (h2 : (S ∩ Aᶜ).Nonempty) :
    (S ∩ frontier A).Nonempty := by
  by_contra hne
  rw [Set.not_nonempty_iff_eq_empty] at hne
  have hcov : S ⊆ interior A ∪ (closure A)ᶜ := by
    intro x hx
    by_cases hc : x ∈ closure A
    · left
      by_contra hi
      have : x ∈ S ∩ frontier A := ⟨hx, hc, hi⟩
      rw [hne] at this; exact this
    · right; exact hc
  have hdis : Disjoint (interior A) (closure A)ᶜ :=
    Set.disjoint_left.mpr fun x hx hx' => hx' (subset_closure (interior_subset hx))
  obtain ⟨a, haS, haA⟩ := h1
  have hai : a ∈ interior A := by
    rcases hcov haS with h | h
    · exact h
    · exact absurd (subset_closure haA) h
  have hsub : S ⊆ interior A :=
    hS.subset_left_of_subset_union isOpen_interior isClosed_closure.isOpen_compl hdis hcov ⟨a, haS, hai⟩
  obtain ⟨y, hyS, hyA⟩ := h2
  exact hyA (interior_subset (hsub hyS))

/-- a preconnected set that meets `A` but not `frontier A` lies in the interior of `A` -/
theorem preconnected_subset_interior {S A : Set X}
    (hS : IsPreconnected S) (h1 : (S ∩ A).Nonempty) (h2 : S ∩ frontier A = ∅) :
    S ⊆ interior A := by
  have hSA : S ⊆ A := by
    by_contra hno
    obtain ⟨y, hyS, hyA⟩ := Set.not_subset.mp hno
    have := preconnected_meets_frontier hS h1 ⟨y, hyS, hyA⟩
    rw [h2] at this; exact Set.not_nonempty_empty this
  intro x hx
  by_contra hi
  have : x ∈ S ∩ frontier A := ⟨hx, subset_closure (hSA hx), hi⟩
  rw [h2] at this; exact this

end Topology

variable {E : Type*} [NormedAddCommGroup E] [NormedSpace ℝ E]

/-- **Decomposition about a point of `B`.**  `A` closed, `B` convex, `c ∈ B`:
`A + B = (c +ᵥ A) ∪ (frontier A + B)`.  (A copy of `A` placed at any point of `B`, plus `B` swept
over the surface of `A`.) -/
theorem minkowski_decomp_at {A B : Set E} (hA : IsClosed A) (hB : Convex ℝ B) {c : E} (hc : c ∈ B) :
    A + B = (c +ᵥ A) ∪ (frontier A + B) := by
  apply Set.Subset.antisymm
  · rintro x ⟨a, ha, b, hb, rfl⟩
    by_cases hx : a + (b - c) ∈ A
    · left
      exact ⟨a + (b - c), hx, by simp only [vadd_eq_add]; abel⟩
    · right
      have hseg : IsPreconnected (segment ℝ a (a + (b - c))) :=
        (convex_segment a (a + (b - c))).isPreconnected
      obtain ⟨y, hyS, hyF⟩ := preconnected_meets_frontier hseg
        ⟨a, left_mem_segment ℝ a _, ha⟩ ⟨a + (b - c), right_mem_segment ℝ a _, hx⟩
      rw [segment_eq_image'] at hyS
      obtain ⟨t, ⟨ht0, ht1⟩, rfl⟩ := hyS
      refine ⟨_, hyF, (1 - t) • b + t • c, ?_, ?_⟩
      · exact hB hb hc (by linarith) ht0 (by ring)
      · simp only [add_sub_cancel_left, smul_sub, sub_smul, one_smul]; abel
  · rintro x (⟨a, ha, rfl⟩ | ⟨a, ha, b, hb, rfl⟩)
    · exact ⟨a, ha, c, hc, by simp only [vadd_eq_add]; abel⟩
    · exact ⟨a, hA.frontier_subset ha, b, hb, rfl⟩

/-- **Decomposition (DESIGN.md A.8).**  `A` closed, `B` convex, `0 ∈ B`:
`A + B = A ∪ (frontier A + B)`. -/
theorem minkowski_decomp {A B : Set E} (hA : IsClosed A) (hB : Convex ℝ B) (h0 : (0 : E) ∈ B) :
    A + B = A ∪ (frontier A + B) := by
  have := minkowski_decomp_at hA hB h0
  rwa [zero_vadd] at this

/-- **General decomposition.**  `A`, `B` closed, `B` connected with non-empty frontier (any bounded
non-empty solid): `A + B = (frontier A + B) ∪ (A + frontier B)`.  No convexity. -/
theorem minkowski_general {A B : Set E} (hA : IsClosed A) (hB : IsClosed B)
    (hBc : IsPreconnected B) (hBf : (frontier B).Nonempty) :
    A + B = (frontier A + B) ∪ (A + frontier B) := by
  apply Set.Subset.antisymm
  · rintro x ⟨a, ha, b, hb, rfl⟩
    set S : Set E := (fun b' => a + b - b') '' B with hS
    have hSc : IsPreconnected S := hBc.image _ (by fun_prop)
    have haS : a ∈ S := ⟨b, hb, by simp⟩
    by_cases hmeet : (S ∩ Aᶜ).Nonempty
    · left
      obtain ⟨y, ⟨b', hb', rfl⟩, hyF⟩ := preconnected_meets_frontier hSc ⟨a, haS, ha⟩ hmeet
      exact ⟨_, hyF, b', hb', by simp⟩
    · right
      obtain ⟨b₀, hb₀⟩ := hBf
      have hin : a + b - b₀ ∈ A := by
        by_contra hout
        exact hmeet ⟨_, ⟨b₀, hB.frontier_subset hb₀, rfl⟩, hout⟩
      exact ⟨_, hin, b₀, hb₀, by simp⟩
  · rintro x (⟨a, ha, b, hb, rfl⟩ | ⟨a, ha, b, hb, rfl⟩)
    · exact ⟨a, hA.frontier_subset ha, b, hb, rfl⟩
    · exact ⟨a, ha, b, hB.frontier_subset hb, rfl⟩

/-- **Sweeping `B` over a surface made of convex faces.**  Each face `F i` is convex and `v i` is
one of its points (a corner): the sweep of a closed `B` over `⋃ F i` is a copy of `B` at every
`v i` together with the sweep of the *surface* of `B`. -/
theorem sweep_faces {ι : Type*} {F : ι → Set E} {v : ι → E} {B : Set E} (hB : IsClosed B)
    (hF : ∀ i, Convex ℝ (F i)) (hv : ∀ i, v i ∈ F i) :
    (⋃ i, F i) + B = (⋃ i, v i +ᵥ B) ∪ ((⋃ i, F i) + frontier B) := by
  have h1 : ∀ i, F i + B = (v i +ᵥ B) ∪ (F i + frontier B) := by
    intro i
    rw [add_comm (F i) B, minkowski_decomp_at hB (hF i) (hv i), add_comm (frontier B)]
  rw [Set.iUnion_add, Set.iUnion_add, ← Set.iUnion_union_distrib]
  exact Set.iUnion_congr h1

/-- morphological erosion with the sign convention of `MinkowskiDifference`:
the points `p` with `p - b ∈ A` for every `b ∈ B` -/
def erosion (A B : Set E) : Set E := {p | ∀ b ∈ B, p - b ∈ A}

/-- duality of erosion and dilation (in the code's sign convention) -/
theorem erosion_dual (A B : Set E) : erosion A B = (Aᶜ + B)ᶜ := by
  ext p
  simp only [erosion, Set.mem_ofPred_eq, Set.mem_compl_iff, Set.mem_add, not_exists, not_and]
  constructor
  · intro h a ha b hb hab
    exact ha (by have := h b hb; rwa [← hab, add_sub_cancel_right] at this)
  · intro h b hb
    by_contra hp
    exact h (p - b) hp b hb (by abel)

theorem erosion_subset {A B : Set E} (h0 : (0 : E) ∈ B) : erosion A B ⊆ A := by
  intro p hp
  simpa using hp 0 h0

theorem erosion_mono {A A' B : Set E} (h : A ⊆ A') : erosion A B ⊆ erosion A' B :=
  fun _ hp b hb => h (hp b hb)

/-- **What `MinkowskiDifference` builds is the erosion.**  `A` minus the sweep of `B` over the
surface of `A` is the set of points `p` with `p - b` in the interior of `A` for all `b ∈ B`, for
every connected `B` that contains the origin. -/
theorem diff_eq_erosion_interior {A B : Set E} (hBc : IsPreconnected B) (h0 : (0 : E) ∈ B) :
    A \ (frontier A + B) = erosion (interior A) B := by
  ext p
  constructor
  · rintro ⟨hpA, hpn⟩ b hb
    set S : Set E := (fun b' => p - b') '' B with hS
    have hSc : IsPreconnected S := hBc.image _ (by fun_prop)
    have hmiss : S ∩ frontier A = ∅ := by
      rw [Set.eq_empty_iff_forall_notMem]
      rintro y ⟨⟨b', hb', rfl⟩, hyF⟩
      exact hpn ⟨_, hyF, b', hb', by simp⟩
    exact preconnected_subset_interior hSc ⟨p, ⟨0, h0, by simp⟩, hpA⟩ hmiss ⟨b, hb, rfl⟩
  · intro hp
    refine ⟨interior_subset (by simpa using hp 0 h0), ?_⟩
    rintro ⟨y, hyF, b, hb, rfl⟩
    have : y ∈ interior A := by simpa using hp b hb
    exact hyF.2 this

/-- containment clause 1 of the property: the difference lies inside `A` -/
theorem diff_subset (A B : Set E) : A \ (frontier A + B) ⊆ A := fun _ h => h.1

/-- containment clause 2 of the property: every point `p` of the difference has `p - b ∈ A`
for every `b ∈ B` -/
theorem diff_mem_sub {A B : Set E} (hBc : IsPreconnected B) (h0 : (0 : E) ∈ B) {p : E}
    (hp : p ∈ A \ (frontier A + B)) {b : E} (hb : b ∈ B) : p - b ∈ A := by
  rw [diff_eq_erosion_interior hBc h0] at hp
  exact interior_subset (hp b hb)

theorem sum_contains {A B : Set E} {a b : E} (ha : a ∈ A) (hb : b ∈ B) : a + b ∈ A + B :=
  Set.add_mem_add ha hb

theorem sum_contains_left {A B : Set E} (h0 : (0 : E) ∈ B) : A ⊆ A + B :=
  fun a ha => ⟨a, ha, 0, h0, add_zero a⟩

/-- no point of the sum is farther from `A` than the reach `r` of `B` -/
theorem sum_within_reach {A B : Set E} {r : ℝ} (hr : ∀ b ∈ B, ‖b‖ ≤ r) {x : E} (hx : x ∈ A + B) :
    infDist x A ≤ r := by
  obtain ⟨a, ha, b, hb, rfl⟩ := hx
  calc infDist (a + b) A ≤ dist (a + b) a := infDist_le_dist_of_mem ha
    _ = ‖b‖ := by rw [dist_eq_norm]; simp
    _ ≤ r := hr b hb

/-! ### the formula of the pinned non-convex × non-convex branch is not an identity -/

/-- On the real line: `A = {0}`, `B = [-1, 1]` (closed, convex, contains the origin):
`A ∪ (frontier A + frontier B) = {-1, 0, 1}` misses `1/2 ∈ A + B`.  Sweeping only the surface of
`B` over the surface of `A` leaves the sum hollow. -/
theorem facepair_formula_fails :
    ∃ A B : Set ℝ, IsClosed A ∧ IsClosed B ∧ Convex ℝ B ∧ (0 : ℝ) ∈ B ∧
      A + B ≠ A ∪ (frontier A + frontier B) := by
  refine ⟨{0}, Set.Icc (-1) 1, isClosed_singleton, isClosed_Icc, convex_Icc _ _, ⟨by norm_num, by norm_num⟩, ?_⟩
  intro h
  have hmem : (1 / 2 : ℝ) ∈ ({0} : Set ℝ) + Set.Icc (-1 : ℝ) 1 :=
    ⟨0, rfl, 1 / 2, ⟨by norm_num, by norm_num⟩, by norm_num⟩
  rw [h, frontier_Icc (by norm_num : (-1 : ℝ) ≤ 1)] at hmem
  rcases hmem with h0 | ⟨a, ha, b, hb, hab⟩
  · simp at h0
  · have ha0 : a = 0 := by
      have := frontier_subset_closure ha
      simpa using this
    subst ha0
    rcases hb with hb | hb
    · rw [hb] at hab; norm_num at hab
    · rw [Set.mem_singleton_iff] at hb; rw [hb] at hab; norm_num at hab

end MV.Minkowski
