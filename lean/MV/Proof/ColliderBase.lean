/-
Shared lemmas: the abstract tree `T` read back from `internalChildren_` (`toTree`), the
representation predicate `Rep`, and the consequences of the block structure `T.cover`.
-/
import MV.Model.Collider
import MV.Proof.ListArray
import MV.Proof.AssocList

namespace MV.Collider

theorem getD_of_getElem?_eq {α : Type} {a b : Array α} {i : Nat} (d : α) (h : a[i]? = b[i]?) :
    a.getD i d = b.getD i d := by
  rw [Array.getD_eq_getD_getElem?, Array.getD_eq_getD_getElem?, h]

theorem id_leaf_toNat (i : Nat) : (T.leaf i).id.toNat = 2 * i := by
  simp only [T.id]; omega

theorem id_node_toNat (k : Nat) (l r : T) : (T.node k l r).id.toNat = 2 * k + 1 := by
  simp only [T.id]; omega

theorem id_nonneg (t : T) : 0 ≤ t.id := by
  cases t <;> simp only [T.id] <;> omega

/-- `T.height` with the `max` that `omega` understands -/
theorem T.height_node (k : Nat) (l r : T) : (T.node k l r).height = 1 + max l.height r.height := rfl

theorem id_node_pos (k : Nat) (l r : T) : 1 ≤ (T.node k l r).id := by
  simp only [T.id]; omega

theorem id_leaf_mod (i : Nat) : (T.leaf i).id % 2 = 0 := by
  simp only [T.id]; omega

theorem id_node_mod (k : Nat) (l r : T) : (T.node k l r).id % 2 = 1 := by
  simp only [T.id]; omega

theorem isLeaf_leaf_id (i : Nat) : isLeaf (T.leaf i).id = true := by
  rw [isLeaf, id_leaf_mod]; rfl

theorem isLeaf_node_id (k : Nat) (l r : T) : isLeaf (T.node k l r).id = false := by
  rw [isLeaf, id_node_mod]; rfl

theorem isInternal_leaf_id (i : Nat) : isInternal (T.leaf i).id = false := by
  rw [isInternal, id_leaf_mod]; rfl

theorem isInternal_node_id (k : Nat) (l r : T) : isInternal (T.node k l r).id = true := by
  rw [isInternal, id_node_mod]; rfl

theorem node2Leaf_leaf_id (i : Nat) : (node2Leaf (T.leaf i).id).toNat = i := by
  simp only [node2Leaf, T.id]; omega

theorem node2Internal_node_id (k : Nat) (l r : T) : (node2Internal (T.node k l r).id).toNat = k := by
  simp only [node2Internal, T.id]; omega

theorem Box.union_assoc (a b c : Box) : (a.union b).union c = a.union (b.union c) := by
  simp only [Box.union, Int.min_assoc, Int.max_assoc]

theorem Box.union_comm (a b : Box) : a.union b = b.union a := by
  simp only [Box.union, Int.min_comm a.min.x, Int.min_comm a.min.y, Int.min_comm a.min.z,
    Int.max_comm a.max.x, Int.max_comm a.max.y, Int.max_comm a.max.z]

/-- `internalChildren_` contains the tree `t` (at the indices carried by its nodes) -/
def Rep (ch : Array (Int × Int)) : T → Prop
  | .leaf _ => True
  | .node k l r => ch[k]? = some (l.id, r.id) ∧ Rep ch l ∧ Rep ch r

theorem toTree_spec {ch : Array (Int × Int)} : ∀ (fuel : Nat) (node : Int) (t : T),
    toTree ch fuel node = some t → Rep ch t ∧ t.id = node ∧ t.height < fuel := by
  intro fuel
  induction fuel with
  | zero => intro node t h; simp [toTree] at h
  | succ f ih =>
    intro node t h
    unfold toTree at h
    split at h
    · simp at h
    · split at h
      · simp only [Option.some.injEq] at h
        subst h
        refine ⟨trivial, ?_, by simp [T.height]⟩
        simp only [T.id]; omega
      · split at h
        · simp at h
        · rename_i c1 c2 hc
          split at h
          · rename_i l r hl hr
            simp only [Option.some.injEq] at h
            subst h
            have ⟨rl, il, hl'⟩ := ih _ _ hl
            have ⟨rr, ir, hr'⟩ := ih _ _ hr
            refine ⟨⟨?_, rl, rr⟩, ?_, ?_⟩
            · rw [il, ir]; exact hc
            · simp only [T.id]; omega
            · simp only [T.height]
              have : Nat.max l.height r.height < f := by
                apply Nat.max_lt.mpr; exact ⟨hl', hr'⟩
              omega
          · simp at h

theorem toTree_of_rep {ch : Array (Int × Int)} : ∀ (t : T) (fuel : Nat),
    Rep ch t → t.height < fuel → toTree ch fuel t.id = some t := by
  intro t
  induction t with
  | leaf i =>
    intro fuel _ h
    obtain ⟨f, rfl⟩ : ∃ f, fuel = f + 1 := ⟨fuel - 1, by omega⟩
    rw [toTree, if_neg (Int.not_lt.mpr (id_nonneg _)), if_pos (id_leaf_mod i),
      show ((T.leaf i).id / 2).toNat = i from node2Leaf_leaf_id i]
  | node k l r ihl ihr =>
    intro fuel ⟨hc, rl, rr⟩ h
    rw [T.height_node] at h
    obtain ⟨f, rfl⟩ : ∃ f, fuel = f + 1 := ⟨fuel - 1, by omega⟩
    rw [toTree, if_neg (Int.not_lt.mpr (id_nonneg _)), if_neg (by rw [id_node_mod]; decide),
      show (((T.node k l r).id - 1) / 2).toNat = k from node2Internal_node_id k l r, hc]
    simp only [ihl f rl (by omega), ihr f rr (by omega)]

/-- a property that passes from a node to its two children holds, for every internal index of
the tree, at a node carrying that index -/
theorem exists_node_of_mem {P : T → Prop} (hP : ∀ k a b, P (.node k a b) → P a ∧ P b) :
    ∀ (t : T), P t → ∀ k ∈ t.internals, ∃ a b, P (.node k a b) := by
  intro t
  induction t with
  | leaf i => intro _ k hk; simp [T.internals] at hk
  | node k0 a b iha ihb =>
    intro h k hk
    simp only [T.internals, List.mem_cons, List.mem_append] at hk
    rcases hk with e | hk | hk
    · exact ⟨a, b, e ▸ h⟩
    · exact iha (hP _ _ _ h).1 k hk
    · exact ihb (hP _ _ _ h).2 k hk

theorem leaves_length (t : T) : t.leaves.length = t.internals.length + 1 := by
  induction t with
  | leaf i => simp [T.leaves, T.internals]
  | node k l r ihl ihr => simp [T.leaves, T.internals, ihl, ihr]; omega

theorem height_le_internals (t : T) : t.height ≤ t.internals.length := by
  induction t with
  | leaf i => simp [T.height]
  | node k l r ihl ihr =>
    simp only [T.height, T.internals, List.length_cons, List.length_append]
    have : Nat.max l.height r.height ≤ l.internals.length + r.internals.length := by
      apply Nat.max_le.mpr; constructor <;> omega
    omega

theorem cover_first_last : ∀ (t : T) (f l : Nat), t.cover f l = true →
    t.first = f ∧ t.last = l ∧ f ≤ l := by
  intro t
  induction t with
  | leaf i =>
    intro f l h
    simp only [T.cover, Bool.and_eq_true, beq_iff_eq] at h
    simp only [T.first, T.last]; omega
  | node k a b iha ihb =>
    intro f l h
    simp only [T.cover, Bool.and_eq_true, decide_eq_true_eq] at h
    obtain ⟨⟨⟨⟨⟨hfl, _⟩, ha⟩, hb⟩, _⟩, _⟩ := h
    have ⟨a1, _, _⟩ := iha _ _ ha
    have ⟨_, b2, _⟩ := ihb _ _ hb
    simp only [T.first, T.last]
    omega

theorem cover_leaves : ∀ (t : T) (f l : Nat), t.cover f l = true →
    t.leaves = List.range' f (l + 1 - f) := by
  intro t
  induction t with
  | leaf i =>
    intro f l h
    simp only [T.cover, Bool.and_eq_true, beq_iff_eq] at h
    obtain ⟨h1, h2⟩ := h
    subst h1; subst h2
    simp [T.leaves]
  | node k a b iha ihb =>
    intro f l h
    have hfl := cover_first_last _ _ _ h
    simp only [T.cover, Bool.and_eq_true, decide_eq_true_eq] at h
    obtain ⟨⟨⟨⟨⟨hlt, _⟩, ha⟩, hb⟩, _⟩, _⟩ := h
    have ⟨_, _, a3⟩ := cover_first_last _ _ _ ha
    have ⟨_, _, b3⟩ := cover_first_last _ _ _ hb
    simp only [T.leaves, iha _ _ ha, ihb _ _ hb]
    have e : l + 1 - f = (a.last + 1 - f) + (l + 1 - (a.last + 1)) := by
      rw [Nat.add_comm (a.last + 1 - f), Nat.sub_add_sub_cancel (Nat.le_succ_of_le b3) (Nat.le_succ_of_le a3)]
    rw [e, ← List.range'_append_1, Nat.add_sub_cancel' (Nat.le_succ_of_le a3)]

theorem mem_leaves_of_cover {t : T} {f l : Nat} (h : t.cover f l = true) (x : Nat) :
    x ∈ t.leaves ↔ f ≤ x ∧ x ≤ l := by
  have := cover_first_last _ _ _ h
  rw [cover_leaves _ _ _ h, List.mem_range'_1]
  omega

theorem nodup_leaves_of_cover {t : T} {f l : Nat} (h : t.cover f l = true) : t.leaves.Nodup := by
  rw [cover_leaves _ _ _ h]
  exact List.nodup_range'

/-- the internal indices of a covered subtree are pairwise different, and they are the indices of
its block except the end that is not the node's own index -/
theorem cover_internals : ∀ (t : T) (f l : Nat), t.cover f l = true →
    t.internals.Nodup ∧ ∀ x, x ∈ t.internals ↔
      match t with
      | .leaf _ => False
      | .node k _ _ => f ≤ x ∧ x ≤ l ∧ x + k ≠ f + l := by
  intro t
  induction t with
  | leaf i =>
    intro f l _
    simp [T.internals]
  | node k a b iha ihb =>
    intro f l h
    simp only [T.cover, Bool.and_eq_true, decide_eq_true_eq, Bool.or_eq_true, beq_iff_eq] at h
    obtain ⟨⟨⟨⟨⟨hlt, hk⟩, ha⟩, hb⟩, hka⟩, hkb⟩ := h
    have ⟨_, _, a3⟩ := cover_first_last _ _ _ ha
    have ⟨_, _, b3⟩ := cover_first_last _ _ _ hb
    have ⟨na, ma⟩ := iha _ _ ha
    have ⟨nb, mb⟩ := ihb _ _ hb
    -- the left child holds `(f, γ]`, the right child `[γ+1, l)`
    have ra : ∀ x, x ∈ a.internals ↔ f < x ∧ x ≤ a.last := by
      intro x
      rw [ma x]
      cases a with
      | leaf i =>
        simp only [T.cover, Bool.and_eq_true, beq_iff_eq] at ha
        simp only [false_iff]; omega
      | node ka a1 a2 =>
        simp only [beq_iff_eq] at hka
        simp only; omega
    have rb : ∀ x, x ∈ b.internals ↔ a.last + 1 ≤ x ∧ x < l := by
      intro x
      rw [mb x]
      cases b with
      | leaf i =>
        simp only [T.cover, Bool.and_eq_true, beq_iff_eq] at hb
        simp only [false_iff]; omega
      | node kb b1 b2 =>
        simp only [beq_iff_eq] at hkb
        simp only; omega
    constructor
    · simp only [T.internals, List.nodup_cons, List.mem_append, List.nodup_append, ra, rb]
      exact ⟨by omega, na, nb, fun x hx y hy => by omega⟩
    · intro x
      simp only [T.internals, List.mem_cons, List.mem_append, ra, rb]
      omega

/-- at the root (index 0 covering `[0, n-1]`) the internal indices are exactly `0 … n-2` -/
theorem mem_internals_root {t : T} {n : Nat} (h : t.cover 0 (n - 1) = true)
    (hid : t.id = 1) (x : Nat) : x ∈ t.internals ↔ x < n - 1 := by
  rw [(cover_internals _ _ _ h).2 x]
  cases t with
  | leaf i => simp only [T.id] at hid; omega
  | node k a b =>
    simp only [T.id] at hid
    simp only; omega

/-- all leaf indices are `< n`, all internal indices `< n - 1` -/
def Below (n : Nat) : T → Prop
  | .leaf i => i < n
  | .node k l r => k < n - 1 ∧ Below n l ∧ Below n r

theorem below_of_mem {n : Nat} : ∀ (t : T), (∀ i ∈ t.leaves, i < n) →
    (∀ k ∈ t.internals, k < n - 1) → Below n t
  | .leaf i, hl, _ => hl i (List.mem_singleton.mpr rfl)
  | .node k l r, hl, hk =>
    ⟨hk k List.mem_cons_self,
      below_of_mem l (fun i h => hl i (List.mem_append_left _ h))
        (fun j h => hk j (List.mem_cons_of_mem _ (List.mem_append_left _ h))),
      below_of_mem r (fun i h => hl i (List.mem_append_right _ h))
        (fun j h => hk j (List.mem_cons_of_mem _ (List.mem_append_right _ h)))⟩

/-- `wfTree ch parent n` holds, and `t` is the tree the arrays unfold to -/
structure TreeCtx (ch : Array (Int × Int)) (parent : Array Int) (n : Nat) (t : T) : Prop where
  hn : 2 ≤ n
  hcs : ch.size = n - 1
  hps : parent.size = 2 * n - 1
  htree : toTree ch 65 kRoot = some t
  hcov : t.cover 0 (n - 1) = true
  hpo : t.parentOk parent = true
  hp1 : parent[1]? = some (-1)

theorem wfTree_iff {ch : Array (Int × Int)} {parent : Array Int} {n : Nat} :
    wfTree ch parent n = true ↔ ∃ t, TreeCtx ch parent n t := by
  unfold wfTree
  constructor
  · intro h
    split at h
    · simp at h
    · rename_i t ht
      simp only [Bool.and_eq_true, decide_eq_true_eq, beq_iff_eq] at h
      obtain ⟨⟨⟨h1, h2⟩, h3⟩, ⟨h4, h5⟩, h6⟩ := h
      exact ⟨t, h1, h2, h3, ht, h4, h5, h6⟩
  · rintro ⟨t, c⟩
    rw [c.htree]
    simp only [Bool.and_eq_true, decide_eq_true_eq, beq_iff_eq]
    exact ⟨⟨⟨c.hn, c.hcs⟩, c.hps⟩, ⟨c.hcov, c.hpo⟩, c.hp1⟩

namespace TreeCtx
variable {ch : Array (Int × Int)} {parent : Array Int} {n : Nat} {t : T} (c : TreeCtx ch parent n t)
include c

theorem rep : Rep ch t := (toTree_spec _ _ _ c.htree).1

theorem id_eq : t.id = 1 := (toTree_spec _ _ _ c.htree).2.1

theorem depth_le : t.height ≤ 64 := by
  have := (toTree_spec _ _ _ c.htree).2.2; omega

theorem mem_leaves (i : Nat) : i ∈ t.leaves ↔ i < n := by
  rw [mem_leaves_of_cover c.hcov]
  have := c.hn
  omega

theorem mem_internals (k : Nat) : k ∈ t.internals ↔ k < n - 1 :=
  mem_internals_root c.hcov c.id_eq k

theorem nodup_leaves : t.leaves.Nodup := nodup_leaves_of_cover c.hcov

theorem nodup_internals : t.internals.Nodup := (cover_internals _ _ _ c.hcov).1

theorem leaves_length : t.leaves.length = n := by
  rw [cover_leaves _ _ _ c.hcov, List.length_range']
  have := c.hn
  omega

/-- the loops that walk the tree are given fuel `n - 1` (or more) -/
theorem height_le : t.height ≤ n - 1 := by
  have h1 := height_le_internals t
  have h2 := MV.Collider.leaves_length t
  have h3 := c.leaves_length
  omega

theorem below : Below n t :=
  below_of_mem t (fun i h => (c.mem_leaves i).mp h) (fun k h => (c.mem_internals k).mp h)

theorem isNode : t.isNode = true := by
  have := c.id_eq
  cases t with
  | leaf i => simp only [T.id] at this; omega
  | node _ _ _ => rfl

end TreeCtx

theorem unionBoxes_iff {ch : Array (Int × Int)} {boxes leafBB : Array Box} {n : Nat} :
    unionBoxes ch boxes leafBB n = true ↔
      boxes.size = 2 * n - 1 ∧ leafBB.size = n ∧ (∀ i, i < n → boxes[2 * i]? = leafBB[i]?) ∧
      ∀ k, k < n - 1 → ∃ c1 c2 b1 b2, ch[k]? = some (c1, c2) ∧ 0 ≤ c1 ∧ 0 ≤ c2 ∧
        boxes[c1.toNat]? = some b1 ∧ boxes[c2.toNat]? = some b2 ∧
        boxes[2 * k + 1]? = some (b1.union b2) := by
  simp only [unionBoxes, Bool.and_eq_true, beq_iff_eq, List.all_eq_true, List.mem_range]
  constructor
  · rintro ⟨⟨⟨h1, h2⟩, h3⟩, h4⟩
    refine ⟨h1, h2, h3, fun k hk => ?_⟩
    have := h4 k hk
    split at this
    · simp at this
    · rename_i c1 c2 hc
      simp only [Bool.and_eq_true, decide_eq_true_eq] at this
      obtain ⟨⟨p1, p2⟩, p3⟩ := this
      split at p3
      · rename_i b b1 b2 e e1 e2
        exact ⟨c1, c2, b1, b2, hc, p1, p2, e1, e2, by rw [e, eq_of_beq p3]⟩
      · simp at p3
  · rintro ⟨h1, h2, h3, h4⟩
    refine ⟨⟨⟨h1, h2⟩, h3⟩, fun k hk => ?_⟩
    obtain ⟨c1, c2, b1, b2, e, p1, p2, e1, e2, e0⟩ := h4 k hk
    simp only [e, e0, e1, e2, decide_eq_true p1, decide_eq_true p2, Bool.and_self,
      beq_self_eq_true]

end MV.Collider
