import MV.Model.EdgeOp
import MV.Proof.Halfedge
import MV.Proof.ListArray
/-!
Vocabulary and evaluation lemmas for the edge-operation model (`MV.Model.EdgeOp`):
pure array updates `setS/setP/setR`, the monadic accessors evaluated on in-range indices,
`Good` (= `CheckHalfedges` of properties.cpp for one halfedge), `PairInvExcept` (every halfedge
outside a finite exception list is `Good`), the frame lemma `good_frame`, everything the invariant
says about a live halfedge (`LiveF`), the pure result `pairS` of `PairUp`, and the relabelling
lemma `good_relabel`.
-/
namespace MV.EdgeOp
open MV.Halfedge (HErr rd wr nextHalfedge GoodHalfedge Tomb endOf rd_ok wr_ok next_lt next_next_next)

/-- `NextHalfedge` on in-range indices -/
abbrev nx (e : Nat) : Nat := nextHalfedge e

namespace HE
/-- `start_[e]` -/
def S (s : HE) (e : Nat) : Int := s.start[e]!
/-- `paired_[e]` -/
def P (s : HE) (e : Nat) : Int := s.paired[e]!
/-- `paired_[e]` as an index -/
def Pn (s : HE) (e : Nat) : Nat := (s.paired[e]!).toNat
/-- `propVert_[e]` -/
def R (s : HE) (e : Nat) : Int := s.prop[e]!

/-- pure `start_[i] = v` -/
def setS (s : HE) (i : Nat) (v : Int) : HE := { s with start := s.start.setIfInBounds i v }
/-- pure `paired_[i] = v` -/
def setP (s : HE) (i : Nat) (v : Int) : HE := { s with paired := s.paired.setIfInBounds i v }
/-- pure `propVert_[i] = v` -/
def setR (s : HE) (i : Nat) (v : Int) : HE := { s with prop := s.prop.setIfInBounds i v }
end HE

/-- the three arrays have one length, a multiple of 3 -/
def WF (s : HE) : Prop :=
  s.start.size = s.paired.size ∧ s.prop.size = s.paired.size ∧ s.start.size % 3 = 0

instance (s : HE) : Decidable (WF s) := by unfold WF; infer_instance

/-- `CheckHalfedges::operator()(e)` holds -/
def Good (s : HE) (e : Nat) : Prop := GoodHalfedge s.start s.paired e

instance (s : HE) (e : Nat) : Decidable (Good s e) := by unfold Good; infer_instance

/-- every halfedge outside the list `X` passes `CheckHalfedges` -/
def PairInvExcept (s : HE) (X : List Nat) : Prop :=
  WF s ∧ ∀ e, e < s.start.size → e ∉ X → Good s e

instance (s : HE) (X : List Nat) : Decidable (PairInvExcept s X) := by
  unfold PairInvExcept; infer_instance

/-- the library's `IsManifold()` on the state -/
def PairInv (s : HE) : Prop := WF s ∧ MV.Halfedge.PairInv s.start s.paired

instance (s : HE) : Decidable (PairInv s) := by unfold PairInv; infer_instance

theorem good_iff (s : HE) (e : Nat) : Good s e ↔
    (s.S e = -1 ∧ s.S (nx e) = -1 ∧ s.P e = -1) ∨
    (s.S (nx e) ≠ -1 ∧ s.S (nx (nx e)) ≠ -1 ∧ 0 ≤ s.P e ∧ s.Pn e < s.start.size ∧
      s.P (s.Pn e) = (e : Int) ∧ s.S e ≠ s.S (nx e) ∧ s.S e = s.S (nx (s.Pn e)) ∧
      s.S (nx e) = s.S (s.Pn e)) := Iff.rfl

theorem pairInv_iff (s : HE) : PairInv s ↔ PairInvExcept s [] := by
  unfold PairInv PairInvExcept MV.Halfedge.PairInv WF Good
  constructor
  · rintro ⟨hw, _, _, h⟩; exact ⟨hw, fun e he _ => h e he⟩
  · rintro ⟨hw, h⟩; exact ⟨hw, hw.1, hw.2.2, fun e he => h e he (by simp)⟩

theorem PairInvExcept.mono {s : HE} {X Y : List Nat} (h : PairInvExcept s X)
    (hg : ∀ e, e < s.start.size → e ∈ X → e ∉ Y → Good s e) : PairInvExcept s Y := by
  refine ⟨h.1, fun e he hy => ?_⟩
  by_cases hx : e ∈ X
  · exact hg e he hx hy
  · exact h.2 e he hx

/-! ## `NextHalfedge` -/

theorem nx_lt {n e : Nat} (h3 : n % 3 = 0) (he : e < n) : nx e < n := next_lt h3 he

theorem nx_nx_nx (e : Nat) : nx (nx (nx e)) = e := next_next_next e

theorem nx_ne (e : Nat) : nx e ≠ e := by
  unfold nx nextHalfedge; split <;> omega

theorem nx_nx_ne (e : Nat) : nx (nx e) ≠ e := by
  unfold nx nextHalfedge; grind

theorem nx_inj {a b : Nat} (h : nx a = nx b) : a = b := by
  have := congrArg (fun x => nx (nx x)) h
  simpa [nx_nx_nx] using this

theorem nx_div (e : Nat) : nx e / 3 = e / 3 := by
  unfold nx nextHalfedge; grind

theorem nx_cases {a b : Nat} (h : a / 3 = b / 3) : b = a ∨ b = nx a ∨ b = nx (nx a) := by
  unfold nx nextHalfedge; grind

/-- halfedges of different triangles differ -/
theorem ne_of_div {a b c : Nat} (h1 : a / 3 = c / 3) (h2 : b / 3 ≠ c / 3) : a ≠ b := by
  intro e; rw [e] at h1; exact h2 h1

theorem not_tri {e j : Nat} (hj : ¬ j / 3 = e / 3) : e ≠ j ∧ nx e ≠ j ∧ nx (nx e) ≠ j :=
  ⟨ne_of_div rfl hj, ne_of_div (nx_div e) hj, ne_of_div ((nx_div _).trans (nx_div e)) hj⟩

theorem nx_tri {j a : Nat} (h : j / 3 ≠ a / 3) : nx j / 3 ≠ a / 3 :=
  fun q => h ((nx_div j).symm.trans q)

theorem notin_tri {x a : Nat} (h0 : x ≠ a) (h1 : x ≠ nx a) (h2 : x ≠ nx (nx a)) : x / 3 ≠ a / 3 := by
  intro h
  rcases nx_cases h.symm with h | h | h
  · exact h0 h
  · exact h1 h
  · exact h2 h

theorem nextI_cast (e : Nat) : nextI (e : Int) = ((nx e : Nat) : Int) := by
  unfold nextI nx nextHalfedge
  have h : Int.tmod (e : Int) 3 = ((e % 3 : Nat) : Int) := by
    rw [Int.tmod_eq_emod_of_nonneg (Int.natCast_nonneg e)]; rfl
  rw [h]
  by_cases h2 : e % 3 = 2
  · have h3 : 2 ≤ e := Nat.le_trans (Nat.le_of_eq h2.symm) (Nat.mod_le e 3)
    rw [if_pos (by rw [h2]; rfl), if_pos h2, Int.natCast_sub h3]; rfl
  · rw [if_neg (show ¬ ((e % 3 : Nat) : Int) = 2 from fun q => h2 (Int.ofNat_inj.1 q)), if_neg h2]; rfl

theorem triOf_cast (e : Nat) : triOf (e : Int) = ((e : Int), ((nx e : Nat) : Int), ((nx (nx e) : Nat) : Int)) := by
  simp [triOf, nextI_cast]

/-! ## pure updates

The size lemmas are proved by `simp`, not `rfl`: `simp` cannot use a `rfl`-lemma to discharge the
bound of an `_ok` lemma. -/

section upd
variable (s : HE) (i j : Nat) (v : Int)

@[simp] theorem S_setS : (s.setS i v).S j = if i = j ∧ i < s.start.size then v else s.S j := by
  unfold HE.setS HE.S
  simp only [Array.getElem!_eq_getD]
  exact Array.getD_setIfInBounds _ _ _ _ _
@[simp] theorem P_setS : (s.setS i v).P j = s.P j := rfl
@[simp] theorem R_setS : (s.setS i v).R j = s.R j := rfl
@[simp] theorem Pn_setS : (s.setS i v).Pn j = s.Pn j := rfl
@[simp] theorem P_setP : (s.setP i v).P j = if i = j ∧ i < s.paired.size then v else s.P j := by
  unfold HE.setP HE.P
  simp only [Array.getElem!_eq_getD]
  exact Array.getD_setIfInBounds _ _ _ _ _
@[simp] theorem S_setP : (s.setP i v).S j = s.S j := rfl
@[simp] theorem R_setP : (s.setP i v).R j = s.R j := rfl
@[simp] theorem R_setR : (s.setR i v).R j = if i = j ∧ i < s.prop.size then v else s.R j := by
  unfold HE.setR HE.R
  simp only [Array.getElem!_eq_getD]
  exact Array.getD_setIfInBounds _ _ _ _ _
@[simp] theorem S_setR : (s.setR i v).S j = s.S j := rfl
@[simp] theorem P_setR : (s.setR i v).P j = s.P j := rfl
@[simp] theorem Pn_setR : (s.setR i v).Pn j = s.Pn j := rfl

@[simp] theorem start_size_setS : (s.setS i v).start.size = s.start.size := by simp [HE.setS]
@[simp] theorem paired_size_setS : (s.setS i v).paired.size = s.paired.size := by simp only [HE.setS]
@[simp] theorem prop_size_setS : (s.setS i v).prop.size = s.prop.size := by simp only [HE.setS]
@[simp] theorem start_size_setP : (s.setP i v).start.size = s.start.size := by simp only [HE.setP]
@[simp] theorem paired_size_setP : (s.setP i v).paired.size = s.paired.size := by simp [HE.setP]
@[simp] theorem prop_size_setP : (s.setP i v).prop.size = s.prop.size := by simp only [HE.setP]
@[simp] theorem start_size_setR : (s.setR i v).start.size = s.start.size := by simp only [HE.setR]
@[simp] theorem paired_size_setR : (s.setR i v).paired.size = s.paired.size := by simp only [HE.setR]
@[simp] theorem prop_size_setR : (s.setR i v).prop.size = s.prop.size := by simp [HE.setR]
@[simp] theorem nVert_setS : (s.setS i v).nVert = s.nVert := rfl
@[simp] theorem nVert_setP : (s.setP i v).nVert = s.nVert := rfl
@[simp] theorem nVert_setR : (s.setR i v).nVert = s.nVert := rfl
@[simp] theorem paired_setS : (s.setS i v).paired = s.paired := rfl
@[simp] theorem prop_setS : (s.setS i v).prop = s.prop := rfl
@[simp] theorem start_setP : (s.setP i v).start = s.start := rfl
@[simp] theorem prop_setP : (s.setP i v).prop = s.prop := rfl
@[simp] theorem start_setR : (s.setR i v).start = s.start := rfl
@[simp] theorem paired_setR : (s.setR i v).paired = s.paired := rfl

theorem Pn_setP : (s.setP i v).Pn j = if i = j ∧ i < s.paired.size then v.toNat else s.Pn j := by
  have := P_setP s i j v
  unfold HE.Pn; unfold HE.P at this; rw [this]; split <;> rfl

theorem WF_setS (h : WF s) : WF (s.setS i v) := by unfold WF at *; simpa using h
theorem WF_setP (h : WF s) : WF (s.setP i v) := by unfold WF at *; simpa using h
theorem WF_setR (h : WF s) : WF (s.setR i v) := by unfold WF at *; simpa using h
end upd

/-! ## the monadic accessors on in-range indices -/

section eval
variable (s : HE) (e : Nat) (v : Int)

/-- the model's `do` blocks are evaluated by `simp only` with the `_ok` lemmas below, this lemma
for the binds and the bounds as hypotheses -/
theorem ok_bind {α β : Type} (a : α) (f : α → M β) : (Except.ok a >>= f) = f a := rfl

theorem cast_ne_neg_one (n : Nat) : ((n : Int) = -1) = False := by simp

theorem cast_lt_zero (n : Nat) : ((n : Int) < 0) = False := by simp

theorem getElem?_of_lt {a : Array Int} {k : Nat} (h : k < a.size) : a[k]? = some a[k]! := by
  simp [h]

theorem getStart_ok (h : e < s.start.size) : s.getStart (e : Int) = .ok (s.S e) :=
  rd_ok (getElem?_of_lt h)
theorem getPair_ok (h : e < s.paired.size) : s.getPair (e : Int) = .ok (s.P e) :=
  rd_ok (getElem?_of_lt h)
theorem getProp_ok (h : e < s.prop.size) : s.getProp (e : Int) = .ok (s.R e) :=
  rd_ok (getElem?_of_lt h)
theorem getEnd_ok (h : nx e < s.start.size) : s.getEnd (e : Int) = .ok (s.S (nx e)) := by
  unfold HE.getEnd; rw [nextI_cast]; exact rd_ok (getElem?_of_lt h)
theorem setStart_ok (h : e < s.start.size) : s.setStart (e : Int) v = .ok (s.setS e v) := by
  unfold HE.setStart; rw [wr_ok h]; rfl
theorem setPair_ok (h : e < s.paired.size) : s.setPair (e : Int) v = .ok (s.setP e v) := by
  unfold HE.setPair; rw [wr_ok h]; rfl
theorem setProp_ok (h : e < s.prop.size) : s.setProp (e : Int) v = .ok (s.setR e v) := by
  unfold HE.setProp; rw [wr_ok h]; rfl
theorem setEnd_ok (h : nx e < s.start.size) : s.setEnd (e : Int) v = .ok (s.setS (nx e) v) := by
  unfold HE.setEnd; rw [nextI_cast]; exact setStart_ok s (nx e) v h

/-- `Halfedges::Set` on an in-range index -/
theorem set_ok (hs : s.start.size = s.paired.size) (hp : s.prop.size = s.paired.size)
    (h : e < s.paired.size) (st pr pp : Int) :
    s.set (e : Int) st pr pp = .ok (((s.setS e st).setP e pr).setR e pp) := by
  unfold HE.set
  simp only [setStart_ok, setPair_ok, setProp_ok, ok_bind, paired_size_setS, prop_size_setS,
    prop_size_setP, hs, hp, h]

/-- `PairUp` on in-range indices -/
theorem pairUp_ok (e0 e1 : Nat) (h0 : e0 < s.paired.size) (h1 : e1 < s.paired.size) :
    pairUp s (e0 : Int) (e1 : Int) = .ok ((s.setP e0 e1).setP e1 e0) := by
  unfold pairUp
  rw [setPair_ok s e0 _ h0]
  simp only [bind, Except.bind]
  rw [setPair_ok _ e1 _ (by simpa using h1)]
end eval

/-- the pure result of `PairUp` -/
def pairS (s : HE) (e0 e1 : Nat) : HE := (s.setP e0 e1).setP e1 e0

section pairS
variable (s : HE) (e0 e1 j : Nat)
theorem P_pairS (h0 : e0 < s.paired.size) (h1 : e1 < s.paired.size) :
    (pairS s e0 e1).P j = if j = e1 then (e0 : Int) else if j = e0 then (e1 : Int) else s.P j := by
  unfold pairS
  simp only [P_setP, paired_size_setP]
  grind
@[simp] theorem S_pairS : (pairS s e0 e1).S j = s.S j := by unfold pairS HE.setP; rfl
@[simp] theorem R_pairS : (pairS s e0 e1).R j = s.R j := by unfold pairS HE.setP; rfl
@[simp] theorem start_pairS : (pairS s e0 e1).start = s.start := by unfold pairS HE.setP; rfl
@[simp] theorem prop_pairS : (pairS s e0 e1).prop = s.prop := by unfold pairS HE.setP; rfl
@[simp] theorem nVert_pairS : (pairS s e0 e1).nVert = s.nVert := by unfold pairS HE.setP; rfl
@[simp] theorem nPropVert_pairS : (pairS s e0 e1).nPropVert = s.nPropVert := by unfold pairS HE.setP; rfl
@[simp] theorem paired_size_pairS : (pairS s e0 e1).paired.size = s.paired.size := by simp [pairS]
theorem WF_pairS (h : WF s) : WF (pairS s e0 e1) := WF_setP _ _ _ (WF_setP _ _ _ h)
theorem pairUp_ok' (h0 : e0 < s.paired.size) (h1 : e1 < s.paired.size) :
    pairUp s (e0 : Int) (e1 : Int) = .ok (pairS s e0 e1) := pairUp_ok s e0 e1 h0 h1
end pairS

/-- two `PairUp`s on four distinct in-range halfedges -/
theorem pairUp_two (t : HE) (a b c d : Nat) (hw : WF t) (ha : a < t.start.size)
    (hb : b < t.start.size) (hc : c < t.start.size) (hd : d < t.start.size)
    (hab : a ≠ b) (hac : a ≠ c) (had : a ≠ d) (hbc : b ≠ c) (hbd : b ≠ d) (hcd : c ≠ d) :
    ∃ t', (do let t1 ← pairUp t (a : Int) (b : Int); pairUp t1 (c : Int) (d : Int)) = .ok t' ∧
      t'.start = t.start ∧ t'.prop = t.prop ∧ t'.nVert = t.nVert ∧ t'.nPropVert = t.nPropVert ∧
      WF t' ∧
      t'.P a = (b : Int) ∧ t'.P b = (a : Int) ∧ t'.P c = (d : Int) ∧ t'.P d = (c : Int) ∧
      ∀ e, e ≠ a → e ≠ b → e ≠ c → e ≠ d → t'.P e = t.P e := by
  have hz := hw.1
  have hc' : c < (pairS t a b).paired.size := by rw [paired_size_pairS, ← hz]; exact hc
  have hd' : d < (pairS t a b).paired.size := by rw [paired_size_pairS, ← hz]; exact hd
  have hP := fun j => (P_pairS (pairS t a b) c d j hc' hd').trans
    (by rw [P_pairS t a b j (hz ▸ ha) (hz ▸ hb)])
  refine ⟨pairS (pairS t a b) c d, ?_, ?_, ?_, ?_, ?_, WF_pairS _ _ _ (WF_pairS _ _ _ hw),
    ?_, ?_, ?_, ?_, ?_⟩
  · rw [pairUp_ok' t a b (hz ▸ ha) (hz ▸ hb), ok_bind]
    exact pairUp_ok' (pairS t a b) c d hc' hd'
  · rw [start_pairS, start_pairS]
  · rw [prop_pairS, prop_pairS]
  · rw [nVert_pairS, nVert_pairS]
  · rw [nPropVert_pairS, nPropVert_pairS]
  · rw [hP, if_neg had, if_neg hac, if_neg hab, if_pos rfl]
  · rw [hP, if_neg hbd, if_neg hbc, if_pos rfl]
  · rw [hP, if_neg hcd, if_pos rfl]
  · rw [hP, if_pos rfl]
  · intro e h1 h2 h3 h4; rw [hP, if_neg h4, if_neg h3, if_neg h2, if_neg h1]

/-- an index read from `paired_` of a live halfedge, as an `Int` -/
theorem Pn_cast (s : HE) (e : Nat) (h : 0 ≤ s.P e) : ((s.Pn e : Nat) : Int) = s.P e := by
  unfold HE.Pn HE.P at *; omega

/-! ## the frame lemma -/

/-- `Good s e` only reads `start` on the triangle of `e` and on `Pn e`, `nx (Pn e)`, and `paired`
at `e` and `Pn e`. -/
theorem good_frame {s s' : HE} {e : Nat} (hsz : s'.start.size = s.start.size)
    (h0 : s'.S e = s.S e) (h1 : s'.S (nx e) = s.S (nx e)) (h2 : s'.S (nx (nx e)) = s.S (nx (nx e)))
    (hp : s'.P e = s.P e)
    (hq : 0 ≤ s.P e → s'.P (s.Pn e) = s.P (s.Pn e) ∧ s'.S (s.Pn e) = s.S (s.Pn e) ∧
      s'.S (nx (s.Pn e)) = s.S (nx (s.Pn e)))
    (hg : Good s e) : Good s' e := by
  rw [good_iff] at hg ⊢
  have hpn : s'.Pn e = s.Pn e := by unfold HE.Pn; unfold HE.P at hp; rw [hp]
  rcases hg with ⟨a, b, c⟩ | ⟨a, b, c, d, f, g, h, i⟩
  · left; exact ⟨h0 ▸ a, h1 ▸ b, hp ▸ c⟩
  · right
    obtain ⟨q1, q2, q3⟩ := hq c
    rw [hpn, h0, h1, h2, hp, hsz, q1, q2, q3]
    exact ⟨a, b, c, d, f, g, h, i⟩

/-- a tombstoned halfedge is `Good` -/
theorem good_of_tomb {s : HE} {e : Nat} (h0 : s.S e = -1) (h1 : s.S (nx e) = -1) (hp : s.P e = -1) :
    Good s e := (good_iff s e).2 (Or.inl ⟨h0, h1, hp⟩)

theorem live_of_nonneg {s : HE} {e : Nat} (h : 0 ≤ s.P e) : s.P e ≠ -1 := by omega

/-- facts carried by a live `Good` halfedge -/
theorem Good.live {s : HE} {e : Nat} (hg : Good s e) (hl : s.P e ≠ -1) :
    s.S (nx e) ≠ -1 ∧ s.S (nx (nx e)) ≠ -1 ∧ 0 ≤ s.P e ∧ s.Pn e < s.start.size ∧
      s.P (s.Pn e) = (e : Int) ∧ s.S e ≠ s.S (nx e) ∧ s.S e = s.S (nx (s.Pn e)) ∧
      s.S (nx e) = s.S (s.Pn e) := by
  rcases (good_iff s e).1 hg with ⟨_, _, c⟩ | h
  · exact absurd c hl
  · exact h

theorem PairInvExcept.good {s : HE} {X : List Nat} (h : PairInvExcept s X) {e : Nat}
    (he : e < s.start.size) (hx : e ∉ X) : Good s e := h.2 e he hx

theorem Pn_eq_of_P {s : HE} {e q : Nat} (h : s.P e = (q : Int)) : s.Pn e = q := by
  unfold HE.Pn; unfold HE.P at h; rw [h]; simp

theorem Pn_congr {s s' : HE} {x : Nat} (h : s'.P x = s.P x) : s'.Pn x = s.Pn x := by
  unfold HE.Pn; unfold HE.P at h; rw [h]

theorem P_eq_Pn {s : HE} {e : Nat} (h : 0 ≤ s.P e) : s.P e = ((s.Pn e : Nat) : Int) :=
  (Pn_cast s e h).symm

/-- the partner of `j` is not `x` when `x` is paired with some `y ≠ j` -/
theorem Pn_ne_of_P {s : HE} {j x y : Nat} (hinv : s.P (s.Pn j) = (j : Int)) (hx : s.P x = (y : Int))
    (hne : ¬ j = y) : s.Pn j ≠ x := by
  rintro rfl; omega

/-- `Good` only looks at `start` and `paired` -/
theorem good_congr {s s' : HE} (h1 : s'.start = s.start) (h2 : s'.paired = s.paired) (e : Nat) :
    Good s' e ↔ Good s e := by unfold Good; rw [h1, h2]

/-- a halfedge correctly paired with `y` is `Good` -/
theorem good_of_pair {s : HE} {x y : Nat} (hy : y < s.start.size) (hxy : s.P x = (y : Int))
    (hyx : s.P y = (x : Int)) (l1 : s.S (nx x) ≠ -1) (l2 : s.S (nx (nx x)) ≠ -1)
    (hne : s.S x ≠ s.S (nx x)) (h1 : s.S x = s.S (nx y)) (h2 : s.S (nx x) = s.S y) : Good s x := by
  rw [good_iff]; right
  rw [Pn_eq_of_P hxy, hxy]
  exact ⟨l1, l2, by omega, hy, hyx, hne, h1, h2⟩

/-- two halfedges correctly paired with each other, with matching labels, are both `Good` -/
theorem good_pair {s : HE} {x y : Nat} (hx : x < s.start.size) (hy : y < s.start.size)
    (hxy : s.P x = (y : Int)) (hyx : s.P y = (x : Int)) (l0 : s.S x ≠ -1) (l1 : s.S (nx x) ≠ -1)
    (l2 : s.S (nx (nx x)) ≠ -1) (m2 : s.S (nx (nx y)) ≠ -1) (hne : s.S x ≠ s.S (nx x))
    (h1 : s.S x = s.S (nx y)) (h2 : s.S (nx x) = s.S y) : Good s x ∧ Good s y :=
  ⟨good_of_pair hy hxy hyx l1 l2 hne h1 h2,
    good_of_pair hx hyx hxy (h1 ▸ l0) m2 (fun e => hne (h1.trans (e.symm.trans h2.symm))) h2.symm
      h1.symm⟩

theorem PairInv.good {s : HE} (h : PairInv s) {e : Nat} (he : e < s.start.size) : Good s e :=
  h.2.2.2 e he

/-- everything `CheckHalfedges` says about a live halfedge of a manifold state -/
structure LiveF (s : HE) (e : Nat) : Prop where
  lt : e < s.start.size
  pl : s.P e ≠ -1
  nlt : nx e < s.start.size
  npl : s.P (nx e) ≠ -1
  s0 : s.S e ≠ -1
  s1 : s.S (nx e) ≠ -1
  s2 : s.S (nx (nx e)) ≠ -1
  p0 : 0 ≤ s.P e
  plt : s.Pn e < s.start.size
  pp : s.P (s.Pn e) = (e : Int)
  ppl : s.P (s.Pn e) ≠ -1
  pn : s.Pn (s.Pn e) = e
  nd : s.S e ≠ s.S (nx e)
  se : s.S e = s.S (nx (s.Pn e))
  es : s.S (nx e) = s.S (s.Pn e)

theorem liveF {s : HE} (h : PairInv s) {e : Nat} (he : e < s.start.size) (hl : s.P e ≠ -1) :
    LiveF s e := by
  obtain ⟨a, b, c, d, f, g, i, j⟩ := Good.live (h.good he) hl
  have hn : nx e < s.start.size := nx_lt h.1.2.2 he
  have hnl : s.P (nx e) ≠ -1 := by
    intro hc
    rcases (good_iff s (nx e)).1 (h.good hn) with ⟨x, _, _⟩ | ⟨_, _, x, _⟩
    · exact a x
    · omega
  have hpl : s.P (s.Pn e) ≠ -1 := by omega
  obtain ⟨a', _, _, _, _, _, _, _⟩ := Good.live (h.good d) hpl
  have hpn : s.Pn (s.Pn e) = e := by
    have : s.Pn (s.Pn e) = (s.P (s.Pn e)).toNat := rfl
    rw [this, f]; rfl
  exact ⟨he, hl, hn, hnl, by rw [i]; exact a', a, b, c, d, f, hpl, hpn, g, i, j⟩

theorem LiveF.next {s : HE} {e : Nat} (L : LiveF s e) (h : PairInv s) : LiveF s (nx e) :=
  liveF h L.nlt L.npl

/-! ## relabelling

`UpdateVert` rewrites `start_` on a fan; `FormLoop` does so twice (two fresh labels), `CollapseEdge`
once (the label of `endVert`). -/

/-- Relabelling `R` (halfedges labelled `u`) to `L` keeps a halfedge `j` `Good` when its pairing
and its partner's are untouched, `R` is closed under `x ↦ nx (Pn x)` at `j` and at its partner,
and no member of `R` pointed at `L`.  The new labels are only asked for on the triangles of `j`
and of its partner. -/
theorem good_relabel {s s' : HE} {R : Nat → Prop} {u L : Int} {j : Nat}
    (hsz : s'.start.size = s.start.size) (hg : Good s j)
    (hR : ∀ x, R x → s.S x = u) (hu : u ≠ -1) (hL : L ≠ -1) (hnd : ∀ x, R x → s.S (nx x) ≠ L)
    (hS1 : ∀ x, x / 3 = j / 3 ∨ (0 ≤ s.P j ∧ x / 3 = s.Pn j / 3) → R x → s'.S x = L)
    (hS0 : ∀ x, x / 3 = j / 3 ∨ (0 ≤ s.P j ∧ x / 3 = s.Pn j / 3) → ¬ R x → s'.S x = s.S x)
    (hPj : s'.P j = s.P j) (hPp : 0 ≤ s.P j → s'.P (s.Pn j) = s.P (s.Pn j))
    (hcl : 0 ≤ s.P j → (R j ↔ R (nx (s.Pn j))) ∧ (R (s.Pn j) ↔ R (nx j))) : Good s' j := by
  -- labels that agree, on halfedges that are both or neither relabelled, still agree
  have tr : ∀ x y, (x / 3 = j / 3 ∨ (0 ≤ s.P j ∧ x / 3 = s.Pn j / 3)) →
      (y / 3 = j / 3 ∨ (0 ≤ s.P j ∧ y / 3 = s.Pn j / 3)) → (R x ↔ R y) → s.S x = s.S y →
      s'.S x = s'.S y := by
    intro x y hx hy hxy e
    by_cases r : R x
    · rw [hS1 x hx r, hS1 y hy (hxy.1 r)]
    · rw [hS0 x hx r, hS0 y hy (fun q => r (hxy.2 q)), e]
  have live : ∀ x, (x / 3 = j / 3 ∨ (0 ≤ s.P j ∧ x / 3 = s.Pn j / 3)) → s.S x ≠ -1 →
      s'.S x ≠ -1 := by
    intro x hx h1
    by_cases r : R x
    · rw [hS1 x hx r]; exact hL
    · rw [hS0 x hx r]; exact h1
  have dead : ∀ x, s.S x = -1 → ¬ R x := fun x h1 r => hu ((hR x r).symm.trans h1)
  have j0 : j / 3 = j / 3 ∨ (0 ≤ s.P j ∧ j / 3 = s.Pn j / 3) := Or.inl rfl
  have j1 : nx j / 3 = j / 3 ∨ (0 ≤ s.P j ∧ nx j / 3 = s.Pn j / 3) := Or.inl (nx_div j)
  rcases (good_iff s j).1 hg with ⟨a, b, c⟩ | ⟨a, b, c, d, f, g1, g2, g3⟩
  · exact good_of_tomb ((hS0 j j0 (dead j a)).trans a) ((hS0 _ j1 (dead _ b)).trans b) (hPj.trans c)
  · obtain ⟨c1, c2⟩ := hcl c
    have t3 : s'.S j ≠ s'.S (nx j) := by
      by_cases r : R j <;> by_cases r' : R (nx j)
      · exact absurd ((hR _ r).trans (hR _ r').symm) g1
      · rw [hS1 j j0 r, hS0 _ j1 r']; exact (hnd j r).symm
      · rw [hS0 j j0 r, hS1 _ j1 r', g2]; exact hnd _ (c2.2 r')
      · rw [hS0 j j0 r, hS0 _ j1 r']; exact g1
    exact good_of_pair (hsz ▸ d) (hPj.trans (P_eq_Pn c)) ((hPp c).trans f) (live _ j1 a)
      (live _ (Or.inl ((nx_div _).trans (nx_div j))) b) t3
      (tr _ _ j0 (Or.inr ⟨c, nx_div _⟩) c1 g2) (tr _ _ j1 (Or.inr ⟨c, rfl⟩) c2.symm g3)

/-- `good_relabel` for a state with dangling halfedges: a relabelling that leaves `paired` alone
keeps `PairInvExcept` when `R` is closed under the rotation outside the exception list -/
theorem relabel_preserves {s s' : HE} {X : List Nat} {R : Nat → Prop} {u L : Int}
    (h : PairInvExcept s X) (hw' : WF s') (hsz : s'.start.size = s.start.size)
    (hP : ∀ x, s'.P x = s.P x)
    (hS1 : ∀ x, R x → s'.S x = L) (hS0 : ∀ x, ¬ R x → s'.S x = s.S x)
    (hR : ∀ x, R x → s.S x = u) (hu : u ≠ -1) (hL : L ≠ -1) (hnd : ∀ x, R x → s.S (nx x) ≠ L)
    (hcl : ∀ j, j < s.start.size → j ∉ X → 0 ≤ s.P j →
      (R j ↔ R (nx (s.Pn j))) ∧ (R (s.Pn j) ↔ R (nx j))) : PairInvExcept s' X :=
  ⟨hw', fun j hj hx => good_relabel hsz (h.good (hsz ▸ hj) hx) hR hu hL hnd (fun x _ => hS1 x)
    (fun x _ => hS0 x) (hP j) (fun _ => hP _) (hcl j (hsz ▸ hj) hx)⟩

/-! ## the walk of `UpdateVert` / "Orbit startVert" / "Orbit endVert" -/

/-- `i` steps of `current ↦ Pair(NextHalfedge(current))` from `c0` (the halfedges ENDING at one
vertex, clockwise) -/
def HE.walk (s : HE) (c0 : Nat) : Nat → Nat
  | 0 => c0
  | i + 1 => s.Pn (nx (HE.walk s c0 i))

@[simp] theorem walk_zero (s : HE) (c0 : Nat) : s.walk c0 0 = c0 := rfl
theorem walk_succ (s : HE) (c0 i : Nat) : s.walk c0 (i + 1) = s.Pn (nx (s.walk c0 i)) := rfl
theorem walk_succ' (s : HE) (c0 i : Nat) : s.walk c0 (i + 1) = s.walk (s.Pn (nx c0)) i := by
  induction i with
  | zero => rfl
  | succ i ih => rw [walk_succ, ih, ← walk_succ]

end MV.EdgeOp
