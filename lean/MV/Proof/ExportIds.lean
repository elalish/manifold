import MV.Proof.Export
import MV.Proof.ListArray
/-! Mesh-ID bookkeeping lemmas (`MV/Model/MeshIds.lean`): `IncrementMeshIDs` renumbering,
`UpdateReference` key shifting, `Compose` key shifting, for `MV/Props/C07.lean`. -/
namespace MV.Export
open List

variable {τ : Type}

/-! ## general helpers on association lists with ascending keys -/

theorem find?_fst_of_mem_pairwise {β : Type} (l : List (Int × β)) (k : Int) (v : β)
    (h : (l.map (·.1)).Pairwise (· < ·)) (hmem : (k, v) ∈ l) :
    l.find? (fun p => p.1 == k) = some (k, v) := by
  induction l with
  | nil => simp at hmem
  | cons x xs ih =>
    simp only [List.map_cons, List.pairwise_cons] at h
    rcases List.mem_cons.1 hmem with rfl | hx
    · simp
    · have hlt : x.1 < k := h.1 k (List.mem_map.2 ⟨(k, v), hx, rfl⟩)
      have hne : (x.1 == k) = false := by
        simp only [beq_eq_false_iff_ne, ne_eq]; omega
      rw [List.find?_cons, hne]; exact ih h.2 hx

theorem RelMap.lookup_eq_some_of_mem (m : RelMap τ) (k : Int) (v : Rel τ)
    (hm : RelMap.Sorted m) (hmem : (k, v) ∈ m) : RelMap.lookup m k = some v := by
  unfold RelMap.lookup
  rw [find?_fst_of_mem_pairwise m k v hm hmem]; rfl

theorem RelMap.exists_mem_of_mem_keys (m : RelMap τ) (k : Int) (hk : k ∈ m.keys) :
    ∃ v, (k, v) ∈ m := by
  unfold RelMap.keys at hk
  obtain ⟨⟨k', v⟩, hmem, rfl⟩ := List.mem_map.1 hk
  exact ⟨v, hmem⟩

theorem RelMap.mem_keys_of_mem (m : RelMap τ) (k : Int) (v : Rel τ) (h : (k, v) ∈ m) :
    k ∈ m.keys := List.mem_map.2 ⟨(k, v), h, rfl⟩

theorem RelMap.lookup_append (m1 m2 : RelMap τ) (k : Int) :
    RelMap.lookup (m1 ++ m2) k = (RelMap.lookup m1 k).or (RelMap.lookup m2 k) := by
  unfold RelMap.lookup
  rw [List.find?_append]
  cases List.find? (fun kv => kv.1 == k) m1 <;> simp

theorem RelMap.lookup_eq_none_of_not_mem_keys (m : RelMap τ) (k : Int) (hk : k ∉ m.keys) :
    RelMap.lookup m k = none := by
  unfold RelMap.lookup
  rw [Option.map_eq_none_iff, List.find?_eq_none]
  intro x hx hxk
  exact hk (List.mem_map.2 ⟨x, hx, by simpa using hxk⟩)

theorem RelMap.lookup_map_shift (m : RelMap τ) (c : Int) (g : Rel τ → Rel τ) (k : Int) :
    RelMap.lookup (m.map fun kv => (kv.1 + c, g kv.2)) (k + c) = (RelMap.lookup m k).map g := by
  unfold RelMap.lookup
  induction m with
  | nil => rfl
  | cons x xs ih =>
    simp only [List.map_cons, List.find?_cons]
    by_cases h : x.1 = k
    · have h1 : (x.1 + c == k + c) = true := by simp [h]
      have h2 : (x.1 == k) = true := by simp [h]
      rw [h1, h2]; rfl
    · have h1 : (x.1 + c == k + c) = false := by
        simp only [beq_eq_false_iff_ne, ne_eq]; omega
      have h2 : (x.1 == k) = false := by simpa using h
      rw [h1, h2]; exact ih

theorem RelMap.insert_eq_append_of_lt (m : RelMap τ) (k : Int) (v : Rel τ)
    (h : ∀ k' ∈ m.keys, k' < k) : RelMap.insert m k v = m ++ [(k, v)] := by
  induction m with
  | nil => rfl
  | cons x xs ih =>
    obtain ⟨k', v'⟩ := x
    have hk' : k' < k := h k' (by simp [RelMap.keys])
    have h1 : ¬ k < k' := by omega
    have h2 : ¬ k = k' := by omega
    simp only [RelMap.insert, h1, h2, if_false, List.cons_append]
    rw [ih (fun k'' hk'' => h k'' (by
      simp only [RelMap.keys, List.map_cons, List.mem_cons] at hk'' ⊢
      exact Or.inr hk''))]

theorem RelMap.foldl_insert_eq_append {α : Type} (f : α → Int × Rel τ) (l : List α) (acc : RelMap τ)
    (hl : (l.map fun x => (f x).1).Pairwise (· < ·))
    (hacc : ∀ k ∈ acc.keys, ∀ x ∈ l, k < (f x).1) :
    l.foldl (fun m x => RelMap.insert m (f x).1 (f x).2) acc = acc ++ l.map f := by
  induction l generalizing acc with
  | nil => simp
  | cons x xs ih =>
    simp only [List.map_cons, List.pairwise_cons] at hl
    simp only [List.foldl_cons, List.map_cons]
    rw [RelMap.insert_eq_append_of_lt acc _ _ (fun k hk => hacc k hk x (by simp))]
    rw [ih _ hl.2]
    · simp
    · intro k hk y hy
      simp only [RelMap.keys, List.map_append, List.map_cons, List.map_nil, List.mem_append,
        List.mem_singleton] at hk
      rcases hk with hk | rfl
      · exact hacc k hk y (by simp [hy])
      · exact hl.1 _ (List.mem_map.2 ⟨y, hy, rfl⟩)

theorem RelMap.sorted_append (m1 m2 : RelMap τ) (h1 : RelMap.Sorted m1) (h2 : RelMap.Sorted m2)
    (h : ∀ a ∈ m1.keys, ∀ b ∈ m2.keys, a < b) : RelMap.Sorted (m1 ++ m2) := by
  unfold RelMap.Sorted
  rw [List.map_append, List.pairwise_append]
  exact ⟨h1, h2, h⟩

/-! ## the renumbering of `IncrementMeshIDs` -/

theorem old2new_keys (m : RelMap τ) (next : Int) :
    (old2new m next).map (·.1) = m.map (·.1) := by
  unfold old2new
  rw [List.map_map]
  have h : ((fun p : Int × Int => p.1) ∘ fun kvi : (Int × Rel τ) × Nat => (kvi.1.1, next + (kvi.2 : Int)))
      = (fun kv : Int × Rel τ => kv.1) ∘ Prod.fst := rfl
  rw [h, ← List.map_map, List.zipIdx_map_fst]

theorem old2newAt_getElem (m : RelMap τ) (next : Int) (hm : RelMap.Sorted m) (i : Nat)
    (hi : i < m.length) : old2newAt (old2new m next) (m[i]).1 = next + i := by
  unfold old2newAt
  rw [find?_fst_of_mem_pairwise (old2new m next) (m[i]).1 (next + i)
    (by rw [old2new_keys]; exact hm) ?_]
  · rfl
  · unfold old2new
    exact List.mem_map.2 ⟨(m[i], i), by simp [List.mk_mem_zipIdx_iff_getElem?], rfl⟩

theorem RelMap.mem_keys_iff_getElem (m : RelMap τ) (a : Int) :
    a ∈ m.keys ↔ ∃ (i : Nat) (hi : i < m.length), (m[i]).1 = a := by
  unfold RelMap.keys
  rw [List.mem_iff_getElem]
  constructor
  · rintro ⟨i, hi, h⟩
    rw [List.length_map] at hi
    exact ⟨i, hi, by simpa using h⟩
  · rintro ⟨i, hi, h⟩
    exact ⟨i, by simpa using hi, by simpa using h⟩

theorem RelMap.Sorted.key_lt_iff {m : RelMap τ} (hm : RelMap.Sorted m) (i j : Nat)
    (hi : i < m.length) (hj : j < m.length) : (m[i]).1 < (m[j]).1 ↔ i < j := by
  unfold RelMap.Sorted at hm
  rw [List.pairwise_iff_getElem] at hm
  have key : ∀ i j (hi : i < m.length) (hj : j < m.length), i < j → (m[i]).1 < (m[j]).1 := by
    intro i j hi hj hij
    have := hm i j (by simpa using hi) (by simpa using hj) hij
    simpa using this
  constructor
  · intro h
    rcases Nat.lt_trichotomy i j with hij | hij | hji
    · exact hij
    · subst hij; omega
    · have := key j i hj hi hji; omega
  · exact key i j hi hj

theorem incrementKeys_sorted (m : RelMap τ) (next : Int) : RelMap.Sorted (incrementKeys m next) := by
  unfold RelMap.Sorted incrementKeys
  rw [List.pairwise_iff_getElem]
  intro i j hi hj hij
  simp only [List.getElem_map, List.getElem_zipIdx]
  omega

theorem incrementKeys_lookup_getElem (m : RelMap τ) (next : Int) (hm : RelMap.Sorted m) (i : Nat)
    (hi : i < m.length) :
    RelMap.lookup (incrementKeys m next) (next + i) = RelMap.lookup m (m[i]).1 := by
  rw [RelMap.lookup_eq_some_of_mem m (m[i]).1 (m[i]).2 hm (List.getElem_mem hi)]
  apply RelMap.lookup_eq_some_of_mem _ _ _ (incrementKeys_sorted m next)
  unfold incrementKeys
  exact List.mem_map.2 ⟨(m[i], i), by simp [List.mk_mem_zipIdx_iff_getElem?], rfl⟩

example :
    RelMap.Sorted ([(5, ⟨2, 50, false, false⟩), (6, ⟨1, 60, true, false⟩), (9, ⟨1, 70, false, true⟩)] : RelMap Nat) := by
  simp [RelMap.Sorted]

example :
    RelMap.Sorted ([(5, ⟨2, 50, false, false⟩), (6, ⟨1, 60, true, false⟩), (9, ⟨1, 70, false, true⟩)] : RelMap Nat) ∧
    (⟨9, 1, 0, 0⟩ : TriRef).meshID ∈ RelMap.keys
      ([(5, ⟨2, 50, false, false⟩), (6, ⟨1, 60, true, false⟩), (9, ⟨1, 70, false, true⟩)] : RelMap Nat) ∧
    (⟨6, 1, 3, 3⟩ : TriRef).meshID ∈ RelMap.keys
      ([(5, ⟨2, 50, false, false⟩), (6, ⟨1, 60, true, false⟩), (9, ⟨1, 70, false, true⟩)] : RelMap Nat) := by
  simp [RelMap.Sorted, RelMap.keys]

/-! ## key shifting; `Compose` -/

theorem RelMap.pairwise_map_shift (m : RelMap τ) (c : Int) (hm : RelMap.Sorted m) :
    (m.map fun kv => kv.1 + c).Pairwise (· < ·) := by
  unfold RelMap.Sorted at hm
  rw [List.pairwise_map] at hm ⊢
  exact hm.imp (fun h => by omega)

theorem RelMap.sorted_map_shift (m : RelMap τ) (c : Int) (g : Rel τ → Rel τ) (hm : RelMap.Sorted m) :
    RelMap.Sorted (m.map fun kv => (kv.1 + c, g kv.2)) := by
  have := RelMap.pairwise_map_shift m c hm
  unfold RelMap.Sorted
  rw [List.map_map]
  exact this

theorem RelMap.mem_keys_map_shift (m : RelMap τ) (c : Int) (g : Rel τ → Rel τ) (k : Int) :
    k ∈ RelMap.keys (m.map fun kv => (kv.1 + c, g kv.2)) ↔ ∃ k' ∈ m.keys, k = k' + c := by
  unfold RelMap.keys
  simp only [List.map_map, List.mem_map, Function.comp]
  constructor
  · rintro ⟨x, hx, rfl⟩; exact ⟨x.1, ⟨x, hx, rfl⟩, rfl⟩
  · rintro ⟨k', ⟨x, hx, rfl⟩, rfl⟩; exact ⟨x, hx, rfl⟩

theorem RelMap.foldl_insert_nil (m : RelMap τ) (hm : RelMap.Sorted m) :
    m.foldl (fun acc kv => RelMap.insert acc kv.1 kv.2) ([] : RelMap τ) = m := by
  have := RelMap.foldl_insert_eq_append (fun kv : Int × Rel τ => kv) m [] hm
    (by intro k hk; simp [RelMap.keys] at hk)
  simpa using this

example :
    RelMap.Sorted ([(0, ⟨0, 10, false, false⟩), (3, ⟨2, 30, true, false⟩)] : RelMap Nat) ∧
    RelMap.Sorted ([(0, ⟨5, 50, false, false⟩), (1, ⟨6, 60, true, true⟩)] : RelMap Nat) ∧
    (∀ k ∈ RelMap.keys ([(0, ⟨0, 10, false, false⟩), (3, ⟨2, 30, true, false⟩)] : RelMap Nat), k < 4) ∧
    (∀ k ∈ RelMap.keys ([(0, ⟨5, 50, false, false⟩), (1, ⟨6, 60, true, true⟩)] : RelMap Nat), 0 ≤ k) := by
  simp [RelMap.Sorted, RelMap.keys]

/-- node `(m, i)` of the zipped list, shifted -/
abbrev shiftNode (snapshot : Int) : RelMap τ × Nat → RelMap τ :=
  fun mi => mi.1.map fun kv => (kv.1 + mi.2 * snapshot, kv.2)

/-- a node with a key forces `0 < s`, so `s` need not be assumed positive -/
theorem compose_flat_sorted (ms : List (RelMap τ)) (s : Int)
    (hs : ∀ m ∈ ms, RelMap.Sorted m) (hk : ∀ m ∈ ms, ∀ k ∈ m.keys, 0 ≤ k ∧ k < s) (n : Nat) :
    RelMap.Sorted ((ms.zipIdx n).flatMap (shiftNode s)) ∧
    ∀ k ∈ RelMap.keys ((ms.zipIdx n).flatMap (shiftNode s)), 0 < s ∧ (n : Int) * s ≤ k := by
  induction ms generalizing n with
  | nil => simp [RelMap.Sorted, RelMap.keys]
  | cons m ms ih =>
    obtain ⟨ih1, ih2⟩ := ih (fun m' hm' => hs m' (List.mem_cons_of_mem _ hm'))
      (fun m' hm' => hk m' (List.mem_cons_of_mem _ hm')) (n + 1)
    have hsm := hs m (List.mem_cons_self ..)
    have hkm := hk m (List.mem_cons_self ..)
    have hmul : ((n + 1 : Nat) : Int) * s = (n : Int) * s + s := by
      rw [Int.natCast_add, Int.add_mul]; simp
    rw [hmul] at ih2
    rw [List.zipIdx_cons, List.flatMap_cons]
    have hfirst : ∀ k ∈ RelMap.keys (shiftNode s (m, n)), (n : Int) * s ≤ k ∧ k < (n : Int) * s + s := by
      intro k hk'
      obtain ⟨k', hk'', rfl⟩ := (RelMap.mem_keys_map_shift m ((n : Int) * s) id k).1 hk'
      have := hkm k' hk''
      omega
    constructor
    · refine RelMap.sorted_append _ _ (RelMap.sorted_map_shift m ((n : Int) * s) id hsm) ih1 ?_
      intro a ha b hb
      have h1 := hfirst a ha
      have h2 := ih2 b hb
      omega
    · intro k hk'
      simp only [RelMap.keys, List.map_append, List.mem_append] at hk'
      rcases hk' with hk' | hk'
      · have := hfirst k hk'; omega
      · have := ih2 k hk'; omega

/-- the nested loops are one fold of inserts over the flattened shifted tables, whose keys ascend -/
theorem composeRelations_eq (ms : List (RelMap τ)) (s : Int)
    (hs : ∀ m ∈ ms, RelMap.Sorted m) (hk : ∀ m ∈ ms, ∀ k ∈ m.keys, 0 ≤ k ∧ k < s) :
    composeRelations ms s = ms.zipIdx.flatMap (shiftNode s) := by
  have h := RelMap.foldl_insert_eq_append (fun kv : Int × Rel τ => kv) (ms.zipIdx.flatMap (shiftNode s)) []
    (compose_flat_sorted ms s hs hk 0).1 (fun k hk' => by simp [RelMap.keys] at hk')
  rw [foldl_flatMap, nil_append, map_id'] at h
  rw [← h]
  unfold composeRelations
  congr 1
  funext acc mi
  exact (foldl_map (f := fun kv : Int × Rel τ => (kv.1 + (mi.2 : Int) * s, kv.2))
    (g := fun (m : RelMap τ) x => m.insert x.1 x.2)).symm

example :
    (∀ m ∈ ([[(0, ⟨0, 10, false, false⟩), (3, ⟨2, 30, true, false⟩)], [],
        [(1, ⟨5, 50, false, false⟩), (2, ⟨6, 60, true, true⟩)]] : List (RelMap Nat)), RelMap.Sorted m) ∧
    (∀ m ∈ ([[(0, ⟨0, 10, false, false⟩), (3, ⟨2, 30, true, false⟩)], [],
        [(1, ⟨5, 50, false, false⟩), (2, ⟨6, 60, true, true⟩)]] : List (RelMap Nat)),
      ∀ k ∈ m.keys, 0 ≤ k ∧ k < 4) := by
  refine ⟨by simp [RelMap.Sorted], ?_⟩
  intro m hm k hk
  simp only [List.mem_cons, List.not_mem_nil, or_false] at hm
  rcases hm with rfl | rfl | rfl <;> simp [RelMap.keys] at hk <;> omega

end MV.Export
