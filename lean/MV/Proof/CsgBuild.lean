import MV.Proof.CsgFin
/-
Node-building operations (`Manifold::Boolean`, `BatchBoolean`, `Transform`, constructors):
they append one node and at most one impl; nothing that exists changes.
-/
set_option autoImplicit false
namespace MV.Csg
open SolidAlg XfAct

variable {M S : Type}

/-- append one node and some impls -/
def Store.grow (s : Store M) (nd : Node M) (is : List (List Nat)) : Store M :=
  { s with nodes := s.nodes ++ [nd], impls := s.impls ++ is }

section Grow
variable {s : Store M} {nd : Node M} {is : List (List Nat)}

theorem grow_node_lt {k : Nat} (hk : k < s.nodes.length) :
    (s.grow nd is).nodes[k]? = s.nodes[k]? := by
  simp only [Store.grow]
  rw [List.getElem?_append_left hk]

theorem grow_node_new : (s.grow nd is).nodes[s.nodes.length]? = some nd := by
  simp [Store.grow]

theorem grow_node_old {k : Nat} {x : Node M} (h : s.nodes[k]? = some x) :
    (s.grow nd is).nodes[k]? = some x := by
  rw [grow_node_lt (List.getElem?_eq_some_iff.1 h).1, h]

theorem grow_node_cases {k : Nat} {x : Node M} (h : (s.grow nd is).nodes[k]? = some x) :
    s.nodes[k]? = some x ∨ (k = s.nodes.length ∧ x = nd) := by
  by_cases hk : k < s.nodes.length
  · rw [grow_node_lt hk] at h; exact Or.inl h
  · have hlen := (List.getElem?_eq_some_iff.1 h).1
    simp only [Store.grow, List.length_append, List.length_singleton] at hlen
    have : k = s.nodes.length := by omega
    subst this
    rw [grow_node_new] at h
    exact Or.inr ⟨rfl, (Option.some.inj h).symm⟩

theorem grow_impl_old {j : Nat} {ch : List Nat} (h : s.impls[j]? = some ch) :
    (s.grow nd is).impls[j]? = some ch := by
  simp only [Store.grow]
  rw [List.getElem?_append_left (List.getElem?_eq_some_iff.1 h).1, h]

theorem grow_impl_cases {j : Nat} {ch : List Nat} (h : (s.grow nd is).impls[j]? = some ch) :
    s.impls[j]? = some ch ∨ (s.impls.length ≤ j ∧ ch ∈ is) := by
  by_cases hj : j < s.impls.length
  · simp only [Store.grow] at h
    rw [List.getElem?_append_left hj] at h
    exact Or.inl h
  · right
    simp only [Store.grow] at h
    rw [List.getElem?_append_right (by omega)] at h
    exact ⟨by omega, List.mem_of_getElem? h⟩

/-- side conditions under which `grow` keeps the store well-formed -/
structure GrowOK (s : Store M) (nd : Node M) (is : List (List Nat)) : Prop where
  node : ∀ {i : Nat} {o : Op} {m : M} {c : Option Nat}, nd = Node.op i o m c →
    c = none ∧ i < s.impls.length + is.length ∧
    ∀ {n' : Nat} {o' : Op} {m' : M} {c' : Option Nat},
      s.nodes[n']? = some (Node.op i o' m' c') → o' = o
  impl : ∀ ch ∈ is, 2 ≤ ch.length ∧ ∀ c ∈ ch, c < s.nodes.length

theorem grow_wfs (h : WFs s) (g : GrowOK s nd is) : WFs (s.grow nd is) := by
  refine ⟨?_, ?_, ?_, ?_, ?_⟩
  · intro n i o m c hn
    simp only [Store.grow, List.length_append]
    rcases grow_node_cases hn with h' | ⟨_, rfl⟩
    · have := h.impl_lt h'; omega
    · exact (g.node rfl).2.1
  · intro j ch hj c hc
    rcases grow_impl_cases hj with h' | ⟨hjge, hmem⟩
    · rcases h.child h' c hc with ⟨l, hl⟩ | ⟨i, o, m, k, hk, hlt⟩
      · exact Or.inl ⟨l, grow_node_old hl⟩
      · exact Or.inr ⟨i, o, m, k, grow_node_old hk, hlt⟩
    · have hclt := (g.impl ch hmem).2 c hc
      cases hx : s.nodes[c]? with
      | none => rw [List.getElem?_eq_getElem hclt] at hx; cases hx
      | some x =>
        cases x with
        | leaf l => exact Or.inl ⟨l, grow_node_old hx⟩
        | op i o m k =>
          have := h.impl_lt hx
          exact Or.inr ⟨i, o, m, k, grow_node_old hx, by omega⟩
  · intro j ch hj
    rcases grow_impl_cases hj with h' | ⟨_, hmem⟩
    · rcases h.shape h' with h2 | ⟨c, l, rfl, hl⟩
      · exact Or.inl h2
      · exact Or.inr ⟨c, l, rfl, grow_node_old hl⟩
    · exact Or.inl (g.impl ch hmem).1
  · intro n n' i o o' m m' c c' h1 h2
    rcases grow_node_cases h1 with h1' | ⟨_, e1⟩ <;> rcases grow_node_cases h2 with h2' | ⟨_, e2⟩
    · exact h.op_same h1' h2'
    · exact (g.node e2.symm).2.2 h1'
    · exact ((g.node e1.symm).2.2 h2').symm
    · rw [← e1] at e2; cases e2; rfl
  · intro n i o m c hn
    rcases grow_node_cases hn with h' | ⟨_, e⟩
    · obtain ⟨⟨l, hl⟩, c', l', hi, hl'⟩ := h.cache h'
      exact ⟨⟨l, grow_node_old hl⟩, c', l', grow_impl_old hi, grow_node_old hl'⟩
    · have := (g.node e.symm).1; cases this

section Den
variable [One M] [Mul M] [SolidAlg S] [XfAct M S]

/-- existing nodes keep their denotation -/
theorem grow_sem (L : Val S) (h : WFs s) (g : GrowOK s nd is) : SemExt L s (s.grow nd is) := by
  refine semExt_of h (grow_wfs h g) grow_node_old (fun hk => ⟨_, grow_node_old hk⟩) ?_
  intro k i o m c hk ih
  rw [getD_of_getElem? (grow_impl_old (nd := nd) (is := is) (h.impl_get hk)), denote_op L h hk,
    List.map_congr_left ih]

theorem grow_cacheOK (L : Val S) (h : WFs s) (g : GrowOK s nd is) (hc : CacheOK L s) :
    CacheOK L (s.grow nd is) := by
  intro n i o m c hn
  rcases grow_node_cases hn with h' | ⟨_, e⟩
  · obtain ⟨⟨l, hl⟩, _⟩ := h.cache h'
    rw [grow_sem L h g n (List.getElem?_eq_some_iff.1 h').1,
      grow_sem L h g c (List.getElem?_eq_some_iff.1 hl).1]
    exact hc h'
  · have := (g.node e.symm).1; cases this

/-- result of a node-building operation: store `s'`, new handle root `n'` of value `v` -/
structure Built (L : Val S) (s s' : Store M) (n' : Nat) (v : S) : Prop where
  wf : WFs s'
  sem : SemExt L s s'
  cache : CacheOK L s'
  val : denote L s' n' = v
  lt : n' < s'.nodes.length
  mono : s.nodes.length ≤ s'.nodes.length

theorem grow_built (L : Val S) (h : WFs s) (hc : CacheOK L s) (g : GrowOK s nd is) {v : S}
    (hv : WFs (s.grow nd is) → denote L (s.grow nd is) s.nodes.length = v) :
    Built L s (s.grow nd is) s.nodes.length v :=
  ⟨grow_wfs h g, grow_sem L h g, grow_cacheOK L h g hc, hv (grow_wfs h g),
    by simp [Store.grow], by simp [Store.grow]⟩

end Den
end Grow

variable [One M] [Mul M] [SolidAlg S] [XfAct M S]

theorem opSem_pair (o : Op) (a b : S) : opSem o [a, b] = binSem o a b := by
  cases o <;> simp [opSem, binSem, union_empty, bigI, bigIo]

theorem binSem_comm {o : Op} (ho : o = .add ∨ o = .int) (a b : S) :
    binSem o a b = binSem o b a := by
  rcases ho with rfl | rfl
  · exact union_comm a b
  · exact inter_comm a b

theorem opSem_nil (o : Op) : opSem o ([] : List S) = empty := by
  cases o <;> rfl

omit [One M] [Mul M] in
theorem addNode_eq (s : Store M) (nd : Node M) :
    s.addNode nd = (s.grow nd [], s.nodes.length) := by
  simp [Store.addNode, Store.grow]

section
variable (L : Val S) (s : Store M) (hwf : WFs s) (hc : CacheOK L s)
include hwf hc

theorem addLeaf_built (l : Leaf M) :
    Built L s (s.addNode (.leaf l)).1 (s.addNode (.leaf l)).2 (L.leaf l) := by
  rw [addNode_eq]
  exact grow_built L hwf hc ⟨fun h => (by cases h), fun _ h => (by simp at h)⟩
    fun _ => denote_leaf L grow_node_new

theorem newLeaf_built (h : Nat) : Built L s (s.newLeaf h).1 (s.newLeaf h).2 (L.orig h) := by
  have := addLeaf_built L s hwf hc (⟨.orig h, 1⟩ : Leaf M)
  simpa [Store.newLeaf, Val.leaf, Val.leafId, act_one] using this

theorem emptyLeaf_built : Built L s s.emptyLeaf.1 s.emptyLeaf.2 empty := by
  have := addLeaf_built L s hwf hc (⟨.empty, 1⟩ : Leaf M)
  simpa [Store.emptyLeaf, Val.leaf, Val.leafId, act_one] using this

/-- `Transform` by `m`: the returned node denotes `act m` of what `a` denotes -/
theorem transform_built (a : Nat) (m : M) (ha : a < s.nodes.length) :
    Built L s (s.transform a m).1 (s.transform a m).2 (act m (denote L s a)) := by
  cases hn : s.nodes[a]? with
  | none => rw [List.getElem?_eq_getElem ha] at hn; cases hn
  | some nd =>
    cases nd with
    | leaf l =>
      have := addLeaf_built L s hwf hc (l.transform m)
      simp only [Store.transform, hn]
      rw [Val.leaf_transform, ← denote_leaf L hn] at this
      exact this
    | op i o x c =>
      simp only [Store.transform, hn, addNode_eq]
      have g : GrowOK s (Node.op i o (m * x) none) [] :=
        ⟨fun h => by
          cases h
          exact ⟨rfl, by have := hwf.impl_lt hn; simpa using this,
            fun h' => hwf.op_same h' hn⟩, fun _ h => by simp at h⟩
      refine grow_built L hwf hc g fun hwf' => ?_
      rw [denote_op L hwf' grow_node_new, denote_op L hwf hn, act_mul]
      have hi := hwf.impl_get hn
      rw [getD_of_getElem? (grow_impl_old (nd := Node.op i o (m * x) none) (is := []) hi)]
      congr 3
      apply List.map_congr_left
      intro c hc'
      exact grow_sem L hwf g c (hwf.child_lt hi hc')

/-- `std::make_shared<CsgOpNode>(children, op)` with at least two children -/
theorem newOp_built (ch : List Nat) (o : Op) (h2 : 2 ≤ ch.length)
    (hch : ∀ c ∈ ch, c < s.nodes.length) :
    Built L s (s.newOp ch o).1 (s.newOp ch o).2 (opSem o (ch.map (denote L s))) := by
  have e : s.newOp ch o = (s.grow (Node.op s.impls.length o 1 none) [ch], s.nodes.length) := rfl
  rw [e]
  have g : GrowOK s (Node.op s.impls.length o (1 : M) none) [ch] :=
    ⟨fun h => by
      cases h
      exact ⟨rfl, by simp, fun h' => by have := hwf.impl_lt h'; omega⟩,
     fun c h => by simp only [List.mem_singleton] at h; subst h; exact ⟨h2, hch⟩⟩
  refine grow_built L hwf hc g fun hwf' => ?_
  rw [denote_op L hwf' grow_node_new, act_one]
  have : (s.grow (Node.op s.impls.length o (1 : M) none) [ch]).impls.getD s.impls.length [] = ch := by
    simp [Store.grow, List.getD]
  rw [this]
  congr 1
  apply List.map_congr_left
  intro c hc'
  exact grow_sem L hwf g c (hch c hc')

/-- `Manifold::Boolean` -/
theorem boolean_built (a b : Nat) (o : Op) (ha : a < s.nodes.length) (hb : b < s.nodes.length) :
    Built L s (s.boolean a b o).1 (s.boolean a b o).2
      (binSem o (denote L s a) (denote L s b)) := by
  simp only [Store.boolean]
  split
  · rename_i hcond
    have ho : o = .add ∨ o = .int := by
      simp only [Bool.and_eq_true, Bool.or_eq_true, beq_iff_eq] at hcond
      exact hcond.2
    have := newOp_built L s hwf hc [b, a] o (by simp) (by
      intro c hc'; simp only [List.mem_cons, List.not_mem_nil, or_false] at hc'
      rcases hc' with rfl | rfl <;> assumption)
    simp only [List.map_cons, List.map_nil, opSem_pair] at this
    rw [binSem_comm ho] at this
    exact this
  · have := newOp_built L s hwf hc [a, b] o (by simp) (by
      intro c hc'; simp only [List.mem_cons, List.not_mem_nil, or_false] at hc'
      rcases hc' with rfl | rfl <;> assumption)
    simpa only [List.map_cons, List.map_nil, opSem_pair] using this

/-- `Manifold::BatchBoolean` -/
theorem batch_built (as : List Nat) (o : Op) (has : ∀ a ∈ as, a < s.nodes.length) :
    Built L s (s.batch as o).1 (s.batch as o).2 (opSem o (as.map (denote L s))) := by
  match as, has with
  | [], _ =>
    simp only [Store.batch, List.map_nil, opSem_nil]
    exact emptyLeaf_built L s hwf hc
  | [a], has =>
    simp only [Store.batch, List.map_cons, List.map_nil, opSem_singleton]
    exact ⟨hwf, SemExt.refl L s, hc, rfl, has a (by simp), Nat.le_refl _⟩
  | a :: b :: rest, has =>
    simp only [Store.batch]
    exact newOp_built L s hwf hc (a :: b :: rest) o (by simp) has

end
end MV.Csg
