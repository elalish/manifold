import MV.Proof.CrossOpsField
/-!
`SimplifyRing` (cross_section.cpp:158-216).

* `simplify_sublist` (any `Scalar`): the output is an in-order subset of the input.
* the popped entry is minimal (exact instance), and the heap invariant `SInv` "every live vertex has a
  current-stamp entry carrying its current deviation" (the comment of the code, "the first non-stale
  pop is the true global minimum") with its preservation by the branches of the loop.
* the doubly linked ring `prev/next` is the cyclic adjacency of the live indices
  `live n st = (List.range n).filter st.alive` (ghost list); a removal erases one element of that
  list and relinks exactly its two neighbours.
* `simplify_count`, `simplify_exit`, `simplify_linked`, `simplify_exit_ring`: what holds at exit, on
  the state and on the returned ring.
-/
namespace MV.CrossOps
open MV.PolyGeom (csucc csucc_of_lt csucc_of_ge csucc_eq_mod csucc_lt csucc_inj exists_csucc_eq)

theorem map_getD_range {β : Type} (l : List β) (d : β) :
    (List.range l.length).map (fun i => l.getD i d) = l := by
  apply List.ext_getElem
  · simp
  · intro i h1 h2
    simp [List.getElem?_eq_getElem h2]

theorem simplifyKept_sublist {α : Type} [Scalar α] (ring : List (V2 α)) (tol : α) :
    (simplifyKept ring tol).Sublist (List.range ring.length) := by
  unfold simplifyKept
  split
  · exact List.Sublist.refl _
  · exact List.filter_sublist

theorem simplify_sublist {α : Type} [Scalar α] (ring : List (V2 α)) (tol : α) :
    (simplifyRing ring tol).Sublist ring := by
  have h := (simplifyKept_sublist ring tol).map (fun i => ring.getD i V2.zero)
  rw [map_getD_range] at h
  exact h

section Generic
variable {α : Type} [Scalar α]

theorem deviation2_congr (r : Nat → V2 α) (prev next prev' next' : Nat → Nat) (k : Nat)
    (hp : prev' k = prev k) (hn : next' k = next k) :
    deviation2 r prev' next' k = deviation2 r prev next k := by
  simp only [deviation2, hp, hn]

theorem mem_eraseIdx_of_ne {β : Type} (l : List β) (k : Nat) (hk : k < l.length) (e : β)
    (he : e ∈ l) (hne : e ≠ l[k]) : e ∈ l.eraseIdx k := by
  rw [List.mem_eraseIdx_iff_getElem]
  obtain ⟨i, hi, rfl⟩ := List.mem_iff_getElem.1 he
  refine ⟨i, hi, ?_, rfl⟩
  rintro rfl
  exact hne rfl

/-- removing a live index `< n` drops the count of live indices by one -/
theorem filter_upd_false (alive : Nat → Bool) (n i : Nat) :
    (List.range n).filter (upd alive i false) = ((List.range n).filter alive).erase i := by
  rw [(List.nodup_range.filter _).erase_eq_filter, List.filter_filter]
  apply List.filter_congr
  intro j _
  by_cases h : j = i <;> simp [upd, h]

theorem length_filter_upd_false (alive : Nat → Bool) (n i : Nat) (hi : i < n)
    (ha : alive i = true) :
    ((List.range n).filter (upd alive i false)).length + 1 = ((List.range n).filter alive).length := by
  rw [filter_upd_false]
  have hmem : i ∈ (List.range n).filter alive := by simp [hi, ha]
  rw [List.length_erase_of_mem hmem]
  have := List.length_pos_of_mem hmem
  omega

end Generic

section Loop
variable {α : Type} [Scalar α]

/-- `heap.top()` -/
def topOf (st : SState α) : Entry α := st.heap.getD (minIdx st.heap) ⟨Scalar.zero, 0, 0⟩
/-- the state after `heap.pop()` -/
def pop (st : SState α) : SState α := { st with heap := st.heap.eraseIdx (minIdx st.heap) }
/-- the test of the `continue`: the entry is of a removed vertex or is outdated -/
def stale (st : SState α) (e : Entry α) : Bool := !st.alive e.idx || e.stamp != st.stamp e.idx

theorem topOf_eq (st : SState α) (hne : st.heap ≠ []) :
    topOf st = st.heap[minIdx st.heap]'(minIdx_lt _ hne) := by
  simp [topOf, List.getD, List.getElem?_eq_getElem (minIdx_lt _ hne)]

theorem topOf_mem (st : SState α) (hne : st.heap ≠ []) : topOf st ∈ st.heap := by
  rw [topOf_eq st hne]; exact List.getElem_mem _

theorem mem_pop_of_ne (st : SState α) (hne : st.heap ≠ []) {e : Entry α} (he : e ∈ st.heap)
    (h : e ≠ topOf st) : e ∈ (pop st).heap :=
  mem_eraseIdx_of_ne _ _ (minIdx_lt _ hne) e he (by rwa [← topOf_eq st hne])

theorem mem_of_mem_pop (st : SState α) {e : Entry α} (he : e ∈ (pop st).heap) : e ∈ st.heap :=
  List.mem_of_mem_eraseIdx he

omit [Scalar α] in
theorem stale_eq_false (st : SState α) (e : Entry α) :
    stale st e = false ↔ st.alive e.idx = true ∧ e.stamp = st.stamp e.idx := by
  unfold stale; cases st.alive e.idx <;> simp

/-- a property `I` kept by the two branches that continue gives `Q` at exit if the two ways out
(loop condition false, `break`) establish it -/
theorem simplifyLoop_rule (r : Nat → V2 α) (tol2 : α) (I Q : SState α → Prop)
    (hstop : ∀ st, I st → ¬ (st.numAlive > 3 ∧ st.heap ≠ []) → Q st)
    (hskip : ∀ st, I st → st.numAlive > 3 → st.heap ≠ [] → stale st (topOf st) = true → I (pop st))
    (hbreak : ∀ st, I st → st.numAlive > 3 → st.heap ≠ [] → stale st (topOf st) = false →
      Scalar.le tol2 (topOf st).d2 = true → Q (pop st))
    (hremove : ∀ st, I st → st.numAlive > 3 → st.heap ≠ [] → stale st (topOf st) = false →
      Scalar.le tol2 (topOf st).d2 = false → I (removeVertex r st (pop st).heap (topOf st).idx)) :
    ∀ st, I st → Q (simplifyLoop r tol2 st) := by
  intro st
  induction st using simplifyLoop.induct r tol2 with
  | case1 x h k top rest hstale ih =>
    intro hI
    rw [simplifyLoop, dif_pos h, if_pos hstale]
    exact ih (hskip x hI h.1 h.2 hstale)
  | case2 x h k top hcur hle =>
    intro hI
    rw [simplifyLoop, dif_pos h, if_neg hcur, if_pos hle]
    exact hbreak x hI h.1 h.2 (Bool.eq_false_iff.2 hcur) hle
  | case3 x h k top rest hcur hnle ih =>
    intro hI
    rw [simplifyLoop, dif_pos h, if_neg hcur, if_neg hnle]
    exact ih (hremove x hI h.1 h.2 (Bool.eq_false_iff.2 hcur) (Bool.eq_false_iff.2 hnle))
  | case4 x h =>
    intro hI
    rw [simplifyLoop, dif_neg h]
    exact hstop x hI h

end Loop

section Field
variable {F : Type} [Field F] [LinearOrder F]

theorem worse_iff (a b : Entry F) :
    worse a b = true ↔ b.d2 < a.d2 ∨ (a.d2 = b.d2 ∧ b.idx < a.idx) := by
  simp [worse]

theorem worse_irrefl (a : Entry F) : ¬ worse a a = true := by
  simp [worse_iff]

theorem worse_trans {a b c : Entry F} (h1 : worse a b = true) (h2 : worse b c = true) :
    worse a c = true := by
  rw [worse_iff] at *
  rcases h1 with h1 | ⟨h1, h1'⟩ <;> rcases h2 with h2 | ⟨h2, h2'⟩
  · exact Or.inl (lt_trans h2 h1)
  · exact Or.inl (h2 ▸ h1)
  · exact Or.inl (h1 ▸ h2)
  · exact Or.inr ⟨h1.trans h2, lt_trans h2' h1'⟩

theorem minIdxFrom_spec (es : List (Entry F)) :
    ∀ (pre : List (Entry F)) (b : Entry F) (bi : Nat),
      (pre ++ es)[bi]? = some b → (∀ e ∈ pre, ¬ worse b e = true) →
      ∃ t, (pre ++ es)[minIdxFrom b bi pre.length es]? = some t ∧
        ∀ e ∈ pre ++ es, ¬ worse t e = true := by
  induction es with
  | nil =>
    intro pre b bi hb hmin
    rw [List.append_nil] at hb ⊢
    exact ⟨b, hb, hmin⟩
  | cons e es ih =>
    intro pre b bi hb hmin
    have happ : pre ++ e :: es = (pre ++ [e]) ++ es := by simp
    have hlen : (pre ++ [e]).length = pre.length + 1 := by simp
    simp only [minIdxFrom]
    rw [happ, ← hlen]
    split
    · rename_i hw
      apply ih (pre ++ [e]) e pre.length
      · simp
      · intro x hx
        rcases List.mem_append.1 hx with hx | hx
        · exact fun hex => hmin x hx (worse_trans hw hex)
        · rw [List.mem_singleton.1 hx]; exact worse_irrefl e
    · rename_i hw
      apply ih (pre ++ [e]) b bi
      · rw [← happ]; exact hb
      · intro x hx
        rcases List.mem_append.1 hx with hx | hx
        · exact hmin x hx
        · rw [List.mem_singleton.1 hx]; exact hw

/-- `heap.top()` is an entry no entry is better than -/
theorem minIdx_min (h : List (Entry F)) (hne : h ≠ []) :
    ∀ e ∈ h, ¬ worse (h[minIdx h]'(minIdx_lt h hne)) e = true := by
  cases h with
  | nil => exact absurd rfl hne
  | cons a as =>
    obtain ⟨t, ht, hmin⟩ := minIdxFrom_spec as [a] a 0 rfl (by
      intro e he; rw [List.mem_singleton.1 he]; exact worse_irrefl a)
    have hlt := minIdx_lt (a :: as) hne
    have heq : (a :: as)[minIdx (a :: as)] = t :=
      Option.some.inj ((List.getElem?_eq_getElem hlt).symm.trans ht)
    rw [heq]
    exact hmin

/-- (C) the counter counts the live indices, (R) everything stays in range, (H) every live vertex
has its current entry in the heap: current stamp, deviation from the CURRENT neighbours.  Nothing
is asked of the other entries. -/
structure SInv (r : Nat → V2 F) (n : Nat) (st : SState F) : Prop where
  cnt : st.numAlive = ((List.range n).filter st.alive).length
  ge3 : 3 ≤ st.numAlive
  hidx : ∀ e ∈ st.heap, e.idx < n
  hprev : ∀ i < n, st.prev i < n
  hnext : ∀ i < n, st.next i < n
  cur : ∀ i < n, st.alive i = true →
    (⟨deviation2 r st.prev st.next i, st.stamp i, i⟩ : Entry F) ∈ st.heap

theorem inv_init (r : Nat → V2 F) (n : Nat) (hn : 3 < n) : SInv r n (simplifyInit r n) where
  cnt := by simp [simplifyInit]
  ge3 := by simp only [simplifyInit]; omega
  hidx := by
    intro e he
    simp only [simplifyInit, List.mem_map, List.mem_range] at he
    obtain ⟨i, hi, rfl⟩ := he
    exact hi
  hprev := fun i _ => Nat.mod_lt _ (by omega)
  hnext := fun i _ => Nat.mod_lt _ (by omega)
  cur := fun i hi _ => List.mem_map.2 ⟨i, List.mem_range.2 hi, rfl⟩

theorem topOf_d2_le (st : SState F) (hne : st.heap ≠ []) : ∀ e ∈ st.heap, (topOf st).d2 ≤ e.d2 := by
  intro e he
  have := minIdx_min st.heap hne e he
  rw [← topOf_eq st hne, worse_iff] at this
  exact not_lt.1 fun hlt => this (Or.inl hlt)

/-- the stale-pop branch (`continue`) keeps the invariant -/
theorem inv_skip (r : Nat → V2 F) (n : Nat) (st : SState F) (hinv : SInv r n st)
    (hne : st.heap ≠ []) (hstale : stale st (topOf st) = true) : SInv r n (pop st) where
  cnt := hinv.cnt
  ge3 := hinv.ge3
  hidx := fun e he => hinv.hidx e (mem_of_mem_pop st he)
  hprev := hinv.hprev
  hnext := hinv.hnext
  cur := fun i hi ha => mem_pop_of_ne st hne (hinv.cur i hi ha)
    fun (heq : (⟨deviation2 r st.prev st.next i, st.stamp i, i⟩ : Entry F) = topOf st) => by
      have := (stale_eq_false st ⟨deviation2 r st.prev st.next i, st.stamp i, i⟩).2 ⟨ha, rfl⟩
      rw [heq, hstale] at this
      cases this

section RemoveFields
variable {α : Type} [Scalar α] (r : Nat → V2 α) (st : SState α) (rest : List (Entry α)) (i : Nat)

theorem removeVertex_prev :
    (removeVertex r st rest i).prev = upd st.prev (st.next i) (st.prev i) := rfl
theorem removeVertex_next :
    (removeVertex r st rest i).next = upd st.next (st.prev i) (st.next i) := rfl
theorem removeVertex_alive : (removeVertex r st rest i).alive = upd st.alive i false := rfl
theorem removeVertex_numAlive : (removeVertex r st rest i).numAlive = st.numAlive - 1 := rfl
theorem removeVertex_heap : (removeVertex r st rest i).heap =
    ⟨deviation2 r (removeVertex r st rest i).prev (removeVertex r st rest i).next (st.next i),
      (removeVertex r st rest i).stamp (st.next i), st.next i⟩ ::
    ⟨deviation2 r (removeVertex r st rest i).prev (removeVertex r st rest i).next (st.prev i),
      st.stamp (st.prev i) + 1, st.prev i⟩ :: rest := by
  simp [removeVertex, upd]
theorem removeVertex_stamp (j : Nat) : (removeVertex r st rest i).stamp j =
    if j = st.next i then (if st.next i = st.prev i then st.stamp (st.prev i) + 1
      else st.stamp (st.next i)) + 1
    else if j = st.prev i then st.stamp (st.prev i) + 1 else st.stamp j := by
  simp only [removeVertex, upd]

end RemoveFields

/-- the removal branch keeps the invariant -/
theorem inv_remove (r : Nat → V2 F) (n : Nat) (st : SState F) (hinv : SInv r n st)
    (rest : List (Entry F)) (hsub : ∀ e ∈ rest, e ∈ st.heap) (i : Nat)
    (hrest : ∀ e ∈ st.heap, e.idx ≠ i → e ∈ rest)
    (hi : i < n) (ha : st.alive i = true) (hgt : 3 < st.numAlive) :
    SInv r n (removeVertex r st rest i) := by
  have hp := hinv.hprev i hi
  have hnx := hinv.hnext i hi
  refine ⟨?_, ?_, ?_, ?_, ?_, ?_⟩
  · have := length_filter_upd_false st.alive n i hi ha
    have := hinv.cnt
    rw [removeVertex_numAlive, removeVertex_alive]; omega
  · rw [removeVertex_numAlive]; omega
  · intro e he
    rw [removeVertex_heap] at he
    simp only [List.mem_cons] at he
    rcases he with rfl | rfl | he
    · exact hnx
    · exact hp
    · exact hinv.hidx e (hsub e he)
  · intro j hj
    simp only [removeVertex_prev, upd]
    split
    · exact hp
    · exact hinv.hprev j hj
  · intro j hj
    simp only [removeVertex_next, upd]
    split
    · exact hnx
    · exact hinv.hnext j hj
  · -- the two neighbours get fresh entries; nobody else's neighbours or stamp changed
    intro j hj haj
    simp only [removeVertex_alive, upd] at haj
    have hji : j ≠ i := by
      rintro rfl; simp at haj
    rw [if_neg hji] at haj
    rw [removeVertex_heap]
    by_cases hjn : j = st.next i
    · rw [hjn]; exact List.mem_cons_self
    · by_cases hjp : j = st.prev i
      · refine List.mem_cons_of_mem _ ?_
        rw [hjp, removeVertex_stamp, if_neg (hjp ▸ hjn), if_pos rfl]
        exact List.mem_cons_self
      · refine List.mem_cons_of_mem _ (List.mem_cons_of_mem _ (hrest _ ?_ hji))
        rw [removeVertex_stamp, if_neg hjn, if_neg hjp, deviation2_congr r st.prev st.next]
        · exact hinv.cur j hj haj
        · simp only [removeVertex_prev, upd, if_neg hjn]
        · simp only [removeVertex_next, upd, if_neg hjp]

end Field

/-- position `i` of `l.eraseIdx k` is position `skip k i` of `l` -/
def skip (k i : Nat) : Nat := if i < k then i else i + 1

theorem skip_of_lt {k i : Nat} (h : i < k) : skip k i = i := if_pos h
theorem skip_of_ge {k i : Nat} (h : ¬ i < k) : skip k i = i + 1 := if_neg h
theorem skip_ne (k i : Nat) : skip k i ≠ k := by
  unfold skip; split <;> omega

theorem getElem?_eraseIdx_skip {β : Type} (l : List β) (k i : Nat) :
    (l.eraseIdx k)[i]? = l[skip k i]? := by
  rw [List.getElem?_eraseIdx]; unfold skip; split <;> rfl

/-- the successor in the list with position `k` erased is the old successor, stepping over `k` -/
theorem skip_csucc (m k i : Nat) (hk : k < m) (hm : 2 ≤ m) (hi : i < m - 1) :
    skip k (csucc (m - 1) i) =
      if csucc m (skip k i) = k then csucc m k else csucc m (skip k i) := by
  by_cases h1 : i + 1 < m - 1
  · rw [csucc_of_lt h1]
    by_cases h2 : i + 1 < k
    · rw [skip_of_lt h2, skip_of_lt (by omega), csucc_of_lt (by omega), if_neg (by omega)]
    · rw [skip_of_ge h2]
      by_cases h3 : i < k
      · rw [skip_of_lt h3, csucc_of_lt (by omega), if_pos (by omega), csucc_of_lt (by omega)]; omega
      · rw [skip_of_ge h3, csucc_of_lt (by omega), if_neg (by omega)]
  · rw [csucc_of_ge h1]
    by_cases h3 : i < k
    · rw [skip_of_lt h3, skip_of_lt (by omega), csucc_of_lt (by omega), if_pos (by omega),
        csucc_of_ge (by omega)]
    · rw [skip_of_ge h3, csucc_of_ge (by omega)]
      by_cases h4 : k = 0
      · subst h4; rw [skip_of_ge (by omega), if_pos rfl, csucc_of_lt (by omega)]
      · rw [skip_of_lt (by omega), if_neg (by omega)]

/-- `next` maps every element of `l` to its cyclic successor and `prev` maps the successor back -/
def LinkedL (l : List Nat) (prev next : Nat → Nat) : Prop :=
  ∀ i a b, l[i]? = some a → l[csucc l.length i]? = some b → next a = b ∧ prev b = a

theorem linkedL_range (n : Nat) :
    LinkedL (List.range n) (fun i => (i + n - 1) % n) (fun i => (i + 1) % n) := by
  intro i a b ha hb
  have hi : i < n := by
    have := (List.getElem?_eq_some_iff.1 ha).1
    simpa using this
  have hc := csucc_lt n i (by omega)
  rw [List.length_range] at hb
  rw [List.getElem?_range hi] at ha
  rw [List.getElem?_range hc] at hb
  cases ha; cases hb
  show (i + 1) % n = csucc n i ∧ (csucc n i + n - 1) % n = i
  refine ⟨(csucc_eq_mod hi).symm, ?_⟩
  by_cases h : i + 1 < n
  · rw [csucc_of_lt h, show i + 1 + n - 1 = i + n by omega, Nat.add_mod_right, Nat.mod_eq_of_lt hi]
  · rw [csucc_of_ge h, show 0 + n - 1 = i by omega, Nat.mod_eq_of_lt hi]

/-- erasing the element at position `k` of a duplicate-free list and relinking its two neighbours
keeps the list linked -/
theorem linkedL_eraseIdx (l : List Nat) (hnd : l.Nodup) (prev next : Nat → Nat)
    (hL : LinkedL l prev next) (k : Nat) (hk : k < l.length) (hm : 2 ≤ l.length) :
    LinkedL (l.eraseIdx k) (upd prev (next l[k]) (prev l[k])) (upd next (prev l[k]) (next l[k])) := by
  obtain ⟨pk, hpk, hpkk⟩ := exists_csucc_eq hk
  have hck := csucc_lt l.length k (by omega)
  have hP : l[pk]? = some l[pk] := List.getElem?_eq_getElem hpk
  have hN : l[csucc l.length k]? = some l[csucc l.length k] := List.getElem?_eq_getElem hck
  have h1 := hL pk l[pk] l[k] hP (by rw [hpkk]; exact List.getElem?_eq_getElem hk)
  have h2 := hL k l[k] l[csucc l.length k] (List.getElem?_eq_getElem hk) hN
  rw [h1.2, h2.1]
  intro i a b ha hb
  have hlen : (l.eraseIdx k).length = l.length - 1 := by
    rw [List.length_eraseIdx, if_pos hk]
  have hi : i < l.length - 1 := by
    have := (List.getElem?_eq_some_iff.1 ha).1
    rwa [hlen] at this
  rw [getElem?_eraseIdx_skip] at ha hb
  rw [hlen, skip_csucc l.length k i hk hm hi] at hb
  have hj : skip k i < l.length := (List.getElem?_eq_some_iff.1 ha).1
  by_cases hjk : csucc l.length (skip k i) = k
  · -- `a` is the predecessor of the erased element and `b` its successor
    rw [if_pos hjk] at hb
    rw [csucc_inj hj hpk (hjk.trans hpkk.symm), hP] at ha
    rw [hN] at hb
    cases ha; cases hb
    simp [upd]
  · -- an old link, not touched by the update since `l` has no duplicates
    rw [if_neg hjk] at hb
    have haP : a ≠ l[pk] := by
      intro h
      have e : l[skip k i]? = l[pk]? := by rw [ha, hP, h]
      exact hjk ((List.getElem?_inj hj hnd).1 e ▸ hpkk)
    have hbN : b ≠ l[csucc l.length k] := by
      intro h
      have hj' : csucc l.length (skip k i) < l.length := csucc_lt _ _ (by omega)
      have e : l[csucc l.length (skip k i)]? = l[csucc l.length k]? := by rw [hb, hN, h]
      exact skip_ne k i (csucc_inj hj hk ((List.getElem?_inj hj' hnd).1 e))
    simp only [upd, if_neg haP, if_neg hbN]
    exact hL _ a b ha hb

/-- the ghost list of live indices -/
def live {α : Type} (n : Nat) (st : SState α) : List Nat := (List.range n).filter st.alive

theorem live_nodup {α : Type} (n : Nat) (st : SState α) : (live n st).Nodup :=
  List.nodup_range.filter _

section Field
variable {F : Type} [Field F] [LinearOrder F]

theorem linked_remove (r : Nat → V2 F) (n : Nat) (st : SState F) (rest : List (Entry F)) (i : Nat)
    (hi : i < n) (ha : st.alive i = true) (hcnt : 4 ≤ (live n st).length)
    (hL : LinkedL (live n st) st.prev st.next) :
    LinkedL (live n (removeVertex r st rest i)) (removeVertex r st rest i).prev
      (removeVertex r st rest i).next := by
  have hmem : i ∈ live n st := by simp [live, hi, ha]
  obtain ⟨k, hk, hki⟩ := List.mem_iff_getElem.1 hmem
  have h := linkedL_eraseIdx (live n st) (live_nodup n st) st.prev st.next hL k hk (by omega)
  rw [hki] at h
  have hl : live n (removeVertex r st rest i) = (live n st).eraseIdx k := by
    rw [← (live_nodup n st).erase_getElem k hk, hki]
    simp only [live, removeVertex_alive]
    exact filter_upd_false st.alive n i
  rw [hl, removeVertex_prev, removeVertex_next]
  exact h

/-- what is known at loop exit -/
structure Post (r : Nat → V2 F) (n : Nat) (tol2 : F) (st : SState F) : Prop where
  cnt : st.numAlive = (live n st).length
  ge3 : 3 ≤ st.numAlive
  exit : st.numAlive ≤ 3 ∨
    ∀ i < n, st.alive i = true → tol2 ≤ deviation2 r st.prev st.next i
  linked : LinkedL (live n st) st.prev st.next

theorem loop_post (r : Nat → V2 F) (n : Nat) (tol2 : F) (st : SState F) (hinv : SInv r n st)
    (hL : LinkedL (live n st) st.prev st.next) : Post r n tol2 (simplifyLoop r tol2 st) := by
  refine simplifyLoop_rule r tol2
    (fun st => SInv r n st ∧ LinkedL (live n st) st.prev st.next) (Post r n tol2) ?_ ?_ ?_ ?_ st
    ⟨hinv, hL⟩
  · -- the loop condition fails: the heap of a state with a live vertex is not empty
    rintro st ⟨hinv, hL⟩ h
    refine ⟨hinv.cnt, hinv.ge3, Or.inl ?_, hL⟩
    by_contra hgt
    have hgt : 3 < st.numAlive := by omega
    have hpos : 0 < ((List.range n).filter st.alive).length := by
      rw [← hinv.cnt]; omega
    obtain ⟨i, hi⟩ := List.exists_mem_of_length_pos hpos
    simp only [List.mem_filter, List.mem_range] at hi
    exact h ⟨hgt, List.ne_nil_of_mem (hinv.cur i hi.1 hi.2)⟩
  · rintro st ⟨hinv, hL⟩ _ hne hstale
    exact ⟨inv_skip r n st hinv hne hstale, hL⟩
  · -- `break`: the popped entry is minimal, and every live vertex has its current entry in the heap
    rintro st ⟨hinv, hL⟩ _ hne hcur hle
    refine ⟨hinv.cnt, hinv.ge3, Or.inr ?_, hL⟩
    intro i hi ha
    have hle' : tol2 ≤ (topOf st).d2 := by simpa using hle
    exact le_trans hle' (topOf_d2_le st hne _ (hinv.cur i hi ha))
  · rintro st ⟨hinv, hL⟩ hgt hne hcur _
    rw [stale_eq_false] at hcur
    have hidx : (topOf st).idx < n := hinv.hidx _ (topOf_mem st hne)
    refine ⟨inv_remove r n st hinv _ (fun e he => mem_of_mem_pop st he) _ ?_ hidx hcur.1 hgt,
      linked_remove r n st _ _ hidx hcur.1 ?_ hL⟩
    · intro e he hne'
      exact mem_pop_of_ne st hne he (fun heq => hne' (heq ▸ rfl))
    · have := hinv.cnt
      unfold live; omega

end Field

/-- a rotation of `l` by `k` read by position -/
theorem getElem?_rot {β : Type} (l : List β) (k i : Nat) (hk : k ≤ l.length) (hi : i < l.length) :
    (l.drop k ++ l.take k)[i]? = l[(i + k) % l.length]? := by
  rw [List.getElem?_append, List.length_drop]
  by_cases h : i + k < l.length
  · rw [if_pos (Nat.lt_sub_of_add_lt h), Nat.mod_eq_of_lt h, List.getElem?_drop, Nat.add_comm]
  · rw [if_neg (fun h' => h (Nat.add_lt_of_lt_sub h')), List.getElem?_take, if_pos (by omega),
      Nat.mod_eq_sub_mod (Nat.le_of_not_lt h), Nat.mod_eq_of_lt (by omega)]
    congr 1; omega

/-- a cyclic triple of `l` sits at positions `i`, `i+1`, `i+2` (cyclically) -/
theorem mem_cyclicTriples {β : Type} (l : List β) (hm : 2 ≤ l.length) (t : β × β × β)
    (ht : t ∈ cyclicTriples l) :
    ∃ i, l[i]? = some t.1 ∧ l[csucc l.length i]? = some t.2.1 ∧
      l[csucc l.length (csucc l.length i)]? = some t.2.2 := by
  obtain ⟨i, hi⟩ := List.mem_iff_getElem?.1 ht
  unfold cyclicTriples at hi
  rw [List.getElem?_zip_eq_some, List.getElem?_zip_eq_some] at hi
  have hlt : i < l.length := (List.getElem?_eq_some_iff.1 hi.1).1
  rw [getElem?_rot l 1 i (by omega) hlt, getElem?_rot l 2 i hm hlt] at hi
  have e2 : csucc l.length (csucc l.length i) = (i + 2) % l.length := by
    rw [csucc_eq_mod (csucc_lt _ _ (by omega)), csucc_eq_mod hlt, Nat.mod_add_mod]
  rw [← csucc_eq_mod hlt, ← e2] at hi
  exact ⟨i, hi⟩

theorem cyclicTriples_map {β γ : Type} (f : β → γ) (l : List β) :
    cyclicTriples (l.map f) = (cyclicTriples l).map (fun t => (f t.1, f t.2.1, f t.2.2)) := by
  unfold cyclicTriples
  rw [← List.map_drop, ← List.map_drop, ← List.map_take, ← List.map_take, ← List.map_append,
    ← List.map_append, List.zip_map, List.zip_map]
  rfl

section Field
variable {F : Type} [Field F] [LinearOrder F]

theorem simplify_post (ring : List (V2 F)) (tol : F) (h : 3 < ring.length) :
    Post (fun i => ring.getD i V2.zero) ring.length (tol * tol) (simplifyFinal ring tol) :=
  loop_post _ _ _ _ (inv_init _ _ h) (by
    have hl : live ring.length (simplifyInit (fun i => ring.getD i V2.zero) ring.length : SState F)
        = List.range ring.length := by
      simp [live, simplifyInit]
    rw [hl]
    exact linkedL_range ring.length)

/-- the counter is the number of live indices, and at least 3 vertices survive -/
theorem simplify_count (ring : List (V2 F)) (tol : F) (h : 3 < ring.length) :
    (simplifyFinal ring tol).numAlive
        = ((List.range ring.length).filter (simplifyFinal ring tol).alive).length
      ∧ 3 ≤ (simplifyFinal ring tol).numAlive :=
  ⟨(simplify_post ring tol h).cnt, (simplify_post ring tol h).ge3⟩

/-- at exit either at most 3 vertices are left or EVERY live vertex deviates by at least `tol²`
(squared distance) from the line through its CURRENT neighbours -/
theorem simplify_exit (ring : List (V2 F)) (tol : F) (h : 3 < ring.length) :
    (simplifyFinal ring tol).numAlive ≤ 3 ∨
    ∀ i < ring.length, (simplifyFinal ring tol).alive i = true →
      tol * tol ≤ deviation2 (fun i => ring.getD i V2.zero) (simplifyFinal ring tol).prev
        (simplifyFinal ring tol).next i :=
  (simplify_post ring tol h).exit

theorem simplifyKept_eq_live (ring : List (V2 F)) (tol : F) (h : 3 < ring.length) :
    simplifyKept ring tol = live ring.length (simplifyFinal ring tol) := by
  unfold simplifyKept live
  rw [if_neg (by omega)]

theorem simplifyKept_length (ring : List (V2 F)) (tol : F) (h : 3 < ring.length) :
    (simplifyKept ring tol).length = (simplifyFinal ring tol).numAlive := by
  rw [simplifyKept_eq_live ring tol h, (simplify_count ring tol h).1]; rfl

/-- the linked ring at exit is the cyclic adjacency of the survivors -/
theorem simplify_linked (ring : List (V2 F)) (tol : F) (h : 3 < ring.length) :
    ∀ t ∈ cyclicTriples (simplifyKept ring tol),
      (simplifyFinal ring tol).prev t.2.1 = t.1 ∧ (simplifyFinal ring tol).next t.2.1 = t.2.2 := by
  intro t ht
  have hlen : 3 ≤ (simplifyKept ring tol).length := by
    rw [simplifyKept_length ring tol h]; exact (simplify_count ring tol h).2
  obtain ⟨i, h1, h2, h3⟩ := mem_cyclicTriples _ (by omega) t ht
  have hL := (simplify_post ring tol h).linked
  rw [← simplifyKept_eq_live ring tol h] at hL
  exact ⟨(hL i _ _ h1 h2).2, (hL _ _ _ h2 h3).1⟩

/-- squared distance of `b` from the line through `a` and `c` exactly as the code computes it -/
def dev2pts (a b c : V2 F) : F :=
  deviation2 (fun i => if i = 0 then a else if i = 1 then b else c) (fun _ => 0) (fun _ => 2) 1

theorem dev2pts_eq (a b c : V2 F) :
    dev2pts a b c =
      if 0 < dot (c.sub a) (c.sub a) then
        cross (b.sub a) (c.sub a) * cross (b.sub a) (c.sub a) / dot (c.sub a) (c.sub a)
      else 0 := by
  simp only [dev2pts, deviation2, sc_lt, sc_zero, sc_mul, sc_div, decide_eq_true_eq]
  rfl

theorem deviation2_eq_dev2pts (r : Nat → V2 F) (prev next : Nat → Nat) (i : Nat) :
    deviation2 r prev next i = dev2pts (r (prev i)) (r i) (r (next i)) := rfl

/-- at exit at most 3 vertices are returned, or every returned vertex is at squared distance
`≥ tol²` from the line through its two neighbours IN THE RETURNED RING -/
theorem simplify_exit_ring (ring : List (V2 F)) (tol : F) (h : 3 < ring.length) :
    (simplifyRing ring tol).length ≤ 3 ∨
      ∀ t ∈ cyclicTriples (simplifyRing ring tol), tol * tol ≤ dev2pts t.1 t.2.1 t.2.2 := by
  rcases simplify_exit ring tol h with hle | hdev
  · left
    unfold simplifyRing
    rw [List.length_map, simplifyKept_length ring tol h]; exact hle
  · right
    intro t ht
    unfold simplifyRing at ht
    rw [cyclicTriples_map, List.mem_map] at ht
    obtain ⟨s, hs, rfl⟩ := ht
    obtain ⟨hp, hn⟩ := simplify_linked ring tol h s hs
    have hmem : s.2.1 ∈ simplifyKept ring tol := by
      unfold cyclicTriples at hs
      have h1 := (List.of_mem_zip hs).2
      have h2 := (List.of_mem_zip h1).1
      rcases List.mem_append.1 h2 with h3 | h3
      · exact List.mem_of_mem_drop h3
      · exact List.mem_of_mem_take h3
    rw [simplifyKept_eq_live ring tol h] at hmem
    simp only [live, List.mem_filter, List.mem_range] at hmem
    have := hdev s.2.1 hmem.1 hmem.2
    rw [deviation2_eq_dev2pts, hp, hn] at this
    exact this

end Field

/-! ### non-vacuity: a concrete run at `ℚ`

`simplifyLoop` is defined by well-founded recursion, which the kernel does not unfold; the same loop
with a fuel argument (structural recursion) agrees with it whenever the fuel exceeds the termination
measure, and that one evaluates. -/

section Fuel
variable {α : Type} [Scalar α]

/-- `simplifyLoop` with fuel -/
def simplifyLoopFuel (ring : Nat → V2 α) (tol2 : α) : Nat → SState α → SState α
  | 0, st => st
  | f + 1, st =>
    if st.numAlive > 3 ∧ st.heap ≠ [] then
      let k := minIdx st.heap
      let top := st.heap.getD k ⟨Scalar.zero, 0, 0⟩
      let rest := st.heap.eraseIdx k
      if !st.alive top.idx || top.stamp != st.stamp top.idx then
        simplifyLoopFuel ring tol2 f { st with heap := rest }
      else if Scalar.le tol2 top.d2 then { st with heap := rest }
      else simplifyLoopFuel ring tol2 f (removeVertex ring st rest top.idx)
    else st

theorem simplifyLoopFuel_eq (ring : Nat → V2 α) (tol2 : α) :
    ∀ (f : Nat) (st : SState α), st.heap.length + 2 * st.numAlive < f →
      simplifyLoopFuel ring tol2 f st = simplifyLoop ring tol2 st := by
  intro f
  induction f with
  | zero => intro st h; omega
  | succ f ih =>
    intro st hlt
    rw [simplifyLoopFuel, simplifyLoop]
    by_cases h : st.numAlive > 3 ∧ st.heap ≠ []
    · rw [if_pos h, dif_pos h]
      have hk := minIdx_lt st.heap h.2
      have hlen : (st.heap.eraseIdx (minIdx st.heap)).length = st.heap.length - 1 := by
        rw [List.length_eraseIdx, if_pos hk]
      simp only []
      split
      · apply ih
        simp only [hlen]; omega
      · split
        · rfl
        · apply ih
          simp only [removeVertex, List.length_cons, hlen]; omega
    · rw [if_neg h, dif_neg h]

end Fuel

/-- the square `[0,2]²` with one extra collinear vertex on the bottom edge -/
def exRing : List (V2 ℚ) := [⟨0, 0⟩, ⟨1, 0⟩, ⟨2, 0⟩, ⟨2, 2⟩, ⟨0, 2⟩]

/-- exactly the collinear vertex is dropped (tolerance 1/2): the loop ends by the `break` -/
theorem exRing_kept : simplifyKept exRing (1 / 2) = [0, 2, 3, 4] := by
  unfold simplifyKept simplifyFinal
  rw [← simplifyLoopFuel_eq _ _ 100 _ (by decide)]
  decide +kernel

theorem exRing_simplified :
    simplifyRing exRing (1 / 2) = [⟨0, 0⟩, ⟨2, 0⟩, ⟨2, 2⟩, ⟨0, 2⟩] := by
  unfold simplifyRing
  rw [exRing_kept]
  rfl

/-- with a huge tolerance the loop ends by `numAlive = 3` -/
example : simplifyKept exRing 10 = [2, 3, 4] := by
  unfold simplifyKept simplifyFinal
  rw [← simplifyLoopFuel_eq _ _ 100 _ (by decide)]
  decide +kernel

/-- with tolerance 0 nothing is removed (`0 ≥ 0` breaks at the first pop) -/
example : simplifyKept exRing 0 = [0, 1, 2, 3, 4] := by
  unfold simplifyKept simplifyFinal
  rw [← simplifyLoopFuel_eq _ _ 100 _ (by decide)]
  decide +kernel

end MV.CrossOps
