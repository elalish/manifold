/-
`RayCast`'s sort is the insertion sort that C13b specifies (`MV.Par.stableSort`), with the
comparison `a.distance < b.distance`.
-/
import MV.Proof.MeasureGap
import MV.Props.C13b

namespace MV.Measure
open MV.Bool3 Exact MV.Par

variable {F : Type} [Field F] [LinearOrder F]

/-- `a.distance < b.distance` -/
def hitLt (a b : Hit F) : Bool := Scalar.lt a.t b.t

theorem insertHit_eq (h : Hit F) (l : List (Hit F)) : insertHit h l = insertStable hitLt h l := by
  induction l with
  | nil => rfl
  | cons x xs ih => unfold insertHit insertStable; rw [ih]; rfl

theorem sortHits_eq (hs : List (Hit F)) : sortHits hs = stableSort hitLt hs :=
  congrArg (fun f => hs.foldl f []) (funext fun acc => funext fun h => insertHit_eq h acc)

theorem strictWeak_hitLt : StrictWeak (hitLt (F := F)) where
  asymm _ _ h := decide_eq_false (lt_asymm (of_decide_eq_true h))
  negTrans _ _ _ h1 h2 :=
    decide_eq_false (not_lt.2 ((not_lt.1 (of_decide_eq_false h2)).trans (not_lt.1 (of_decide_eq_false h1))))

theorem sortHits_spec (hs : List (Hit F)) : SortedHits (sortHits hs) ∧ (sortHits hs).Perm hs := by
  rw [sortHits_eq]
  exact ⟨(MV.C13b.stableSort_sorted strictWeak_hitLt hs).imp fun h => not_lt.1 (of_decide_eq_false h),
    MV.C13b.stableSort_perm strictWeak_hitLt hs⟩

end MV.Measure
