import MV.Model.Arrange2
/-!
C11b, adjacency tests of `SweepPass::ProcessEvent` (arrangement mode): the shape of the status after the
re-insertion, which neighbour pairs are new, and which `TestPair(i, j)` calls are issued.
Everything here holds for EVERY oracle (classification, gradient order, crossing).
-/
namespace MV.Arr2
open MV.Sweep2

theorem lower_mem_adjacencyTests (i k : Nat) (rem : Bool) (h : 0 < k ∨ rem = true) :
    (i, i + 1) ∈ adjacencyTests (i + 1) k rem := by
  unfold adjacencyTests
  by_cases hk : k > 0
  · simp [hk]
  · simp [hk, h.resolve_left hk]

theorem upper_mem_adjacencyTests (lo k : Nat) (rem : Bool) :
    (lo + k, lo + k + 1) ∈ adjacencyTests lo (k + 1) rem := by
  simp [adjacencyTests, Nat.add_assoc]

/-- In `A ++ R ++ C` (obtained from `A ++ B ++ C` by replacing the middle), two neighbours `x, y` at positions
    `i, i+1` were already neighbours, or both belong to the new middle, or they sit at one of the two seams,
    and then `adjacencyTests` lists the pair (the lower seam only when something was removed or inserted). -/
theorem splice_adjacent {α : Type} (A B C R : List α) (i : Nat) (x y : α)
    (hx : (A ++ R ++ C)[i]? = some x) (hy : (A ++ R ++ C)[i + 1]? = some y) :
    (∃ j, (A ++ B ++ C)[j]? = some x ∧ (A ++ B ++ C)[j + 1]? = some y)
    ∨ (x ∈ R ∧ y ∈ R)
    ∨ (i, i + 1) ∈ adjacencyTests A.length R.length (decide (0 < B.length)) := by
  have left : ∀ (M : List α) k, k < A.length → (A ++ M ++ C)[k]? = A[k]? := fun M k h => by
    rw [List.append_assoc, List.getElem?_append_left h]
  have right : ∀ (M : List α) j, (A ++ M ++ C)[A.length + M.length + j]? = C[j]? := fun M j => by
    rw [List.getElem?_append_right (by rw [List.length_append]; exact Nat.le_add_right _ _),
      List.length_append, Nat.add_sub_cancel_left]
  rcases Nat.lt_trichotomy (i + 1) A.length with h | h | h
  · rw [left R i (Nat.lt_of_succ_lt h)] at hx
    rw [left R _ h] at hy
    exact .inl ⟨i, by rw [left B i (Nat.lt_of_succ_lt h)]; exact hx, by rw [left B _ h]; exact hy⟩
  · by_cases hRB : R = [] ∧ B = []
    · obtain ⟨rfl, rfl⟩ := hRB
      exact .inl ⟨i, hx, hy⟩
    · refine .inr (.inr ?_)
      rw [← h]
      apply lower_mem_adjacencyTests
      rcases Classical.not_and_iff_not_or_not.mp hRB with h' | h'
      · exact .inl (List.length_pos_iff.mpr h')
      · exact .inr (decide_eq_true (List.length_pos_iff.mpr h'))
  · -- `i = A.length + t`: both positions are in `R ++ C`
    obtain ⟨t, rfl⟩ := Nat.exists_eq_add_of_le (Nat.le_of_lt_succ h)
    rw [List.append_assoc, List.getElem?_append_right (Nat.le_add_right _ _), Nat.add_sub_cancel_left] at hx
    rw [List.append_assoc, Nat.add_assoc, List.getElem?_append_right (Nat.le_add_right _ _),
      Nat.add_sub_cancel_left] at hy
    rcases Nat.lt_trichotomy (t + 1) R.length with h' | h' | h'
    · rw [List.getElem?_append_left (Nat.lt_of_succ_lt h')] at hx
      rw [List.getElem?_append_left h'] at hy
      exact .inr (.inl ⟨List.mem_of_getElem? hx, List.mem_of_getElem? hy⟩)
    · refine .inr (.inr ?_)
      rw [← h', Nat.add_assoc]
      exact upper_mem_adjacencyTests _ _ _
    · obtain ⟨j, rfl⟩ := Nat.exists_eq_add_of_le (Nat.le_of_lt_succ h')
      rw [List.getElem?_append_right (Nat.le_add_right _ _), Nat.add_sub_cancel_left] at hx
      rw [Nat.add_assoc, List.getElem?_append_right (Nat.le_add_right _ _), Nat.add_sub_cancel_left] at hy
      exact .inl ⟨A.length + B.length + j, by rw [right]; exact hx, by rw [Nat.add_assoc, right]; exact hy⟩

/-- a list split at `lo` and `hi` -/
theorem status_split {α : Type} (l : List α) (lo hi : Nat) (h : lo ≤ hi) :
    l = l.take lo ++ (l.drop lo).take (hi - lo) ++ l.drop hi := by
  have h1 : l.drop hi = (l.drop lo).drop (hi - lo) := by
    rw [List.drop_drop]; congr 1; omega
  rw [h1, List.append_assoc, List.take_append_drop, List.take_append_drop]

theorem loIdx_le (cls : List Side) : loIdx cls ≤ cls.length := by
  unfold loIdx
  exact (List.takeWhile_sublist _).length_le

theorem loIdx_le_hiIdx (cls : List Side) : loIdx cls ≤ hiIdx cls := by
  unfold hiIdx; omega

theorem hiIdx_le (cls : List Side) : hiIdx cls ≤ cls.length := by
  unfold hiIdx
  have h1 : ((cls.drop (loIdx cls)).reverse.dropWhile (· = Side.over)).length ≤ (cls.drop (loIdx cls)).reverse.length :=
    (List.dropWhile_sublist _).length_le
  have h2 := loIdx_le cls
  simp only [List.length_reverse, List.length_drop] at h1
  omega

theorem take_loIdx (cls : List Side) : cls.take (loIdx cls) = cls.takeWhile (· = Side.under) :=
  (List.prefix_iff_eq_take.mp (List.takeWhile_prefix _)).symm

theorem take_lo_under (cls : List Side) : ∀ c ∈ cls.take (loIdx cls), c = Side.under := by
  intro c hc
  rw [take_loIdx] at hc
  exact of_decide_eq_true (List.all_eq_true.mp List.all_takeWhile c hc)

/-- every edge strictly below the block is classified UNDER -/
theorem under_below_lo (cls : List Side) (i : Nat) (h : i < loIdx cls) : cls[i]? = some Side.under := by
  have hi : i < (cls.take (loIdx cls)).length := by
    rw [List.length_take]; exact Nat.lt_min.mpr ⟨h, Nat.lt_of_lt_of_le h (loIdx_le cls)⟩
  rw [← List.getElem?_take_of_lt h, List.getElem?_eq_getElem hi]
  exact congrArg some (take_lo_under cls _ (List.getElem_mem hi))

theorem drop_hi_over (cls : List Side) : ∀ c ∈ cls.drop (hiIdx cls), c = Side.over := by
  intro c hc
  unfold hiIdx at hc
  rw [← List.drop_drop] at hc
  generalize cls.drop (loIdx cls) = D at hc
  -- `D` is the reverse of `takeWhile ++ dropWhile` of its reverse
  have hD : D = (D.reverse.dropWhile (· = Side.over)).reverse ++ (D.reverse.takeWhile (· = Side.over)).reverse := by
    rw [← List.reverse_append, List.takeWhile_append_dropWhile, List.reverse_reverse]
  have h2 : D.drop (D.reverse.dropWhile (· = Side.over)).reverse.length
      = (D.reverse.takeWhile (· = Side.over)).reverse := by
    conv => lhs; arg 2; rw [hD]
    rw [List.drop_left]
  rw [← List.length_reverse, h2] at hc
  exact of_decide_eq_true (List.all_eq_true.mp List.all_takeWhile c (List.mem_reverse.mp hc))

theorem mem_blockLoop (mode : Mode) (rule : WindRule) (p : Pt) (bl : List (SEdge × Side)) (w : Int)
    (out : PolySet) (re : List SEdge) (seq : Nat) :
    ∀ e ∈ (blockLoop mode rule p bl w out re seq).2.1,
      e ∈ re ∨ (e.l = p ∧ ∃ x ∈ bl, x.2 ≠ Side.ends ∧ e.r = x.1.r) := by
  induction bl generalizing w out re seq with
  | nil => intro e he; left; simpa [blockLoop] using he
  | cons x rest ih =>
    obtain ⟨e0, c⟩ := x
    intro e he
    unfold blockLoop at he
    have tail : (e.l = p ∧ ∃ x ∈ rest, x.2 ≠ Side.ends ∧ e.r = x.1.r) →
        e.l = p ∧ ∃ x ∈ (e0, c) :: rest, x.2 ≠ Side.ends ∧ e.r = x.1.r :=
      fun ⟨hl, x, hx, h⟩ => ⟨hl, x, List.mem_cons_of_mem _ hx, h⟩
    by_cases hc : c = Side.ends
    · simp only [hc, if_true] at he
      exact (ih _ _ _ _ e he).imp_right tail
    · simp only [hc, if_false] at he
      rcases ih _ _ _ _ e he with h | h
      · rcases List.mem_append.mp h with h1 | h1
        · exact .inl h1
        · rw [List.mem_singleton.mp h1]
          exact .inr ⟨rfl, (e0, c), List.mem_cons_self, hc, rfl⟩
      · exact .inr (tail h)

theorem mem_pendingEdges (p : Pt) (inner : List (Pt × Int)) (seq : Nat) :
    ∀ e ∈ pendingEdges p inner seq, e.l = p ∧ ∃ x ∈ inner, e.r = x.1 := by
  induction inner generalizing seq with
  | nil => simp [pendingEdges]
  | cons x rest ih =>
    obtain ⟨b, m⟩ := x
    intro e he
    simp only [pendingEdges, List.mem_cons] at he
    rcases he with rfl | h
    · exact ⟨rfl, (b, m), List.mem_cons_self, rfl⟩
    · obtain ⟨hl, x, hx, hx'⟩ := ih _ e h
      exact ⟨hl, x, List.mem_cons_of_mem _ hx, hx'⟩

theorem pendingEdges_length (p : Pt) (inner : List (Pt × Int)) (seq : Nat) :
    (pendingEdges p inner seq).length = inner.length := by
  induction inner generalizing seq with
  | nil => rfl
  | cons x rest ih => obtain ⟨b, m⟩ := x; simp [pendingEdges, ih]

/-- the unsorted `reinsert` vector of `ProcessEvent` -/
def reinsertOf (o : Oracle) (mode : Mode) (rule : WindRule) (st : St) (p : Pt) : List SEdge :=
  let cls := classes o st.status p
  let lo := loIdx cls
  let hi := hiIdx cls
  let w0 := ((st.status.take lo).map lexMult).sum
  let block := ((st.status.zip cls).drop lo).take (hi - lo)
  let r := blockLoop mode rule p block w0 st.out [] st.seq
  let pe := match pendFind st.pending p with
    | none => []
    | some inner => pendingEdges p inner r.2.2
  r.2.1 ++ pe

theorem mem_zip_map {α β : Type} (f : α → β) (l : List α) (x : α × β) (h : x ∈ l.zip (l.map f)) :
    x.1 ∈ l ∧ x.2 = f x.1 := by
  rw [← List.map_id l, List.map_map, List.zip_map'] at h
  obtain ⟨a, ha, rfl⟩ := List.mem_map.mp h
  exact ⟨ha, rfl⟩

/-- a re-inserted edge leaves `p`; it is the rest of a status edge that does not end at `p`, or a pending edge -/
theorem mem_reinsertOf (o : Oracle) (mode : Mode) (rule : WindRule) (st : St) (p : Pt) :
    ∀ e ∈ reinsertOf o mode rule st p, e.l = p ∧
      ((∃ x ∈ st.status, classify o x p ≠ Side.ends ∧ e.r = x.r)
        ∨ ∃ inner, pendFind st.pending p = some inner ∧ ∃ y ∈ inner, e.r = y.1) := by
  intro e he
  unfold reinsertOf at he
  simp only at he
  rcases List.mem_append.mp he with h | h
  · rcases mem_blockLoop mode rule p _ _ _ [] _ e h with h2 | ⟨hl, x, hx, hne, hr⟩
    · cases h2
    · have hx' := mem_zip_map (classify o · p) st.status x (List.mem_of_mem_drop (List.mem_of_mem_take hx))
      exact ⟨hl, .inl ⟨x.1, hx'.1, hx'.2 ▸ hne, hr⟩⟩
  · cases hf : pendFind st.pending p with
    | none => simp [hf] at h
    | some inner =>
      simp only [hf] at h
      obtain ⟨hl, y, hy, hr⟩ := mem_pendingEdges p inner _ e h
      exact ⟨hl, .inr ⟨inner, rfl, y, hy, hr⟩⟩

section
variable (o : Oracle) (mode : Mode) (rule : WindRule) (st : St) (p : Pt)

/-- The scalar fields.  `prepare_k` and `prepare_removedAny` rewrite with this equation: stated as `rfl`
    themselves, they are equations between numbers and Booleans, on which the unifier starts evaluating `loIdx`,
    `hiIdx` and the sort. -/
theorem prepare_eq :
    prepare o mode rule st p =
      { lo := loIdx (classes o st.status p), hi := hiIdx (classes o st.status p)
        k := (sortReinsert o (reinsertOf o mode rule st p)).length
        removedAny := decide (hiIdx (classes o st.status p) > loIdx (classes o st.status p))
        cls := classes o st.status p, mid := (prepare o mode rule st p).mid } := rfl

theorem prepare_lo : (prepare o mode rule st p).lo = loIdx (classes o st.status p) := rfl

theorem prepare_hi : (prepare o mode rule st p).hi = hiIdx (classes o st.status p) := rfl

theorem prepare_k : (prepare o mode rule st p).k = (sortReinsert o (reinsertOf o mode rule st p)).length := by
  rw [prepare_eq]

theorem prepare_removedAny :
    (prepare o mode rule st p).removedAny
      = decide ((prepare o mode rule st p).hi > (prepare o mode rule st p).lo) := by
  rw [prepare_eq]

/-- the status after the re-insertion: the part below the block, the sorted re-inserted edges, the part above -/
theorem prepare_status :
    (prepare o mode rule st p).mid.status =
      st.status.take (prepare o mode rule st p).lo ++ sortReinsert o (reinsertOf o mode rule st p)
        ++ st.status.drop (prepare o mode rule st p).hi := rfl

theorem prepare_lo_le_hi : (prepare o mode rule st p).lo ≤ (prepare o mode rule st p).hi := loIdx_le_hiIdx _

theorem prepare_hi_le : (prepare o mode rule st p).hi ≤ st.status.length := by
  have := hiIdx_le (classes o st.status p)
  rwa [classes, List.length_map] at this

theorem classify_of_mem_take_lo {e : SEdge} (he : e ∈ st.status.take (prepare o mode rule st p).lo) :
    classify o e p = Side.under := by
  apply take_lo_under (classes o st.status p)
  rw [← prepare_lo o mode rule, classes, ← List.map_take]
  exact List.mem_map_of_mem he

theorem classify_of_mem_drop_hi {e : SEdge} (he : e ∈ st.status.drop (prepare o mode rule st p).hi) :
    classify o e p = Side.over := by
  apply drop_hi_over (classes o st.status p)
  rw [← prepare_hi o mode rule, classes, ← List.map_drop]
  exact List.mem_map_of_mem he

end

theorem insertStable_perm (o : Oracle) (x : SEdge) (s : List SEdge) : (insertStable o x s).Perm (x :: s) := by
  induction s with
  | nil => exact .refl _
  | cons y ys ih =>
    unfold insertStable
    split
    · exact .refl _
    · exact (ih.cons y).trans (.swap x y ys)

theorem sortReinsert_perm (o : Oracle) (re : List SEdge) : (sortReinsert o re).Perm re := by
  induction re with
  | nil => exact .refl _
  | cons x xs ih => exact (insertStable_perm o x _).trans (ih.cons x)

theorem sortReinsert_mem (o : Oracle) (re : List SEdge) (e : SEdge) : e ∈ sortReinsert o re ↔ e ∈ re :=
  (sortReinsert_perm o re).mem_iff

theorem sortReinsert_length (o : Oracle) (re : List SEdge) : (sortReinsert o re).length = re.length :=
  (sortReinsert_perm o re).length_eq

theorem pairwise_insertStable (o : Oracle)
    (htot : ∀ a b, (gradLE o a b || gradLE o b a) = true)
    (htr : ∀ a b c, gradLE o a b = true → gradLE o b c = true → gradLE o a c = true)
    (x : SEdge) (s : List SEdge) (h : s.Pairwise (fun a b => gradLE o a b = true)) :
    (insertStable o x s).Pairwise (fun a b => gradLE o a b = true) := by
  induction s with
  | nil => simp [insertStable]
  | cons y ys ih =>
    have hy := List.pairwise_cons.mp h
    unfold insertStable
    split
    · next hxy =>
      refine List.pairwise_cons.mpr ⟨?_, h⟩
      intro z hz
      rcases List.mem_cons.mp hz with rfl | hz
      · exact hxy
      · exact htr _ _ _ hxy (hy.1 z hz)
    · next hxy =>
      have hyx : gradLE o y x = true := by
        have := htot x y
        rwa [Bool.not_eq_true _ |>.mp hxy, Bool.false_or] at this
      refine List.pairwise_cons.mpr ⟨?_, ih hy.2⟩
      intro z hz
      rcases List.mem_cons.mp ((insertStable_perm o x ys).mem_iff.mp hz) with rfl | hz
      · exact hyx
      · exact hy.1 z hz

theorem pairwise_sortReinsert (o : Oracle)
    (htot : ∀ a b, (gradLE o a b || gradLE o b a) = true)
    (htr : ∀ a b c, gradLE o a b = true → gradLE o b c = true → gradLE o a c = true)
    (re : List SEdge) : (sortReinsert o re).Pairwise (fun a b => gradLE o a b = true) := by
  induction re with
  | nil => exact List.Pairwise.nil
  | cons x xs ih => exact pairwise_insertStable o htot htr x _ ih

/-- edges with ids `a` (below) and `b` (above) are neighbours in the status -/
def Adj (l : List SEdge) (a b : Nat) : Prop :=
  ∃ i x y, l[i]? = some x ∧ l[i + 1]? = some y ∧ x.seq = a ∧ y.seq = b

end MV.Arr2
