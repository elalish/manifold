import MV.Proof.CsgAlg
/-
Well-formed stores: the invariant `WFs` and the executable check `Store.wf` that implies it,
denotation and cost equations, induction along the DAG.
-/
set_option autoImplicit false
namespace MV.Csg
open SolidAlg XfAct

variable {M S : Type}
variable {s : Store M} {n i : Nat} {o : Op} {m : M} {c : Option Nat}

/-- structural well-formedness (Prop form of `Store.wf`) -/
structure WFs (s : Store M) : Prop where
  impl_lt : ∀ {n i : Nat} {o : Op} {m : M} {c : Option Nat},
    s.nodes[n]? = some (Node.op i o m c) → i < s.impls.length
  child : ∀ {j : Nat} {ch : List Nat}, s.impls[j]? = some ch → ∀ c ∈ ch,
    (∃ l, s.nodes[c]? = some (Node.leaf l)) ∨
    (∃ i o m k, s.nodes[c]? = some (Node.op i o m k) ∧ i < j)
  shape : ∀ {j : Nat} {ch : List Nat}, s.impls[j]? = some ch →
    2 ≤ ch.length ∨ ∃ c l, ch = [c] ∧ s.nodes[c]? = some (Node.leaf l)
  op_same : ∀ {n n' i : Nat} {o o' : Op} {m m' : M} {c c' : Option Nat},
    s.nodes[n]? = some (Node.op i o m c) → s.nodes[n']? = some (Node.op i o' m' c') → o = o'
  cache : ∀ {n i : Nat} {o : Op} {m : M} {c : Nat},
    s.nodes[n]? = some (Node.op i o m (some c)) →
    (∃ l, s.nodes[c]? = some (Node.leaf l)) ∧
    ∃ c' l', s.impls[i]? = some [c'] ∧ s.nodes[c']? = some (Node.leaf l')

/-- `rank` bounds the fuel needed by `denoteF`/`costF` -/
def rank (s : Store M) (n : Nat) : Nat :=
  match s.nodes[n]? with
  | some (Node.op i _ _ _) => i + 1
  | _ => 0

theorem rank_leaf {l : Leaf M} (h : s.nodes[n]? = some (Node.leaf l)) : rank s n = 0 := by
  simp [rank, h]

theorem rank_op (h : s.nodes[n]? = some (Node.op i o m c)) :
    rank s n = i + 1 := by simp [rank, h]

theorem getD_of_getElem? {α : Type} {l : List α} {i : Nat} {x d : α} (h : l[i]? = some x) :
    l.getD i d = x := by simp [List.getD, h]

theorem getElem?_of_lt_getD {α : Type} {l : List α} {i : Nat} (d : α) (h : i < l.length) :
    l[i]? = some (l.getD i d) := by simp [List.getD, h]

theorem WFs.rank_child (h : WFs s) {j : Nat} {ch : List Nat} (hj : s.impls[j]? = some ch) {c : Nat}
    (hc : c ∈ ch) : rank s c ≤ j := by
  rcases h.child hj c hc with ⟨l, hl⟩ | ⟨i, o, m, k, hn, hlt⟩
  · simp [rank_leaf hl]
  · rw [rank_op hn]; omega

theorem WFs.impl_get (h : WFs s)
    (hn : s.nodes[n]? = some (Node.op i o m c)) : s.impls[i]? = some (s.impls.getD i []) :=
  getElem?_of_lt_getD _ (h.impl_lt hn)

theorem leafAt_of_node {l : Leaf M}
    (h : s.nodes[n]? = some (Node.leaf l)) : s.leafAt? n = some l := by
  simp [Store.leafAt?, h]

theorem WFs.child_lt (h : WFs s) {j : Nat} {ch : List Nat}
    (hj : s.impls[j]? = some ch) {c : Nat} (hc : c ∈ ch) : c < s.nodes.length := by
  rcases h.child hj c hc with ⟨l, hl⟩ | ⟨_, _, _, _, hl, _⟩ <;>
    exact (List.getElem?_eq_some_iff.1 hl).1

/-- induction along the DAG: a property holds of every node if it holds of a node whenever it
holds of the children of its impl -/
theorem WFs.induction (h : WFs s) {P : Nat → Prop}
    (step : ∀ k, (∀ {i : Nat} {o : Op} {m : M} {c : Option Nat},
      s.nodes[k]? = some (Node.op i o m c) → ∀ c' ∈ s.impls.getD i [], P c') → P k) :
    ∀ k, P k := by
  suffices H : ∀ f k, rank s k < f → P k from fun k => H _ k (Nat.lt_succ_self _)
  intro f
  induction f with
  | zero => intro k hk; omega
  | succ f ih =>
    intro k hk
    refine step k (fun hn c' hc' => ih c' ?_)
    have := h.rank_child (h.impl_get hn) hc'
    rw [rank_op hn] at hk
    omega

/-- A recursion with fuel whose value at a node is determined by its values, with one unit of
fuel less, at the node's children does not depend on the fuel once that exceeds the rank: at the
children of an op node the fuel `s.impls.length` is as good as one more. -/
theorem WFs.fuel_child (h : WFs s) {α : Type} {F : Nat → Nat → α}
    (hF : ∀ f f' k, (∀ {i o m c}, s.nodes[k]? = some (Node.op i o m c) →
      ∀ c' ∈ s.impls.getD i [], F f c' = F f' c') → F (f + 1) k = F (f' + 1) k)
    (hn : s.nodes[n]? = some (Node.op i o m c))
    {c' : Nat} (hc : c' ∈ s.impls.getD i []) :
    F s.impls.length c' = F (s.impls.length + 1) c' := by
  have stable : ∀ f f' k, rank s k < f → rank s k < f' → F f k = F f' k := by
    intro f
    induction f with
    | zero => intro f' k h1; omega
    | succ f ih =>
      intro f' k h1 h2
      cases f' with
      | zero => omega
      | succ f' =>
        refine hF f f' k fun hk c hc => ?_
        rw [rank_op hk] at h1 h2
        have := h.rank_child (h.impl_get hk) hc
        exact ih f' c (by omega) (by omega)
  have := h.rank_child (h.impl_get hn) hc
  have := h.impl_lt hn
  exact stable _ _ c' (by omega) (by omega)

section Den
variable [One M] [Mul M] [SolidAlg S] [XfAct M S]

theorem denote_leaf (L : Val S) {l : Leaf M} (h : s.nodes[n]? = some (Node.leaf l)) :
    denote L s n = L.leaf l := by simp [denote, denoteF, h]

theorem denote_none (L : Val S) {s : Store M} {n : Nat} (h : s.nodes[n]? = none) :
    denote L s n = empty := by simp [denote, denoteF, h]

theorem denote_op (L : Val S) (h : WFs s)
    (hn : s.nodes[n]? = some (Node.op i o m c)) :
    denote L s n = act m (opSem o ((s.impls.getD i []).map (denote L s))) := by
  simp only [denote, denoteF, hn]
  congr 2
  refine List.map_congr_left fun c' hc =>
    h.fuel_child (F := denoteF L s) (fun f f' k ih => ?_) hn hc
  simp only [denoteF]
  cases hk : s.nodes[k]? with
  | none => rfl
  | some nd =>
    cases nd with
    | leaf l => rfl
    | op j o' m' c'' => simp only [List.map_congr_left (ih hk)]

end Den

/-! ### cost -/

theorem cost_leaf {l : Leaf M} (h : s.nodes[n]? = some (Node.leaf l)) : cost s n = 0 := by
  simp [cost, costF, h]

theorem cost_none (h : s.nodes[n]? = none) : cost s n = 0 := by
  simp [cost, costF, h]

theorem cost_op (h : WFs s)
    (hn : s.nodes[n]? = some (Node.op i o m c)) :
    cost s n = 2 + ((s.impls.getD i []).map (cost s)).sum := by
  simp only [cost, costF, hn]
  congr 2
  refine List.map_congr_left fun c' hc => h.fuel_child (F := costF s) (fun f f' k ih => ?_) hn hc
  simp only [costF]
  cases hk : s.nodes[k]? with
  | none => rfl
  | some nd =>
    cases nd with
    | leaf l => rfl
    | op j o' m' c'' => simp only [List.map_congr_left (ih hk)]

end MV.Csg

namespace MV.Csg

variable {M : Type}

theorem allIdx_get {α : Type} (p : Nat → α → Bool) :
    ∀ (l : List α) (k : Nat), allIdx p k l = true → ∀ (j : Nat) (x : α), l[j]? = some x →
      p (k + j) x = true := by
  intro l
  induction l with
  | nil => intro k _ j x h; simp at h
  | cons y ys ih =>
    intro k h j x hj
    simp only [allIdx, Bool.and_eq_true] at h
    cases j with
    | zero => simp at hj; subst hj; simpa using h.1
    | succ j =>
      simp at hj
      have := ih (k + 1) h.2 j x hj
      rwa [show k + 1 + j = k + (j + 1) by omega] at this

theorem isLeaf_iff {s : Store M} {n : Nat} :
    s.isLeaf n = true ↔ ∃ l, s.nodes[n]? = some (Node.leaf l) := by
  simp only [Store.isLeaf]
  split
  · rename_i l h; simp [h]
  · rename_i h
    simp only [Bool.false_eq_true, false_iff, not_exists]
    intro l hl; exact h l hl

theorem wf_sound {s : Store M} (h : s.wf = true) : WFs s := by
  simp only [Store.wf, Bool.and_eq_true, List.all_eq_true] at h
  obtain ⟨hnodes, himpls⟩ := h
  have hnode : ∀ {n : Nat} {nd : Node M}, s.nodes[n]? = some nd → s.nodeOk nd = true :=
    fun hn => hnodes _ (List.mem_of_getElem? hn)
  have himpl : ∀ {j : Nat} {ch : List Nat}, s.impls[j]? = some ch → s.implOk j ch = true := by
    intro j ch hj
    have := allIdx_get s.implOk s.impls 0 himpls j ch hj
    simpa using this
  have hlt : ∀ {n : Nat} {i o m c}, s.nodes[n]? = some (Node.op i o m c) → i < s.impls.length := by
    intro n i o m c hn
    have := hnode hn
    simp only [Store.nodeOk, Bool.and_eq_true, decide_eq_true_eq] at this
    exact this.1.1
  refine ⟨hlt, ?_, ?_, ?_, ?_⟩
  · intro j ch hj c hc
    have := himpl hj
    simp only [Store.implOk, Bool.and_eq_true, List.all_eq_true] at this
    have hc' := this.1 c hc
    split at hc'
    · rename_i l hl; exact Or.inl ⟨l, hl⟩
    · rename_i i o m k hl
      exact Or.inr ⟨i, o, m, k, hl, by simpa using hc'⟩
    · cases hc'
  · intro j ch hj
    have := himpl hj
    simp only [Store.implOk, Bool.and_eq_true, Bool.or_eq_true, decide_eq_true_eq] at this
    rcases this.2 with h2 | h1
    · exact Or.inl h2
    · split at h1
      · rename_i c
        obtain ⟨l, hl⟩ := isLeaf_iff.1 h1
        exact Or.inr ⟨c, l, rfl, hl⟩
      · cases h1
  · intro n n' i o o' m m' c c' h1 h2
    have := hnode h1
    simp only [Store.nodeOk, Bool.and_eq_true, List.all_eq_true] at this
    have := this.1.2 _ (List.mem_of_getElem? h2)
    simp only [bne_self_eq_false, Bool.false_or, beq_iff_eq] at this
    exact this.symm
  · intro n i o m c hn
    have := hnode hn
    simp only [Store.nodeOk, Bool.and_eq_true] at this
    obtain ⟨_, h3⟩ := this
    obtain ⟨hc, h4⟩ := h3
    refine ⟨isLeaf_iff.1 hc, ?_⟩
    split at h4
    · rename_i c' hg
      obtain ⟨l', hl'⟩ := isLeaf_iff.1 h4
      exact ⟨c', l', by rw [getElem?_of_lt_getD [] (hlt hn), hg], hl'⟩
    · cases h4

end MV.Csg
