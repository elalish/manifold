/-
The sequential reference `seqPartition n pairs` (a labelling) induces exactly the
equivalence closure `Conn pairs`, each label being the least element of its class.
-/
import MV.Proof.DsuBase
import MV.Proof.ListArray

namespace MV.Dsu

/-- `lab` represents the partition `Conn E` on `0..n-1`, and every label is a fixed point below
its element (hence the least element of its class) -/
structure LabRel (n : Nat) (lab : List Nat) (E : List (Nat × Nat)) : Prop where
  len : lab.length = n
  iff : ∀ i j, i < n → j < n → (lab.getD i 0 = lab.getD j 0 ↔ Conn E i j)
  le : ∀ i, i < n → lab.getD i 0 ≤ i
  fix : ∀ i, i < n → lab.getD (lab.getD i 0) 0 = lab.getD i 0

theorem getD_irrel (l : List Nat) (i d d' : Nat) (h : i < l.length) : l.getD i d = l.getD i d' :=
  (List.getElem_eq_getD (h := h) d).symm.trans (List.getElem_eq_getD d')

/-- replacing the larger of the labels `a`, `b` by the smaller one identifies exactly these two -/
theorem relabel_eq_iff (a b x y : Nat) :
    ((if x = max a b then min a b else x) = (if y = max a b then min a b else y)) ↔
      x = y ∨ (x = a ∧ b = y) ∨ (x = b ∧ a = y) := by
  grind

theorem mergeLab_rel {n : Nat} {lab : List Nat} {E : List (Nat × Nat)} {a b : Nat}
    (h : LabRel n lab E) (ha : a < n) (hb : b < n) : LabRel n (mergeLab lab a b) ((a, b) :: E) := by
  have hlen : ∀ i, i < n → i < lab.length := fun i hi => h.len ▸ hi
  have hlt : ∀ i, i < n → lab.getD i 0 < n := fun i hi => Nat.lt_of_le_of_lt (h.le i hi) hi
  unfold mergeLab
  rw [getD_irrel lab a a 0 (hlen a ha), getD_irrel lab b b 0 (hlen b hb)]
  refine ⟨by simp [h.len], fun i j hi hj => ?_, fun i hi => ?_, fun i hi => ?_⟩
  · rw [List.getD_map_of_lt _ _ _ 0 _ (hlen i hi), List.getD_map_of_lt _ _ _ 0 _ (hlen j hj),
      Conn.cons_iff, ← h.iff i j hi hj, ← h.iff i a hi ha, ← h.iff b j hb hj, ← h.iff i b hi hb,
      ← h.iff a j ha hj]
    exact relabel_eq_iff _ _ _ _
  · rw [List.getD_map_of_lt _ _ _ 0 _ (hlen i hi)]
    have := h.le i hi
    have := h.le a ha
    split <;> omega
  · rw [List.getD_map_of_lt _ _ _ 0 _ (hlen i hi)]
    have fa := h.fix a ha
    have fb := h.fix b hb
    have la_lt := hlt a ha
    have hfi := h.fix i hi
    have hli := hlt i hi
    generalize lab.getD a 0 = la at *
    generalize lab.getD b 0 = lb at *
    generalize lab.getD i 0 = li at *
    by_cases e : li = max la lb
    · rw [if_pos e]
      have hmin_lt : min la lb < n := by omega
      rw [List.getD_map_of_lt _ _ _ 0 _ (hlen _ hmin_lt)]
      have : lab.getD (min la lb) 0 = min la lb := by
        rcases Nat.le_total la lb with hle | hle
        · rw [Nat.min_eq_left hle]; exact fa
        · rw [Nat.min_eq_right hle]; exact fb
      rw [this]; split <;> omega
    · rw [if_neg e, List.getD_map_of_lt _ _ _ 0 _ (hlen _ hli), hfi, if_neg e]

theorem foldl_mergeLab_rel {n : Nat} (ps : List (Nat × Nat)) :
    ∀ (lab : List Nat) (E : List (Nat × Nat)), LabRel n lab E →
      (∀ p, p ∈ ps → p.1 < n ∧ p.2 < n) →
      LabRel n (ps.foldl (fun lab p => mergeLab lab p.1 p.2) lab) (ps.reverse ++ E) := by
  induction ps with
  | nil => intro lab E h _; simpa using h
  | cons p ps ih =>
    intro lab E h hb
    obtain ⟨a, b⟩ := p
    have hab := hb (a, b) (List.mem_cons_self ..)
    have := ih _ _ (mergeLab_rel h hab.1 hab.2) (fun q hq => hb q (List.mem_cons_of_mem _ hq))
    simpa [List.foldl_cons, List.reverse_cons, List.append_assoc] using this

theorem seqPartition_rel (n : Nat) (pairs : List (Nat × Nat))
    (hb : ∀ p, p ∈ pairs → p.1 < n ∧ p.2 < n) : LabRel n (seqPartition n pairs) pairs.reverse := by
  have get : ∀ i, i < n → (List.range n).getD i 0 = i := fun i hi => by
    simp [List.getD_eq_getElem?_getD, List.getElem?_range hi]
  have h0 : LabRel n (List.range n) [] :=
    ⟨by simp, fun i j hi hj => by rw [get i hi, get j hj]; exact ⟨fun e => e ▸ .refl _, Conn.nil_eq⟩,
      fun i hi => by rw [get i hi]; exact Nat.le_refl _, fun i hi => by rw [get i hi, get i hi]⟩
  simpa [seqPartition] using foldl_mergeLab_rel pairs _ _ h0 hb

/-- the sequential reference partition: same label iff related by the equivalence closure -/
theorem seqPartition_spec (n : Nat) (pairs : List (Nat × Nat))
    (hb : ∀ p, p ∈ pairs → p.1 < n ∧ p.2 < n) :
    (seqPartition n pairs).length = n ∧
    ∀ i j, i < n → j < n →
      ((seqPartition n pairs).getD i 0 = (seqPartition n pairs).getD j 0 ↔ Conn pairs i j) := by
  have h := seqPartition_rel n pairs hb
  refine ⟨h.len, fun i j hi hj => (h.iff i j hi hj).trans ⟨?_, ?_⟩⟩
  · exact Conn.mono (fun p hp => by simpa using hp)
  · exact Conn.mono (fun p hp => by simpa using hp)

/-- the label of `i` is the least element of the class of `i` -/
theorem seqPartition_least (n : Nat) (pairs : List (Nat × Nat))
    (hb : ∀ p, p ∈ pairs → p.1 < n ∧ p.2 < n) {i : Nat} (hi : i < n) :
    Conn pairs i ((seqPartition n pairs).getD i 0) ∧
    ∀ j, j < n → Conn pairs i j → (seqPartition n pairs).getD i 0 ≤ j := by
  have hc := seqPartition_rel n pairs hb
  have hs := (seqPartition_spec n pairs hb).2
  have hl : (seqPartition n pairs).getD i 0 < n := Nat.lt_of_le_of_lt (hc.le i hi) hi
  refine ⟨(hs i _ hi hl).1 (hc.fix i hi).symm, fun j hj hij => ?_⟩
  rw [(hs i j hi hj).2 hij]
  exact hc.le j hj

end MV.Dsu
