/-
Lemmas for the assembly model: the flood fill of `Winding03_` and the start/end balance
of the vectors handed to `PairUp`.
-/
import MV.Model.BoolAssembly
import MV.Proof.DsuSeq
import MV.Proof.ListArray

namespace MV.BoolAsm
open MV.Bool3 MV.Dsu

theorem floodStep_length (root : Nat → Nat) (w : List Int) (i : Nat) :
    (floodStep root w i).length = w.length := by
  unfold floodStep; split <;> simp

theorem flood_length (root : Nat → Nat) (ord : List Nat) (w : List Int) :
    (flood root w ord).length = w.length := by
  induction ord generalizing w with
  | nil => rfl
  | cons i ord ih => simp only [flood, List.foldl_cons] at ih ⊢; rw [ih, floodStep_length]

/-- iteration `k` changes at most entry `k`, to the current entry of its root -/
theorem floodStep_getD (root : Nat → Nat) (w : List Int) (k j : Nat) :
    (floodStep root w k).getD j 0 =
      if root k ≠ k ∧ k = j ∧ k < w.length then w.getD (root k) 0 else w.getD j 0 := by
  unfold floodStep
  by_cases h : root k = k
  · simp [h]
  · rw [if_neg h, List.getD_set]; simp [h]

/-- Closed form of the flood fill, stated for the iterations in reverse (`foldr`) so that the last
iteration is the head.  Roots are never overwritten (`root (root i) = root i`), so the value copied
in iteration `k` is the seed of `root k` whether or not `root k` has been visited. -/
theorem floodr_getD {root : Nat → Nat} (w0 : List Int)
    (hr : ∀ i, i < w0.length → root (root i) = root i) (ord : List Nat) (j : Nat) :
    (ord.foldr (fun k w => floodStep root w k) w0).getD j 0 =
      if j ∈ ord ∧ j < w0.length then w0.getD (root j) 0 else w0.getD j 0 := by
  induction ord generalizing j with
  | nil => simp
  | cons k ord ih =>
    have hlen : (ord.foldr (fun k w => floodStep root w k) w0).length = w0.length := by
      rw [← List.foldl_reverse]; exact flood_length root _ w0
    rw [List.foldr_cons, floodStep_getD, hlen]
    simp only [ih]
    by_cases hjk : k = j
    · subst hjk
      by_cases hk : k < w0.length
      · by_cases e : root k = k
        · simp [hk, e]
        · simp [hk, e, hr k hk]
      · simp [hk]
    · simp [hjk, Ne.symm hjk]

/-- **flood fill, any traversal order** (repeats allowed): a visited vertex ends with the seed of
its root, an unvisited one keeps its own. -/
theorem flood_getD {root : Nat → Nat} (w0 : List Int)
    (hr : ∀ i, i < w0.length → root (root i) = root i) (ord : List Nat) (j : Nat) :
    (flood root w0 ord).getD j 0 =
      if j ∈ ord ∧ j < w0.length then w0.getD (root j) 0 else w0.getD j 0 := by
  simpa [flood, List.foldr_reverse] using floodr_getD w0 hr ord.reverse j

/-! ## `rootsOk` makes `rootOf` a system of representatives of `Conn edges` -/

structure RootsSpec (n : Nat) (edges : List (Nat × Nat)) (rootOf : List Nat) : Prop where
  len : rootOf.length = n
  lt : ∀ i, i < n → rootOf.getD i 0 < n
  conn : ∀ i, i < n → Conn edges i (rootOf.getD i 0)
  idem : ∀ i, i < n → rootOf.getD (rootOf.getD i 0) 0 = rootOf.getD i 0
  same : ∀ i j, i < n → j < n → Conn edges i j → rootOf.getD i 0 = rootOf.getD j 0

theorem rootsOk_spec {n : Nat} {edges : List (Nat × Nat)} {rootOf : List Nat}
    (hb : ∀ p, p ∈ edges → p.1 < n ∧ p.2 < n) (h : rootsOk n edges rootOf = true) :
    RootsSpec n edges rootOf := by
  unfold rootsOk at h
  simp only [Bool.and_eq_true, beq_iff_eq, List.all_eq_true, List.mem_range, decide_eq_true_eq] at h
  obtain ⟨hlen, hall⟩ := h
  have hs := (seqPartition_spec n edges hb).2
  have hl := fun i (hi : i < n) => seqPartition_least n edges hb hi
  refine ⟨hlen, fun i hi => (hall i hi).1.1.1, fun i hi => ?_, fun i hi => (hall i hi).1.2, ?_⟩
  · obtain ⟨⟨⟨h1, h2⟩, _⟩, _⟩ := hall i hi
    exact ((hs _ _ h1 hi).1 h2).symm
  · intro i j hi hj hc
    have e : (seqPartition n edges).getD i 0 = (seqPartition n edges).getD j 0 := (hs i j hi hj).2 hc
    rw [← (hall i hi).2, ← (hall j hj).2, e]

theorem conn_const {edges : List (Nat × Nat)} {α : Type} (tw : Nat → α)
    (he : ∀ p, p ∈ edges → tw p.1 = tw p.2) {a b : Nat} (c : Conn edges a b) : tw a = tw b := by
  induction c with
  | base h => exact he _ h
  | refl => rfl
  | symm _ ih => exact ih.symm
  | trans _ _ ih1 ih2 => exact ih1.trans ih2

/-- `#starts − #ends` of a vector -/
def signed (es : List EdgePos) : Int :=
  (es.countP (·.isStart) : Int) - (es.countP (fun e => !e.isStart) : Int)

theorem signed_append (a b : List EdgePos) : signed (a ++ b) = signed a + signed b := by
  unfold signed; simp only [List.countP_append]; omega

theorem signed_perm {a b : List EdgePos} (h : a.Perm b) : signed a = signed b := by
  unfold signed; rw [h.countP_eq, h.countP_eq]

/-- `n` entries that are all starts (all ends) count `n` (`-n`): the `|inclusion|` copies
pushed by `vertEntries` and `collEntries` -/
theorem signed_map_const {α : Type} (l : List α) (f : α → EdgePos) (b : Bool)
    (h : ∀ x, (f x).isStart = b) :
    signed (l.map f) = if b then (l.length : Int) else -(l.length : Int) := by
  unfold signed
  rw [List.countP_map, List.countP_map]
  cases b
  · rw [List.countP_eq_zero.2 (by simp [h]), List.countP_eq_length.2 (by simp [h])]; simp
  · rw [List.countP_eq_length.2 (by simp [h]), List.countP_eq_zero.2 (by simp [h])]; simp

/-- `|n|` copies that are starts exactly when `n > 0` count `n` -/
theorem signed_copies_pos (n : Int) (f : Nat → EdgePos) (h : ∀ j, (f j).isStart = decide (n > 0)) :
    signed ((List.range n.natAbs).map f) = n := by
  rw [signed_map_const _ f _ h, List.length_range]
  by_cases hn : n > 0 <;> simp [hn] <;> omega

/-- `|n|` copies that are starts exactly when `n < 0` count `-n` -/
theorem signed_copies_neg (n : Int) (f : Nat → EdgePos) (h : ∀ j, (f j).isStart = decide (n < 0)) :
    signed ((List.range n.natAbs).map f) = -n := by
  rw [signed_map_const _ f _ h, List.length_range]
  by_cases hn : n < 0 <;> simp [hn] <;> omega

/-- the crossings `AddNewEdgeVerts` pushes onto the vector of ONE edge (l.232-235: first tuple) -/
def crossingEntries (cs : List Coll) : List EdgePos :=
  cs.flatMap fun c => collEntries c (decide (c.incl < 0))

theorem signed_crossingEntries (cs : List Coll) :
    signed (crossingEntries cs) = -(cs.map (·.incl)).sum := by
  induction cs with
  | nil => rfl
  | cons c cs ih =>
    simp only [crossingEntries, List.flatMap_cons, List.map_cons, List.sum_cons] at ih ⊢
    rw [signed_append, ih, collEntries, signed_copies_neg _ _ fun _ => rfl]
    omega

theorem signed_partialEntries (crossings : List EdgePos) (vS vE : Nat) (iS iE : Int) :
    signed (partialEntries crossings vS vE iS iE) = signed crossings + iS - iE := by
  unfold partialEntries vertEntries
  rw [signed_append, signed_append, signed_perm (show (stableSort crossings).Perm crossings from List.mergeSort_perm _ _),
    signed_copies_pos _ _ fun _ => rfl, signed_copies_neg _ _ fun _ => rfl]
  rfl

theorem partialEntries_length (crossings : List EdgePos) (vS vE : Nat) (iS iE : Int) :
    (partialEntries crossings vS vE iS iE).length = crossings.length + iS.natAbs + iE.natAbs := by
  unfold partialEntries vertEntries
  have : (stableSort crossings).length = crossings.length := (List.mergeSort_perm _ _).length_eq
  simp [this]; omega

theorem length_even_of_signed_zero (es : List EdgePos) (h : signed es = 0) :
    pairUpPre es = true := by
  unfold signed at h
  unfold pairUpPre
  have hl : es.length = es.countP (·.isStart) + es.countP (fun e => !e.isStart) := by
    have := List.length_eq_countP_add_countP (fun e : EdgePos => e.isStart) (l := es)
    simpa using this
  simp only [Bool.and_eq_true, beq_iff_eq]
  omega

theorem pairUpPre_withKeys (es : List EdgePos) (keys : List Int) (h : keys.length = es.length) :
    pairUpPre (withKeys es keys) = pairUpPre es := by
  have hm : (withKeys es keys).map (·.isStart) = es.map (·.isStart) := by
    induction es generalizing keys with
    | nil => simp [withKeys]
    | cons e es ih =>
      cases keys with
      | nil => simp at h
      | cons k ks =>
        have := ih ks (by simpa using h)
        simp only [withKeys, List.zipWith_cons_cons, List.map_cons] at this ⊢
        rw [this]
  have hl : (withKeys es keys).length = es.length := by simpa using congrArg List.length hm
  have hc : (withKeys es keys).countP (·.isStart) = es.countP (·.isStart) := by
    simpa [List.countP_map] using congrArg (List.countP id) hm
  unfold pairUpPre; rw [hl, hc]

/-- keeping along an edge: `keepP op (w − Σ xs) = keepP op w − Σ keepNew op x` — iterated
`keepNew_is_jump` (MV/Props/C02.lean), stated for any affine keeping rule `c + c3·w` -/
theorem keep_along (c c3 w : Int) (xs : List Int) :
    c + c3 * (w - xs.sum) = (c + c3 * w) - (xs.map fun x => c3 * x).sum := by
  induction xs generalizing w with
  | nil => simp
  | cons x xs ih =>
    simp only [List.sum_cons, List.map_cons]
    have := ih (w - x)
    have e : w - (x + xs.sum) = w - x - xs.sum := by omega
    rw [e, this, Int.mul_sub]; omega

end MV.BoolAsm
