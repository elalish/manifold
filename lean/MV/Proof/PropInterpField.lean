import MV.Model.PropInterp
import Mathlib.Algebra.Order.Field.Basic
import Mathlib.Algebra.Order.Ring.Rat
import Mathlib.Algebra.Field.Rat
import Mathlib.Tactic.Ring
import Mathlib.Tactic.Linarith
import Mathlib.Tactic.Positivity
import Mathlib.Tactic.FieldSimp
import Mathlib.Tactic.LinearCombination
/-!
Lemmas for property C07 (interpolation half), part 1: the exact instance of the `Scalar` interface
of `MV/Model/PropInterp.lean` at a linearly ordered field, the branch structure of `getBarycentric`,
and the vector identities behind it.
-/
namespace MV.PropInterp

/-- the exact instance: a linearly ordered field, every operation exact, comparisons decided -/
instance fieldScalar (F : Type) [Field F] [LinearOrder F] : Scalar F where
  zero := 0
  one := 1
  add a b := a + b
  sub a b := a - b
  mul a b := a * b
  div a b := a / b
  neg a := -a
  lt a b := decide (a < b)
  beq a b := decide (a = b)

section Branches
variable {α : Type} [Scalar α]
open Scalar

/-- squared distance of `v` to vertex `t` as the code computes it (`dot(dv, dv)`) -/
def dist2 (v t : V3 α) : α := dot (vsub v t) (vsub v t)

/-- the three squared edge lengths `d2` -/
def d2of (t0 t1 t2 : V3 α) : V3 α :=
  ⟨dot (vsub t2 t1) (vsub t2 t1), dot (vsub t0 t2) (vsub t0 t2), dot (vsub t1 t0) (vsub t1 t0)⟩
/-- `d2[longSide]` -/
def dLong (t0 t1 t2 : V3 α) : α :=
  (d2of t0 t1 t2).get (longSide (d2of t0 t1 t2).x (d2of t0 t1 t2).y (d2of t0 t1 t2).z)
/-- `crossP = cross(edges[0], edges[1])` -/
def crossPof (t0 t1 t2 : V3 α) : V3 α := cross (vsub t2 t1) (vsub t0 t2)
/-- `area2 = dot(crossP, crossP)` -/
def area2of (t0 t1 t2 : V3 α) : α := dot (crossPof t0 t1 t2) (crossPof t0 t1 t2)

/-- no vertex of the triangle is within tolerance of `v` -/
def NoVertex (v t0 t1 t2 : V3 α) (tol : α) : Prop :=
  lt (dist2 v t0) (mul tol tol) = false ∧ lt (dist2 v t1) (mul tol tol) = false ∧
  lt (dist2 v t2) (mul tol tol) = false

/-- the triangle branch is taken: no vertex within tolerance, the long side is not shorter than
the tolerance, and `area2 > d2[longSide] * tol2` -/
def TriBranch (v t0 t1 t2 : V3 α) (tol : α) : Prop :=
  NoVertex v t0 t1 t2 tol ∧ lt (dLong t0 t1 t2) (mul tol tol) = false ∧
  lt (mul (dLong t0 t1 t2) (mul tol tol)) (area2of t0 t1 t2) = true

/-- the three weights before normalisation -/
def rawWeights (v t0 t1 t2 : V3 α) (tol : α) : V3 α :=
  ⟨edgeWeight (vsub t2 t1) (vsub v t1) (crossPof t0 t1 t2) (d2of t0 t1 t2).x (mul tol tol),
   edgeWeight (vsub t0 t2) (vsub v t2) (crossPof t0 t1 t2) (d2of t0 t1 t2).y (mul tol tol),
   edgeWeight (vsub t1 t0) (vsub v t0) (crossPof t0 t1 t2) (d2of t0 t1 t2).z (mul tol tol)⟩

/-- `getBarycentric` as a chain of tests on the named quantities -/
theorem getBarycentric_eq (v t0 t1 t2 : V3 α) (tol : α) :
    getBarycentric v t0 t1 t2 tol =
      if lt (dist2 v t0) (mul tol tol) then unitV 0
      else if lt (dist2 v t1) (mul tol tol) then unitV 1
      else if lt (dist2 v t2) (mul tol tol) then unitV 2
      else if lt (dLong t0 t1 t2) (mul tol tol) then ⟨one, zero, zero⟩
      else if lt (mul (dLong t0 t1 t2) (mul tol tol)) (area2of t0 t1 t2) then
        let u := rawWeights v t0 t1 t2 tol
        let s := add (add u.x u.y) u.z
        ⟨div u.x s, div u.y s, div u.z s⟩
      else
        match longSide (d2of t0 t1 t2).x (d2of t0 t1 t2).y (d2of t0 t1 t2).z with
        | 0 =>
          let alpha := div (dot (vsub v t1) (vsub t2 t1)) (d2of t0 t1 t2).x
          ⟨zero, sub one alpha, alpha⟩
        | 1 =>
          let alpha := div (dot (vsub v t2) (vsub t0 t2)) (d2of t0 t1 t2).y
          ⟨alpha, zero, sub one alpha⟩
        | _ =>
          let alpha := div (dot (vsub v t0) (vsub t1 t0)) (d2of t0 t1 t2).z
          ⟨sub one alpha, alpha, zero⟩ := rfl

theorem gb_vert0 (v t0 t1 t2 : V3 α) (tol : α) (h : lt (dist2 v t0) (mul tol tol) = true) :
    getBarycentric v t0 t1 t2 tol = unitV 0 := by
  rw [getBarycentric_eq, if_pos h]

theorem gb_vert1 (v t0 t1 t2 : V3 α) (tol : α) (h0 : lt (dist2 v t0) (mul tol tol) = false)
    (h : lt (dist2 v t1) (mul tol tol) = true) :
    getBarycentric v t0 t1 t2 tol = unitV 1 := by
  simp only [getBarycentric_eq, h0, h, Bool.false_eq_true, if_false, if_true]

theorem gb_vert2 (v t0 t1 t2 : V3 α) (tol : α) (h0 : lt (dist2 v t0) (mul tol tol) = false)
    (h1 : lt (dist2 v t1) (mul tol tol) = false) (h : lt (dist2 v t2) (mul tol tol) = true) :
    getBarycentric v t0 t1 t2 tol = unitV 2 := by
  simp only [getBarycentric_eq, h0, h1, h, Bool.false_eq_true, if_false, if_true]

theorem gb_point (v t0 t1 t2 : V3 α) (tol : α) (hv : NoVertex v t0 t1 t2 tol)
    (hp : lt (dLong t0 t1 t2) (mul tol tol) = true) :
    getBarycentric v t0 t1 t2 tol = ⟨one, zero, zero⟩ := by
  simp only [getBarycentric_eq, hv.1, hv.2.1, hv.2.2, hp, Bool.false_eq_true, if_false, if_true]

theorem gb_tri (v t0 t1 t2 : V3 α) (tol : α) (h : TriBranch v t0 t1 t2 tol) :
    getBarycentric v t0 t1 t2 tol =
      let u := rawWeights v t0 t1 t2 tol
      let s := add (add u.x u.y) u.z
      ⟨div u.x s, div u.y s, div u.z s⟩ := by
  simp only [getBarycentric_eq, h.1.1, h.1.2.1, h.1.2.2, h.2.1, h.2.2, Bool.false_eq_true, if_false, if_true]

/-- the line branch: `uvw[longSide] = 0`, the other two are `1 - alpha` and `alpha` -/
theorem gb_line (v t0 t1 t2 : V3 α) (tol : α) (hv : NoVertex v t0 t1 t2 tol)
    (hp : lt (dLong t0 t1 t2) (mul tol tol) = false)
    (ht : lt (mul (dLong t0 t1 t2) (mul tol tol)) (area2of t0 t1 t2) = false) :
    ∃ alpha : α,
      getBarycentric v t0 t1 t2 tol = ⟨zero, sub one alpha, alpha⟩ ∨
      getBarycentric v t0 t1 t2 tol = ⟨alpha, zero, sub one alpha⟩ ∨
      getBarycentric v t0 t1 t2 tol = ⟨sub one alpha, alpha, zero⟩ := by
  simp only [getBarycentric_eq, hv.1, hv.2.1, hv.2.2, hp, ht, Bool.false_eq_true, if_false]
  split
  · exact ⟨_, Or.inl rfl⟩
  · exact ⟨_, Or.inr (Or.inl rfl)⟩
  · exact ⟨_, Or.inr (Or.inr rfl)⟩

end Branches

section Field
variable {F : Type} [Field F] [LinearOrder F]

@[simp] theorem sc_zero : (Scalar.zero : F) = 0 := rfl
@[simp] theorem sc_one : (Scalar.one : F) = 1 := rfl
@[simp] theorem sc_add (a b : F) : Scalar.add a b = a + b := rfl
@[simp] theorem sc_sub (a b : F) : Scalar.sub a b = a - b := rfl
@[simp] theorem sc_mul (a b : F) : Scalar.mul a b = a * b := rfl
@[simp] theorem sc_div (a b : F) : Scalar.div a b = a / b := rfl
@[simp] theorem sc_neg (a : F) : Scalar.neg a = -a := rfl
@[simp] theorem sc_lt (a b : F) : Scalar.lt a b = decide (a < b) := rfl
@[simp] theorem sc_beq (a b : F) : Scalar.beq a b = decide (a = b) := rfl

@[simp] theorem dot_eq (a b : V3 F) : dot a b = a.x * b.x + a.y * b.y + a.z * b.z := by
  simp [dot]
@[simp] theorem vsub_x (a b : V3 F) : (vsub a b).x = a.x - b.x := rfl
@[simp] theorem vsub_y (a b : V3 F) : (vsub a b).y = a.y - b.y := rfl
@[simp] theorem vsub_z (a b : V3 F) : (vsub a b).z = a.z - b.z := rfl
@[simp] theorem cross_x (a b : V3 F) : (cross a b).x = a.y * b.z - a.z * b.y := rfl
@[simp] theorem cross_y (a b : V3 F) : (cross a b).y = a.z * b.x - a.x * b.z := rfl
@[simp] theorem cross_z (a b : V3 F) : (cross a b).z = a.x * b.y - a.y * b.x := rfl

omit [Field F] [LinearOrder F] in
theorem V3.ext' {a b : V3 F} (hx : a.x = b.x) (hy : a.y = b.y) (hz : a.z = b.z) : a = b := by
  cases a; cases b; simp_all

theorem edgeWeight_field (e w n : V3 F) (d t : F) :
    edgeWeight e w n d t = if dot (cross e w) (cross e w) < d * t then 0 else dot (cross e w) n := by
  simp only [edgeWeight, sc_lt, sc_mul, sc_zero, decide_eq_true_eq]

/-! ### vector identities

All of them are polynomial identities in the coordinates.  They are stated for arbitrary vectors
wherever the fact does not depend on the vectors being edges of one triangle: `ring` then works on
fewer and smaller monomials. -/

/-- Lagrange: `|a × b|² + (a·b)² = |a|² |b|²` -/
theorem lagrange (a b : V3 F) :
    dot (cross a b) (cross a b) + dot a b ^ 2 = dot a a * dot b b := by
  simp only [dot_eq, cross_x, cross_y, cross_z]; ring

/-- Lagrange for `e ⟂ n`: `|e × w|² |n|² = ((e × w)·n)² + |e|² (w·n)²` -/
theorem lagrange_perp (e w n : V3 F) (h : dot e n = 0) :
    dot (cross e w) (cross e w) * dot n n =
      dot (cross e w) n ^ 2 + dot e e * dot w n ^ 2 := by
  -- without `h` the two sides differ by `(e·n) ((e·n) |w|² − 2 (w·n) (w·e))`
  linear_combination (norm := (simp only [dot_eq, cross_x, cross_y, cross_z]; ring1))
    (dot e n * dot w w - 2 * dot w n * dot w e) * h

/-- `crossP` does not change when the corners are rotated: it is also `cross(edges[1], edges[2])` -/
theorem crossPof_rot (t0 t1 t2 : V3 F) : crossPof t1 t2 t0 = crossPof t0 t1 t2 :=
  V3.ext' (by simp only [crossPof, cross_x, vsub_y, vsub_z]; ring)
    (by simp only [crossPof, cross_y, vsub_x, vsub_z]; ring)
    (by simp only [crossPof, cross_z, vsub_x, vsub_y]; ring)

/-- edge 2 is perpendicular to `crossP` -/
theorem edge2_perp (t0 t1 t2 : V3 F) : dot (vsub t1 t0) (crossPof t0 t1 t2) = 0 := by
  simp only [crossPof, dot_eq, cross_x, cross_y, cross_z, vsub_x, vsub_y, vsub_z]; ring

/-- the height of `v` over the plane of the triangle, times `|crossP|` -/
def zeta (v t0 t1 t2 : V3 F) : F := dot (vsub v t0) (crossPof t0 t1 t2)

/-- … measured from any corner -/
theorem zeta_rot (v t0 t1 t2 : V3 F) : zeta v t1 t2 t0 = zeta v t0 t1 t2 := by
  simp only [zeta, crossPof, dot_eq, cross_x, cross_y, cross_z, vsub_x, vsub_y, vsub_z]; ring

/-- the un-snapped weights `dot(cross(edges[i], v - triPos[Next3(i)]), crossP)` -/
def U0 (v t0 t1 t2 : V3 F) : F := dot (cross (vsub t2 t1) (vsub v t1)) (crossPof t0 t1 t2)
def U1 (v t0 t1 t2 : V3 F) : F := dot (cross (vsub t0 t2) (vsub v t2)) (crossPof t0 t1 t2)
def U2 (v t0 t1 t2 : V3 F) : F := dot (cross (vsub t1 t0) (vsub v t0)) (crossPof t0 t1 t2)
/-- `area2v` of edge `i`: `|edges[i] × (v - triPos[Next3(i)])|²` -/
def A0 (v t1 t2 : V3 F) : F := dot (cross (vsub t2 t1) (vsub v t1)) (cross (vsub t2 t1) (vsub v t1))
def A1 (v t0 t2 : V3 F) : F := dot (cross (vsub t0 t2) (vsub v t2)) (cross (vsub t0 t2) (vsub v t2))
def A2 (v t0 t1 : V3 F) : F := dot (cross (vsub t1 t0) (vsub v t0)) (cross (vsub t1 t0) (vsub v t0))

/-- with ANY vector `n` in the place of `crossP`, the three weights sum to `(e0 × e1)·n` -/
theorem weights_sum (v t0 t1 t2 n : V3 F) :
    dot (cross (vsub t2 t1) (vsub v t1)) n + dot (cross (vsub t0 t2) (vsub v t2)) n +
      dot (cross (vsub t1 t0) (vsub v t0)) n = dot (cross (vsub t2 t1) (vsub t0 t2)) n := by
  simp only [dot_eq, cross_x, cross_y, cross_z, vsub_x, vsub_y, vsub_z]; ring

/-- … and, tested against any covector `k`, they combine the corners to
`((e0 × e1)·n) v − ((v − t0)·(e0 × e1)) n` -/
theorem weights_combine (v t0 t1 t2 n k : V3 F) :
    dot (cross (vsub t2 t1) (vsub v t1)) n * dot t0 k + dot (cross (vsub t0 t2) (vsub v t2)) n * dot t1 k +
        dot (cross (vsub t1 t0) (vsub v t0)) n * dot t2 k =
      dot (cross (vsub t2 t1) (vsub t0 t2)) n * dot v k -
        dot (vsub v t0) (cross (vsub t2 t1) (vsub t0 t2)) * dot n k := by
  simp only [dot_eq, cross_x, cross_y, cross_z, vsub_x, vsub_y, vsub_z]; ring

theorem U_sum (v t0 t1 t2 : V3 F) :
    U0 v t0 t1 t2 + U1 v t0 t1 t2 + U2 v t0 t1 t2 = area2of t0 t1 t2 :=
  weights_sum v t0 t1 t2 (crossPof t0 t1 t2)

/-- reconstruction: the un-snapped weights place the point at the projection of `v` onto the plane,
`Σ Uᵢ tᵢ = area2 · v − ζ · crossP` (read through any covector `k`) -/
theorem U_reconstruct (v t0 t1 t2 k : V3 F) :
    U0 v t0 t1 t2 * dot t0 k + U1 v t0 t1 t2 * dot t1 k + U2 v t0 t1 t2 * dot t2 k =
      area2of t0 t1 t2 * dot v k - zeta v t0 t1 t2 * dot (crossPof t0 t1 t2) k :=
  weights_combine v t0 t1 t2 (crossPof t0 t1 t2) k

theorem lag2 (v t0 t1 t2 : V3 F) :
    A2 v t0 t1 * area2of t0 t1 t2 = U2 v t0 t1 t2 ^ 2 + (d2of t0 t1 t2).z * zeta v t0 t1 t2 ^ 2 :=
  lagrange_perp (vsub t1 t0) (vsub v t0) (crossPof t0 t1 t2) (edge2_perp t0 t1 t2)
/-- edge 0 is edge 2 of the triangle `t1 t2 t0`, edge 1 that of `t2 t0 t1` -/
theorem lag0 (v t0 t1 t2 : V3 F) :
    A0 v t1 t2 * area2of t0 t1 t2 = U0 v t0 t1 t2 ^ 2 + (d2of t0 t1 t2).x * zeta v t0 t1 t2 ^ 2 := by
  have h := lag2 v t1 t2 t0
  rw [area2of, U2, crossPof_rot, zeta_rot] at h
  exact h
theorem lag1 (v t0 t1 t2 : V3 F) :
    A1 v t0 t2 * area2of t0 t1 t2 = U1 v t0 t1 t2 ^ 2 + (d2of t0 t1 t2).y * zeta v t0 t1 t2 ^ 2 := by
  have h := lag2 v t2 t0 t1
  rw [area2of, U2, ← crossPof_rot t2 t0 t1, ← zeta_rot v t2 t0 t1] at h
  exact h

/-- `area2 ≤ d2[i] * d2[j]`: a non-degenerate triangle has no zero edge -/
theorem area2_le_d01 (t0 t1 t2 : V3 F) :
    area2of t0 t1 t2 + dot (vsub t2 t1) (vsub t0 t2) ^ 2 = (d2of t0 t1 t2).x * (d2of t0 t1 t2).y :=
  lagrange (vsub t2 t1) (vsub t0 t2)
theorem area2_le_d12 (t0 t1 t2 : V3 F) :
    area2of t0 t1 t2 + dot (vsub t0 t2) (vsub t1 t0) ^ 2 = (d2of t0 t1 t2).y * (d2of t0 t1 t2).z := by
  rw [area2of, ← crossPof_rot]
  exact lagrange (vsub t0 t2) (vsub t1 t0)

end Field
end MV.PropInterp
