import MV.Proof.PartitionGeomNat
/-! Finite table for property C19 (kernel evaluation, no `native_decide`): the model's checker `checkCached`
accepts the cached subdivision pattern of every key of the chunk, the unrotated quads with divisions up to 3.
What the kernel evaluates is the checker on numerators, which accepts no more (`all_checkCached`). -/
namespace MV.Partition

theorem tab_q3 : (canonQuads 3).all checkCached = true := all_checkCached (by decide +kernel)

end MV.Partition
