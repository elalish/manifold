import MV.Proof.CsgBatchHeap
/-
`BatchUnion` (l.562-629).  The greedy partition (l.586-599): every index of the chunk lands in
exactly one set, no set is empty, and inside a set no later member overlaps an earlier one, for
every overlap oracle.  One round keeps the sum of the children's values in any commutative
monoid, never indexes outside `children`, and strictly shortens `children` when
`kMaxUnionSize ≥ 2`; hence the loop terminates within `children.size()` rounds and the result
sums all the children.  Core Lean only.
-/
set_option autoImplicit false
namespace MV.CsgBatch

variable {α : Type}

/-- inside a set no later member's box overlaps an earlier member's box (the test the code
makes: `boxes[i].DoesOverlap(boxes[j])` with `i` the newcomer) -/
def Sep (orc : Orc α) (boxes : Array (BLeaf α)) (set : List Nat) : Prop :=
  set.Pairwise fun j i => ovAt orc boxes i j = false

theorem fits_iff (orc : Orc α) (boxes : Array (BLeaf α)) (i : Nat) (set : List Nat) :
    fits orc boxes i set = true ↔ ∀ j ∈ set, ovAt orc boxes i j = false := by
  simp [fits]

theorem insertSet_flatten_perm (p : List Nat → Bool) (i : Nat) (sets : List (List Nat)) :
    (insertSet p i sets).flatten.Perm (i :: sets.flatten) := by
  induction sets with
  | nil => simp [insertSet]
  | cons s ss ih =>
    simp only [insertSet]
    split
    · simp only [List.flatten_cons, List.append_assoc, List.singleton_append]
      exact List.perm_middle
    · simp only [List.flatten_cons]
      exact (List.Perm.append_left s ih).trans List.perm_middle

/-- a property of sets that holds for singletons and survives an accepted insertion holds for
every set after `insertSet` -/
theorem insertSet_forall (P : List Nat → Prop) (p : List Nat → Bool) (i : Nat)
    (sets : List (List Nat)) (hs : ∀ s ∈ sets, P s) (hnew : P [i])
    (happ : ∀ s ∈ sets, p s = true → P (s ++ [i])) : ∀ s ∈ insertSet p i sets, P s := by
  induction sets with
  | nil => intro s hsm; simp only [insertSet, List.mem_singleton] at hsm; rw [hsm]; exact hnew
  | cons s ss ih =>
    intro t ht
    simp only [insertSet] at ht
    split at ht
    · rename_i hp
      rcases List.mem_cons.1 ht with rfl | ht
      · exact happ s (by simp) hp
      · exact hs t (by simp [ht])
    · rcases List.mem_cons.1 ht with rfl | ht
      · exact hs _ (by simp)
      · exact ih (fun x hx => hs x (by simp [hx])) (fun x hx => happ x (by simp [hx])) t ht

/-- the partition loop run over the indices `is` from the sets `sets` -/
def partFold (orc : Orc α) (boxes : Array (BLeaf α)) (sets : List (List Nat)) (is : List Nat) :
    List (List Nat) :=
  is.foldl (fun sets i => insertSet (fits orc boxes i) i sets) sets

theorem partFold_perm (orc : Orc α) (boxes : Array (BLeaf α)) (sets : List (List Nat))
    (is : List Nat) : (partFold orc boxes sets is).flatten.Perm (sets.flatten ++ is) := by
  induction is generalizing sets with
  | nil => simp [partFold]
  | cons i is ih =>
    simp only [partFold, List.foldl_cons]
    refine (ih (insertSet (fits orc boxes i) i sets)).trans ?_
    refine (List.Perm.append_right is (insertSet_flatten_perm _ i sets)).trans ?_
    simp only [List.cons_append]
    exact List.perm_middle.symm

theorem partFold_sep (orc : Orc α) (boxes : Array (BLeaf α)) (sets : List (List Nat))
    (is : List Nat) (hs : ∀ s ∈ sets, Sep orc boxes s ∧ s ≠ []) :
    ∀ s ∈ partFold orc boxes sets is, Sep orc boxes s ∧ s ≠ [] := by
  induction is generalizing sets with
  | nil => simpa [partFold] using hs
  | cons i is ih =>
    simp only [partFold, List.foldl_cons]
    apply ih
    apply insertSet_forall (fun s => Sep orc boxes s ∧ s ≠ []) _ i sets hs
    · exact ⟨by simp [Sep], by simp⟩
    · intro s hsm hp
      refine ⟨?_, by simp⟩
      simp only [Sep, List.pairwise_append, List.pairwise_cons, List.not_mem_nil, false_imp_iff,
        implies_true, List.Pairwise.nil, and_self, List.mem_singleton, forall_eq, true_and]
      exact ⟨(hs s hsm).1, (fits_iff orc boxes i s).1 hp⟩

theorem partition_eq (orc : Orc α) (boxes : Array (BLeaf α)) :
    partition orc boxes = partFold orc boxes [] (List.range boxes.size) := rfl

/-- every index of the chunk is in exactly one set (with multiplicity: the concatenation of the
sets is a rearrangement of `0 … n-1`) -/
theorem partition_perm (orc : Orc α) (boxes : Array (BLeaf α)) :
    (partition orc boxes).flatten.Perm (List.range boxes.size) := by
  simpa [partition_eq] using partFold_perm orc boxes [] (List.range boxes.size)

theorem partition_sep (orc : Orc α) (boxes : Array (BLeaf α)) :
    ∀ s ∈ partition orc boxes, Sep orc boxes s ∧ s ≠ [] := by
  rw [partition_eq]
  exact partFold_sep orc boxes [] _ (by simp)

theorem partition_lt (orc : Orc α) (boxes : Array (BLeaf α)) :
    ∀ s ∈ partition orc boxes, ∀ j ∈ s, j < boxes.size := by
  intro s hs j hj
  have : j ∈ (partition orc boxes).flatten := List.mem_flatten.2 ⟨s, hs, hj⟩
  simpa using (partition_perm orc boxes).mem_iff.1 this

end MV.CsgBatch

namespace MV.CsgBatch
open CMon

variable {α : Type}

/-! ## swap(front, back) -/

theorem swapFrontBack_perm {β : Type} (l : List β) : (swapFrontBack l).Perm l := by
  cases l with
  | nil => exact List.Perm.refl _
  | cons a t =>
    simp only [swapFrontBack]
    cases hz : t.getLast? with
    | none =>
      have : t = [] := List.getLast?_eq_none_iff.1 hz
      subst this
      exact List.Perm.refl _
    | some z =>
      have hne : t ≠ [] := by intro h; rw [h] at hz; simp at hz
      have ht : t.dropLast ++ [z] = t := by
        have h1 := List.dropLast_concat_getLast hne
        have h2 : t.getLast? = some (t.getLast hne) := List.getLast?_eq_some_getLast hne
        rw [hz] at h2
        rw [Option.some.inj h2]
        exact h1
      simp only
      -- z :: d ++ [a]  ~  a :: (d ++ [z])
      have h1 : (z :: t.dropLast ++ [a]).Perm (a :: (z :: t.dropLast)) :=
        List.perm_append_comm
      have h2 : (z :: t.dropLast).Perm (t.dropLast ++ [z]) := by
        have : ([z] ++ t.dropLast).Perm (t.dropLast ++ [z]) := List.perm_append_comm
        simpa using this
      refine h1.trans ?_
      rw [ht] at h2
      exact List.Perm.cons a h2

theorem swapFrontBack_length {β : Type} (l : List β) : (swapFrontBack l).length = l.length :=
  (swapFrontBack_perm l).length_eq

/-! ## composing the sets -/

section Compose
variable {N : Type} [CMon N] (ops : Ops α) (orc : Orc α) (μ : α → N)

/-- the contribution of chunk index `j` -/
def gAt (chunk : List (BLeaf α)) (j : Nat) : N :=
  match chunk[j]? with
  | some c => μ c.val
  | none => zero

theorem gAt_range (chunk : List (BLeaf α)) :
    (List.range chunk.length).map (gAt μ chunk) = chunk.map fun c => μ c.val := by
  apply List.ext_getElem?
  intro i
  by_cases hi : i < chunk.length
  · simp [hi, gAt]
  · simp [hi]

/-- `tmp` of l.606-609 -/
def pick (chunk : List (BLeaf α)) (set : List Nat) : List (BLeaf α) :=
  set.filterMap fun j => chunk[j]?

theorem pick_msum (chunk : List (BLeaf α)) (set : List Nat) :
    msum ((pick chunk set).map fun c => μ c.val) = msum (set.map (gAt μ chunk)) := by
  induction set with
  | nil => rfl
  | cons j js ih =>
    simp only [pick, List.filterMap_cons, List.map_cons, msum_cons, gAt] at ih ⊢
    cases chunk[j]? with
    | none => simp only [ih, CMon.zero_add]
    | some c => simp only [List.map_cons, msum_cons, ih]

theorem pick_length (chunk : List (BLeaf α)) (set : List Nat)
    (hv : ∀ j ∈ set, j < chunk.length) : (pick chunk set).length = set.length := by
  induction set with
  | nil => rfl
  | cons j js ih =>
    have hj : j < chunk.length := hv j (by simp)
    simp only [pick, List.filterMap_cons, List.getElem?_eq_getElem hj, List.length_cons]
    rw [← ih (fun x hx => hv x (by simp [hx]))]
    rfl

theorem pick_pairwise (chunk : List (BLeaf α)) (set : List Nat)
    (hs : Sep orc chunk.toArray set) :
    (pick chunk set).Pairwise fun x y => orc.ov y x = false := by
  induction set with
  | nil => simp [pick]
  | cons j js ih =>
    simp only [Sep, List.pairwise_cons] at hs
    have ih' := ih hs.2
    simp only [pick, List.filterMap_cons]
    cases hj : chunk[j]? with
    | none => exact ih'
    | some c =>
      simp only [List.pairwise_cons]
      refine ⟨?_, ih'⟩
      intro y hy
      obtain ⟨i, hi, hiy⟩ := List.mem_filterMap.1 hy
      have := hs.1 i hi
      simpa [ovAt, hj, hiy] using this

variable (hc : ∀ l : List (BLeaf α), (l.Pairwise fun x y => orc.ov y x = false) →
    μ (ops.compose (l.map (·.val))) = msum (l.map fun x => μ x.val))
include hc

/-- one iteration of the compose loop appends one leaf, which adds exactly the members of the
set -/
theorem composeSet_spec (children : List (BLeaf α)) (start : Nat) (σ : ComposeSt α)
    (set : List Nat) (hv : ∀ j ∈ set, j < (children.drop start).length)
    (hs : Sep orc (children.drop start).toArray set) :
    (composeSet ops children start σ set).ub = σ.ub ∧
    (composeSet ops children start σ set).impls.length = σ.impls.length + 1 ∧
    msum ((composeSet ops children start σ set).impls.map fun c => μ c.val) =
      add (msum (σ.impls.map fun c => μ c.val)) (msum (set.map (gAt μ (children.drop start)))) := by
  have hget : ∀ j, children[start + j]? = (children.drop start)[j]? := by
    intro j; rw [List.getElem?_drop]
  have hpick : (set.filterMap fun j => children[start + j]?) = pick (children.drop start) set := by
    simp only [pick, hget]
  match set, hv, hs, hpick with
  | [j], hv, _, _ =>
    have hj : j < (children.drop start).length := hv j (by simp)
    simp only [composeSet, hget, List.getElem?_eq_getElem hj, List.map_append, msum_append,
      List.map_cons, List.map_nil, msum_cons, msum_nil, gAt, add_zero, List.length_append,
      List.length_singleton, and_self]
  | [], _, _, _ =>
    have := hc [] List.Pairwise.nil
    simp only [List.map_nil, msum_nil] at this
    simp [composeSet, msum_append, this, add_zero]
  | a :: b :: rest, hv, hs, hpick =>
    simp only [composeSet, hpick]
    refine ⟨?_, by simp, ?_⟩
    · rw [pick_length _ _ hv]; simp
    · rw [List.map_append, msum_append]
      simp only [List.map_cons, List.map_nil, msum_cons, msum_nil, add_zero]
      rw [hc _ (pick_pairwise orc _ _ hs), pick_msum]
      rfl

/-- the whole compose loop -/
theorem composeSets_spec (children : List (BLeaf α)) (start : Nat) (sets : List (List Nat))
    (σ : ComposeSt α) (hv : ∀ s ∈ sets, ∀ j ∈ s, j < (children.drop start).length)
    (hs : ∀ s ∈ sets, Sep orc (children.drop start).toArray s) :
    (sets.foldl (composeSet ops children start) σ).ub = σ.ub ∧
    (sets.foldl (composeSet ops children start) σ).impls.length = σ.impls.length + sets.length ∧
    msum ((sets.foldl (composeSet ops children start) σ).impls.map fun c => μ c.val) =
      add (msum (σ.impls.map fun c => μ c.val))
        (msum (sets.flatten.map (gAt μ (children.drop start)))) := by
  induction sets generalizing σ with
  | nil => simp [add_zero]
  | cons s ss ih =>
    simp only [List.foldl_cons]
    have h1 := composeSet_spec ops orc μ hc children start σ s (hv s (by simp)) (hs s (by simp))
    have h2 := ih (composeSet ops children start σ s) (fun t ht => hv t (by simp [ht]))
      (fun t ht => hs t (by simp [ht]))
    refine ⟨h2.1.trans h1.1, by rw [h2.2.1, h1.2.1, List.length_cons]; omega, ?_⟩
    rw [h2.2.2, h1.2.2, List.flatten_cons, List.map_append, msum_append, add_assoc]

/-- the compose loop over the greedy partition of the chunk `children[start..]`: no index out of
range, one leaf per set, and the leaves sum to the chunk -/
theorem compose_partition (children : List (BLeaf α)) (start next : Nat) :
    ((partition orc (children.drop start).toArray).foldl (composeSet ops children start)
      { next := next }).ub = false ∧
    ((partition orc (children.drop start).toArray).foldl (composeSet ops children start)
      { next := next }).impls.length = (partition orc (children.drop start).toArray).length ∧
    msum (((partition orc (children.drop start).toArray).foldl (composeSet ops children start)
      { next := next }).impls.map fun c => μ c.val) =
      msum ((children.drop start).map fun c => μ c.val) := by
  generalize hch : children.drop start = chunk
  have hsz : chunk.toArray.size = chunk.length := by simp
  have hcs := composeSets_spec ops orc μ hc children start (partition orc chunk.toArray)
    { next := next }
    (fun s hs j hj => by rw [hch, ← hsz]; exact partition_lt orc _ s hs j hj)
    (fun s hs => by rw [hch]; exact (partition_sep orc chunk.toArray s hs).1)
  have hperm := msum_perm ((partition_perm orc chunk.toArray).map (gAt μ chunk))
  rw [hsz, gAt_range] at hperm
  refine ⟨hcs.1, by simpa using hcs.2.1, ?_⟩
  rw [hcs.2.2, hch, hperm]
  simp only [List.map_nil, msum_nil, CMon.zero_add]

end Compose

/-! ## one round -/

section Round
variable {N : Type} [CMon N] (ops : Ops α) (orc : Orc α) (μ : α → N)

/-- `start` of l.576-578 -/
def startOf (K n : Nat) : Nat := if K < n then n - K else 0

theorem startOf_le (K n : Nat) : startOf K n ≤ n := by
  simp only [startOf]; split <;> omega

theorem startOf_lt (K n : Nat) (hK : 2 ≤ K) (hn : 2 ≤ n) : startOf K n + 1 < n := by
  simp only [startOf]; split <;> omega

/-- what a recorded round satisfies: `start` is the chunk offset of l.576-578, the sets are a
partition of the chunk's indices into non-empty sets, and `impls` has one entry per set -/
def RoundOK (K : Nat) (r : Round) : Prop :=
  r.start = startOf K r.children.length ∧
  r.sets.flatten.Perm (List.range (r.children.length - r.start)) ∧
  (∀ s ∈ r.sets, s ≠ []) ∧
  r.impls.length = r.sets.length

variable (hb : ∀ a b, μ (ops.bool a b) = add (μ a) (μ b)) (he : μ ops.empty = zero)
  (hc : ∀ l : List (BLeaf α), (l.Pairwise fun x y => orc.ov y x = false) →
    μ (ops.compose (l.map (·.val))) = msum (l.map fun x => μ x.val))
include hb he hc

/-- one round of the `while` loop: no out-of-range index, the sum of the values is kept,
`children` shrinks to `start + 1` entries, and the recorded round is `RoundOK` -/
theorem unionRound_spec (K grp : Nat) (hg : 1 ≤ grp) (σ : USt α) :
    (unionRound ops orc K grp σ).ub = σ.ub ∧
    msum ((unionRound ops orc K grp σ).children.map fun c => μ c.val) =
      msum (σ.children.map fun c => μ c.val) ∧
    (unionRound ops orc K grp σ).children.length = startOf K σ.children.length + 1 ∧
    ∃ r, (unionRound ops orc K grp σ).rounds = σ.rounds ++ [r] ∧ RoundOK K r := by
  have hcs := compose_partition ops orc μ hc σ.children (startOf K σ.children.length) σ.next
  have hle := startOf_le K σ.children.length
  simp only [unionRound,
    show ∀ n, (if K < n then n - K else 0) = startOf K n from fun _ => rfl]
  generalize (partition orc (σ.children.drop (startOf K σ.children.length)).toArray).foldl
    (composeSet ops σ.children (startOf K σ.children.length)) { next := σ.next } = cs at hcs ⊢
  obtain ⟨r, hr, hrv⟩ := batchBoolean_msum ops orc μ grp hg hb cs.impls (fun _ => he) cs.next
  simp only [hr, Option.isNone_some, Bool.or_false, hcs.1]
  refine ⟨by simp, ?_, ?_, _, rfl, by simp, ?_, fun s hs => (partition_sep orc _ s hs).2, ?_⟩
  · rw [msum_perm ((swapFrontBack_perm _).map _), List.map_append, msum_append]
    simp only [List.map_cons, List.map_nil, msum_cons, msum_nil, add_zero]
    rw [hrv, hcs.2.2, ← msum_append, ← List.map_append, List.take_append_drop]
  · rw [swapFrontBack_length]
    simp only [List.length_append, List.length_take, List.length_cons, List.length_nil]
    omega
  · simpa using partition_perm orc (σ.children.drop (startOf K σ.children.length)).toArray
  · simpa using hcs.2.1

/-- the loop ends with one child that sums all the children -/
theorem unionLoop_spec (K grp : Nat) (hK : 2 ≤ K) (hg : 1 ≤ grp) (f : Nat) (σ : USt α)
    (hf : σ.children.length ≤ f + 1) (h1 : 1 ≤ σ.children.length) :
    (unionLoop ops orc K grp f σ).ub = σ.ub ∧
    msum ((unionLoop ops orc K grp f σ).children.map fun c => μ c.val) =
      msum (σ.children.map fun c => μ c.val) ∧
    (unionLoop ops orc K grp f σ).children.length = 1 := by
  induction f generalizing σ with
  | zero => exact ⟨rfl, rfl, by simp only [unionLoop]; omega⟩
  | succ f ih =>
    simp only [unionLoop]
    split
    · rename_i hlen
      have hr := unionRound_spec ops orc μ hb he hc K grp hg σ
      have hlt := startOf_lt K σ.children.length hK hlen
      have := ih (unionRound ops orc K grp σ) (by omega) (by omega)
      exact ⟨this.1.trans hr.1, this.2.1.trans hr.2.1, this.2.2⟩
    · exact ⟨rfl, rfl, by omega⟩

/-- **BatchUnion sums its operands**: for every chunk size `K ≥ 2`, group width `grp ≥ 1`,
oracles, and every valuation `μ` into a commutative monoid under which `SimpleBoolean` adds, the
empty mesh is zero and `Compose` adds on lists the overlap oracle separates, a non-empty
`children` is reduced to one leaf, without any index out of range, whose value is the sum of the
children's values. -/
theorem batchUnion_msum (K grp : Nat) (hK : 2 ≤ K) (hg : 1 ≤ grp) (children : List (BLeaf α))
    (hne : children ≠ []) (next : Nat) :
    ∃ r, (batchUnion ops orc K grp children next).ret = some r ∧
      (batchUnion ops orc K grp children next).children = [r] ∧
      (batchUnion ops orc K grp children next).ub = false ∧
      μ r.val = msum (children.map fun c => μ c.val) := by
  have h := unionLoop_spec ops orc μ hb he hc K grp hK hg children.length
    { children := children, next := next } (Nat.le_succ _) (List.length_pos_iff.2 hne)
  simp only [batchUnion]
  match hch : (unionLoop ops orc K grp children.length
      { children := children, next := next }).children, h.2.2 with
  | [c], _ =>
    rw [hch] at h
    exact ⟨c, rfl, rfl, h.1, by simpa [add_zero] using h.2.1⟩

end Round

/-! ## termination and the trace, independently of any valuation -/

/-- the trivial monoid: used to read the structural facts (`ub`, lengths, the trace) off the
`_spec` lemmas without any hypothesis on the operations -/
instance : CMon Unit where
  add _ _ := ()
  zero := ()
  add_assoc _ _ _ := rfl
  add_comm _ _ := rfl
  add_zero _ := rfl

theorem unionRound_length (ops : Ops α) (orc : Orc α) (K grp : Nat) (hg : 1 ≤ grp) (σ : USt α) :
    (unionRound ops orc K grp σ).ub = σ.ub ∧
    (unionRound ops orc K grp σ).children.length = startOf K σ.children.length + 1 ∧
    ∃ r, (unionRound ops orc K grp σ).rounds = σ.rounds ++ [r] ∧ RoundOK K r := by
  have := unionRound_spec ops orc (fun _ => ()) (fun _ _ => rfl) rfl (fun _ _ => rfl) K grp hg σ
  exact ⟨this.1, this.2.2⟩

/-- the number of rounds is at most `children.size() - 1`, and more fuel changes nothing -/
theorem unionLoop_rounds (ops : Ops α) (orc : Orc α) (K grp : Nat) (hK : 2 ≤ K) (hg : 1 ≤ grp)
    (f : Nat) (σ : USt α) (hf : σ.children.length ≤ f + 1) (h1 : 1 ≤ σ.children.length) :
    (unionLoop ops orc K grp f σ).rounds.length + 1 ≤ σ.rounds.length + σ.children.length ∧
    ∀ g, f ≤ g → unionLoop ops orc K grp g σ = unionLoop ops orc K grp f σ := by
  induction f generalizing σ with
  | zero =>
    have hlen : ¬ 1 < σ.children.length := by omega
    refine ⟨by simp only [unionLoop]; omega, fun g _ => ?_⟩
    cases g with
    | zero => rfl
    | succ g => simp only [unionLoop, hlen, if_false]
  | succ f ih =>
    by_cases hlen : 1 < σ.children.length
    · obtain ⟨_, hr, r, hrr, _⟩ := unionRound_length ops orc K grp hg σ
      have hlt := startOf_lt K σ.children.length hK hlen
      have := ih (unionRound ops orc K grp σ) (by omega) (by omega)
      rw [hrr, List.length_append, List.length_singleton, hr] at this
      simp only [unionLoop, hlen, if_true]
      refine ⟨by omega, fun g hg' => ?_⟩
      obtain ⟨g, rfl⟩ : ∃ g', g = g' + 1 := ⟨g - 1, by omega⟩
      simp only [unionLoop, hlen, if_true]
      exact this.2 g (by omega)
    · simp only [unionLoop, hlen, if_false]
      refine ⟨by omega, fun g _ => ?_⟩
      cases g with
      | zero => rfl
      | succ g => simp only [unionLoop, hlen, if_false]

theorem unionLoop_trace (ops : Ops α) (orc : Orc α) (K grp : Nat) (hg : 1 ≤ grp) (f : Nat)
    (σ : USt α) (h : ∀ r ∈ σ.rounds, RoundOK K r) :
    ∀ r ∈ (unionLoop ops orc K grp f σ).rounds, RoundOK K r := by
  induction f generalizing σ with
  | zero => exact h
  | succ f ih =>
    simp only [unionLoop]
    split
    · obtain ⟨_, _, r, hr, hok⟩ := unionRound_length ops orc K grp hg σ
      apply ih
      intro x hx
      rw [hr] at hx
      rcases List.mem_append.1 hx with hx | hx
      · exact h x hx
      · rw [List.mem_singleton.1 hx]; exact hok
    · exact h

end MV.CsgBatch
