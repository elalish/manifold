import MV.Model.HalfedgeGate
import MV.Proof.HalfedgeBasic
/-!
C09b, part A: the in-place reordering loop of `ids` (impl.cpp:473-490) on ARBITRARY states:
no out-of-range access, termination within the fuel given by `reorder`, and what the later steps
need of its effect: the entries of `ids` are the same up to the one value handed over at
`i + numEdge` (so `ids` stays a permutation), and every position other than `k` keeps its removal
status.  (The loop shifts the not-removed entries between `i + numEdge` and `k` by one place; the
order they end up in is not stated here.)
-/
namespace MV.Halfedge
open List

/-- removal status of POSITION `p` of `ids`: `removed[ids[p]]` -/
def remAt (removed : Array Bool) (ids : Array Nat) (p : Nat) : Bool :=
  removed.getD (ids.getD p 0) false

def remI (removed : Array Bool) (ids : Array Nat) (x : Int) : Bool := remAt removed ids x.toNat

/-- sizes and value range of the loop state -/
structure VR (N : Nat) (removed : Array Bool) (ids : Array Nat) : Prop where
  isz : ids.size = N
  rsz : removed.size = N
  val : ∀ p, p < N → ids.getD p 0 < N

theorem isRemoved_int {N : Nat} {removed : Array Bool} {ids : Array Nat} (v : VR N removed ids)
    {x : Int} (h0 : 0 ≤ x) (h1 : x < N) :
    isRemoved removed ids x = .ok (remI removed ids x) := by
  unfold isRemoved
  rw [rd_int 0 h0 (by rw [v.isz]; exact h1)]
  simp only [bind, Except.bind]
  have := v.val x.toNat (by omega)
  rw [rd_int false (by omega) (by rw [v.rsz]; omega)]
  simp [remI, remAt]

theorem getD_setIB (xs : Array Nat) (q p v : Nat) (hq : q < xs.size) :
    (xs.setIfInBounds q v).getD p 0 = if p = q then v else xs.getD p 0 := by
  rw [Array.getD_setIfInBounds]
  by_cases h : p = q
  · simp [h, hq]
  · have h' : ¬ q = p := fun e => h e.symm
    simp [h, h']

theorem count_setIB (xs : Array Nat) (q v x : Nat) (hq : q < xs.size) :
    count x (xs.setIfInBounds q v).toList + (if xs.getD q 0 = x then 1 else 0)
      = count x xs.toList + (if v = x then 1 else 0) := by
  rw [Array.toList_setIfInBounds, List.count_set (by simpa using hq)]
  have hget : xs.toList[q]'(by simpa using hq) = xs.getD q 0 := by
    simp [Array.getD_eq_getD_getElem?, hq]
  simp only [hget, beq_iff_eq]
  by_cases h : xs.getD q 0 = x
  · have hpos : 0 < count x xs.toList := by
      rw [List.count_pos_iff]; rw [← h, ← hget]; exact List.getElem_mem _
    simp only [h, if_true]; omega
  · simp only [h, if_false]; omega
theorem remAt_setIB (removed : Array Bool) (xs : Array Nat) (q p v : Nat) (hq : q < xs.size) :
    remAt removed (xs.setIfInBounds q v) p = if p = q then removed.getD v false else remAt removed xs p := by
  unfold remAt; rw [getD_setIB xs q p v hq]; split <;> rfl

/-- the position `n` steps from `tgt` in direction `dir`.  The loops of `reorder` only ever move by
`dir`, so stated in steps their arithmetic does not depend on the direction. -/
def pos (tgt dir n : Int) : Int := tgt + dir * n

section loops
variable {N : Nat} {removed : Array Bool} {tgt dir κ : Int}

theorem pos_zero : pos tgt dir 0 = tgt := by unfold pos; omega

theorem pos_pred (n : Int) : pos tgt dir n - dir = pos tgt dir (n - 1) := by
  unfold pos; rw [Int.mul_sub, Int.mul_one]; omega

theorem pos_inj (hd : dir = 1 ∨ dir = -1) {n m : Int} (h : pos tgt dir n = pos tgt dir m) : n = m := by
  unfold pos at h; rcases hd with rfl | rfl <;> omega

theorem inRangeA_pos (hd : dir = 1 ∨ dir = -1) (n : Int) :
    inRangeA tgt dir (pos tgt dir n) = decide (0 ≤ n) := by
  unfold inRangeA pos
  rcases hd with rfl | rfl
  · rw [if_pos (by decide), decide_eq_decide]; omega
  · rw [if_neg (by decide), decide_eq_decide]; omega

/-- `k` lies some number of steps from `t` in the direction `reorder` chooses, and every step on
the way is a position of the array -/
theorem pos_cover {t k : Nat} (ht : t < N) (hk : k < N) (hne : t ≠ k) :
    ∃ κ : Int, 0 < κ ∧ κ < N ∧ pos t (if (t : Int) < k then 1 else -1) κ = k ∧
      ∀ n, 0 ≤ n → n ≤ κ → 0 ≤ pos t (if (t : Int) < k then 1 else -1) n ∧
        pos t (if (t : Int) < k then 1 else -1) n < N := by
  unfold pos
  split
  · exact ⟨k - t, by omega, by omega, by omega, fun n _ _ => by omega⟩
  · exact ⟨t - k, by omega, by omega, by omega, fun n _ _ => by omega⟩

/-- the `do … while` over `a` (impl.cpp:481-483), `a` counted in steps from `tgt` -/
theorem stepA_spec {ids : Array Nat} (v : VR N removed ids) (hd : dir = 1 ∨ dir = -1)
    (hR : ∀ n, 0 ≤ n → n ≤ κ → 0 ≤ pos tgt dir n ∧ pos tgt dir n < N) :
    ∀ (f : Nat) (a : Int), 0 ≤ a → a ≤ κ → a < f →
      ∃ a', stepA removed tgt dir ids f (pos tgt dir a) = .ok (pos tgt dir a') ∧ -1 ≤ a' ∧ a' < a ∧
        (∀ x, a' < x → x < a → remI removed ids (pos tgt dir x) = true) ∧
        (0 ≤ a' → remI removed ids (pos tgt dir a') = false) := by
  intro f
  induction f with
  | zero => intro a _ _ hf; omega
  | succ f ih =>
    intro a ha0 hak hf
    rw [stepA]
    simp only [pos_pred, inRangeA_pos hd]
    by_cases hin : 0 ≤ a - 1
    · have hb := hR (a - 1) hin (by omega)
      simp only [hin, decide_true, if_true, isRemoved_int v hb.1 hb.2, bind, Except.bind]
      cases hr : remI removed ids (pos tgt dir (a - 1))
      · exact ⟨a - 1, by simp [pure, Except.pure], by omega, by omega, fun x _ _ => by omega,
          fun _ => hr⟩
      · simp only [if_true]
        obtain ⟨a', he, r1, r2, r3, r4⟩ := ih (a - 1) hin (by omega) (by omega)
        refine ⟨a', he, r1, by omega, fun x h1 h2 => ?_, r4⟩
        by_cases hxa : x = a - 1
        · rw [hxa]; exact hr
        · exact r3 x h1 (by omega)
    · simp only [hin, decide_false, Bool.false_eq_true, if_false]
      exact ⟨a - 1, rfl, by omega, by omega, fun x _ _ => by omega, fun h => absurd h hin⟩

/-- the `do … while` over `b` (impl.cpp:485-487): under the loop invariant it stops exactly at
the previous `a` -/
theorem stepB_spec {ids : Array Nat} (v : VR N removed ids) (hd : dir = 1 ∨ dir = -1)
    (hR : ∀ n, 0 ≤ n → n ≤ κ → 0 ≤ pos tgt dir n ∧ pos tgt dir n < N)
    {a : Int} (ha0 : 0 ≤ a) (hstop : a = κ ∨ remI removed ids (pos tgt dir a) = false) :
    ∀ (f : Nat) (b : Int), a < b → b ≤ κ + 1 →
      (∀ x, a < x → x < b → remI removed ids (pos tgt dir x) = true ∧ x ≠ κ) → b - a ≤ f →
      stepB removed (pos tgt dir κ) dir ids f (pos tgt dir b) = .ok (pos tgt dir a) := by
  intro f
  induction f with
  | zero => intro b _ _ _ hf; omega
  | succ f ih =>
    intro b hab hbk hJ hf
    have hb := hR (b - 1) (by omega) (by omega)
    rw [stepB]
    simp only [pos_pred, isRemoved_int v hb.1 hb.2, bind, Except.bind]
    by_cases hba : b - 1 = a
    · rw [hba]
      rcases hstop with hk | hr
      · simp [hk, pure, Except.pure]
      · simp [hr, pure, Except.pure]
    · obtain ⟨hr, hk⟩ := hJ (b - 1) (by omega) (by omega)
      have hk' : (pos tgt dir (b - 1) != pos tgt dir κ) = true :=
        bne_iff_ne.2 fun e => hk (pos_inj hd e)
      simp only [hr, hk', Bool.and_self, if_true]
      exact ih (b - 1) (by omega) (by omega) (fun x h1 h2 => hJ x h1 (by omega)) (by omega)

/-- invariant of the outer `while (1)` (impl.cpp:480-489), `a`, `b` and `κ` (for `k`) counted in
steps from `tgt`.  `ids₀` is `ids` at entry, `pair1` the value at position `k` at entry.
`a` is the position last read, `b` the position last written (`κ + 1` at entry): `0 ≤ a < b ≤ κ + 1`,
every position strictly between them is removed (`J`) and `a` itself is not, unless it still is `κ`
(`A`), so the `do … while` over `b` stops exactly at `a`.  `ids` is `ids₀` with one copy of `pair1`
taken out and the entry at `a` occurring once more (`cnt`); no position other than `κ` has changed
its removal status (`K2`), and `κ` holds a not-removed entry once `a` has moved (`K3`). -/
structure OQ (N : Nat) (removed : Array Bool) (tgt dir κ : Int) (ids₀ : Array Nat) (pair1 : Nat)
    (a b : Int) (ids : Array Nat) : Prop where
  vr : VR N removed ids
  ord : 0 ≤ a ∧ a < b ∧ b ≤ κ + 1
  bk : b = κ + 1 → a = κ
  J : ∀ x, a < x → x < b → remI removed ids (pos tgt dir x) = true
  A : a = κ ∨ remI removed ids (pos tgt dir a) = false
  cnt : ∀ x, count x ids.toList + (if pair1 = x then 1 else 0)
      = count x ids₀.toList + (if ids.getD (pos tgt dir a).toNat 0 = x then 1 else 0)
  K2 : ∀ p : Nat, p < N → (p : Int) ≠ pos tgt dir κ → remAt removed ids p = remAt removed ids₀ p
  K3 : a ≠ κ → remI removed ids (pos tgt dir κ) = false

theorem outer_spec {ids₀ : Array Nat} {pair1 : Nat} (hd : dir = 1 ∨ dir = -1) (hκ : 0 < κ)
    (hR : ∀ n, 0 ≤ n → n ≤ κ → 0 ≤ pos tgt dir n ∧ pos tgt dir n < N)
    (hT : remI removed ids₀ tgt = false) (fuelIn : Nat) (hfi : κ + 1 ≤ fuelIn) :
    ∀ (f : Nat) (a b : Int) (ids : Array Nat), OQ N removed tgt dir κ ids₀ pair1 a b ids → a < f →
      ∃ idsf, outer removed tgt (pos tgt dir κ) dir fuelIn f (pos tgt dir a) (pos tgt dir b) ids
          = .ok idsf ∧ VR N removed idsf ∧
        (∀ x, count x idsf.toList + (if pair1 = x then 1 else 0)
          = count x ids₀.toList + (if idsf.getD tgt.toNat 0 = x then 1 else 0)) ∧
        (∀ p : Nat, p < N → (p : Int) ≠ pos tgt dir κ → remAt removed idsf p = remAt removed ids₀ p) ∧
        remI removed idsf (pos tgt dir κ) = false := by
  intro f
  induction f with
  | zero => intro a b ids q hf; have := q.ord; omega
  | succ f ih =>
    intro a b ids q hf
    obtain ⟨ha0, hab, hbk⟩ := q.ord
    have hak : a ≤ κ := by omega
    have ha := hR a ha0 hak
    obtain ⟨a', hA, r1, r2, r3, r4⟩ := stepA_spec q.vr hd hR fuelIn a ha0 hak (by omega)
    rw [outer]
    simp only [hA, bind, Except.bind, inRangeA_pos hd]
    by_cases hin : 0 ≤ a'
    · have hra := r4 hin
      have ha' := hR a' hin (by omega)
      have hB := stepB_spec q.vr hd hR ha0 q.A fuelIn b hab hbk
        (fun x h1 h2 => ⟨q.J x h1 h2, fun e => by have := q.bk; omega⟩) (by omega)
      have hasz : (pos tgt dir a).toNat < ids.size := by
        rw [q.vr.isz]; exact (Int.toNat_lt ha.1).2 ha.2
      simp only [hin, decide_true, Bool.not_true, Bool.false_eq_true, if_false, hB,
        rd_int 0 ha'.1 (show pos tgt dir a' < ids.size by rw [q.vr.isz]; exact ha'.2),
        wr_int (ids.getD (pos tgt dir a').toNat 0) ha.1
          (show pos tgt dir a < ids.size by rw [q.vr.isz]; exact ha.2)]
      -- the write goes to position `a` only
      have hne : ∀ x, 0 ≤ x → x < a → (pos tgt dir x).toNat ≠ (pos tgt dir a).toNat := by
        intro x h0 h1 e
        have := pos_inj (tgt := tgt) hd (n := x) (m := a) (by
          rw [← Int.toNat_of_nonneg (hR x h0 (by omega)).1, e, Int.toNat_of_nonneg ha.1])
        omega
      refine ih a' a _ ?_ (by omega)
      refine
        { vr := ⟨by rw [Array.size_setIfInBounds]; exact q.vr.isz, q.vr.rsz, ?_⟩,
          ord := ⟨hin, r2, by omega⟩, bk := fun h => by omega, J := ?_, A := .inr ?_,
          cnt := ?_, K2 := ?_, K3 := ?_ }
      · intro p hp
        rw [getD_setIB _ _ _ _ hasz]
        by_cases hpa : p = (pos tgt dir a).toNat
        · rw [if_pos hpa]; exact q.vr.val _ ((Int.toNat_lt ha'.1).2 ha'.2)
        · rw [if_neg hpa]; exact q.vr.val p hp
      · intro x h1 h2
        have := r3 x h1 h2
        unfold remI at this ⊢
        rw [remAt_setIB _ _ _ _ _ hasz, if_neg (hne x (by omega) h2)]; exact this
      · unfold remI at hra ⊢
        rw [remAt_setIB _ _ _ _ _ hasz, if_neg (hne a' hin r2)]; exact hra
      · intro x
        have h1 := count_setIB ids (pos tgt dir a).toNat (ids.getD (pos tgt dir a').toNat 0) x hasz
        have h2 := q.cnt x
        rw [getD_setIB _ _ _ _ hasz, if_neg (hne a' hin r2)]
        omega
      · intro p hp hpk
        rw [remAt_setIB _ _ _ _ _ hasz]
        by_cases hpa : p = (pos tgt dir a).toNat
        · have hak : a ≠ κ := by
            intro h; apply hpk; rw [← h, hpa]; exact Int.toNat_of_nonneg ha.1
          rw [if_pos hpa, ← q.K2 p hp hpk]
          have hA' := q.A.resolve_left hak
          unfold remI remAt at hA' hra
          unfold remAt
          rw [hpa, hA']; exact hra
        · rw [if_neg hpa]; exact q.K2 p hp hpk
      · intro _
        unfold remI
        rw [remAt_setIB _ _ _ _ _ hasz]
        by_cases hka : (pos tgt dir κ).toNat = (pos tgt dir a).toNat
        · rw [if_pos hka]; unfold remI remAt at hra; exact hra
        · rw [if_neg hka]; exact q.K3 fun h => hka (by rw [h])
    · have ht := hR 0 (Int.le_refl 0) (Int.le_of_lt hκ)
      rw [pos_zero] at ht
      have hTi : remI removed ids tgt = false := by
        have htk : ((tgt.toNat : Nat) : Int) ≠ pos tgt dir κ := by
          rw [Int.toNat_of_nonneg ht.1]
          intro e
          have := pos_inj (tgt := tgt) hd (n := 0) (m := κ) (by rw [pos_zero]; exact e)
          omega
        unfold remI at hT ⊢
        rw [q.K2 tgt.toNat ((Int.toNat_lt ht.1).2 ht.2) htk]; exact hT
      -- the scan over `a` ran past `tgt`, which is not removed: it started there
      have hat : a = 0 := by
        apply Classical.byContradiction
        intro hne
        have := r3 0 (by omega) (by omega)
        rw [pos_zero, hTi] at this; cases this
      simp only [hin, decide_false, Bool.not_false, if_true, pure, Except.pure]
      refine ⟨ids, rfl, q.vr, fun x => ?_, q.K2, q.K3 (by omega)⟩
      have := q.cnt x; rw [hat, pos_zero] at this; exact this
end loops
end MV.Halfedge
