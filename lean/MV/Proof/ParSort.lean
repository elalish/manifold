/-
Lemmas for the sorting half of `MV/Model/Par.lean` (property C13, part b) on top of
`MV/Proof/SortOrder.lean` (strict weak orders, sortedness, stability, `std::merge`): the split of a
merge, the pivot rules of `details::mergeRec`, one step of its recursion, the byte arithmetic of
the radix sort.  The theorems themselves are in `MV/Props/C13b.lean`.  Core Lean only.
-/
import MV.Proof.SortOrder

namespace MV.Par

variable {α : Type}

/-- If everything in `a1` may precede everything in `b2` (`≤`, ties go to the left range) and
everything in `a2` must precede everything in `b1` (strictly less), the merge of the
concatenations is the concatenation of the merges.  No sortedness is needed here. -/
theorem mergeSeq_append_append (lt : α → α → Bool) (a1 a2 b1 b2 : List α)
    (hA : ∀ x ∈ a1, ∀ y ∈ b2, lt y x = false) (hB : ∀ y ∈ a2, ∀ x ∈ b1, lt y x = true) :
    mergeSeq lt (a1 ++ b1) (a2 ++ b2) = mergeSeq lt a1 a2 ++ mergeSeq lt b1 b2 := by
  fun_induction mergeSeq lt a1 a2 with
  | case1 a2 =>
    -- all of `a2` goes out before anything of `b1`
    induction a2 with
    | nil => rfl
    | cons y a2 ih =>
      have ih := ih fun y' hy' => hB y' (List.mem_cons_of_mem _ hy')
      cases b1 with
      | nil => simp
      | cons x b1 =>
        rw [List.nil_append, List.cons_append, mergeSeq_cons_cons,
          hB y List.mem_cons_self x List.mem_cons_self, if_pos rfl, ← List.nil_append (x :: b1), ih]
        simp
  | case2 a1 hne =>
    -- all of `a1` goes out before anything of `b2`
    clear hne
    induction a1 with
    | nil => rfl
    | cons x a1 ih =>
      have ih := ih fun x' hx' => hA x' (List.mem_cons_of_mem _ hx')
      cases b2 with
      | nil => simp
      | cons y b2 =>
        rw [List.nil_append, List.cons_append, mergeSeq_cons_cons,
          hA x List.mem_cons_self y List.mem_cons_self]
        simpa using ih
  | case3 x xs y ys h ih =>
    rw [List.cons_append, List.cons_append, mergeSeq_cons_cons, if_pos h, ← List.cons_append,
      ih hA fun y' hy' => hB y' (List.mem_cons_of_mem _ hy'), List.cons_append]
  | case4 x xs y ys h ih =>
    rw [List.cons_append, List.cons_append, mergeSeq_cons_cons, if_neg h, ← List.cons_append,
      ih (fun x' hx' => hA x' (List.mem_cons_of_mem _ hx')) hB, List.cons_append]

/-- in a sorted list a predicate that passes on to everything not below a failing element
(`lt · v` for the lower bound, `¬ lt v ·` for the upper bound) fails from its first failure on -/
theorem not_of_mem_dropWhile {lt : α → α → Bool} (sw : StrictWeak lt) {p : α → Bool} {l : List α}
    (hs : SortedBy lt l) (hp : ∀ z y, p z = false → lt y z = false → p y = false) :
    ∀ y ∈ l.dropWhile p, p y = false := by
  induction l with
  | nil => intro y h; cases h
  | cons z zs ih =>
    intro y h
    rw [List.dropWhile_cons] at h
    split at h
    · exact ih (sortedBy_cons.mp hs).2 y h
    · next hz => exact hp z y (by simpa using hz) (hs.not_lt_head sw h)

/-- element `q` of a sorted list: everything before is `≤`, everything from `q` on is `≥` -/
theorem sorted_getElem?_take {lt : α → α → Bool} {l : List α} (hs : SortedBy lt l) {q : Nat}
    {p : α} (hp : l[q]? = some p) : ∀ x ∈ l.take q, lt p x = false := by
  intro x hx
  rw [← List.take_append_drop q l, List.drop_eq_cons_iff.mpr ⟨hp, rfl⟩] at hs
  exact (List.pairwise_append.mp hs).2.2 x hx p List.mem_cons_self

theorem sorted_getElem?_drop {lt : α → α → Bool} (sw : StrictWeak lt) {l : List α}
    (hs : SortedBy lt l) {q : Nat} {p : α} (hp : l[q]? = some p) :
    ∀ x ∈ l.drop q, lt x p = false := by
  intro x hx
  have hs2 := hs.drop q
  rw [List.drop_eq_cons_iff.mpr ⟨hp, rfl⟩] at hx hs2
  exact hs2.not_lt_head sw hx

/-- left pivot `l1[q1]`, `lower_bound` on the right: split conditions hold -/
theorem split_left_pivot {lt : α → α → Bool} (sw : StrictWeak lt) {l1 l2 : List α}
    (h1 : SortedBy lt l1) (h2 : SortedBy lt l2) {q1 : Nat} {p : α} (hp : l1[q1]? = some p) :
    (∀ x ∈ l1.take q1, ∀ y ∈ l2.drop (lowerBound lt l2 p), lt y x = false) ∧
    (∀ y ∈ l2.take (lowerBound lt l2 p), ∀ x ∈ l1.drop q1, lt y x = true) := by
  constructor
  · intro x hx y hy
    rw [lowerBound, drop_length_takeWhile] at hy
    have hy' := not_of_mem_dropWhile sw h2 (fun z y hz hyz => sw.negTrans y z p hyz hz) y hy
    exact sw.negTrans y p x hy' (sorted_getElem?_take h1 hp x hx)
  · intro y hy x hx
    rw [lowerBound, take_length_takeWhile] at hy
    exact sw.lt_of_lt_of_not_lt (mem_takeWhile_imp (p := fun x => lt x p) hy)
      (sorted_getElem?_drop sw h1 hp x hx)

/-- right pivot `l2[q2]`, `upper_bound` on the left: split conditions hold -/
theorem split_right_pivot {lt : α → α → Bool} (sw : StrictWeak lt) {l1 l2 : List α}
    (h1 : SortedBy lt l1) (h2 : SortedBy lt l2) {q2 : Nat} {p : α} (hp : l2[q2]? = some p) :
    (∀ x ∈ l1.take (upperBound lt l1 p), ∀ y ∈ l2.drop q2, lt y x = false) ∧
    (∀ y ∈ l2.take q2, ∀ x ∈ l1.drop (upperBound lt l1 p), lt y x = true) := by
  constructor
  · intro x hx y hy
    rw [upperBound, take_length_takeWhile] at hx
    have hpx : lt p x = false := by simpa using mem_takeWhile_imp (p := fun x => !lt p x) hx
    exact sw.negTrans y p x (sorted_getElem?_drop sw h2 hp y hy) hpx
  · intro y hy x hx
    rw [upperBound, drop_length_takeWhile] at hx
    have hx' := not_of_mem_dropWhile (p := fun x => !lt p x) sw h1
      (fun z y hz hyz => by simpa using sw.lt_of_lt_of_not_lt (by simpa using hz) hyz) x hx
    exact sw.lt_of_not_lt_of_lt (sorted_getElem?_take h2 hp y hy) (by simpa using hx')

/-! ## one step of `details::mergeRec`

`mergeRec`/`mergeSortRec` in the model fall back to the sequential algorithm when the fuel
runs out.  To show that the fall-back is dead code (i.e. that the C++ recursion terminates) both
functions are re-stated with `none` for "fuel exhausted" (and for the impossible out-of-range
pivot read).  `mergeRec_succ` describes one level of the recursion for both versions at once. -/

def mergeRecO (T : Nat) (lt : α → α → Bool) : Nat → List α → List α → Option (List α)
  | 0, _, _ => none
  | fuel + 1, l1, l2 =>
    if l1.isEmpty then some l2
    else if l2.isEmpty then some l1
    else if l1.length + l2.length ≤ T then some (mergeSeq lt l1 l2)
    else if l1.length > l2.length then
      let q1 := l1.length / 2
      match l1[q1]? with
      | none => none
      | some pivot =>
        let q2 := lowerBound lt l2 pivot
        match mergeRecO T lt fuel (l1.take q1) (l2.take q2),
              mergeRecO T lt fuel (l1.drop q1) (l2.drop q2) with
        | some a, some b => some (a ++ b)
        | _, _ => none
    else
      let q2 := l2.length / 2
      match l2[q2]? with
      | none => none
      | some pivot =>
        let q1 := upperBound lt l1 pivot
        match mergeRecO T lt fuel (l1.take q1) (l2.take q2),
              mergeRecO T lt fuel (l1.drop q1) (l2.drop q2) with
        | some a, some b => some (a ++ b)
        | _, _ => none

theorem lowerBound_le (lt : α → α → Bool) (l : List α) (v : α) : lowerBound lt l v ≤ l.length :=
  (List.takeWhile_sublist _).length_le

theorem upperBound_le (lt : α → α → Bool) (l : List α) (v : α) : upperBound lt l v ≤ l.length :=
  (List.takeWhile_sublist _).length_le

/-- a split point other than `(0, 0)` and `(|l1|, |l2|)` leaves less on both sides -/
theorem split_shorter {l1 l2 : List α} {q1 q2 : Nat} (h1 : q1 ≤ l1.length) (h2 : q2 ≤ l2.length)
    (h0 : 0 < q1 + q2) (hlt : q1 + q2 < l1.length + l2.length) :
    (l1.take q1).length + (l2.take q2).length < l1.length + l2.length ∧
    (l1.drop q1).length + (l2.drop q2).length < l1.length + l2.length := by
  simp only [List.length_take, List.length_drop]; omega

/-- One level of `details::mergeRec`.  Either the call is a leaf (an empty range or at most `T`
elements) and both versions return `std::merge`; or there is a split point `(q1, q2)` at which
both versions recurse, which for `2 ≤ T` leaves strictly shorter inputs on both sides, and
which on sorted inputs satisfies the conditions of the split lemma. -/
theorem mergeRec_succ (T : Nat) (lt : α → α → Bool) (fuel : Nat) (l1 l2 : List α) :
    (mergeRec T lt (fuel + 1) l1 l2 = mergeSeq lt l1 l2 ∧
      mergeRecO T lt (fuel + 1) l1 l2 = some (mergeSeq lt l1 l2)) ∨
    ∃ q1 q2,
      mergeRec T lt (fuel + 1) l1 l2 =
        mergeRec T lt fuel (l1.take q1) (l2.take q2) ++ mergeRec T lt fuel (l1.drop q1) (l2.drop q2) ∧
      mergeRecO T lt (fuel + 1) l1 l2 =
        (match mergeRecO T lt fuel (l1.take q1) (l2.take q2),
              mergeRecO T lt fuel (l1.drop q1) (l2.drop q2) with
          | some a, some b => some (a ++ b)
          | _, _ => none) ∧
      (2 ≤ T →
        (l1.take q1).length + (l2.take q2).length < l1.length + l2.length ∧
        (l1.drop q1).length + (l2.drop q2).length < l1.length + l2.length) ∧
      (StrictWeak lt → SortedBy lt l1 → SortedBy lt l2 →
        (∀ x ∈ l1.take q1, ∀ y ∈ l2.drop q2, lt y x = false) ∧
        (∀ y ∈ l2.take q2, ∀ x ∈ l1.drop q1, lt y x = true)) := by
  by_cases h1 : l1 = []
  · subst h1; exact .inl ⟨by simp [mergeRec], by simp [mergeRecO]⟩
  by_cases h2 : l2 = []
  · subst h2; exact .inl ⟨by simp [mergeRec, h1], by simp [mergeRecO, h1]⟩
  by_cases hT : l1.length + l2.length ≤ T
  · exact .inl ⟨by simp [mergeRec, h1, h2, hT], by simp [mergeRecO, h1, h2, hT]⟩
  have p1 : 0 < l1.length := List.length_pos_iff.mpr h1
  have p2 : 0 < l2.length := List.length_pos_iff.mpr h2
  by_cases hgt : l1.length > l2.length
  · -- left pivot: `q1 ≥ 1` because `|l1| ≥ 2`
    have hq : l1.length / 2 < l1.length := Nat.div_lt_self p1 Nat.one_lt_two
    have hb := lowerBound_le lt l2 l1[l1.length / 2]
    refine .inr ⟨l1.length / 2, lowerBound lt l2 l1[l1.length / 2], ?_, ?_, fun _ => ?_, fun sw s1 s2 =>
      split_left_pivot sw s1 s2 (List.getElem?_eq_getElem hq)⟩
    · simp [mergeRec, h1, h2, hT, hgt, List.getElem?_eq_getElem hq]
    · simp [mergeRecO, h1, h2, hT, hgt, List.getElem?_eq_getElem hq]
    · exact split_shorter (Nat.le_of_lt hq) hb
        (Nat.add_pos_left (Nat.div_pos (Nat.lt_of_le_of_lt p2 hgt) Nat.two_pos) _)
        (Nat.add_lt_add_of_lt_of_le hq hb)
  · -- right pivot: `q2 ≥ 1` needs `|l2| ≥ 2`, which follows from `|l1| + |l2| > T ≥ 2`
    have hq : l2.length / 2 < l2.length := Nat.div_lt_self p2 Nat.one_lt_two
    have hb := upperBound_le lt l1 l2[l2.length / 2]
    refine .inr ⟨upperBound lt l1 l2[l2.length / 2], l2.length / 2, ?_, ?_, fun hT2 => ?_, fun sw s1 s2 =>
      split_right_pivot sw s1 s2 (List.getElem?_eq_getElem hq)⟩
    · simp [mergeRec, h1, h2, hT, hgt, List.getElem?_eq_getElem hq]
    · simp [mergeRecO, h1, h2, hT, hgt, List.getElem?_eq_getElem hq]
    · exact split_shorter hb (Nat.le_of_lt hq)
        (Nat.add_pos_right _ (Nat.div_pos (by omega) Nat.two_pos))
        (Nat.add_lt_add_of_le_of_lt hb hq)

/-- `details::mergeRec` computes `std::merge` on sorted inputs.  Holds for every threshold and
every fuel, because the model falls back to `mergeSeq` when the fuel is exhausted; that the
fuel supplied by the entry points is never exhausted is `C13b.mergeRec_terminates`. -/
theorem mergeRec_eq_mergeSeq {lt : α → α → Bool} (sw : StrictWeak lt) (T fuel : Nat)
    {l1 l2 : List α} (h1 : SortedBy lt l1) (h2 : SortedBy lt l2) :
    mergeRec T lt fuel l1 l2 = mergeSeq lt l1 l2 := by
  induction fuel generalizing l1 l2 with
  | zero => simp [mergeRec]
  | succ fuel ih =>
    rcases mergeRec_succ T lt fuel l1 l2 with ⟨e, -⟩ | ⟨q1, q2, e, -, -, hsplit⟩
    · exact e
    · obtain ⟨hA, hB⟩ := hsplit sw h1 h2
      rw [e, ih (h1.take _) (h2.take _), ih (h1.drop _) (h2.drop _),
        ← mergeSeq_append_append lt _ _ _ _ hA hB, List.take_append_drop, List.take_append_drop]

theorem mergeRecO_sound (T : Nat) (lt : α → α → Bool) :
    ∀ (fuel : Nat) (l1 l2 r : List α), mergeRecO T lt fuel l1 l2 = some r →
      mergeRec T lt fuel l1 l2 = r := by
  intro fuel
  induction fuel with
  | zero => intro l1 l2 r h; simp [mergeRecO] at h
  | succ fuel ih =>
    intro l1 l2 r h
    rcases mergeRec_succ T lt fuel l1 l2 with ⟨e, eO⟩ | ⟨q1, q2, e, eO, -⟩
    · rw [eO] at h; rw [e]; exact Option.some.inj h
    · rw [eO] at h; rw [e]
      split at h
      · next a b ha hb => rw [ih _ _ a ha, ih _ _ b hb]; exact Option.some.inj h
      · cases h

def mergeSortRecO (T : Nat) (lt : α → α → Bool) : Nat → List α → Option (List α)
  | 0, _ => none
  | fuel + 1, xs =>
    if xs.length ≤ T then some (stableSort lt xs)
    else
      let m := xs.length / 2
      match mergeSortRecO T lt fuel (xs.take m), mergeSortRecO T lt fuel (xs.drop m) with
      | some a, some b => mergeRecO T lt (xs.length + 1) a b
      | _, _ => none

theorem mergeSortRecO_sound (T : Nat) (lt : α → α → Bool) :
    ∀ (fuel : Nat) (xs r : List α), mergeSortRecO T lt fuel xs = some r →
      mergeSortRec T lt fuel xs = r
  | 0, xs, r, h => by simp [mergeSortRecO] at h
  | fuel + 1, xs, r, h => by
    unfold mergeSortRecO at h
    unfold mergeSortRec
    split
    · next he => simpa [he] using h
    · next he =>
      simp only [he, if_false] at h
      split at h
      · next a b ha hb =>
        simp only []
        rw [mergeSortRecO_sound T lt fuel _ a ha, mergeSortRecO_sound T lt fuel _ b hb]
        exact mergeRecO_sound T lt _ a b r h
      · simp at h

/-- comparing keys by their `k`-th byte only -/
def byteLt (k : Nat) : Nat → Nat → Bool := fun a b => decide (byteOf k a < byteOf k b)

theorem strictWeak_byteLt (k : Nat) : StrictWeak (byteLt k) := strictWeak_key (byteOf k)

theorem byteOf_lt (k x : Nat) : byteOf k x < 256 := Nat.mod_lt _ (by decide)

theorem filter_buckets (f : Nat → Nat) (xs : List Nat) (c : Nat) : ∀ n : Nat,
    ((List.range n).flatMap fun b => xs.filter fun x => f x == b).filter (fun x => f x == c) =
      if c < n then xs.filter (fun x => f x == c) else []
  | 0 => by simp
  | n + 1 => by
    rw [List.range_succ, List.flatMap_append, List.filter_append, filter_buckets f xs c n]
    simp only [List.flatMap_cons, List.flatMap_nil, List.append_nil, List.filter_filter]
    by_cases h2 : c = n
    · subst h2; simp
    · have : (fun a => f a == c && f a == n) = fun _ => false := by
        funext a; simp; omega
      by_cases h1 : c < n
      · simp [h1, this, Nat.lt_succ_of_lt h1]
      · simp [h1, this, show ¬ c < n + 1 by omega]

theorem shufflePass_sortedBy (k : Nat) (xs : List Nat) :
    SortedBy (byteLt k) (shufflePass k xs) := by
  unfold SortedBy shufflePass
  rw [List.pairwise_flatMap]
  constructor
  · intro b _
    apply List.pairwise_of_forall_mem_list
    intro x hx y hy
    simp [List.mem_filter] at hx hy
    simp [byteLt, hx.2, hy.2]
  · refine List.pairwise_lt_range.imp ?_
    intro b1 b2 hb x hx y hy
    simp [List.mem_filter] at hx hy
    simp [byteLt, hx.2, hy.2]; omega

theorem shufflePass_stable (k : Nat) (xs : List Nat) :
    StableWrt (byteLt k) xs (shufflePass k xs) := by
  intro a
  unfold byteLt shufflePass
  rw [cls_key (byteOf k), filter_buckets (byteOf k) xs (byteOf k a) 256]
  simp [byteOf_lt]

/-- lexicographic step: byte `k` first, then the low `k` bytes -/
theorem mod_pow_succ_le {k x y : Nat} (hb : byteOf k x ≤ byteOf k y)
    (hl : byteOf k x = byteOf k y → x % 256 ^ k ≤ y % 256 ^ k) :
    x % 256 ^ (k + 1) ≤ y % 256 ^ (k + 1) := by
  rw [Nat.mod_pow_succ, Nat.mod_pow_succ]
  show x % 256 ^ k + 256 ^ k * byteOf k x ≤ y % 256 ^ k + 256 ^ k * byteOf k y
  have hP : 0 < 256 ^ k := Nat.pow_pos (by decide)
  have hx : x % 256 ^ k < 256 ^ k := Nat.mod_lt _ hP
  rcases Nat.lt_or_ge (byteOf k x) (byteOf k y) with h | h
  · have := Nat.mul_le_mul_left (256 ^ k) (show byteOf k x + 1 ≤ byteOf k y from h)
    rw [Nat.mul_add] at this
    omega
  · have e : byteOf k x = byteOf k y := by omega
    have := hl e
    rw [e]; omega

/-- a stable pass on byte `k` turns "sorted by the low `k` bytes" into "sorted by the low
`k+1` bytes" -/
theorem shufflePass_step (k : Nat) (a : List Nat)
    (h : a.Pairwise fun x y => x % 256 ^ k ≤ y % 256 ^ k) :
    (shufflePass k a).Pairwise fun x y => x % 256 ^ (k + 1) ≤ y % 256 ^ (k + 1) := by
  refine (pairwise_ties (strictWeak_byteLt k) (shufflePass_sortedBy k a) (shufflePass_stable k a) h).imp ?_
  intro x y hxy
  simp only [byteLt, decide_eq_true_eq, decide_eq_false_iff_not] at hxy
  exact mod_pow_succ_le (by omega) (fun _ => by omega)

/-- the skip rule: `canSkip k xs` means byte `k` is the same for every key -/
theorem canSkip_const {k : Nat} {xs : List Nat} (h : canSkip k xs = true) :
    ∃ b, ∀ x ∈ xs, byteOf k x = b := by
  unfold canSkip at h
  rw [List.any_eq_true] at h
  obtain ⟨b, _, hb⟩ := h
  refine ⟨b, fun x hx => ?_⟩
  have hall : ∀ a ∈ xs, byteOf k a = b := by simpa using hb
  exact hall x hx

/-- the pass loop of `LSB_radix_sort` (constant bytes skipped) -/
def radixLoop (xs : List Nat) (n : Nat) : List Nat :=
  (List.range n).foldl (fun a k => if canSkip k xs then a else shufflePass k a) xs

theorem radixLoop_succ (xs : List Nat) (n : Nat) :
    radixLoop xs (n + 1) =
      if canSkip n xs then radixLoop xs n else shufflePass n (radixLoop xs n) := by
  simp [radixLoop, List.range_succ, List.foldl_append]

theorem isSortedAdj_iff (xs : List Nat) : isSortedAdj xs = true ↔ xs.Pairwise (· ≤ ·) := by
  induction xs with
  | nil => simp [isSortedAdj]
  | cons x rest ih =>
    cases rest with
    | nil => simp [isSortedAdj]
    | cons y rest =>
      simp only [isSortedAdj, Bool.and_eq_true, decide_eq_true_eq, ih, List.pairwise_cons]
      constructor
      · rintro ⟨hxy, hy, hr⟩
        refine ⟨?_, hy, hr⟩
        intro a ha
        rcases List.mem_cons.mp ha with rfl | ha
        · exact hxy
        · exact Nat.le_trans hxy (hy a ha)
      · rintro ⟨hx, hy, hr⟩
        exact ⟨hx y (List.mem_cons_self ..), hy, hr⟩

end MV.Par
