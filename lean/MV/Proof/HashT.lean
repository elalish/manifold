/-
Verification of the lock-free hash table model MV/Model/HashT.lean
(`HashTableD::Insert` / `operator[]` / `Full` of /repo/src/hashtable.h) for ALL thread
counts, programs and schedules under sequential consistency.

Standing hypothesis, stated explicitly in every theorem that needs it: `KeysOK progs`, i.e.
no op uses the key `kOpen = 2^64-1`.  With `key = kOpen` the CAS `kOpen -> kOpen` "succeeds"
without claiming anything, so two threads can both "claim" the same slot and race on the
plain value store (concrete counterexample `kOpen_key_breaks_exclusion` at the end).
-/
import MV.Model.HashT
import MV.Proof.ListArray

namespace MV.HashT

theorem getD_ne_default_lt (l : List Nat) (i d : Nat) (h : l.getD i d ≠ d) : i < l.length := by
  apply Classical.byContradiction
  intro hn
  apply h
  simp [List.getD_eq_getElem?_getD, List.getElem?_eq_none (Nat.le_of_not_lt hn)]

theorem set_eq_self_of_getElem? {α : Type} {l : List α} {i : Nat} {a : α} (h : l[i]? = some a) :
    l.set i a = l := by
  obtain ⟨hlt, hget⟩ := List.getElem?_eq_some_iff.mp h
  rw [← hget]; exact List.set_getElem_self hlt

def KeysMono (k k' : List Nat) : Prop :=
  k'.length = k.length ∧ ∀ i, k.getD i kOpen ≠ kOpen → k'.getD i kOpen = k.getD i kOpen

theorem KeysMono.refl (k : List Nat) : KeysMono k k := ⟨rfl, fun _ _ => rfl⟩

theorem KeysMono.trans {a b c : List Nat} (h1 : KeysMono a b) (h2 : KeysMono b c) :
    KeysMono a c := by
  refine ⟨h2.1.trans h1.1, fun i hi => ?_⟩
  have e1 := h1.2 i hi
  have e2 := h2.2 i (by rw [e1]; exact hi)
  rw [e2, e1]

theorem KeysMono.set (k : List Nat) (i key : Nat) (h : k.getD i kOpen = kOpen) :
    KeysMono k (k.set i key) := by
  refine ⟨by simp, fun j hj => ?_⟩
  rw [List.getD_set, if_neg]
  rintro ⟨rfl, _⟩; exact hj h

inductive TStep (cfg : Cfg) (keys vals : List Nat) (used : Nat) (t : Thr) :
    List Nat → List Nat → Nat → Thr → Prop
  | fullYes (key val : Nat) : t.cur = some (.ins key val) → t.pc = .iFull →
      used * 2 > cfg.size → TStep cfg keys vals used t keys vals used (t.finish cfg .full)
  | fullNo (key val : Nat) : t.cur = some (.ins key val) → t.pc = .iFull →
      ¬ used * 2 > cfg.size → TStep cfg keys vals used t keys vals used { t with pc := .iCas }
  | casWin (key val : Nat) : t.cur = some (.ins key val) → t.pc = .iCas →
      keys.getD t.idx kOpen = kOpen →
      TStep cfg keys vals used t (keys.set t.idx key) vals used { t with pc := .iAdd }
  | casPresent (key val : Nat) : t.cur = some (.ins key val) → t.pc = .iCas →
      keys.getD t.idx kOpen ≠ kOpen → keys.getD t.idx kOpen = key →
      TStep cfg keys vals used t keys vals used (t.finish cfg (.present t.idx))
  | casOther (key val : Nat) : t.cur = some (.ins key val) → t.pc = .iCas →
      keys.getD t.idx kOpen ≠ kOpen → keys.getD t.idx kOpen ≠ key →
      TStep cfg keys vals used t keys vals used (t.advance cfg .iFull)
  | add (key val : Nat) : t.cur = some (.ins key val) → t.pc = .iAdd →
      TStep cfg keys vals used t keys vals (used + 1) { t with pc := .iStore }
  | store (key val : Nat) : t.cur = some (.ins key val) → t.pc = .iStore →
      TStep cfg keys vals used t keys (vals.set t.idx val) used (t.finish cfg (.inserted t.idx))
  | keyHit (key : Nat) : t.cur = some (.get key) → t.pc = .gKey →
      (keys.getD t.idx kOpen = key ∨ keys.getD t.idx kOpen = kOpen) →
      TStep cfg keys vals used t keys vals used { t with pc := .gVal, reg := keys.getD t.idx kOpen }
  | keyMiss (key : Nat) : t.cur = some (.get key) → t.pc = .gKey →
      ¬ (keys.getD t.idx kOpen = key ∨ keys.getD t.idx kOpen = kOpen) →
      TStep cfg keys vals used t keys vals used (t.advance cfg .gKey)
  | val (key : Nat) : t.cur = some (.get key) → t.pc = .gVal →
      TStep cfg keys vals used t keys vals used
        (t.finish cfg (.got (if t.reg = key then 1 else 0) t.idx (vals.getD t.idx 0)))

/-- `stepThr` either leaves everything unchanged or performs a `TStep`. -/
theorem stepThr_cases (cfg : Cfg) (keys vals : List Nat) (used tid : Nat) (t : Thr) :
    let o := stepThr cfg keys vals used tid t
    (o.keys = keys ∧ o.vals = vals ∧ o.used = used ∧ o.t = t) ∨
      TStep cfg keys vals used t o.keys o.vals o.used o.t := by
  intro o
  show (_ ∧ _ ∧ _ ∧ _) ∨ _
  unfold o stepThr
  split
  · rename_i key val hcur
    unfold stepIns
    split
    · split
      · exact Or.inr (.fullYes key val hcur ‹_› ‹_›)
      · exact Or.inr (.fullNo key val hcur ‹_› ‹_›)
    · dsimp only
      split
      · exact Or.inr (.casWin key val hcur ‹_› ‹_›)
      · split
        · exact Or.inr (.casPresent key val hcur ‹_› ‹_› ‹_›)
        · exact Or.inr (.casOther key val hcur ‹_› ‹_› ‹_›)
    · exact Or.inr (.add key val hcur ‹_›)
    · exact Or.inr (.store key val hcur ‹_›)
    · exact Or.inl ⟨rfl, rfl, rfl, rfl⟩
  · rename_i key hcur
    unfold stepGet
    split
    · dsimp only
      split
      · exact Or.inr (.keyHit key hcur ‹_› ‹_›)
      · exact Or.inr (.keyMiss key hcur ‹_› ‹_›)
    · exact Or.inr (.val key hcur ‹_›)
    · exact Or.inl ⟨rfl, rfl, rfl, rfl⟩
  · exact Or.inl ⟨rfl, rfl, rfl, rfl⟩

theorem step_cases (cfg : Cfg) (s : State) (tid : Nat) :
    (step cfg s tid).1 = s ∨
      ∃ t k' v' u' t', s.thr[tid]? = some t ∧ TStep cfg s.keys s.vals s.used t k' v' u' t' ∧
        (step cfg s tid).1 = ⟨k', v', u', s.thr.set tid t'⟩ := by
  unfold step
  split
  · exact Or.inl rfl
  · rename_i t ht
    rcases stepThr_cases cfg s.keys s.vals s.used tid t with ⟨h1, h2, h3, h4⟩ | h
    · left
      dsimp only
      rw [h1, h2, h3, h4]
      rw [set_eq_self_of_getElem? ht]
    · right
      exact ⟨t, _, _, _, _, ht, h, rfl⟩

theorem TStep.keysMono {cfg : Cfg} {keys vals : List Nat} {used : Nat} {t : Thr}
    {k' v' : List Nat} {u' : Nat} {t' : Thr} (h : TStep cfg keys vals used t k' v' u' t') :
    KeysMono keys k' := by
  cases h <;> first | exact KeysMono.refl _ | exact KeysMono.set _ _ _ ‹_›

/-- Two-state lemma: a claimed key slot never changes (no hypothesis on the state at all). -/
theorem step_keys_mono (cfg : Cfg) (s : State) (tid : Nat) :
    KeysMono s.keys (step cfg s tid).1.keys := by
  rcases step_cases cfg s tid with h | ⟨t, k', v', u', t', _, hs, h⟩
  · rw [h]; exact KeysMono.refl _
  · rw [h]; exact hs.keysMono

theorem run_keys_mono (cfg : Cfg) (sched : List Nat) :
    ∀ s : State, KeysMono s.keys (run cfg s sched).1.keys := by
  induction sched with
  | nil => intro s; exact KeysMono.refl _
  | cons tid rest ih =>
      intro s
      exact (step_keys_mono cfg s tid).trans (ih _)

/-- probe positions repeat with period `size` -/
theorem probe_mod (c : Cfg) (key j : Nat) : c.probe key (j % c.size) = c.probe key j := by
  unfold Cfg.probe
  conv => rhs; rw [← Nat.div_add_mod j c.size]
  rw [Nat.add_mul, Nat.mul_assoc, ← Nat.add_assoc, Nat.add_right_comm, Nat.add_mul_mod_self_left]

/-- the first `j` probes of `key` all hold keys other than `kOpen` and `key` -/
def Fresh (cfg : Cfg) (keys : List Nat) (key j : Nat) : Prop :=
  ∀ j', j' < j → keys.getD (cfg.probe key j') kOpen ≠ kOpen ∧ keys.getD (cfg.probe key j') kOpen ≠ key

/-- slot `i` is where the probe sequence of `key` meets `key` for the first time -/
def Located (cfg : Cfg) (keys : List Nat) (key i : Nat) : Prop :=
  ∃ j, i = cfg.probe key j ∧ keys.getD i kOpen = key ∧ Fresh cfg keys key j

theorem Fresh.zero (cfg : Cfg) (keys : List Nat) (key : Nat) : Fresh cfg keys key 0 :=
  fun _ h => absurd h (Nat.not_lt_zero _)

theorem Fresh.succ {cfg : Cfg} {keys : List Nat} {key j : Nat} (h : Fresh cfg keys key j)
    (h1 : keys.getD (cfg.probe key j) kOpen ≠ kOpen) (h2 : keys.getD (cfg.probe key j) kOpen ≠ key) :
    Fresh cfg keys key (j + 1) := by
  intro j' hj'
  by_cases e : j' = j
  · subst e; exact ⟨h1, h2⟩
  · exact h j' (by omega)

theorem Fresh.mono {cfg : Cfg} {keys keys' : List Nat} {key j : Nat} (hm : KeysMono keys keys')
    (h : Fresh cfg keys key j) : Fresh cfg keys' key j := by
  intro j' hj'
  have := h j' hj'
  rw [hm.2 _ this.1]
  exact this

theorem Located.mono {cfg : Cfg} {keys keys' : List Nat} {key i : Nat} (hm : KeysMono keys keys')
    (hk : key ≠ kOpen) (h : Located cfg keys key i) : Located cfg keys' key i := by
  obtain ⟨j, h1, h2, h3⟩ := h
  refine ⟨j, h1, ?_, h3.mono hm⟩
  rw [hm.2 i (by rw [h2]; exact hk), h2]

theorem lookupGo_found (cfg : Cfg) (keys vals : List Nat) (key : Nat) :
    ∀ fuel j0 j1, j0 ≤ j1 → j1 < j0 + fuel → keys.getD (cfg.probe key j1) kOpen = key →
      (∀ j', j0 ≤ j' → j' < j1 → keys.getD (cfg.probe key j') kOpen ≠ kOpen ∧
        keys.getD (cfg.probe key j') kOpen ≠ key) →
      lookupGo cfg keys vals key fuel (cfg.probe key j0) =
        some (cfg.probe key j1, vals.getD (cfg.probe key j1) 0) := by
  intro fuel
  induction fuel with
  | zero => intro j0 j1 h1 h2; omega
  | succ fuel ih =>
      intro j0 j1 hle hlt hkey hfresh
      unfold lookupGo
      dsimp only
      rcases Nat.eq_or_lt_of_le hle with rfl | hlt'
      · rw [if_pos hkey]
      · have h0 := hfresh j0 (Nat.le_refl _) hlt'
        rw [if_neg h0.2, if_neg h0.1, Cfg.next_probe]
        exact ih (j0 + 1) j1 hlt' (by omega) hkey fun j' h1 h2 =>
          hfresh j' (Nat.le_of_succ_le h1) h2

/-- `lookup` needs only `size` probes to find a located key -/
theorem Located.lookup_eq {cfg : Cfg} {keys vals : List Nat} {key i : Nat}
    (h : Located cfg keys key i) : lookup cfg keys vals key = some (i, vals.getD i 0) := by
  obtain ⟨j, h1, h2, h3⟩ := h
  have hp := probe_mod cfg key j
  unfold MV.HashT.lookup
  rw [Cfg.idx0_eq_probe, lookupGo_found cfg keys vals key cfg.size 0 (j % cfg.size) (Nat.zero_le _)
    (by rw [Nat.zero_add]; exact Nat.mod_lt _ cfg.size_pos) (by rw [hp, ← h1]; exact h2)
    (fun j' _ hj' => h3 j' (Nat.lt_of_lt_of_le hj' (Nat.mod_le _ _))), hp, ← h1]

/-- the thread has won its CAS and not yet stored its value -/
def Claiming (t : Thr) : Prop := t.pc = .iAdd ∨ t.pc = .iStore

instance (t : Thr) : Decidable (Claiming t) := by unfold Claiming; exact inferInstance

/-- what a recorded result says about the (final, by monotonicity) key array -/
def ResOK (cfg : Cfg) (keys : List Nat) : Op → Res → Prop
  | .ins _ _, .full => True
  | .ins key _, .inserted i => Located cfg keys key i
  | .ins key _, .present i => Located cfg keys key i
  | .get _, .got _ _ _ => True
  | _, _ => False

theorem ResOK.mono {cfg : Cfg} {keys keys' : List Nat} {op : Op} {r : Res}
    (hm : KeysMono keys keys') (hk : op.key ≠ kOpen) (h : ResOK cfg keys op r) :
    ResOK cfg keys' op r := by
  cases op <;> cases r <;> simp only [ResOK] at h ⊢ <;> exact Located.mono hm hk h

structure ThrOK (cfg : Cfg) (keys : List Nat) (t : Thr) : Prop where
  len : t.results.length = t.opIdx
  keysOK : ∀ op, op ∈ t.prog → op.key ≠ kOpen
  done : t.cur = none → t.pc = .iFull
  ins : ∀ key val, t.cur = some (.ins key val) →
    (t.pc = .iFull ∨ t.pc = .iCas ∨ t.pc = .iAdd ∨ t.pc = .iStore) ∧
    t.idx = cfg.probe key t.j ∧ Fresh cfg keys key t.j ∧
    (Claiming t → keys.getD t.idx kOpen = key)
  get : ∀ key, t.cur = some (.get key) →
    (t.pc = .gKey ∨ t.pc = .gVal) ∧ t.idx = cfg.probe key t.j
  res : ∀ (n : Nat) (r : Res), t.results[n]? = some r → ∃ op : Op, t.prog[n]? = some op ∧ ResOK cfg keys op r

theorem Thr.cur_mem {t : Thr} {op : Op} (h : t.cur = some op) : op ∈ t.prog :=
  List.mem_of_getElem? h

theorem ThrOK.mono {cfg : Cfg} {keys keys' : List Nat} {t : Thr} (hm : KeysMono keys keys')
    (h : ThrOK cfg keys t) : ThrOK cfg keys' t where
  len := h.len
  keysOK := h.keysOK
  done := h.done
  ins := by
    intro key val hc
    obtain ⟨h1, h2, h3, h4⟩ := h.ins key val hc
    refine ⟨h1, h2, h3.mono hm, fun hcl => ?_⟩
    have hk : key ≠ kOpen := h.keysOK _ (Thr.cur_mem hc)
    have := h4 hcl
    rw [hm.2 _ (by rw [this]; exact hk), this]
  get := h.get
  res := by
    intro n r hr
    obtain ⟨op, h1, h2⟩ := h.res n r hr
    exact ⟨op, h1, h2.mono hm (h.keysOK _ (List.mem_of_getElem? h1))⟩

@[simp] theorem Thr.start_prog (cfg : Cfg) (t : Thr) : (t.start cfg).prog = t.prog := by
  unfold Thr.start; split <;> rfl
@[simp] theorem Thr.start_opIdx (cfg : Cfg) (t : Thr) : (t.start cfg).opIdx = t.opIdx := by
  unfold Thr.start; split <;> rfl
@[simp] theorem Thr.start_results (cfg : Cfg) (t : Thr) : (t.start cfg).results = t.results := by
  unfold Thr.start; split <;> rfl
@[simp] theorem Thr.start_cur (cfg : Cfg) (t : Thr) : (t.start cfg).cur = t.cur := by
  simp [Thr.cur]

/-- `Thr.start` by the kind of the current op, with the slot written as a probe position -/
theorem Thr.start_cases (cfg : Cfg) (t : Thr) :
    (∃ key val, t.cur = some (.ins key val) ∧
        t.start cfg = { t with pc := .iFull, idx := cfg.probe key 0, j := 0 }) ∨
    (∃ key, t.cur = some (.get key) ∧
        t.start cfg = { t with pc := .gKey, idx := cfg.probe key 0, j := 0 }) ∨
    (t.cur = none ∧ t.start cfg = { t with pc := .iFull, idx := 0, j := 0 }) := by
  unfold Thr.start Thr.cur
  split
  · rename_i key val h; left; exact ⟨key, val, h, by rw [Cfg.idx0_eq_probe]⟩
  · rename_i key h; right; left; exact ⟨key, h, by rw [Cfg.idx0_eq_probe]⟩
  · rename_i h; right; right; exact ⟨h, rfl⟩

theorem Thr.start_not_claiming (cfg : Cfg) (t : Thr) : ¬ Claiming (t.start cfg) := by
  rcases Thr.start_cases cfg t with ⟨_, _, _, e⟩ | ⟨_, _, e⟩ | ⟨_, e⟩ <;>
    (rw [e]; rintro (h | h) <;> cases h)

@[simp] theorem Thr.finish_prog (cfg : Cfg) (t : Thr) (r : Res) : (t.finish cfg r).prog = t.prog := by
  simp [Thr.finish]
@[simp] theorem Thr.finish_opIdx (cfg : Cfg) (t : Thr) (r : Res) :
    (t.finish cfg r).opIdx = t.opIdx + 1 := by
  simp [Thr.finish]
@[simp] theorem Thr.finish_results (cfg : Cfg) (t : Thr) (r : Res) :
    (t.finish cfg r).results = t.results ++ [r] := by
  simp [Thr.finish]
theorem Thr.finish_not_claiming (cfg : Cfg) (t : Thr) (r : Res) : ¬ Claiming (t.finish cfg r) :=
  Thr.start_not_claiming _ _
/-- `ThrOK` for a thread whose current op is an `ins` -/
theorem ThrOK.of_ins {cfg : Cfg} {keys : List Nat} {t : Thr} {key val : Nat}
    (hlen : t.results.length = t.opIdx) (hk : ∀ op, op ∈ t.prog → op.key ≠ kOpen)
    (hres : ∀ (n : Nat) (r : Res), t.results[n]? = some r →
      ∃ op : Op, t.prog[n]? = some op ∧ ResOK cfg keys op r)
    (hc : t.cur = some (.ins key val))
    (hpc : t.pc = .iFull ∨ t.pc = .iCas ∨ t.pc = .iAdd ∨ t.pc = .iStore)
    (hidx : t.idx = cfg.probe key t.j) (hf : Fresh cfg keys key t.j)
    (hcl : Claiming t → keys.getD t.idx kOpen = key) : ThrOK cfg keys t := by
  refine ⟨hlen, hk, ?_, ?_, ?_, hres⟩
  · intro hn; rw [hc] at hn; cases hn
  · intro k v hk; rw [hc] at hk; cases hk; exact ⟨hpc, hidx, hf, hcl⟩
  · intro k hk; rw [hc] at hk; cases hk

/-- `ThrOK` for a thread whose current op is a `get` -/
theorem ThrOK.of_get {cfg : Cfg} {keys : List Nat} {t : Thr} {key : Nat}
    (hlen : t.results.length = t.opIdx) (hk : ∀ op, op ∈ t.prog → op.key ≠ kOpen)
    (hres : ∀ (n : Nat) (r : Res), t.results[n]? = some r →
      ∃ op : Op, t.prog[n]? = some op ∧ ResOK cfg keys op r)
    (hc : t.cur = some (.get key)) (hpc : t.pc = .gKey ∨ t.pc = .gVal)
    (hidx : t.idx = cfg.probe key t.j) : ThrOK cfg keys t := by
  refine ⟨hlen, hk, ?_, ?_, ?_, hres⟩
  · intro hn; rw [hc] at hn; cases hn
  · intro k v hk; rw [hc] at hk; cases hk
  · intro k hk; rw [hc] at hk; cases hk; exact ⟨hpc, hidx⟩

/-- positioning a thread at its current op re-establishes `ThrOK` from what is recorded -/
theorem ThrOK.start {cfg : Cfg} {keys : List Nat} {t : Thr} (hlen : t.results.length = t.opIdx)
    (hk : ∀ op, op ∈ t.prog → op.key ≠ kOpen)
    (hres : ∀ (n : Nat) (r : Res), t.results[n]? = some r →
      ∃ op : Op, t.prog[n]? = some op ∧ ResOK cfg keys op r) :
    ThrOK cfg keys (t.start cfg) := by
  rcases Thr.start_cases cfg t with ⟨k, v, h0, e⟩ | ⟨k, h0, e⟩ | ⟨h0, e⟩ <;> rw [e]
  · exact .of_ins hlen hk hres h0 (.inl rfl) rfl (Fresh.zero _ _ _) (by rintro (h | h) <;> cases h)
  · exact .of_get hlen hk hres h0 (.inl rfl) rfl
  · refine ⟨hlen, hk, fun _ => rfl, ?_, ?_, hres⟩
    · intro k v h; rw [show t.cur = _ from h] at h0; cases h0
    · intro k h; rw [show t.cur = _ from h] at h0; cases h0

/-- a well-formed initial thread -/
theorem ThrOK.start_init (cfg : Cfg) (keys : List Nat) (p : List Op)
    (hk : ∀ op, op ∈ p → op.key ≠ kOpen) :
    ThrOK cfg keys (Thr.start cfg ⟨p, 0, .iFull, 0, 0, 0, []⟩) :=
  ThrOK.start rfl hk (fun n r h => by simp at h)

theorem ThrOK.finish {cfg : Cfg} {keys : List Nat} {t : Thr} {op : Op} {r : Res}
    (h : ThrOK cfg keys t) (hop : t.cur = some op) (hr : ResOK cfg keys op r) :
    ThrOK cfg keys (t.finish cfg r) := by
  refine ThrOK.start (t := { t with opIdx := t.opIdx + 1, results := t.results ++ [r] })
    (by simp [h.len]) h.keysOK fun n x hx => ?_
  rcases (getElem?_snoc _ _ _ _).mp hx with h1 | ⟨h1, h2⟩
  · exact h.res n x h1
  · subst h2
    rw [h1, h.len]
    exact ⟨op, hop, hr⟩

theorem TStep.thrOK {cfg : Cfg} {keys vals : List Nat} {used : Nat} {t : Thr}
    {k' v' : List Nat} {u' : Nat} {t' : Thr} (hs : TStep cfg keys vals used t k' v' u' t')
    (hlen : keys.length = cfg.size) (h : ThrOK cfg keys t) : ThrOK cfg k' t' := by
  cases hs with
  | fullYes key val hc hpc hu => exact h.finish hc trivial
  | fullNo key val hc hpc hu =>
      obtain ⟨_, h2, h3, _⟩ := h.ins key val hc
      exact .of_ins h.len h.keysOK h.res hc (.inr (.inl rfl)) h2 h3 (by rintro (hcl | hcl) <;> cases hcl)
  | casWin key val hc hpc hf =>
      have hm := KeysMono.set keys t.idx key hf
      obtain ⟨_, h2, h3, _⟩ := h.ins key val hc
      have hlt : t.idx < keys.length := by rw [h2, hlen]; exact cfg.probe_lt _ _
      exact .of_ins h.len h.keysOK (h.mono hm).res hc (.inr (.inr (.inl rfl))) h2 (h3.mono hm)
        fun _ => by rw [List.getD_set, if_pos ⟨rfl, hlt⟩]
  | casPresent key val hc hpc hf hk =>
      obtain ⟨_, h2, h3, _⟩ := h.ins key val hc
      exact h.finish hc ⟨t.j, h2, hk, h3⟩
  | casOther key val hc hpc hf hk =>
      obtain ⟨_, h2, h3, _⟩ := h.ins key val hc
      rw [h2] at hf hk
      exact .of_ins h.len h.keysOK h.res hc (.inl rfl)
        (by show cfg.next t.idx = _; rw [h2, Cfg.next_probe]; rfl) (h3.succ hf hk)
        (by rintro (hcl | hcl) <;> cases hcl)
  | add key val hc hpc =>
      obtain ⟨_, h2, h3, h4⟩ := h.ins key val hc
      exact .of_ins h.len h.keysOK h.res hc (.inr (.inr (.inr rfl))) h2 h3 fun _ => h4 (.inl hpc)
  | store key val hc hpc =>
      obtain ⟨_, h2, h3, h4⟩ := h.ins key val hc
      exact h.finish hc ⟨t.j, h2, h4 (Or.inr hpc), h3⟩
  | keyHit key hc hpc hk => exact .of_get h.len h.keysOK h.res hc (.inr rfl) (h.get key hc).2
  | keyMiss key hc hpc hk =>
      exact .of_get h.len h.keysOK h.res hc (.inl rfl)
        (by show cfg.next t.idx = _; rw [(h.get key hc).2, Cfg.next_probe]; rfl)
  | val key hc hpc => exact h.finish hc trivial

theorem getElem?_set_some {α : Type} {l : List α} {i x : Nat} {a b : α}
    (h : (l.set i a)[x]? = some b) : (x = i ∧ b = a) ∨ (x ≠ i ∧ l[x]? = some b) := by
  rw [List.getElem?_set] at h
  by_cases e : i = x
  · subst e
    left
    split at h
    · split at h
      · exact ⟨rfl, (Option.some.inj h).symm⟩
      · cases h
    · contradiction
  · right
    rw [if_neg e] at h
    exact ⟨fun h' => e h'.symm, h⟩

theorem getElem?_set_self_of {α : Type} {l : List α} {i : Nat} {a t : α} (h : l[i]? = some t) :
    (l.set i a)[i]? = some a := by
  obtain ⟨hlt, _⟩ := List.getElem?_eq_some_iff.mp h
  rw [List.getElem?_set]; simp [hlt]

/-- Ownership of claimed slots.  A slot is *claimed by thread `x`* while `x` sits between its
successful CAS and its value store (`Claiming`), and *settled* once some completed op
carries the result `inserted i`. -/
structure Own (keys vals : List Nat) (thr : List Thr) : Prop where
  /-- two distinct threads never claim the same slot: at most one thread can be about to
  execute the plain store `values_[i] = val` -/
  excl : ∀ (x x' : Nat) (th th' : Thr), thr[x]? = some th → thr[x']? = some th' →
    Claiming th → Claiming th' → th.idx = th'.idx → x = x'
  /-- a slot whose value has been stored is never claimed again -/
  exclDone : ∀ (x x' : Nat) (th th' : Thr) (n : Nat), thr[x]? = some th → Claiming th →
    thr[x']? = some th' → th'.results[n]? = some (.inserted th.idx) → False
  /-- at most one completed op reports `inserted i`, i.e. `values_[i]` is stored at most once -/
  uniq : ∀ (x x' : Nat) (th th' : Thr) (n n' i : Nat), thr[x]? = some th → thr[x']? = some th' →
    th.results[n]? = some (.inserted i) → th'.results[n']? = some (.inserted i) → x = x' ∧ n = n'
  /-- the stored value is the claimer's, and nobody overwrote it -/
  valOK : ∀ (x : Nat) (th : Thr) (n key val i : Nat), thr[x]? = some th →
    th.prog[n]? = some (.ins key val) → th.results[n]? = some (.inserted i) → vals.getD i 0 = val
  /-- every non-open slot is claimed or settled -/
  owned : ∀ i : Nat, keys.getD i kOpen ≠ kOpen →
    (∃ (x : Nat) (th : Thr), thr[x]? = some th ∧ Claiming th ∧ th.idx = i) ∨
    (∃ (x : Nat) (th : Thr) (n : Nat), thr[x]? = some th ∧ th.results[n]? = some (.inserted i))

/-- `t'` is indistinguishable from `t` as far as `Own` is concerned -/
structure Obs (t t' : Thr) : Prop where
  cl : Claiming t' ↔ Claiming t
  idx : Claiming t → t'.idx = t.idx
  prog : t'.prog = t.prog
  res : ∀ (n i : Nat), t'.results[n]? = some (.inserted i) ↔ t.results[n]? = some (.inserted i)

theorem Obs.refl (t : Thr) : Obs t t := ⟨Iff.rfl, fun _ => rfl, rfl, fun _ _ => Iff.rfl⟩

theorem own_transfer {keys vals : List Nat} {thr : List Thr} {tid : Nat} {t t' : Thr}
    (ht : thr[tid]? = some t) (ho : Obs t t') (h : Own keys vals thr) :
    Own keys vals (thr.set tid t') := by
  have back : ∀ (x : Nat) (th' : Thr), (thr.set tid t')[x]? = some th' →
      ∃ th, thr[x]? = some th ∧ Obs th th' := by
    intro x th' hx
    rcases getElem?_set_some hx with ⟨rfl, rfl⟩ | ⟨_, h2⟩
    · exact ⟨t, ht, ho⟩
    · exact ⟨th', h2, Obs.refl _⟩
  have fwd : ∀ (x : Nat) (th : Thr), thr[x]? = some th →
      ∃ th', (thr.set tid t')[x]? = some th' ∧ Obs th th' := by
    intro x th hx
    by_cases e : x = tid
    · subst e
      rw [ht] at hx; cases hx
      exact ⟨t', getElem?_set_self_of ht, ho⟩
    · exact ⟨th, by rw [List.getElem?_set_ne (Ne.symm e)]; exact hx, Obs.refl _⟩
  constructor
  · intro x x' th th' hx hx' hc hc' hi
    obtain ⟨a, ha, oa⟩ := back x th hx
    obtain ⟨b, hb, ob⟩ := back x' th' hx'
    have ca := oa.cl.mp hc
    have cb := ob.cl.mp hc'
    exact h.excl x x' a b ha hb ca cb (by rw [← oa.idx ca, ← ob.idx cb]; exact hi)
  · intro x x' th th' n hx hc hx' hr
    obtain ⟨a, ha, oa⟩ := back x th hx
    obtain ⟨b, hb, ob⟩ := back x' th' hx'
    have ca := oa.cl.mp hc
    rw [oa.idx ca] at hr
    exact h.exclDone x x' a b n ha ca hb ((ob.res _ _).mp hr)
  · intro x x' th th' n n' i hx hx' hr hr'
    obtain ⟨a, ha, oa⟩ := back x th hx
    obtain ⟨b, hb, ob⟩ := back x' th' hx'
    exact h.uniq x x' a b n n' i ha hb ((oa.res _ _).mp hr) ((ob.res _ _).mp hr')
  · intro x th n key val i hx hp hr
    obtain ⟨a, ha, oa⟩ := back x th hx
    rw [oa.prog] at hp
    exact h.valOK x a n key val i ha hp ((oa.res _ _).mp hr)
  · intro i hi
    rcases h.owned i hi with ⟨x, th, hx, hc, hidx⟩ | ⟨x, th, n, hx, hr⟩
    · obtain ⟨th', hx', o⟩ := fwd x th hx
      exact Or.inl ⟨x, th', hx', o.cl.mpr hc, by rw [o.idx hc]; exact hidx⟩
    · obtain ⟨th', hx', o⟩ := fwd x th hx
      exact Or.inr ⟨x, th', n, hx', (o.res _ _).mpr hr⟩


/-- a successful CAS on an open slot: the winner becomes the slot's unique claimer -/
theorem own_casWin {keys vals : List Nat} {thr : List Thr} {tid i key : Nat} {t t' : Thr}
    (ht : thr[tid]? = some t) (hnc : ¬ Claiming t) (hc' : Claiming t') (hidx : t'.idx = i)
    (hprog : t'.prog = t.prog) (hres : t'.results = t.results)
    (ha : ∀ (x : Nat) (th : Thr), thr[x]? = some th → Claiming th → th.idx ≠ i)
    (hb : ∀ (x : Nat) (th : Thr) (n : Nat), thr[x]? = some th →
      th.results[n]? ≠ some (.inserted i))
    (h : Own keys vals thr) : Own (keys.set i key) vals (thr.set tid t') := by
  -- results (and programs) of all threads are unchanged
  have back : ∀ (x : Nat) (th' : Thr), (thr.set tid t')[x]? = some th' →
      ∃ th, thr[x]? = some th ∧ th'.prog = th.prog ∧ th'.results = th.results := by
    intro x th' hx
    rcases getElem?_set_some hx with ⟨rfl, rfl⟩ | ⟨_, h2⟩
    · exact ⟨t, ht, hprog, hres⟩
    · exact ⟨th', h2, rfl, rfl⟩
  constructor
  · intro x x' th th' hx hx' hc hcc hi
    rcases getElem?_set_some hx with ⟨rfl, rfl⟩ | ⟨e1, h1⟩ <;>
      rcases getElem?_set_some hx' with ⟨rfl, rfl⟩ | ⟨e2, h2⟩
    · rfl
    · exact absurd (hi.symm.trans hidx) (ha x' th' h2 hcc)
    · exact absurd (hi.trans hidx) (ha x th h1 hc)
    · exact h.excl x x' th th' h1 h2 hc hcc hi
  · intro x x' th th' n hx hc hx' hr
    obtain ⟨b, hb', _, rb⟩ := back x' th' hx'
    rw [rb] at hr
    rcases getElem?_set_some hx with ⟨rfl, rfl⟩ | ⟨e1, h1⟩
    · rw [hidx] at hr; exact hb x' b n hb' hr
    · exact h.exclDone x x' th b n h1 hc hb' hr
  · intro x x' th th' n n' j hx hx' hr hr'
    obtain ⟨a, ha', _, ra⟩ := back x th hx
    obtain ⟨b, hb', _, rb⟩ := back x' th' hx'
    rw [ra] at hr; rw [rb] at hr'
    exact h.uniq x x' a b n n' j ha' hb' hr hr'
  · intro x th n k v j hx hp hr
    obtain ⟨a, ha', pa, ra⟩ := back x th hx
    rw [pa] at hp; rw [ra] at hr
    exact h.valOK x a n k v j ha' hp hr
  · intro j hj
    by_cases e : j = i
    · subst e
      exact Or.inl ⟨tid, t', getElem?_set_self_of ht, hc', hidx⟩
    · rw [List.getD_set, if_neg fun e' => e e'.1.symm] at hj
      rcases h.owned j hj with ⟨x, th, hx, hc, hi⟩ | ⟨x, th, n, hx, hr⟩
      · have : x ≠ tid := by
          rintro rfl; rw [ht] at hx; cases hx; exact hnc hc
        exact Or.inl ⟨x, th, by rw [List.getElem?_set_ne (Ne.symm this)]; exact hx, hc, hi⟩
      · by_cases e2 : x = tid
        · subst e2
          rw [ht] at hx; cases hx
          exact Or.inr ⟨x, t', n, getElem?_set_self_of ht, by rw [hres]; exact hr⟩
        · exact Or.inr ⟨x, th, n, by rw [List.getElem?_set_ne (Ne.symm e2)]; exact hx, hr⟩

/-- the plain value store: the claimer settles its slot -/
theorem own_store {keys vals : List Nat} {thr : List Thr} {tid key val : Nat} {t t' : Thr}
    (ht : thr[tid]? = some t) (hc : Claiming t) (hnc' : ¬ Claiming t')
    (hprog : t'.prog = t.prog) (hres : t'.results = t.results ++ [.inserted t.idx])
    (hop : t.prog[t.results.length]? = some (.ins key val))
    (hlt : t.idx < vals.length)
    (h : Own keys vals thr) : Own keys (vals.set t.idx val) (thr.set tid t') := by
  -- no completed op anywhere reports `inserted t.idx` yet
  have hfree : ∀ (x : Nat) (th : Thr) (n : Nat), thr[x]? = some th →
      th.results[n]? ≠ some (.inserted t.idx) :=
    fun x th n hx hr => h.exclDone tid x t th n ht hc hx hr
  -- a result of the new thread list is an old result or the new one
  have back : ∀ (x : Nat) (th' : Thr) (n j : Nat), (thr.set tid t')[x]? = some th' →
      th'.results[n]? = some (.inserted j) →
      (∃ th, thr[x]? = some th ∧ th'.prog = th.prog ∧ th.results[n]? = some (.inserted j)) ∨
      (x = tid ∧ th' = t' ∧ n = t.results.length ∧ j = t.idx) := by
    intro x th' n j hx hr
    rcases getElem?_set_some hx with ⟨rfl, rfl⟩ | ⟨_, h2⟩
    · rw [hres] at hr
      rcases (getElem?_snoc _ _ _ _).mp hr with h1 | ⟨h1, h2⟩
      · exact Or.inl ⟨t, ht, hprog, h1⟩
      · cases h2; exact Or.inr ⟨rfl, rfl, h1, rfl⟩
    · exact Or.inl ⟨th', h2, rfl, hr⟩
  constructor
  · intro x x' th th' hx hx' hcl hcl' hi
    rcases getElem?_set_some hx with ⟨rfl, rfl⟩ | ⟨e1, h1⟩
    · exact absurd hcl hnc'
    · rcases getElem?_set_some hx' with ⟨rfl, rfl⟩ | ⟨e2, h2⟩
      · exact absurd hcl' hnc'
      · exact h.excl x x' th th' h1 h2 hcl hcl' hi
  · intro x x' th th' n hx hcl hx' hr
    rcases getElem?_set_some hx with ⟨rfl, rfl⟩ | ⟨e1, h1⟩
    · exact absurd hcl hnc'
    · rcases back x' th' n th.idx hx' hr with ⟨b, hb, _, rb⟩ | ⟨_, _, _, hj⟩
      · exact h.exclDone x x' th b n h1 hcl hb rb
      · exact e1 (h.excl x tid th t h1 ht hcl hc hj)
  · intro x x' th th' n n' j hx hx' hr hr'
    rcases back x th n j hx hr with ⟨a, ha, _, ra⟩ | ⟨e1, _, e3, e4⟩ <;>
      rcases back x' th' n' j hx' hr' with ⟨b, hb, _, rb⟩ | ⟨f1, _, f3, f4⟩
    · exact h.uniq x x' a b n n' j ha hb ra rb
    · subst f4; exact absurd ra (hfree x a n ha)
    · subst e4; exact absurd rb (hfree x' b n' hb)
    · exact ⟨e1.trans f1.symm, e3.trans f3.symm⟩
  · intro x th n k v j hx hp hr
    rcases back x th n j hx hr with ⟨a, ha, pa, ra⟩ | ⟨e1, e2, e3, e4⟩
    · have hne : t.idx ≠ j := by
        rintro rfl; exact hfree x a n ha ra
      rw [List.getD_set, if_neg fun e => hne e.1]
      rw [pa] at hp
      exact h.valOK x a n k v j ha hp ra
    · subst e2 e3 e4
      rw [hprog, hop] at hp
      cases hp
      rw [List.getD_set, if_pos ⟨rfl, hlt⟩]
  · intro j hj
    rcases h.owned j hj with ⟨x, th, hx, hcl, hi⟩ | ⟨x, th, n, hx, hr⟩
    · by_cases e : x = tid
      · subst e
        rw [ht] at hx; cases hx
        refine Or.inr ⟨x, t', t.results.length, getElem?_set_self_of ht, ?_⟩
        rw [hres, ← hi]
        exact (getElem?_snoc _ _ _ _).mpr (Or.inr ⟨rfl, rfl⟩)
      · exact Or.inl ⟨x, th, by rw [List.getElem?_set_ne (Ne.symm e)]; exact hx, hcl, hi⟩
    · by_cases e : x = tid
      · subst e
        rw [ht] at hx; cases hx
        refine Or.inr ⟨x, t', n, getElem?_set_self_of ht, ?_⟩
        rw [hres]
        exact (getElem?_snoc _ _ _ _).mpr (Or.inl hr)
      · exact Or.inr ⟨x, th, n, by rw [List.getElem?_set_ne (Ne.symm e)]; exact hx, hr⟩


/-- number of threads between their CAS and their `fetch_add` -/
def cntAdd (thr : List Thr) : Nat := thr.countP (fun t => decide (t.pc = .iAdd))

/-- number of non-open slots -/
def claimed (keys : List Nat) : Nat := keys.countP (fun k => decide (k ≠ kOpen))

theorem cntAdd_set {thr : List Thr} {tid : Nat} {t t' : Thr} (ht : thr[tid]? = some t) :
    cntAdd (thr.set tid t') + (if t.pc = .iAdd then 1 else 0) =
      cntAdd thr + (if t'.pc = .iAdd then 1 else 0) := by
  simpa [cntAdd] using List.countP_set_add (fun t => decide (t.pc = .iAdd)) thr tid t t' ht

theorem cntAdd_set_same {thr : List Thr} {tid : Nat} {t t' : Thr} (ht : thr[tid]? = some t)
    (hp : t.pc ≠ .iAdd) (hp' : t'.pc ≠ .iAdd) : cntAdd (thr.set tid t') = cntAdd thr := by
  have := cntAdd_set (t' := t') ht
  rw [if_neg hp, if_neg hp'] at this; exact this

theorem cntAdd_eq_zero {thr : List Thr}
    (h : ∀ (x : Nat) (th : Thr), thr[x]? = some th → ¬ Claiming th) : cntAdd thr = 0 := by
  unfold cntAdd
  rw [List.countP_eq_zero]
  intro th hth
  obtain ⟨x, hx⟩ := List.getElem?_of_mem hth
  simp only [decide_eq_true_eq]
  exact fun hp => h x th hx (Or.inl hp)

theorem claimed_set (keys : List Nat) (i key : Nat) (hlt : i < keys.length)
    (ho : keys.getD i kOpen = kOpen) (hk : key ≠ kOpen) :
    claimed (keys.set i key) = claimed keys + 1 := by
  have := List.countP_set_add (fun k => decide (k ≠ kOpen)) keys i keys[i] key
    (List.getElem?_eq_getElem hlt)
  rw [List.getD_eq_getElem?_getD, List.getElem?_eq_getElem hlt, Option.getD_some] at ho
  simpa [claimed, ho, hk] using this

structure Inv (cfg : Cfg) (s : State) : Prop where
  klen : s.keys.length = cfg.size
  vlen : s.vals.length = cfg.size
  /-- per-thread facts: program counter matches the op, `idx = probe key j`, all earlier
  probes of the current insert hold keys `∉ {kOpen, key}`, a claiming thread sees its own
  key in its slot, recorded results are `Located` -/
  thrOK : ∀ (x : Nat) (th : Thr), s.thr[x]? = some th → ThrOK cfg s.keys th
  /-- `used_` lags the number of claimed slots by exactly the threads at `fetch_add` -/
  count : s.used + cntAdd s.thr = claimed s.keys
  own : Own s.keys s.vals s.thr

theorem not_claiming_of_pc {t : Thr} {p : Pc} (h : t.pc = p)
    (hp : p ≠ .iAdd ∧ p ≠ .iStore := by decide) : ¬ Claiming t := by
  rintro (h' | h') <;> rw [h] at h'
  · exact hp.1 h'
  · exact hp.2 h'

theorem Obs.finish (cfg : Cfg) {t : Thr} {r : Res} (hnc : ¬ Claiming t)
    (hr : ∀ i, r ≠ .inserted i) : Obs t (t.finish cfg r) := by
  refine ⟨⟨fun h => absurd h (Thr.finish_not_claiming _ _ _), fun h => absurd h hnc⟩,
    fun h => absurd h hnc, by simp, fun n i => ?_⟩
  rw [Thr.finish_results, getElem?_snoc]
  constructor
  · rintro (h | ⟨_, h⟩)
    · exact h
    · exact absurd h.symm (hr i)
  · exact Or.inl

theorem Obs.same {t t' : Thr} (hnc : ¬ Claiming t) (hnc' : ¬ Claiming t')
    (hp : t'.prog = t.prog) (hr : t'.results = t.results) : Obs t t' :=
  ⟨⟨fun h => absurd h hnc', fun h => absurd h hnc⟩, fun h => absurd h hnc, hp,
    fun _ _ => by rw [hr]⟩

/-- a thread between CAS and store is inside an `ins` whose key is in its slot -/
theorem ThrOK.claiming_cur {cfg : Cfg} {keys : List Nat} {th : Thr} (hth : ThrOK cfg keys th)
    (hcl : Claiming th) : ∃ v, th.cur = some (.ins (keys.getD th.idx kOpen) v) := by
  cases hcu : th.cur with
  | none => have := hth.done hcu; rcases hcl with h | h <;> rw [this] at h <;> cases h
  | some op =>
      cases op with
      | ins k v =>
          obtain ⟨_, _, _, h4⟩ := hth.ins k v hcu
          rw [h4 hcl]; exact ⟨v, rfl⟩
      | get k =>
          obtain ⟨hp, _⟩ := hth.get k hcu
          rcases hcl with h | h <;> rcases hp with hp | hp <;> rw [hp] at h <;> cases h

/-- a completed op reporting `inserted i` is an `ins` of the key that slot `i` holds -/
theorem ThrOK.inserted_op {cfg : Cfg} {keys : List Nat} {th : Thr} {n i : Nat}
    (hth : ThrOK cfg keys th) (hr : th.results[n]? = some (.inserted i)) :
    keys.getD i kOpen ≠ kOpen ∧ ∃ v, th.prog[n]? = some (.ins (keys.getD i kOpen) v) := by
  obtain ⟨op, hop, hres⟩ := hth.res n _ hr
  cases op with
  | get k => exact hres.elim
  | ins k v =>
      obtain ⟨_, _, h2, _⟩ := hres
      rw [h2]
      exact ⟨hth.keysOK _ (List.mem_of_getElem? hop), v, hop⟩

/-- a transition that leaves the shared memory alone and is invisible to `Own` -/
theorem inv_quiet {cfg : Cfg} {s : State} {tid : Nat} {t t' : Thr} (hinv : Inv cfg s)
    (ht : s.thr[tid]? = some t) (ho : Obs t t') (hnc : ¬ Claiming t)
    (hthr : ∀ (x : Nat) (th : Thr), (s.thr.set tid t')[x]? = some th → ThrOK cfg s.keys th) :
    Inv cfg ⟨s.keys, s.vals, s.used, s.thr.set tid t'⟩ := by
  refine ⟨hinv.klen, hinv.vlen, hthr, ?_, own_transfer ht ho hinv.own⟩
  show s.used + cntAdd (s.thr.set tid t') = claimed s.keys
  rw [cntAdd_set_same ht (fun h => hnc (.inl h)) (fun h => hnc (ho.cl.1 (.inl h)))]
  exact hinv.count

theorem inv_tstep {cfg : Cfg} {s : State} {tid : Nat} {t : Thr}
    {k' v' : List Nat} {u' : Nat} {t' : Thr} (hinv : Inv cfg s) (ht : s.thr[tid]? = some t)
    (hs : TStep cfg s.keys s.vals s.used t k' v' u' t') :
    Inv cfg ⟨k', v', u', s.thr.set tid t'⟩ := by
  have hok := hinv.thrOK tid t ht
  have hm := hs.keysMono
  have hthr : ∀ (x : Nat) (th : Thr), (s.thr.set tid t')[x]? = some th → ThrOK cfg k' th := by
    intro x th hx
    rcases getElem?_set_some hx with ⟨rfl, rfl⟩ | ⟨_, h2⟩
    · exact hs.thrOK hinv.klen hok
    · exact (hinv.thrOK x th h2).mono hm
  have hcount := hinv.count
  cases hs with
  | fullYes key val hc hpc hu =>
      have hnc := not_claiming_of_pc hpc
      exact inv_quiet hinv ht (Obs.finish cfg hnc (by intro i h; cases h)) hnc hthr
  | fullNo key val hc hpc hu =>
      have hnc := not_claiming_of_pc hpc
      exact inv_quiet hinv ht (Obs.same hnc (not_claiming_of_pc (p := .iCas) rfl)
        rfl rfl) hnc hthr
  | casPresent key val hc hpc hf hk =>
      have hnc := not_claiming_of_pc hpc
      exact inv_quiet hinv ht (Obs.finish cfg hnc (by intro i h; cases h)) hnc hthr
  | casOther key val hc hpc hf hk =>
      have hnc := not_claiming_of_pc hpc
      exact inv_quiet hinv ht (Obs.same hnc (not_claiming_of_pc (p := .iFull) rfl)
        rfl rfl) hnc hthr
  | keyHit key hc hpc hk =>
      have hnc := not_claiming_of_pc hpc
      exact inv_quiet hinv ht (Obs.same hnc (not_claiming_of_pc (p := .gVal) rfl)
        rfl rfl) hnc hthr
  | keyMiss key hc hpc hk =>
      have hnc := not_claiming_of_pc hpc
      exact inv_quiet hinv ht (Obs.same hnc (not_claiming_of_pc (p := .gKey) rfl)
        rfl rfl) hnc hthr
  | val key hc hpc =>
      have hnc := not_claiming_of_pc hpc
      exact inv_quiet hinv ht (Obs.finish cfg hnc (by intro i h; cases h)) hnc hthr
  | casWin key val hc hpc hf =>
      obtain ⟨_, h2, _, _⟩ := hok.ins key val hc
      have hlt : t.idx < s.keys.length := by rw [h2, hinv.klen]; exact cfg.probe_lt _ _
      refine ⟨hm.1.trans hinv.klen, hinv.vlen, hthr, ?_, ?_⟩
      · show s.used + cntAdd (s.thr.set tid _) = claimed (s.keys.set t.idx key)
        have := cntAdd_set (t' := { t with pc := .iAdd }) ht
        rw [if_neg (by rw [hpc]; decide), if_pos rfl, Nat.add_zero] at this
        rw [claimed_set s.keys t.idx key hlt hf (hok.keysOK _ (Thr.cur_mem hc)), this,
          ← Nat.add_assoc, hcount]
      · refine own_casWin ht (not_claiming_of_pc hpc) (Or.inl rfl) rfl
          rfl rfl ?_ ?_ hinv.own
        · -- a claimer of slot `t.idx` would see its own key there, not `kOpen`
          intro x th hx hcl hi
          have hth := hinv.thrOK x th hx
          obtain ⟨v, hcu⟩ := hth.claiming_cur hcl
          rw [hi, hf] at hcu
          exact hth.keysOK _ (Thr.cur_mem hcu) rfl
        · exact fun x th n hx hr => ((hinv.thrOK x th hx).inserted_op hr).1 hf
  | add key val hc hpc =>
      refine ⟨hinv.klen, hinv.vlen, hthr, ?_, ?_⟩
      · show s.used + 1 + cntAdd (s.thr.set tid _) = claimed s.keys
        have := cntAdd_set (t' := { t with pc := .iStore }) ht
        rw [if_pos hpc, if_neg (fun h => by cases h)] at this
        rw [Nat.add_right_comm, Nat.add_assoc, this]
        exact hcount
      · exact own_transfer ht ⟨⟨fun _ => Or.inl hpc, fun _ => Or.inr rfl⟩, fun _ => rfl, rfl,
          fun _ _ => Iff.rfl⟩ hinv.own
  | store key val hc hpc =>
      obtain ⟨_, h2, _, _⟩ := hok.ins key val hc
      have hlt : t.idx < s.vals.length := by rw [h2, hinv.vlen]; exact cfg.probe_lt _ _
      refine ⟨hinv.klen, by simp [hinv.vlen], hthr, ?_, ?_⟩
      · show s.used + cntAdd (s.thr.set tid _) = claimed s.keys
        rw [cntAdd_set_same ht (by rw [hpc]; decide) (fun h => Thr.finish_not_claiming _ _ _ (.inl h))]
        exact hcount
      · refine own_store (key := key) ht (Or.inr hpc) (Thr.finish_not_claiming _ _ _) (by simp)
          (by simp) ?_ hlt hinv.own
        rw [hok.len]; exact hc

theorem inv_step {cfg : Cfg} {s : State} (hinv : Inv cfg s) (tid : Nat) :
    Inv cfg (step cfg s tid).1 := by
  rcases step_cases cfg s tid with h | ⟨t, k', v', u', t', ht, hs, h⟩
  · rw [h]; exact hinv
  · rw [h]; exact inv_tstep hinv ht hs

theorem inv_run {cfg : Cfg} (sched : List Nat) :
    ∀ s : State, Inv cfg s → Inv cfg (run cfg s sched).1 := by
  induction sched with
  | nil => intro s h; exact h
  | cons tid rest ih => intro s h; exact ih _ (inv_step h tid)


/-- no op uses the reserved key `kOpen` -/
def KeysOK (progs : List (List Op)) : Prop :=
  ∀ p, p ∈ progs → ∀ op, op ∈ p → op.key ≠ kOpen

instance (progs : List (List Op)) : Decidable (KeysOK progs) := by
  unfold KeysOK; exact inferInstance

/-- every state some schedule can produce from the initial state -/
def Reachable (cfg : Cfg) (progs : List (List Op)) (s : State) : Prop :=
  ∃ sched, (run cfg (init cfg progs) sched).1 = s

theorem init_thr_get {cfg : Cfg} {progs : List (List Op)} {x : Nat} {th : Thr}
    (h : (init cfg progs).thr[x]? = some th) :
    ∃ p, progs[x]? = some p ∧ th = Thr.start cfg ⟨p, 0, .iFull, 0, 0, 0, []⟩ := by
  simp only [init, List.getElem?_map, Option.map_eq_some_iff] at h
  obtain ⟨p, h1, h2⟩ := h
  exact ⟨p, h1, h2.symm⟩

theorem inv_init (cfg : Cfg) (progs : List (List Op)) (hk : KeysOK progs) :
    Inv cfg (init cfg progs) := by
  have hnc : ∀ (x : Nat) (th : Thr), (init cfg progs).thr[x]? = some th →
      ¬ Claiming th ∧ th.results = [] := by
    intro x th hx
    obtain ⟨p, _, rfl⟩ := init_thr_get hx
    exact ⟨Thr.start_not_claiming _ _, by simp⟩
  have hres : ∀ (x : Nat) (th : Thr) (n : Nat) (r : Res), (init cfg progs).thr[x]? = some th →
      th.results[n]? = some r → False := by
    intro x th n r hx hr
    rw [(hnc x th hx).2] at hr; simp at hr
  refine ⟨by simp [init], by simp [init], ?_, ?_, ?_⟩
  · intro x th hx
    obtain ⟨p, hp, rfl⟩ := init_thr_get hx
    exact ThrOK.start_init cfg _ p (hk p (List.mem_of_getElem? hp))
  · have h1 : cntAdd (init cfg progs).thr = 0 := cntAdd_eq_zero fun x th hx => (hnc x th hx).1
    have h2 : claimed (init cfg progs).keys = 0 := by
      unfold claimed
      rw [List.countP_eq_zero]
      intro k hk
      simp only [init, List.mem_replicate] at hk
      simp [hk.2]
    rw [h1, h2]; rfl
  · constructor
    · intro x x' th th' hx _ hc; exact absurd hc (hnc x th hx).1
    · intro x x' th th' n hx hc; exact absurd hc (hnc x th hx).1
    · intro x x' th th' n n' i hx _ hr; exact (hres x th n _ hx hr).elim
    · intro x th n key val i hx _ hr; exact (hres x th n _ hx hr).elim
    · intro i hi
      exact absurd (by unfold init; dsimp only; rw [List.getD_replicate]; split <;> rfl) hi


/-! ## fixtures for the examples

`hash 2 1 id ; i 1 10 , g 1 ; i 1 20 , i 5 50 ; sched 0 1 1 0 1 1 0 1 1 0 1 1 1 1` in the
driver protocol: two threads insert the SAME key 1 with different values (thread 1 wins the
CAS, thread 0 gets `present`), key 5 collides with key 1 (5 % 4 = 1) and moves on to slot 2. -/

def cfgEx : Cfg := ⟨2, 1, fun k => k⟩
def progsEx : List (List Op) := [[.ins 1 10, .get 1], [.ins 1 20, .ins 5 50]]
def schedEx : List Nat := [0, 1, 1, 0, 1, 1, 0, 1, 1, 0, 1, 1, 1, 1]
/-- final (quiescent) state -/
def sEx : State := (run cfgEx (init cfgEx progsEx) schedEx).1
/-- after 4 steps: thread 1 has won its CAS and sits at `fetch_add`; thread 0 found `present` -/
def sMid : State := (run cfgEx (init cfgEx progsEx) (schedEx.take 4)).1

/-- `hash 1 1 id ; i 0 1 , i 2 3 ; i 1 2 , i 3 4 ; sched 0 1 0 1 0 1 0 1 0 1`: size 2, both
second inserts observe `Full()` -/
def cfgF : Cfg := ⟨1, 1, fun k => k⟩
def progsF : List (List Op) := [[.ins 0 1, .ins 2 3], [.ins 1 2, .ins 3 4]]
def schedF : List Nat := [0, 1, 0, 1, 0, 1, 0, 1, 0, 1]
def sF : State := (run cfgF (init cfgF progsF) schedF).1

/-- THEOREM (invariant).  `Inv` holds in every reachable state, for every number of threads,
all programs without the key `kOpen`, and every schedule.  `Inv` contains:
* `klen`, `vlen`: `keys.length = vals.length = size`;
* `count`: `used + #{threads at pc iAdd} = #{slots with key ≠ kOpen}`
  (see `MV.C13c.hash_used_eq_claimed` for the quiescent form);
* `thrOK` (per thread, `ThrOK`): `results.length = opIdx`; pc matches the kind of the current
  op; `idx = (h key + j*stepP) % size` for the ghost probe counter `j`; for a thread inside
  `ins key val` every slot visited earlier in this op's probe sequence holds a key
  `∉ {kOpen, key}` (`Fresh`); a thread at `iAdd`/`iStore` sees its own key in `keys[idx]`;
  every recorded `inserted i` / `present i` of an `ins key _` satisfies `Located keys key i`;
* `own` (`Own`): at most one thread is at `iAdd`/`iStore` for a given slot (`excl`), never for
  a slot whose value has already been stored (`exclDone`), at most one completed op reports
  `inserted i` (`uniq`) -- so each slot's value is written at most once and only by its
  claimer: no write-write race on the plain store --, `vals[i]` is the value of that op
  (`valOK`), and every claimed slot is either being claimed or settled (`owned`).
The "claimed key slot never changes" part is the two-state lemma `step_keys_mono`, lifted to
schedules in `run_keys_mono` / `MV.C13c.hash_no_two_keys`. -/
theorem hash_inv_reachable {cfg : Cfg} {progs : List (List Op)} {s : State}
    (hk : KeysOK progs) (hr : Reachable cfg progs s) : Inv cfg s := by
  obtain ⟨sched, rfl⟩ := hr
  exact inv_run sched _ (inv_init cfg progs hk)

/- non-vacuity: a reachable NON-quiescent state with a thread at `fetch_add`; there
`used + 1 = claimed`, and the final state -/
example : KeysOK progsEx := by decide +kernel
example : Inv cfgEx sMid := hash_inv_reachable (by decide +kernel) ⟨schedEx.take 4, rfl⟩
example : sMid.keys = [kOpen, 1, kOpen, kOpen] ∧ sMid.used = 0 ∧ cntAdd sMid.thr = 1 ∧
    claimed sMid.keys = 1 ∧ sMid.thr.map (·.pc) = [.gKey, .iAdd] ∧
    sMid.thr.map (·.results) = [[.present 1], []] := by decide +kernel
example : Inv cfgEx sEx := hash_inv_reachable (by decide +kernel) ⟨schedEx, rfl⟩
example : sEx.keys = [kOpen, 1, 5, kOpen] ∧ sEx.vals = [0, 20, 50, 0] ∧ sEx.used = 2 ∧
    sEx.thr.map (·.results) = [[.present 1, .got 1 1 20], [.inserted 1, .inserted 2]] := by decide +kernel

theorem TStep.prog_eq {cfg : Cfg} {keys vals : List Nat} {used : Nat} {t : Thr}
    {k' v' : List Nat} {u' : Nat} {t' : Thr} (h : TStep cfg keys vals used t k' v' u' t') :
    t'.prog = t.prog := by
  cases h <;> first | rfl | exact Thr.finish_prog _ _ _

theorem step_progs (cfg : Cfg) (s : State) (tid : Nat) :
    (step cfg s tid).1.thr.map Thr.prog = s.thr.map Thr.prog := by
  rcases step_cases cfg s tid with h | ⟨t, k', v', u', t', ht, hs, h⟩
  · rw [h]
  · rw [h]
    show (s.thr.set tid t').map Thr.prog = _
    rw [List.map_set, hs.prog_eq]
    apply set_eq_self_of_getElem?
    rw [List.getElem?_map, ht]; rfl

theorem run_progs (cfg : Cfg) (sched : List Nat) :
    ∀ s : State, (run cfg s sched).1.thr.map Thr.prog = s.thr.map Thr.prog := by
  induction sched with
  | nil => intro s; rfl
  | cons tid rest ih => intro s; exact (ih _).trans (step_progs cfg s tid)

theorem init_progs (cfg : Cfg) (progs : List (List Op)) :
    (init cfg progs).thr.map Thr.prog = progs := by
  simp only [init, List.map_map]
  have : (Thr.prog ∘ fun p => Thr.start cfg ⟨p, 0, .iFull, 0, 0, 0, []⟩) = id := by
    funext p; simp
  rw [this, List.map_id]

theorem reachable_progs {cfg : Cfg} {progs : List (List Op)} {s : State}
    (hr : Reachable cfg progs s) : s.thr.map Thr.prog = progs := by
  obtain ⟨sched, rfl⟩ := hr
  rw [run_progs, init_progs]

theorem prog_of_thr {progs : List (List Op)} {s : State} (hp : s.thr.map Thr.prog = progs)
    {x : Nat} {th : Thr} (hx : s.thr[x]? = some th) : progs[x]? = some th.prog := by
  rw [← hp, List.getElem?_map, hx]; rfl

theorem opOf_of_thr {progs : List (List Op)} {s : State} (hp : s.thr.map Thr.prog = progs)
    {x : Nat} {th : Thr} (hx : s.thr[x]? = some th) (n : Nat) : opOf progs x n = th.prog[n]? := by
  unfold opOf; rw [prog_of_thr hp hx]; rfl

theorem res_of_thr {s : State} {x : Nat} {th : Thr} (hx : s.thr[x]? = some th) (n : Nat) :
    s.res x n = th.results[n]? := by
  unfold State.res; rw [hx]; rfl

theorem res_some {s : State} {x n : Nat} {r : Res} (h : s.res x n = some r) :
    ∃ th, s.thr[x]? = some th ∧ th.results[n]? = some r := by
  unfold State.res at h
  cases hx : s.thr[x]? with
  | none => rw [hx] at h; cases h
  | some th => rw [hx] at h; exact ⟨th, rfl, h⟩

/-- no slot ever holds two different keys over time: along every execution, once slot `i` holds a
key `≠ kOpen` it holds that same key in every later state (here for two points of one execution
from the initial state; `MV.C13c.hash_no_two_keys` for a reachable state and a continuation) -/
theorem hash_no_two_keys' (cfg : Cfg) (progs : List (List Op)) (sched1 sched2 : List Nat) (i : Nat) :
    let s1 := (run cfg (init cfg progs) sched1).1
    let s2 := (run cfg s1 sched2).1
    s1.keys.getD i kOpen ≠ kOpen → s2.keys.getD i kOpen = s1.keys.getD i kOpen :=
  fun h => (run_keys_mono cfg sched2 _).2 i h

/- slot 1 holds key 1 in `sMid` and still does after the remaining 10 steps, during which
thread 1 tries to CAS key 5 into the same slot -/
example : sMid.keys.getD 1 kOpen = 1 ∧
    (run cfgEx sMid (schedEx.drop 4)).1.keys.getD 1 kOpen = 1 := by decide +kernel
example : (run cfgEx sMid (schedEx.drop 4)).1.keys.getD 1 kOpen = sMid.keys.getD 1 kOpen :=
  (run_keys_mono cfgEx _ sMid).2 1 (by decide +kernel)

theorem finished_not_claiming {cfg : Cfg} {keys : List Nat} {th : Thr} (hok : ThrOK cfg keys th)
    (hf : th.finished = true) : ¬ Claiming th := by
  have hcur : th.cur = none := by
    unfold Thr.finished at hf
    exact List.getElem?_eq_none (by simpa using hf)
  exact not_claiming_of_pc (hok.done hcur)

theorem quiescent_finished {s : State} (hq : quiescent s = true) {x : Nat} {th : Thr}
    (hx : s.thr[x]? = some th) : th.finished = true := by
  unfold quiescent at hq
  rw [List.all_eq_true] at hq
  exact hq th (List.mem_of_getElem? hx)

example : quiescent sEx = true ∧ sEx.used = 2 ∧ claimed sEx.keys = 2 := by decide +kernel

/-- at quiescence every op of every program has a recorded result -/
theorem quiescent_all_done {cfg : Cfg} {progs : List (List Op)} {s : State}
    (hk : KeysOK progs) (hr : Reachable cfg progs s) (hq : quiescent s = true)
    {t n : Nat} {op : Op} (hop : opOf progs t n = some op) : ∃ r, s.res t n = some r := by
  have hinv := hash_inv_reachable hk hr
  have hp := reachable_progs hr
  cases hx : s.thr[t]? with
  | none => unfold opOf at hop; rw [← hp, List.getElem?_map, hx] at hop; cases hop
  | some th =>
      rw [opOf_of_thr hp hx] at hop
      -- a finished thread has `prog.length ≤ opIdx = results.length`
      have hfin := quiescent_finished hq hx
      unfold Thr.finished at hfin
      have h1 : n < th.prog.length := (List.getElem?_eq_some_iff.mp hop).1
      have h2 : th.prog.length ≤ th.opIdx := by simpa using hfin
      have hn : n < th.results.length := by rw [(hinv.thrOK t th hx).len]; omega
      exact ⟨_, by rw [res_of_thr hx]; exact List.getElem?_eq_getElem hn⟩

/-- THEOREM (completed inserts are retrievable).  In every reachable quiescent state, for
every completed op `ins key val` (op `n` of thread `t`) whose result `r` is not `full`:
the sequential `lookup` finds `key`, in the slot `i` that `r` names, with a value `v` that is
the argument of some op `ins key v` whose recorded result is `inserted i` (the unique
claimer of the slot); and if this op is itself the claimer (`r = inserted i'`) then `i' = i`
and `v = val`.

Quiescence matters only for the value: without it an `ins` that returned `present i` can
complete while the claimer still sits between its CAS and its plain store, and a lookup
then reads the initial value (see the `stale read` example below). -/
theorem hash_insert_retrievable {cfg : Cfg} {progs : List (List Op)} {s : State}
    (hk : KeysOK progs) (hr : Reachable cfg progs s) (hq : quiescent s = true)
    {t n key val : Nat} {r : Res}
    (hop : opOf progs t n = some (.ins key val)) (hres : s.res t n = some r) (hnf : r ≠ .full) :
    ∃ i v, lookup cfg s.keys s.vals key = some (i, v) ∧
      (∃ t2 n2, opOf progs t2 n2 = some (.ins key v) ∧ s.res t2 n2 = some (.inserted i)) ∧
      (r = .inserted i ∨ r = .present i) ∧
      (∀ i', r = .inserted i' → i' = i ∧ v = val) := by
  have hinv := hash_inv_reachable hk hr
  have hp := reachable_progs hr
  obtain ⟨th, hx, hrr⟩ := res_some hres
  rw [opOf_of_thr hp hx] at hop
  have hok := hinv.thrOK t th hx
  obtain ⟨op, hop', hresok⟩ := hok.res n r hrr
  rw [hop] at hop'; cases hop'
  have hkey : key ≠ kOpen := hok.keysOK _ (List.mem_of_getElem? hop)
  -- the slot named by the result
  have hloc : ∃ i, (r = .inserted i ∨ r = .present i) ∧ Located cfg s.keys key i := by
    cases r with
    | full => exact absurd rfl hnf
    | inserted i => exact ⟨i, Or.inl rfl, hresok⟩
    | present i => exact ⟨i, Or.inr rfl, hresok⟩
    | got a b c => exact hresok.elim
  obtain ⟨i, hri, hloc⟩ := hloc
  have hki : s.keys.getD i kOpen = key := by obtain ⟨_, _, h2, _⟩ := hloc; exact h2
  -- its settled owner
  have hown : ∃ (x : Nat) (th2 : Thr) (n2 : Nat), s.thr[x]? = some th2 ∧
      th2.results[n2]? = some (.inserted i) := by
    rcases hinv.own.owned i (by rw [hki]; exact hkey) with ⟨x, th2, hx2, hc, _⟩ | h
    · exact absurd hc (finished_not_claiming (hinv.thrOK x th2 hx2) (quiescent_finished hq hx2))
    · exact h
  obtain ⟨x, th2, n2, hx2, hr2⟩ := hown
  obtain ⟨_, v2, hop2⟩ := (hinv.thrOK x th2 hx2).inserted_op hr2
  rw [hki] at hop2
  have hv2 := hinv.own.valOK x th2 n2 key v2 i hx2 hop2 hr2
  refine ⟨i, v2, ?_, ⟨x, n2, ?_, ?_⟩, hri, ?_⟩
  · rw [hloc.lookup_eq, hv2]
  · rw [opOf_of_thr hp hx2]; exact hop2
  · rw [res_of_thr hx2]; exact hr2
  · intro i' hi'
    subst hi'
    have hii : i' = i := by
      rcases hri with h | h <;> cases h; rfl
    subst hii
    exact ⟨rfl, hv2.symm.trans (hinv.own.valOK t th n key val i' hx hop hrr)⟩

/- op 0 of thread 0 is `ins 1 10`, its result is `present 1`; the lookup returns slot 1 with
the value 20 of the FIRST claimer (thread 1's `ins 1 20`, result `inserted 1`), not 10 -/
example : quiescent sEx = true := by decide +kernel
example : opOf progsEx 0 0 = some (.ins 1 10) ∧ sEx.res 0 0 = some (.present 1) ∧
    lookup cfgEx sEx.keys sEx.vals 1 = some (1, 20) ∧
    opOf progsEx 1 0 = some (.ins 1 20) ∧ sEx.res 1 0 = some (.inserted 1) ∧
    lookup cfgEx sEx.keys sEx.vals 5 = some (2, 50) := by decide +kernel
example : ∃ i v, lookup cfgEx sEx.keys sEx.vals 1 = some (i, v) ∧
      (∃ t2 n2, opOf progsEx t2 n2 = some (.ins 1 v) ∧ sEx.res t2 n2 = some (.inserted i)) ∧
      (Res.present 1 = .inserted i ∨ Res.present 1 = .present i) ∧
      (∀ i', Res.present 1 = .inserted i' → i' = i ∧ v = 10) :=
  hash_insert_retrievable (progs := progsEx) (t := 0) (n := 0) (by decide +kernel) ⟨schedEx, rfl⟩
    (by decide +kernel) (by decide +kernel) (by decide +kernel) (by decide +kernel)

/-- COROLLARY, in the wording of the property: in every reachable quiescent state, either
some Insert returned because the table was `Full()`, or every key passed to an Insert is
found by `lookup` with a value that some Insert call wrote for that key (an `ins key v`
that ended `inserted` in the very slot the lookup returns). -/
theorem hash_full_or_all_found {cfg : Cfg} {progs : List (List Op)} {s : State}
    (hk : KeysOK progs) (hr : Reachable cfg progs s) (hq : quiescent s = true) :
    (∃ t n, s.res t n = some .full) ∨
    (∀ t n key val, opOf progs t n = some (.ins key val) →
      ∃ i v, lookup cfg s.keys s.vals key = some (i, v) ∧
        ∃ t2 n2, opOf progs t2 n2 = some (.ins key v) ∧ s.res t2 n2 = some (.inserted i)) := by
  by_cases hf : ∃ t n, s.res t n = some .full
  · exact Or.inl hf
  · right
    intro t n key val hop
    obtain ⟨r, hres⟩ := quiescent_all_done hk hr hq hop
    have hnf : r ≠ .full := by
      rintro rfl; exact hf ⟨t, n, hres⟩
    obtain ⟨i, v, h1, h2, _⟩ := hash_insert_retrievable hk hr hq hop hres hnf
    exact ⟨i, v, h1, h2⟩

/- `Full()` observed: size 2, both threads claim one slot each (used = 2, 2*2 > 2), then both
second inserts return `full`, and their keys 2 and 3 are NOT found -- the first disjunct of
the corollary is necessary.  (Also: both threads passed the `Full()` check before either
`fetch_add`, so the table ends 100% full although `Full()` triggers at > 50%.) -/
example : KeysOK progsF ∧ quiescent sF = true := by decide +kernel
example : sF.thr.map (·.results) = [[.inserted 0, .full], [.inserted 1, .full]] ∧
    sF.keys = [0, 1] ∧ sF.vals = [1, 2] ∧ sF.used = 2 ∧
    lookup cfgF sF.keys sF.vals 0 = some (0, 1) ∧ lookup cfgF sF.keys sF.vals 1 = some (1, 2) ∧
    lookup cfgF sF.keys sF.vals 2 = none ∧ lookup cfgF sF.keys sF.vals 3 = none := by decide +kernel
example : (∃ t n, sF.res t n = some .full) := ⟨0, 1, by decide +kernel⟩
/- and an instance where the second disjunct holds -/
example : ∀ t n key val, opOf progsEx t n = some (.ins key val) →
      ∃ i v, lookup cfgEx sEx.keys sEx.vals key = some (i, v) ∧
        ∃ t2 n2, opOf progsEx t2 n2 = some (.ins key v) ∧ sEx.res t2 n2 = some (.inserted i) := by
  rcases hash_full_or_all_found (cfg := cfgEx) (progs := progsEx) (s := sEx) (by decide +kernel)
    ⟨schedEx, rfl⟩ (by decide +kernel) with ⟨t, n, h⟩ | h
  · exfalso
    have hth : ∀ th, th ∈ sEx.thr → ∀ r, r ∈ th.results → r ≠ .full := by decide +kernel
    obtain ⟨th, hx, hr⟩ := res_some h
    exact hth th (List.mem_of_getElem? hx) _ (List.mem_of_getElem? hr) rfl
  · exact h


/-- THEOREM (slot ownership).  In every reachable state, for a
claimed slot `i` EITHER exactly one thread is at pc `iAdd`/`iStore` with `idx = i`, and
that thread's current op is `ins keys[i] v`, OR `vals[i] = v` for some completed
`ins keys[i] v` whose result is `inserted i`; never both. -/
theorem hash_slot_owner {cfg : Cfg} {progs : List (List Op)} {s : State}
    (hk : KeysOK progs) (hr : Reachable cfg progs s) (i : Nat)
    (hi : s.keys.getD i kOpen ≠ kOpen) :
    ((∃ (x : Nat) (th : Thr) (v : Nat), s.thr[x]? = some th ∧ Claiming th ∧ th.idx = i ∧
        th.cur = some (.ins (s.keys.getD i kOpen) v) ∧
        ∀ (x' : Nat) (th' : Thr), s.thr[x']? = some th' → Claiming th' → th'.idx = i → x' = x) ∨
     (∃ (x : Nat) (th : Thr) (n v : Nat), s.thr[x]? = some th ∧
        th.prog[n]? = some (.ins (s.keys.getD i kOpen) v) ∧
        th.results[n]? = some (.inserted i) ∧ s.vals.getD i 0 = v)) ∧
    ¬ ((∃ (x : Nat) (th : Thr), s.thr[x]? = some th ∧ Claiming th ∧ th.idx = i) ∧
       (∃ (x : Nat) (th : Thr) (n : Nat), s.thr[x]? = some th ∧
          th.results[n]? = some (.inserted i))) := by
  have hinv := hash_inv_reachable hk hr
  constructor
  · rcases hinv.own.owned i hi with ⟨x, th, hx, hc, hidx⟩ | ⟨x, th, n, hx, hrr⟩
    · left
      obtain ⟨v, hv⟩ := (hinv.thrOK x th hx).claiming_cur hc
      rw [hidx] at hv
      exact ⟨x, th, v, hx, hc, hidx, hv, fun x' th' hx' hc' hi' =>
        hinv.own.excl x' x th' th hx' hx hc' hc (hi'.trans hidx.symm)⟩
    · right
      obtain ⟨_, v, hop⟩ := (hinv.thrOK x th hx).inserted_op hrr
      exact ⟨x, th, n, v, hx, hop, hrr, hinv.own.valOK x th n _ v i hx hop hrr⟩
  · rintro ⟨⟨x, th, hx, hc, hidx⟩, ⟨x', th', n, hx', hrr⟩⟩
    rw [← hidx] at hrr
    exact hinv.own.exclDone x x' th th' n hx hc hx' hrr

/- in `sMid` slot 1 is being claimed by thread 1 (first disjunct), in `sEx` it is settled -/
example : ∃ th, sMid.thr[1]? = some th ∧ Claiming th ∧ th.idx = 1 ∧ th.cur = some (.ins 1 20) :=
  ⟨_, rfl, by decide +kernel⟩
example : ∃ th, sEx.thr[1]? = some th ∧ th.prog[0]? = some (.ins 1 20) ∧
    th.results[0]? = some (.inserted 1) ∧ sEx.vals.getD 1 0 = 20 := ⟨_, rfl, by decide +kernel⟩

/-- THEOREM (probe prefix).  In every reachable state, a thread inside `ins key val` has
`idx = (h key + j*stepP) % size` and every slot it visited earlier in this op holds a key
that is neither `kOpen` nor `key`. -/
theorem hash_probe_prefix {cfg : Cfg} {progs : List (List Op)} {s : State}
    (hk : KeysOK progs) (hr : Reachable cfg progs s) {x : Nat} {th : Thr} {key val : Nat}
    (hx : s.thr[x]? = some th) (hc : th.cur = some (.ins key val)) :
    th.idx = (cfg.h key + th.j * cfg.stepP) % cfg.size ∧
    ∀ j', j' < th.j →
      s.keys.getD ((cfg.h key + j' * cfg.stepP) % cfg.size) kOpen ≠ kOpen ∧
      s.keys.getD ((cfg.h key + j' * cfg.stepP) % cfg.size) kOpen ≠ key := by
  obtain ⟨_, h2, h3, _⟩ := ((hash_inv_reachable hk hr).thrOK x th hx).ins key val hc
  exact ⟨h2, h3⟩

theorem stepThr_vstore {cfg : Cfg} {keys vals : List Nat} {used tid : Nat} {t : Thr}
    (h : (stepThr cfg keys vals used tid t).log.kind = .vstore) :
    t.pc = .iStore ∧ (stepThr cfg keys vals used tid t).log.index = t.idx ∧
      (stepThr cfg keys vals used tid t).t = t.finish cfg (.inserted t.idx) := by
  generalize ho : stepThr cfg keys vals used tid t = o at h ⊢
  unfold stepThr at ho
  split at ho
  · unfold stepIns at ho
    split at ho
    · split at ho <;> (subst ho; cases h)
    · dsimp only at ho
      split at ho
      · subst ho; cases h
      · split at ho <;> (subst ho; cases h)
    · subst ho; cases h
    · subst ho; exact ⟨‹_›, rfl, rfl⟩
    · subst ho; cases h
  · unfold stepGet at ho
    split at ho
    · dsimp only at ho
      split at ho <;> (subst ho; cases h)
    · subst ho; cases h
    · subst ho; cases h
  · subst ho; cases h

theorem step_vstore {cfg : Cfg} {s : State} {tid : Nat}
    (h : (step cfg s tid).2.kind = .vstore) :
    ∃ t, s.thr[tid]? = some t ∧ t.pc = .iStore ∧ (step cfg s tid).2.index = t.idx ∧
      (step cfg s tid).1.thr = s.thr.set tid (t.finish cfg (.inserted t.idx)) := by
  unfold step at h ⊢
  split at h
  · cases h
  · rename_i t ht
    obtain ⟨h1, h2, h3⟩ := stepThr_vstore h
    refine ⟨t, ht, h1, ?_, ?_⟩
    · exact h2
    · show s.thr.set tid _ = _; rw [h3]

theorem TStep.results_grow {cfg : Cfg} {keys vals : List Nat} {used : Nat} {t : Thr}
    {k' v' : List Nat} {u' : Nat} {t' : Thr} (h : TStep cfg keys vals used t k' v' u' t') :
    t'.results = t.results ∨ ∃ r, t'.results = t.results ++ [r] := by
  cases h <;> first | exact Or.inl rfl | exact Or.inr ⟨_, Thr.finish_results _ _ _⟩

/-- recorded results are never retracted -/
theorem step_res_mono {cfg : Cfg} {s : State} {x n : Nat} {r : Res} (tid : Nat)
    (h : s.res x n = some r) : (step cfg s tid).1.res x n = some r := by
  rcases step_cases cfg s tid with e | ⟨t, k', v', u', t', ht, hs, e⟩
  · rw [e]; exact h
  · rw [e]
    obtain ⟨th, hx, hr⟩ := res_some h
    by_cases hxt : x = tid
    · subst hxt
      rw [ht] at hx; cases hx
      have : (State.mk k' v' u' (s.thr.set x t')).thr[x]? = some t' := getElem?_set_self_of ht
      rw [res_of_thr this]
      rcases hs.results_grow with e' | ⟨r', e'⟩
      · rw [e']; exact hr
      · rw [e']; exact (getElem?_snoc _ _ _ _).mpr (Or.inl hr)
    · have : (State.mk k' v' u' (s.thr.set tid t')).thr[x]? = some th := by
        show (s.thr.set tid t')[x]? = _
        rw [List.getElem?_set_ne (Ne.symm hxt)]; exact hx
      rw [res_of_thr this]; exact hr

theorem run_res_mono {cfg : Cfg} {x n : Nat} {r : Res} (sched : List Nat) :
    ∀ s : State, s.res x n = some r → (run cfg s sched).1.res x n = some r := by
  induction sched with
  | nil => intro s h; exact h
  | cons tid rest ih => intro s h; exact ih _ (step_res_mono tid h)

/-- state form: two distinct threads are never both between CAS and store on one slot -/
theorem hash_store_exclusive {cfg : Cfg} {progs : List (List Op)} {s : State}
    (hk : KeysOK progs) (hr : Reachable cfg progs s) {x x' : Nat} {th th' : Thr}
    (hx : s.thr[x]? = some th) (hx' : s.thr[x']? = some th')
    (hc : Claiming th) (hc' : Claiming th') (hi : th.idx = th'.idx) : x = x' :=
  (hash_inv_reachable hk hr).own.excl x x' th th' hx hx' hc hc' hi


/- the two stores of `schedEx` go to slots 1 and 2 -/
example : ((run cfgEx (init cfgEx progsEx) schedEx).2.filter (·.kind = .vstore)).map (·.index)
    = [1, 2] := by decide +kernel

/-- STALE READ (why quiescence / phase separation is needed for values).
`hash 1 1 id ; i 0 10 ; i 0 20 , g 0 ; sched 0 0 1 1 1 1`: thread 0 wins the CAS for key 0 and
is preempted before `values_[0] = 10`; thread 1's Insert returns `present 0` and its
`operator[]` then HITS key 0 but reads the initial value 0. -/
example :
    let s := (run ⟨1, 1, fun k => k⟩ (init ⟨1, 1, fun k => k⟩ [[.ins 0 10], [.ins 0 20, .get 0]])
      [0, 0, 1, 1, 1, 1]).1
    s.thr.map (·.results) = [[], [.present 0, .got 1 0 0]] ∧ s.keys = [0, kOpen] ∧
      s.vals = [0, 0] := by decide +kernel

/-- WHY `KeysOK` IS NEEDED.  `hash 1 1 id ; i 18446744073709551615 1 ; i 18446744073709551615 2 ;
sched 0 1 0 1 0 1 0 1`: with `key = kOpen` the CAS `kOpen -> kOpen` returns `kOpen` for BOTH
threads, both believe they claimed slot 1, `used_` becomes 2 with no slot claimed, and both
execute the plain store on slot 1 (a write-write race in C++). -/
theorem kOpen_key_breaks_exclusion :
    let cfg : Cfg := ⟨1, 1, fun k => k⟩
    let progs : List (List Op) := [[.ins kOpen 1], [.ins kOpen 2]]
    let r := run cfg (init cfg progs) [0, 1, 0, 1, 0, 1, 0, 1]
    ¬ KeysOK progs ∧
    (r.2.filter (fun l => l.kind = .vstore ∧ l.index = 1)).length = 2 ∧
    r.1.thr.map (·.results) = [[.inserted 1], [.inserted 1]] ∧
    r.1.used = 2 ∧ claimed r.1.keys = 0 := by decide +kernel

/-- the `h64` hash: `hash 3 3 h64 ; i 42 7 , g 42 , g 43 ; i 42 8 ; sched 0 1 0 1 0 0 0 0 0 0 0`;
`hash64bit 42 % 8 = 2`, `hash64bit 43 % 8 = 5` -/
example :
    let cfg : Cfg := ⟨3, 3, hashNat⟩
    let s := (run cfg (init cfg [[.ins 42 7, .get 42, .get 43], [.ins 42 8]])
      [0, 1, 0, 1, 0, 0, 0, 0, 0, 0, 0]).1
    s.keys.getD 2 kOpen = 42 ∧ s.vals.getD 2 0 = 7 ∧ quiescent s = true ∧
      s.thr.map (·.results) = [[.inserted 2, .got 1 2 7, .got 0 5 0], [.present 2]] := by decide +kernel

end MV.HashT
