import MV.Proof.HalfedgeSoupC
/-!
C09b, part D: `CheckHalfedges` / `IsManifold` as checked code: it never reads out of range on an
output of `createHalfedges` (every `paired` entry is `-1` or a halfedge index), and it returns
`true` exactly when `PairInv` holds.
-/
namespace MV.Halfedge
open MV.Mesh List

theorem nextI_nat (e : Nat) : nextI (e : Int) = ((nextHalfedge e : Nat) : Int) := by
  unfold nextI nextHalfedge
  have : Int.tmod (e : Int) 3 = ((e % 3 : Nat) : Int) := (Int.ofNat_tmod e 3).symm
  rw [this]
  by_cases h : e % 3 = 2
  · simp only [h, if_true]; norm_cast; omega
  · have : ¬ ((e % 3 : Nat) : Int) = 2 := by omega
    simp only [h, this, if_false]; norm_cast

theorem rd_get! {x : Array Int} {n k : Nat} (hx : x.size = n) (h : k < n) :
    rd x (k : Int) = .ok x[k]! := rd_nat default (hx.symm ▸ h)

/-- `CheckHalfedges::operator()` evaluates without a fault and decides `GoodHalfedge` as soon as
`paired[e]` is `-1` or in range -/
theorem checkHalfedge_spec {o : Out} {n e : Nat} (hs : o.start.size = n) (hp : o.paired.size = n)
    (h3 : n % 3 = 0) (he : e < n)
    (hR : o.paired[e]! = -1 ∨ (0 ≤ o.paired[e]! ∧ o.paired[e]! < n)) :
    ∃ b, checkHalfedge o e = .ok b ∧ (b = true ↔ GoodHalfedge o.start o.paired e) := by
  have hn1 := next_lt h3 he
  have hn2 := next_lt h3 hn1
  have r0 := rd_get! hs he
  have r1 : rd o.start (nextI e) = .ok o.start[nextHalfedge e]! := by
    rw [nextI_nat]; exact rd_get! hs hn1
  have r2 := rd_get! hp he
  have r3 : rd o.start (nextI (nextI e)) = .ok o.start[nextHalfedge (nextHalfedge e)]! := by
    rw [nextI_nat, nextI_nat]; exact rd_get! hs hn2
  unfold checkHalfedge
  simp only [r0, r1, r2, r3, bind, Except.bind, pure, Except.pure]
  by_cases c1 : (o.start[e]! == -1 && o.start[nextHalfedge e]! == -1 && o.paired[e]! == -1) = true
  · simp only [c1, if_true]
    simp only [Bool.and_eq_true, beq_iff_eq] at c1
    exact ⟨true, rfl, fun _ => .inl ⟨c1.1.1, c1.1.2, c1.2⟩, fun _ => rfl⟩
  · simp only [c1, Bool.false_eq_true, if_false]
    have c1' : ¬ (o.start[e]! = -1 ∧ o.start[nextHalfedge e]! = -1 ∧ o.paired[e]! = -1) := by
      intro h; apply c1; simp [h.1, h.2.1, h.2.2]
    by_cases c2 : o.start[nextHalfedge e]! = -1
    · have c2b : (o.start[nextHalfedge e]! == -1) = true := by simp [c2]
      simp only [c2b, if_true]
      refine ⟨false, rfl, ⟨fun h => Bool.noConfusion h, ?_⟩⟩
      rintro (h | h)
      · exact absurd h c1'
      · exact absurd c2 h.1
    · have c2' : (o.start[nextHalfedge e]! == -1) = false := by simpa using c2
      simp only [c2', Bool.false_eq_true, if_false]
      by_cases c3 : o.start[nextHalfedge (nextHalfedge e)]! = -1
      · have c3b : (o.start[nextHalfedge (nextHalfedge e)]! == -1) = true := by simp [c3]
        simp only [c3b, if_true]
        refine ⟨false, rfl, ⟨fun h => Bool.noConfusion h, ?_⟩⟩
        rintro (h | h)
        · exact absurd h c1'
        · exact absurd c3 h.2.1
      · have c3' : (o.start[nextHalfedge (nextHalfedge e)]! == -1) = false := by simpa using c3
        simp only [c3', Bool.false_eq_true, if_false]
        by_cases c4 : o.paired[e]! = -1
        · have c4b : (o.paired[e]! == -1) = true := by simp [c4]
          simp only [c4b, if_true]
          refine ⟨false, rfl, ⟨fun h => Bool.noConfusion h, ?_⟩⟩
          rintro (h | h)
          · exact absurd h c1'
          · have := h.2.2.1; omega
        · have c4' : (o.paired[e]! == -1) = false := by simpa using c4
          simp only [c4', Bool.false_eq_true, if_false]
          obtain ⟨hp0, hpn⟩ := hR.resolve_left c4
          obtain ⟨q, hq⟩ := Int.eq_ofNat_of_zero_le hp0
          have hqn : q < n := by omega
          have r4 : rd o.paired o.paired[e]! = .ok o.paired[q]! := by rw [hq]; exact rd_get! hp hqn
          have r5 : rd o.start (nextI o.paired[e]!) = .ok o.start[nextHalfedge q]! := by
            rw [hq, nextI_nat]; exact rd_get! hs (next_lt h3 hqn)
          have r6 : rd o.start o.paired[e]! = .ok o.start[q]! := by rw [hq]; exact rd_get! hs hqn
          simp only [r4, r5, r6]
          refine ⟨_, rfl, ?_⟩
          have hq' : (o.paired[e]!).toNat = q := by omega
          unfold GoodHalfedge endOf
          simp only [hq', Bool.and_eq_true, beq_iff_eq, bne_iff_ne, ne_eq]
          constructor
          · rintro ⟨⟨⟨a1, a2⟩, a3⟩, a4⟩
            exact .inr ⟨c2, c3, hp0, by omega, a1, a2, a3, a4⟩
          · rintro (h | ⟨_, _, _, _, a1, a2, a3, a4⟩)
            · exact absurd h c1'
            · exact ⟨⟨⟨a1, a2⟩, a3⟩, a4⟩


/-- every `paired` entry is `-1` or a halfedge index: what makes `Pair(pair)`, `End(pair)`,
`Start(pair)` of `CheckHalfedges` safe -/
def PairRange (o : Out) : Prop :=
  ∀ e, e < o.start.size → o.paired[e]! = -1 ∨ (0 ≤ o.paired[e]! ∧ o.paired[e]! < o.start.size)

theorem allCheck_spec {o : Out} {n : Nat} (hs : o.start.size = n) (hp : o.paired.size = n)
    (h3 : n % 3 = 0) (hR : PairRange o) :
    ∀ (m e : Nat) (acc : Bool), e + m = n →
      ∃ b, allCheck o m e acc = .ok b ∧
        (b = true ↔ acc = true ∧ ∀ e', e ≤ e' → e' < n → GoodHalfedge o.start o.paired e')
  | 0, e, acc, hm => ⟨acc, rfl, by
      constructor
      · intro h; exact ⟨h, fun e' h1 h2 => by omega⟩
      · intro h; exact h.1⟩
  | m + 1, e, acc, hm => by
    have he : e < n := by omega
    obtain ⟨g, hg, hgi⟩ := checkHalfedge_spec hs hp h3 he (by have := hR e (by omega); rw [hs] at this; exact this)
    obtain ⟨b, hb, hbi⟩ := allCheck_spec hs hp h3 hR m (e + 1) (acc && g) (by omega)
    refine ⟨b, ?_, ?_⟩
    · rw [allCheck]; simp only [hg, bind, Except.bind]; exact hb
    · rw [hbi, Bool.and_eq_true, hgi]
      constructor
      · rintro ⟨⟨h1, h2⟩, h3'⟩
        refine ⟨h1, fun e' h4 h5 => ?_⟩
        by_cases h6 : e' = e
        · rw [h6]; exact h2
        · exact h3' e' (by omega) h5
      · rintro ⟨h1, h2⟩
        exact ⟨⟨h1, h2 e (Nat.le_refl e) he⟩, fun e' h4 h5 => h2 e' (by omega) h5⟩

/-- `Impl::IsManifold()` never faults under `PairRange` and decides `PairInv` -/
theorem isManifold_spec {o : Out} (hp : o.paired.size = o.start.size) (hR : PairRange o) :
    ∃ b, isManifold o = .ok b ∧ (b = true ↔ PairInv o.start o.paired) := by
  unfold isManifold PairInv
  by_cases h0 : o.start.size = 0
  · simp only [h0, if_true]
    exact ⟨true, rfl, by simp [hp, h0]⟩
  · simp only [h0, if_false]
    by_cases h3 : o.start.size % 3 = 0
    · have h3' : ¬ (o.start.size % 3 ≠ 0) := by simpa using h3
      simp only [h3', if_false]
      obtain ⟨b, hb, hbi⟩ := allCheck_spec rfl hp h3 hR o.start.size 0 true (by omega)
      refine ⟨b, hb, ?_⟩
      rw [hbi]
      constructor
      · rintro ⟨_, h⟩; exact ⟨hp.symm, h3, fun e he => h e (Nat.zero_le e) he⟩
      · rintro ⟨_, _, h⟩; exact ⟨rfl, fun e _ he => h e he⟩
    · have h3' : o.start.size % 3 ≠ 0 := h3
      rw [if_pos h3']
      exact ⟨false, rfl, ⟨fun h => Bool.noConfusion h, fun h => absurd h.2.1 h3⟩⟩

theorem SoupResult.pairRange {ts : List Tri} {s : St} {o : Out} (r : SoupResult ts s o) : PairRange o := by
  intro e he
  rw [r.ssize] at he ⊢
  cases hr : s.removed.getD e false
  · obtain ⟨_, _, e', he', _, _, h1, _⟩ := r.alive e he hr
    right; rw [get!_of h1]; omega
  · left; exact get!_of (r.dead e he hr).2.1

/-- removed halfedges are exactly the full tombstones once the gate has passed; kept halfedges carry
the input's directed edge and are paired with a kept halfedge carrying the reversed edge -/
theorem SoupResult.of_pairInv {ts : List Tri} {s : St} {o : Out} (r : SoupResult ts s o)
    (hpi : PairInv o.start o.paired) (e : Nat) (he : e < 3 * ts.length) :
    (s.removed.getD e false = true → Tomb o.start o.paired e ∧ s.removed.getD (nextHalfedge e) false = true) ∧
    (s.removed.getD e false = false → ¬ Tomb o.start o.paired e ∧
      s.removed.getD (nextHalfedge e) false = false ∧
      o.start[e]! = ((edgeAt ts e).1 : Int) ∧ endOf o.start e = ((edgeAt ts e).2 : Int) ∧
      ∃ e', e' < 3 * ts.length ∧ e' ≠ e ∧ s.removed.getD e' false = false ∧ o.paired[e]! = (e' : Int) ∧
        o.paired[e']! = (e : Int) ∧ edgeAt ts e' = ((edgeAt ts e).2, (edgeAt ts e).1)) := by
  have h3 : (3 * ts.length) % 3 = 0 := by omega
  have hne := next_lt h3 he
  have hg := hpi.2.2 e (by rw [r.ssize]; exact he)
  -- status of `next e` from the value of `start[next e]`
  have nextDead : o.start[nextHalfedge e]! = -1 → s.removed.getD (nextHalfedge e) false = true := by
    intro h
    cases hr : s.removed.getD (nextHalfedge e) false
    · have := get!_of (r.alive _ hne hr).1; rw [this] at h; omega
    · rfl
  have nextAlive : o.start[nextHalfedge e]! ≠ -1 → s.removed.getD (nextHalfedge e) false = false := by
    intro h
    cases hr : s.removed.getD (nextHalfedge e) false
    · rfl
    · exact absurd (get!_of (r.dead _ hne hr).1) h
  constructor
  · intro hr
    obtain ⟨d1, d2, _⟩ := r.dead e he hr
    rcases hg with ht | hg
    · exact ⟨ht, nextDead ht.2.1⟩
    · have := hg.2.2.1; rw [get!_of d2] at this; omega
  · intro hr
    obtain ⟨a1, _, e', he', hne', hr', p1, p2⟩ := r.alive e he hr
    have hs1 := get!_of a1
    have hnt : ¬ Tomb o.start o.paired e := by intro ht; have := ht.1; rw [hs1] at this; omega
    have hg := hg.resolve_left hnt
    have hna := nextAlive hg.1
    have hen : endOf o.start e = ((edgeAt ts e).2 : Int) := by
      unfold endOf
      rw [get!_of (r.alive _ hne hna).1]
      have := dirEdges_next (0, 0) ts e he
      unfold edgeAt; rw [this]
    refine ⟨hnt, hna, hs1, hen, e', he', hne', hr', get!_of p1, get!_of p2, ?_⟩
    -- the partner carries the reversed edge
    have hq : (o.paired[e]!).toNat = e' := by rw [get!_of p1]; simp
    have g1 := hg.2.2.2.2.2.2.1   -- start[e] = endOf (paired e)
    have g2 := hg.2.2.2.2.2.2.2   -- endOf e = start[paired e]
    rw [hq] at g1 g2
    obtain ⟨b1, _, _⟩ := r.alive e' he' hr'
    have hs1' := get!_of b1
    -- `next e'` is alive too (e' is not a tombstone and passes the gate)
    have hg' := hpi.2.2 e' (by rw [r.ssize]; exact he')
    have hnt' : ¬ Tomb o.start o.paired e' := by intro ht; have := ht.1; rw [hs1'] at this; omega
    have hg' := hg'.resolve_left hnt'
    have hne2 := next_lt h3 he'
    have hna' : s.removed.getD (nextHalfedge e') false = false := by
      cases hrr : s.removed.getD (nextHalfedge e') false
      · rfl
      · exact absurd (get!_of (r.dead _ hne2 hrr).1) hg'.1
    have hen' : endOf o.start e' = ((edgeAt ts e').2 : Int) := by
      unfold endOf
      rw [get!_of (r.alive _ hne2 hna').1]
      have := dirEdges_next (0, 0) ts e' he'
      unfold edgeAt; rw [this]
    rw [hs1, hen'] at g1
    rw [hen, hs1'] at g2
    apply Prod.ext
    · show (edgeAt ts e').1 = (edgeAt ts e).2; omega
    · show (edgeAt ts e').2 = (edgeAt ts e).1; omega

end MV.Halfedge
