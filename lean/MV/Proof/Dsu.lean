/-
The inductive invariant of the lock-free union-find (model: MV/Model/Dsu.lean) and its
preservation by every step of every thread.

One invariant `Inv`: the memory invariant, (I3) with its exception, and for every thread an
assertion at its program point (`At`), which also carries the chain of `findImpl`'s trail.  Every
atom of `At` is stable under the steps of the other threads (`Rely`), so one frame lemma
(`TInv.mono`) serves all threads that do not move; the moving thread needs one lemma for a load
and one for a CAS.
-/
import MV.Proof.DsuBase
import MV.Proof.ListArray

namespace MV.Dsu

/-- `E` is the ghost list of successful link CASes.
* `klt`   (I1) every non-trivial parent link strictly increases the key (rank ↑, then id ↓)
* `edge`  (I2a) every parent link stays inside a class of `Conn E`
* `uroot` (I2b) a class of `Conn E` contains at most one root -/
structure MemInv (n : Nat) (m : Mem) (E : List (Nat × Nat)) : Prop where
  len : m.length = n
  bound : ∀ i, i < n → par m i < n
  klt : ∀ i, i < n → par m i ≠ i → KLt m i (par m i)
  edge : ∀ i, i < n → Conn E i (par m i)
  uroot : ∀ a b, a < n → b < n → Conn E a b → par m a = a → par m b = b → a = b
  ebound : ∀ a b, (a, b) ∈ E → a < n ∧ b < n

/-- what every step guarantees about the memory, whoever performs it (the "monotone" facts
all thread-local knowledge is built from): ranks never decrease, a non-root stays a non-root
with the same rank, classes only grow. -/
structure Ext (m m' : Mem) (E E' : List (Nat × Nat)) : Prop where
  len : m'.length = m.length
  rkMono : ∀ i, rk m i ≤ rk m' i
  nonroot : ∀ i, par m i ≠ i → par m' i ≠ i ∧ rk m' i = rk m i
  links : ∀ a b, Conn E a b → Conn E' a b
  /-- a non-root's word changes only by path halving: same rank, and the new parent is an
  element of the same class with a strictly larger key (a FORMER ancestor; under
  concurrency it need not be a current ancestor any more) -/
  word : ∀ i, par m i ≠ i → rd m' i = rd m i ∨
    (rk m' i = rk m i ∧ Conn E (par m i) (par m' i) ∧ KLt m (par m i) (par m' i))

theorem Ext.refl (m : Mem) (E : List (Nat × Nat)) : Ext m m E E :=
  ⟨rfl, fun _ => Nat.le_refl _, fun _ h => ⟨h, rfl⟩, fun _ _ h => h, fun _ _ => .inl rfl⟩

theorem Ext.klt {m m' : Mem} {E E' : List (Nat × Nat)} (x : Ext m m' E E') {a b : Nat}
    (ha : par m a ≠ a) (h : KLt m a b) : KLt m' a b :=
  h.mono (x.nonroot a ha).2 (x.rkMono b)

def Op.Ok (n : Nat) : Op → Prop
  | .unite a b => a < n ∧ b < n
  | .find a => a < n
  | .same a b => a < n ∧ b < n

/-- what a completed operation's return value guarantees -/
def ResOk (E : List (Nat × Nat)) : Op → Nat → Prop
  | .unite a b, r => Conn E a b ∧ Conn E a r
  | .find a, r => Conn E a r
  | .same a b, r => (r = 1 → Conn E a b) ∧ r ≤ 1

structure TBase (n : Nat) (E : List (Nat × Nat)) (t : Thr) : Prop where
  progOk : ∀ op, op ∈ t.prog → op.Ok n
  resLen : t.results.length = t.opIdx
  idxLe : t.opIdx ≤ t.prog.length
  resOk : ∀ (j : Nat) op r, t.prog[j]? = some op → t.results[j]? = some r → ResOk E op r

theorem ResOk.mono {E E' : List (Nat × Nat)} (h : ∀ a b, Conn E a b → Conn E' a b) {op : Op}
    {r : Nat} (x : ResOk E op r) : ResOk E' op r := by
  cases op with
  | unite a b => exact ⟨h _ _ x.1, h _ _ x.2⟩
  | find a => exact h _ _ x
  | same a b => exact ⟨fun e => h _ _ (x.1 e), x.2⟩

theorem TBase.mono {n : Nat} {E E' : List (Nat × Nat)} (h : ∀ a b, Conn E a b → Conn E' a b)
    {t : Thr} (x : TBase n E t) : TBase n E' t :=
  ⟨x.progOk, x.resLen, x.idxLe, fun j op r h1 h2 => (x.resOk j op r h1 h2).mono h⟩

theorem curOp_mem {t : Thr} {op : Op} (h : t.curOp = some op) : op ∈ t.prog :=
  List.mem_of_getElem? h

theorem curOp_of_unfinished {t : Thr} (h : t.finished = false) : ∃ op, t.curOp = some op := by
  unfold Thr.finished at h
  cases hc : t.curOp with
  | none => rw [hc] at h; cases h
  | some op => exact ⟨op, rfl⟩

theorem TBase.of_eq {n : Nat} {E : List (Nat × Nat)} {t t' : Thr} (hb : TBase n E t)
    (hp : t'.prog = t.prog) (hi : t'.opIdx = t.opIdx) (hr : t'.results = t.results) :
    TBase n E t' :=
  ⟨hp ▸ hb.progOk, by rw [hr, hi]; exact hb.resLen, by rw [hp, hi]; exact hb.idxLe,
    by rw [hp, hr]; exact hb.resOk⟩

theorem TBase.finish {n : Nat} {E : List (Nat × Nat)} {t : Thr} {op : Op} {ret : Nat}
    (hb : TBase n E t) (hc : t.curOp = some op)
    (hr : ResOk E op ret) :
    TBase n E { t with opIdx := t.opIdx + 1, results := t.results ++ [ret] } := by
  have hlt : t.opIdx < t.prog.length := (List.getElem?_eq_some_iff.1 hc).1
  refine ⟨hb.progOk, by simp [hb.resLen], hlt, fun j op' r h1 h2 => ?_⟩
  rcases (getElem?_snoc _ _ _ _).mp h2 with h2 | ⟨e, rfl⟩
  · exact hb.resOk j op' r h1 h2
  · rw [e, hb.resLen] at h1
    have : t.curOp = some op' := h1
    rw [hc] at this; cases this; exact hr

def FindPc : PC → Prop
  | .fLoadP | .fLoadV | .fLoadNP | .fCas => True
  | _ => False

/-- `trail = [v_k, …, v_0]` (newest first) followed by `id`: every `v` is a non-root `< n`
and `v_0 < v_1 < … < v_k < id` in the key order -/
def Chain (n : Nat) (m : Mem) : List Nat → Nat → Prop
  | [], _ => True
  | x :: rest, id => x < n ∧ par m x ≠ x ∧ KLt m x id ∧ Chain n m rest x

theorem Chain.mono {n : Nat} {m m' : Mem} {E E' : List (Nat × Nat)} (x : Ext m m' E E') :
    ∀ {l : List Nat} {id : Nat}, Chain n m l id → Chain n m' l id
  | [], _, _ => trivial
  | _ :: _, _, ⟨h1, h2, h3, h4⟩ => ⟨h1, (x.nonroot _ h2).1, x.klt h2 h3, Chain.mono x h4⟩

theorem par_wr (m : Mem) (i j : Nat) (w : Word) (h : i < m.length) :
    par (wr m i w) j = if i = j then w.parent else par m j := by
  unfold par; rw [rd_wr]; by_cases e : i = j
  · subst e; simp [h]
  · simp [e]

theorem rk_wr (m : Mem) (i j : Nat) (w : Word) (h : i < m.length) :
    rk (wr m i w) j = if i = j then w.rank else rk m j := by
  unfold rk; rw [rd_wr]; by_cases e : i = j
  · subst e; simp [h]
  · simp [e]

/-- a write after which `j` has the new parent `g` is a write to `j` -/
theorem par_wr_new {m : Mem} {i j g : Nat} {w : Word} (h : i < m.length)
    (hp : par (wr m i w) j = g) (hold : par m j ≠ g) : i = j ∧ w.parent = g := by
  rw [par_wr _ _ _ _ h] at hp
  split at hp
  · exact ⟨‹_›, hp⟩
  · exact (hold hp).elim

/-- path halving: `mData[id]: (rk, p) → (rk, g)` -/
theorem halve_mem {n : Nat} {m : Mem} {E : List (Nat × Nat)} {id g : Nat} {v : Word}
    (hm : MemInv n m E) (hid : id < n) (hrd : rd m id = v) (hnr : par m id ≠ id) (hg : g < n)
    (hc : Conn E v.parent g) (hk : KLt m v.parent g) :
    MemInv n (wr m id ⟨v.rank, g⟩) E ∧ Ext m (wr m id ⟨v.rank, g⟩) E E ∧
      (∀ j, rk (wr m id ⟨v.rank, g⟩) j = rk m j) ∧
      (∀ j, par (wr m id ⟨v.rank, g⟩) j = j ↔ par m j = j) := by
  have hlen : id < m.length := hm.len ▸ hid
  have hp : par m id = v.parent := by unfold par; rw [hrd]
  have hr : rk m id = v.rank := by unfold rk; rw [hrd]
  have hrk : ∀ j, rk (wr m id ⟨v.rank, g⟩) j = rk m j := by
    intro j; rw [rk_wr _ _ _ _ hlen]; by_cases e : id = j
    · subst e; simp [hr]
    · simp [e]
  have hkl : ∀ a b, KLt (wr m id ⟨v.rank, g⟩) a b ↔ KLt m a b := by
    intro a b; unfold KLt; rw [hrk, hrk]
  have hidg : KLt m id g := (hp ▸ hm.klt id hid hnr : KLt m id v.parent).trans hk
  have hne : g ≠ id := fun e => hidg.ne e.symm
  have hpar : ∀ j, par (wr m id ⟨v.rank, g⟩) j = if id = j then g else par m j := by
    intro j; rw [par_wr _ _ _ _ hlen]
  have hroot : ∀ j, par (wr m id ⟨v.rank, g⟩) j = j ↔ par m j = j := by
    intro j; rw [hpar]; by_cases e : id = j
    · subst e; simp [hne, hnr]
    · simp [e]
  refine ⟨⟨by simp [hm.len], ?_, ?_, ?_, ?_, hm.ebound⟩, ⟨by simp, ?_, ?_, fun _ _ h => h, ?_⟩,
    hrk, hroot⟩
  · intro j hj; rw [hpar]; by_cases e : id = j
    · simp [e, hg]
    · simp [e, hm.bound j hj]
  · intro j hj; rw [hpar, hkl]; by_cases e : id = j
    · subst e; simp [hidg]
    · simp only [e, if_false]; exact hm.klt j hj
  · intro j hj; rw [hpar]; by_cases e : id = j
    · subst e; simp only [if_true]
      exact ((hp ▸ hm.edge id hid : Conn E id v.parent)).trans hc
    · simp only [e, if_false]; exact hm.edge j hj
  · intro a b ha hb hab ra rb
    exact hm.uroot a b ha hb hab ((hroot a).1 ra) ((hroot b).1 rb)
  · intro j; rw [hrk]; exact Nat.le_refl _
  · intro j hj; exact ⟨fun e => hj ((hroot j).1 e), hrk j⟩
  · intro j _; by_cases e : id = j
    · subst e; right; refine ⟨hrk _, ?_, ?_⟩
      · rw [hpar, hp]; simpa using hc
      · rw [hpar, hp]; simpa using hk
    · left; exact rd_wr_ne _ _ _ _ e

/-- link: `mData[i]: (r, i) → (r, j)` -/
theorem link_mem {n : Nat} {m : Mem} {E : List (Nat × Nat)} {i j r r2 : Nat}
    (hm : MemInv n m E) (hi : i < n) (hj : j < n) (hrd : rd m i = ⟨r, i⟩) (hne : i ≠ j)
    (h2 : r2 ≤ rk m j) (hlt : r < r2 ∨ (r = r2 ∧ j < i)) :
    MemInv n (wr m i ⟨r, j⟩) ((i, j) :: E) ∧ Ext m (wr m i ⟨r, j⟩) E ((i, j) :: E) := by
  have hlen : i < m.length := hm.len ▸ hi
  have hp : par m i = i := by unfold par; rw [hrd]
  have hr : rk m i = r := by unfold rk; rw [hrd]
  have hrk : ∀ x, rk (wr m i ⟨r, j⟩) x = rk m x := by
    intro x; rw [rk_wr _ _ _ _ hlen]; by_cases e : i = x
    · subst e; simp [hr]
    · simp [e]
  have hkl : ∀ a b, KLt (wr m i ⟨r, j⟩) a b ↔ KLt m a b := by
    intro a b; unfold KLt; rw [hrk, hrk]
  have hpar : ∀ x, par (wr m i ⟨r, j⟩) x = if i = x then j else par m x := by
    intro x; rw [par_wr _ _ _ _ hlen]
  refine ⟨⟨by simp [hm.len], ?_, ?_, ?_, ?_, ?_⟩, ⟨by simp, ?_, ?_, fun _ _ h => h.cons, ?_⟩⟩
  · intro x hx; rw [hpar]; by_cases e : i = x
    · simp [e, hj]
    · simp [e, hm.bound x hx]
  · intro x hx; rw [hpar, hkl]; by_cases e : i = x
    · subst e; simp only [if_true]; intro _; unfold KLt; rw [hr]; omega
    · simp only [e, if_false]; exact hm.klt x hx
  · intro x hx; rw [hpar]; by_cases e : i = x
    · subst e; simp only [if_true]; exact .base (List.mem_cons_self ..)
    · simp only [e, if_false]; exact (hm.edge x hx).cons
  · intro a b ha hb hab ra rb
    rw [hpar] at ra rb
    have hai : i ≠ a := by intro e; subst e; simp at ra; exact hne ra.symm
    have hbi : i ≠ b := by intro e; subst e; simp at rb; exact hne rb.symm
    simp only [hai, hbi, if_false] at ra rb
    rcases hab.cons_cases with h | ⟨h1, _⟩ | ⟨_, h2'⟩
    · exact hm.uroot a b ha hb h ra rb
    · exact (hai (hm.uroot a i ha hi h1 ra hp).symm).elim
    · exact (hbi (hm.uroot i b hi hb h2' hp rb)).elim
  · intro a b hab
    rcases List.mem_cons.1 hab with h | h
    · cases h; exact ⟨hi, hj⟩
    · exact hm.ebound a b h
  · intro x; rw [hrk]; exact Nat.le_refl _
  · intro x hx; refine ⟨?_, hrk x⟩
    rw [hpar]; by_cases e : i = x
    · subst e; exact (hx hp).elim
    · simp only [e, if_false]; exact hx
  · intro x hx; left; apply rd_wr_ne; intro e; subst e; exact hx hp

/-- rank bump: `mData[j]: (r, j) → (r+1, j)` -/
theorem bump_mem {n : Nat} {m : Mem} {E : List (Nat × Nat)} {j r : Nat}
    (hm : MemInv n m E) (hj : j < n) (hrd : rd m j = ⟨r, j⟩) :
    MemInv n (wr m j ⟨r + 1, j⟩) E ∧ Ext m (wr m j ⟨r + 1, j⟩) E E := by
  have hlen : j < m.length := hm.len ▸ hj
  have hp : par m j = j := by unfold par; rw [hrd]
  have hr : rk m j = r := by unfold rk; rw [hrd]
  have hpar : ∀ x, par (wr m j ⟨r + 1, j⟩) x = par m x := by
    intro x; rw [par_wr _ _ _ _ hlen]; by_cases e : j = x
    · subst e; simp [hp]
    · simp [e]
  have hrk : ∀ x, rk (wr m j ⟨r + 1, j⟩) x = if j = x then r + 1 else rk m x := by
    intro x; rw [rk_wr _ _ _ _ hlen]
  have hmono : ∀ x, rk m x ≤ rk (wr m j ⟨r + 1, j⟩) x := by
    intro x; rw [hrk]; by_cases e : j = x
    · subst e; simp [hr]
    · simp [e]
  have hsame : ∀ x, par m x ≠ x → rk (wr m j ⟨r + 1, j⟩) x = rk m x := by
    intro x hx; rw [hrk]; by_cases e : j = x
    · subst e; exact (hx hp).elim
    · simp [e]
  refine ⟨⟨by simp [hm.len], ?_, ?_, ?_, ?_, hm.ebound⟩, ⟨by simp, hmono, ?_, fun _ _ h => h, ?_⟩⟩
  · intro x hx; rw [hpar]; exact hm.bound x hx
  · intro x hx; rw [hpar]; intro hnr
    exact (hm.klt x hx hnr).mono (hsame x hnr) (hmono _)
  · intro x hx; rw [hpar]; exact hm.edge x hx
  · intro a b ha hb hab ra rb
    rw [hpar] at ra rb
    exact hm.uroot a b ha hb hab ra rb
  · intro x hx; exact ⟨by rw [hpar]; exact hx, hsame x hx⟩
  · intro x hx; left; apply rd_wr_ne; intro e; subst e; exact hx hp

theorem step_idle {s : State} {tid : Nat} {sp : Bool}
    (h : s.thr[tid]? = none ∨ ∃ t, s.thr[tid]? = some t ∧ t.finished = true) :
    (step s tid sp).1 = s := by
  unfold step
  rcases h with h | ⟨t, h, hf⟩
  · rw [h]
  · rw [h]; dsimp only; rw [if_pos hf]

/-- what the atomic operation of thread `t` does to the memory and to the ghost links: nothing
(a load or a failed CAS), or one of the three successful CASes -/
inductive Effect (s : State) (t : Thr) : Bool → Mem → List (Nat × Nat) → Prop
  | none : (t.pc = .uRankCas → rd s.mem t.id2 ≠ ⟨t.r2, t.id2⟩) → Effect s t false s.mem s.links
  | halve : t.pc = .fCas → rd s.mem t.id = t.value →
      Effect s t true (wr s.mem t.id ⟨t.value.rank, t.np⟩) s.links
  | link : t.pc = .uLink → rd s.mem t.id1 = ⟨t.r1, t.id1⟩ →
      Effect s t true (wr s.mem t.id1 ⟨t.r1, t.id2⟩) ((t.id1, t.id2) :: s.links)
  | bump : t.pc = .uRankCas → rd s.mem t.id2 = ⟨t.r2, t.id2⟩ →
      Effect s t true (wr s.mem t.id2 ⟨t.r2 + 1, t.id2⟩) s.links

/-- a step changes nothing (no such thread, or it has finished), or an unfinished thread `t`
continues with `t.next w ok`, where `w` is the word a load returns -/
theorem step_cases (s : State) (tid : Nat) (sp : Bool) :
    (step s tid sp).1 = s ∨
    ∃ t op w ok m' E', s.thr[tid]? = some t ∧ t.finished = false ∧ t.curOp = some op ∧
      (∀ i, t.memOp = .load i → w = rd s.mem i) ∧ Effect s t ok m' E' ∧
      (step s tid sp).1 = ⟨m', s.thr.set tid (t.next w ok), E'⟩ := by
  cases hget : s.thr[tid]? with
  | none => exact .inl (step_idle (.inl hget))
  | some t =>
  cases hfin : t.finished with
  | true => exact .inl (step_idle (.inr ⟨t, hget, hfin⟩))
  | false =>
  obtain ⟨op, hc⟩ := curOp_of_unfinished hfin
  suffices h : ∃ w ok m' E', (∀ i, t.memOp = .load i → w = rd s.mem i) ∧ Effect s t ok m' E' ∧
      (step s tid sp).1 = ⟨m', s.thr.set tid (t.next w ok), E'⟩ from
    let ⟨w, ok, m', E', h⟩ := h; .inr ⟨t, op, w, ok, m', E', rfl, hfin, hc, h⟩
  unfold step
  rw [hget]; dsimp only
  rw [if_neg (by simp [hfin])]
  cases hm : t.memOp with
  | load i =>
    refine ⟨_, false, _, _, (fun j h => by cases h; rfl), .none fun h => ?_, rfl⟩
    rw [Thr.memOp, h] at hm; cases hm
  | cas i exp des weak =>
    dsimp only
    generalize hok : (!(weak && sp) && decide (rd s.mem i = exp)) = ok
    have hrd : ok = true → rd s.mem i = exp := by
      rintro rfl; simp only [Bool.and_eq_true, decide_eq_true_eq] at hok; exact hok.2
    have hstrong : weak = false → ok = false → rd s.mem i ≠ exp := by
      rintro rfl rfl; simpa using hok
    refine ⟨rd s.mem i, ok, _, _, (fun j h => by cases h), ?_, rfl⟩
    cases hpc : t.pc <;> rw [Thr.memOp, hpc] at hm <;> cases hm
    · cases ok with
      | true => simpa using Effect.halve hpc (hrd rfl)
      | false => simpa using Effect.none (s := s) (t := t) fun h => by rw [hpc] at h; cases h
    · cases ok with
      | true => simpa [hpc] using Effect.link hpc (hrd rfl)
      | false => simpa using Effect.none (s := s) (t := t) fun h => by rw [hpc] at h; cases h
    · cases ok with
      | true => simpa [hpc] using Effect.bump hpc (hrd rfl)
      | false => simpa [hpc] using Effect.none (s := s) (t := t) fun _ => hstrong rfl rfl

/-! ## (I3) "a rank-0 root has no children"

As a plain state invariant this is FALSE: between the link CAS and the rank CAS of `unite` the
new parent is a rank-0 root with a child (`dsu_I3_transient_violation` in MV/Props/C13c.lean).
What is invariant is the version with that window as the only exception (`Inv.child`): a rank-0
root with a child has a thread sitting on the rank CAS for it with `r2 = 0`; that CAS is strong,
so it succeeds unless the root stopped being a rank-0 root.  At quiescence no thread is pending,
hence (I3) holds and the `connectedComponents` shortcut is sound.  (The "retry if rank = 0" loop
in `unite` plays no role in this: after a successful link the retry finds `id1` and `id2` in one
tree and returns.) -/

/-- some thread is about to execute the rank CAS `(0, g) → (1, g)` -/
def Pending (s : State) (g : Nat) : Prop :=
  ∃ (tid : Nat) (t : Thr), s.thr[tid]? = some t ∧ t.finished = false ∧ t.pc = .uRankCas ∧
    t.id2 = g ∧ t.r2 = 0

/-- if `g` is a rank-0 root then its rank bump is pending -/
def P3 (s : State) (g : Nat) : Prop := par s.mem g = g → rk s.mem g = 0 → Pending s g

/-- the element whose class the current `findImpl` call searches -/
def Thr.tgt (t : Thr) : Nat :=
  match t.k with
  | .unite2 | .same2 => t.id2
  | _ => t.id1

/-- the continuation of `findImpl` belongs to the operation -/
def KOk : K → Op → Prop
  | .find, .find _ | .unite1, .unite _ _ | .unite2, .unite _ _ | .same1, .same _ _
  | .same2, .same _ _ => True
  | _, _ => False

/-- `id1`, `id2` lie in the classes of the operation's arguments -/
def IdsOk (n : Nat) (E : List (Nat × Nat)) (i1 i2 : Nat) : Op → Prop
  | .find a => i1 < n ∧ Conn E i1 a
  | .unite a b => i1 < n ∧ i2 < n ∧ ((Conn E i1 a ∧ Conn E i2 b) ∨ (Conn E i1 b ∧ Conn E i2 a))
  | .same a b => i1 < n ∧ i2 < n ∧ Conn E i1 a ∧ Conn E i2 b

/-- inside `findImpl`: `id` is in the class searched, and the earlier values of `id` form a chain
of non-roots below it -/
@[reducible] def Find (n : Nat) (m : Mem) (E : List (Nat × Nat)) (t : Thr) (op : Op) : Prop :=
  KOk t.k op ∧ t.id < n ∧ Conn E t.id t.tgt ∧ Chain n m t.trail t.id

/-- `value` was read from the non-root `id` -/
@[reducible] def Seen (n : Nat) (m : Mem) (E : List (Nat × Nat)) (t : Thr) : Prop :=
  par m t.id ≠ t.id ∧ t.value.parent < n ∧ Conn E t.id t.value.parent ∧ KLt m t.id t.value.parent

/-- what thread `t`, executing `op`, knows at each program point.  `Q g`: if `g` is a rank-0
root then its rank bump is pending (`P3`). -/
def At (n : Nat) (m : Mem) (E : List (Nat × Nat)) (Q : Nat → Prop) (t : Thr) (op : Op) :
    PC → Prop
  | .fLoadP => Find n m E t op
  | .fLoadV => Find n m E t op ∧ par m t.id ≠ t.id
  | .fLoadNP => Find n m E t op ∧ Seen n m E t
  | .fCas => Find n m E t op ∧ Seen n m E t ∧ t.np < n ∧ Conn E t.value.parent t.np ∧
      par m t.value.parent ≠ t.value.parent ∧ KLt m t.value.parent t.np ∧ Q t.np
  | .uRank1 => (∃ a b, op = .unite a b) ∧ t.id1 ≠ t.id2
  | .uRank2 => (∃ a b, op = .unite a b) ∧ t.id1 ≠ t.id2 ∧ t.r1 ≤ rk m t.id1
  | .uLink => (∃ a b, op = .unite a b) ∧ t.id1 ≠ t.id2 ∧ t.r1 ≤ rk m t.id1 ∧
      t.r2 ≤ rk m t.id2 ∧ (t.r1 < t.r2 ∨ (t.r1 = t.r2 ∧ t.id2 < t.id1))
  | .uRankCas => (∃ a b, op = .unite a b) ∧ Conn E t.id1 t.id2
  | .sLoadP => ∃ a b, op = .same a b

structure TInv (n : Nat) (m : Mem) (E : List (Nat × Nat)) (Q : Nat → Prop) (t : Thr) : Prop where
  base : TBase n E t
  cur : ∀ op, t.curOp = some op → IdsOk n E t.id1 t.id2 op ∧ At n m E Q t op t.pc

structure Inv (n : Nat) (s : State) : Prop where
  mem : MemInv n s.mem s.links
  thr : ∀ (tid : Nat) t, s.thr[tid]? = some t → TInv n s.mem s.links (P3 s) t
  /-- (I3) with its only exception -/
  child : ∀ g j, g < n → j < n → j ≠ g → par s.mem j = g → P3 s g

/-- what a step guarantees to the threads that do not move -/
structure Rely (s s' : State) : Prop where
  ext : Ext s.mem s'.mem s.links s'.links
  p3 : ∀ g, P3 s g → P3 s' g

theorem IdsOk.mono {n : Nat} {E E' : List (Nat × Nat)} (h : ∀ a b, Conn E a b → Conn E' a b)
    {i1 i2 : Nat} {op : Op} (x : IdsOk n E i1 i2 op) : IdsOk n E' i1 i2 op := by
  cases op with
  | find a => exact ⟨x.1, h _ _ x.2⟩
  | unite a b => exact ⟨x.1, x.2.1, x.2.2.imp (.imp (h _ _) (h _ _)) (.imp (h _ _) (h _ _))⟩
  | same a b => exact ⟨x.1, x.2.1, h _ _ x.2.2.1, h _ _ x.2.2.2⟩

theorem Find.mono {n : Nat} {m m' : Mem} {E E' : List (Nat × Nat)} (x : Ext m m' E E') {t : Thr}
    {op : Op} (f : Find n m E t op) : Find n m' E' t op :=
  ⟨f.1, f.2.1, x.links _ _ f.2.2.1, f.2.2.2.mono x⟩

theorem Seen.mono {n : Nat} {m m' : Mem} {E E' : List (Nat × Nat)} (x : Ext m m' E E') {t : Thr}
    (f : Seen n m E t) : Seen n m' E' t :=
  ⟨(x.nonroot _ f.1).1, f.2.1, x.links _ _ f.2.2.1, x.klt f.1 f.2.2.2⟩

theorem At.mono {n : Nat} {m m' : Mem} {E E' : List (Nat × Nat)} {Q Q' : Nat → Prop}
    (x : Ext m m' E E') (hQ : ∀ g, Q g → Q' g) {t : Thr} {op : Op} :
    ∀ {pc : PC}, At n m E Q t op pc → At n m' E' Q' t op pc
  | .fLoadP, f => Find.mono x f
  | .fLoadV, ⟨f, h⟩ => ⟨Find.mono x f, (x.nonroot _ h).1⟩
  | .fLoadNP, ⟨f, v⟩ => ⟨Find.mono x f, Seen.mono x v⟩
  | .fCas, ⟨f, v, a, b, c, d, q⟩ =>
    ⟨Find.mono x f, Seen.mono x v, a, x.links _ _ b, (x.nonroot _ c).1, x.klt c d, hQ _ q⟩
  | .uRank1, h => h
  | .uRank2, ⟨u, a, b⟩ => ⟨u, a, Nat.le_trans b (x.rkMono _)⟩
  | .uLink, ⟨u, a, b, c, d⟩ => ⟨u, a, Nat.le_trans b (x.rkMono _), Nat.le_trans c (x.rkMono _), d⟩
  | .uRankCas, ⟨u, c⟩ => ⟨u, x.links _ _ c⟩
  | .sLoadP, h => h

theorem TInv.mono {n : Nat} {m m' : Mem} {E E' : List (Nat × Nat)} {Q Q' : Nat → Prop}
    (x : Ext m m' E E') (hQ : ∀ g, Q g → Q' g) {t : Thr} (h : TInv n m E Q t) :
    TInv n m' E' Q' t :=
  ⟨h.base.mono x.links, fun op hc => ⟨(h.cur op hc).1.mono x.links, (h.cur op hc).2.mono x hQ⟩⟩

variable {n : Nat} {m : Mem} {E : List (Nat × Nat)} {Q : Nat → Prop} {t : Thr} {op : Op}

/-- a thread that keeps program, position and results stays inside the same operation -/
theorem TInv.of_cur {t' : Thr} (hb : TBase n E t) (hp : t'.prog = t.prog)
    (hi : t'.opIdx = t.opIdx) (hr : t'.results = t.results) (hc : t.curOp = some op)
    (h : IdsOk n E t'.id1 t'.id2 op ∧ At n m E Q t' op t'.pc) : TInv n m E Q t' := by
  refine ⟨hb.of_eq hp hi hr, fun op' hc' => ?_⟩
  have : t.curOp = some op' := by unfold Thr.curOp at hc' ⊢; rw [← hp, ← hi]; exact hc'
  rw [hc] at this; cases this; exact h

theorem startOp_inv (hb : TBase n E t) : TInv n m E Q t.startOp := by
  unfold Thr.startOp
  cases hc : t.curOp with
  | none => exact ⟨hb, fun op h => by rw [hc] at h; cases h⟩
  | some op =>
    have hok := hb.progOk op (curOp_mem hc)
    cases op with
    | unite a b =>
      exact .of_cur hb rfl rfl rfl hc
        ⟨⟨hok.1, hok.2, .inl ⟨.refl _, .refl _⟩⟩, trivial, hok.1, .refl _, trivial⟩
    | find a => exact .of_cur hb rfl rfl rfl hc ⟨⟨hok, .refl _⟩, trivial, hok, .refl _, trivial⟩
    | same a b =>
      exact .of_cur hb rfl rfl rfl hc
        ⟨⟨hok.1, hok.2, .refl _, .refl _⟩, trivial, hok.1, .refl _, trivial⟩

theorem finishOp_inv {ret : Nat} (hb : TBase n E t) (hc : t.curOp = some op)
    (hr : ResOk E op ret) : TInv n m E Q (t.finishOp ret) :=
  startOp_inv (hb.finish hc hr)

/-- `findImpl` returns its current `id` -/
theorem findRet_inv (hb : TBase n E t) (hc : t.curOp = some op)
    (hi : IdsOk n E t.id1 t.id2 op) (f : Find n m E t op) : TInv n m E Q (t.findRet t.id) := by
  obtain ⟨fk, f1, f2, _⟩ := f
  unfold Thr.tgt at f2
  unfold Thr.findRet
  cases hk : t.k <;> rw [hk] at fk f2 <;> cases op <;> try exact fk.elim
  all_goals dsimp only at f2 ⊢
  · exact finishOp_inv hb hc (hi.2.symm.trans f2.symm : Conn E _ t.id)
  · obtain ⟨_, a2, a3⟩ := hi
    exact .of_cur hb rfl rfl rfl hc ⟨⟨f1, a2, a3.imp (.imp_left f2.trans) (.imp_left f2.trans)⟩,
      trivial, a2, .refl _, trivial⟩
  · obtain ⟨a1, _, a3⟩ := hi
    split
    · rename_i heq
      refine finishOp_inv (t := { t with id2 := t.id, k := .unite2 }) (hb.of_eq rfl rfl rfl) hc ?_
      have c12 : Conn E t.id1 t.id2 := heq ▸ f2
      rcases a3 with ⟨c1, c2⟩ | ⟨c1, c2⟩
      · exact ⟨c1.symm.trans (c12.trans c2), c1.symm⟩
      · exact ⟨c2.symm.trans (c12.symm.trans c1), c2.symm.trans c12.symm⟩
    · rename_i hne
      exact .of_cur hb rfl rfl rfl hc
        ⟨⟨a1, f1, a3.imp (.imp_right f2.trans) (.imp_right f2.trans)⟩, ⟨_, _, rfl⟩, hne⟩
  · obtain ⟨_, a2, a3, a4⟩ := hi
    exact .of_cur hb rfl rfl rfl hc ⟨⟨f1, a2, f2.trans a3, a4⟩, trivial, a2, .refl _, trivial⟩
  · obtain ⟨a1, _, a3, a4⟩ := hi
    split
    · rename_i heq
      refine finishOp_inv (t := { t with id2 := t.id, k := .same2 }) (hb.of_eq rfl rfl rfl) hc ?_
      have c12 : Conn E t.id1 t.id2 := heq ▸ f2
      exact ⟨fun _ => a3.symm.trans (c12.trans a4), Nat.le_refl _⟩
    · exact .of_cur hb rfl rfl rfl hc ⟨⟨a1, f1, a3, f2.trans a4⟩, _, _, rfl⟩

/-- a load; `hch` is (I3) with its exception, used for the grandparent that `findImpl` reads -/
theorem next_load (hm : MemInv n m E)
    (hch : ∀ g j, g < n → j < n → j ≠ g → par m j = g → Q g)
    (hT : TInv n m E Q t) (hc : t.curOp = some op) {i : Nat} (hi : t.memOp = .load i)
    (ok : Bool) : TInv n m E Q (t.next (rd m i) ok) := by
  obtain ⟨ids, h⟩ := hT.cur op hc
  have hb := hT.base
  unfold Thr.memOp at hi
  unfold Thr.next
  cases hp : t.pc <;> rw [hp] at h hi <;> cases hi <;> dsimp only
  · split
    · exact findRet_inv hb hc ids h
    · rename_i hne
      exact .of_cur hb rfl rfl rfl hc ⟨ids, h, hne⟩
  · obtain ⟨f, nr⟩ := h
    exact .of_cur hb rfl rfl rfl hc
      ⟨ids, f, nr, hm.bound _ f.2.1, hm.edge _ f.2.1, hm.klt _ f.2.1 nr⟩
  · obtain ⟨⟨fk, fl, fc, fch⟩, nr, vl, vc, vk⟩ := h
    split
    · rename_i e
      exact .of_cur hb rfl rfl rfl hc ⟨ids, fk, hm.bound _ vl,
        (hm.edge _ vl).symm.trans (vc.symm.trans fc), fl, nr, by rw [e]; exact vk, fch⟩
    · rename_i hne
      exact .of_cur hb rfl rfl rfl hc ⟨ids, ⟨fk, fl, fc, fch⟩, ⟨nr, vl, vc, vk⟩,
        hm.bound _ vl, hm.edge _ vl, hne, hm.klt _ vl hne,
        hch _ _ (hm.bound _ vl) vl (fun e => hne e.symm) rfl⟩

  · obtain ⟨⟨a, b, rfl⟩, u⟩ := h
    exact .of_cur hb rfl rfl rfl hc ⟨ids, ⟨_, _, rfl⟩, u, Nat.le_refl _⟩
  · obtain ⟨⟨a, b, rfl⟩, u1, u2⟩ := h
    obtain ⟨h1, h2, ua⟩ := ids
    split
    · exact .of_cur hb rfl rfl rfl hc ⟨⟨h2, h1, ua.symm.imp And.symm And.symm⟩, ⟨_, _, rfl⟩,
        fun e => u1 e.symm, Nat.le_refl _, u2, by dsimp only; omega⟩
    · exact .of_cur hb rfl rfl rfl hc ⟨⟨h1, h2, ua⟩, ⟨_, _, rfl⟩, u1, u2, Nat.le_refl _,
        by dsimp only; omega⟩
  · obtain ⟨a, b, rfl⟩ := h
    split
    · exact finishOp_inv hb hc ⟨fun e => absurd e (by decide), by decide⟩
    · exact .of_cur hb rfl rfl rfl hc ⟨ids, trivial, ids.1, .refl _, trivial⟩

/-- a CAS, failed or not, after which the memory is `m'` and the links are `E'` -/
theorem next_cas {m' : Mem} {E' : List (Nat × Nat)} {Q' : Nat → Prop} (x : Ext m m' E E')
    (hQ : ∀ g, Q g → Q' g) (hT : TInv n m E Q t) (hc : t.curOp = some op) {i : Nat}
    {exp des : Word} {weak : Bool} (hi : t.memOp = .cas i exp des weak) (w : Word) (ok : Bool)
    (hl : t.pc = .uLink → ok = true → Conn E' t.id1 t.id2) : TInv n m' E' Q' (t.next w ok) := by
  obtain ⟨ids, h⟩ := (hT.mono x hQ).cur op hc
  have hb := (hT.mono x hQ).base
  unfold Thr.memOp at hi
  unfold Thr.next
  cases hp : t.pc <;> rw [hp] at h hi hl <;> cases hi <;> dsimp only
  · obtain ⟨⟨fk, fl, fc, fch⟩, ⟨nr, vl, vc, vk⟩, a, b, c, d, _⟩ := h
    exact .of_cur hb rfl rfl rfl hc
      ⟨ids, fk, a, b.symm.trans (vc.symm.trans fc), fl, nr, vk.trans d, fch⟩
  · obtain ⟨⟨a, b, rfl⟩, _⟩ := h
    obtain ⟨h1, h2, ua⟩ := ids
    cases ok
    · exact .of_cur hb rfl rfl rfl hc ⟨⟨h1, h2, ua⟩, trivial, h1, .refl _, trivial⟩
    · have c12 := hl rfl rfl
      rw [if_pos rfl]
      split
      · exact .of_cur hb rfl rfl rfl hc ⟨⟨h1, h2, ua⟩, ⟨_, _, rfl⟩, c12⟩
      · refine finishOp_inv hb hc ?_
        rcases ua with ⟨c1, c2⟩ | ⟨c1, c2⟩
        · exact ⟨c1.symm.trans (c12.trans c2), c1.symm.trans c12⟩
        · exact ⟨c2.symm.trans (c12.symm.trans c1), c2.symm⟩
  · obtain ⟨⟨a, b, rfl⟩, u⟩ := h
    obtain ⟨h1, h2, ua⟩ := ids
    split
    · exact .of_cur hb rfl rfl rfl hc ⟨⟨h1, h2, ua⟩, trivial, h1, .refl _, trivial⟩
    · refine finishOp_inv hb hc ?_
      rcases ua with ⟨c1, c2⟩ | ⟨c1, c2⟩
      · exact ⟨c1.symm.trans (u.trans c2), c1.symm.trans u⟩
      · exact ⟨c2.symm.trans (u.symm.trans c1), c2.symm⟩

/-- a pending rank bump stays pending until it succeeds: the rank CAS is strong -/
theorem P3.step {s : State} {tid : Nat} {t t' : Thr} {ok : Bool} {m' : Mem}
    {E' : List (Nat × Nat)} (hget : s.thr[tid]? = some t) (heff : Effect s t ok m' E')
    (x : Ext s.mem m' s.links E') (hlt : t.pc = .uRankCas → t.id2 < s.mem.length) {g : Nat}
    (h : P3 s g) : P3 ⟨m', s.thr.set tid t', E'⟩ g := by
  intro hroot hrk0
  have hroot0 : par s.mem g = g := Classical.byContradiction fun hn => (x.nonroot g hn).1 hroot
  have hrk00 : rk s.mem g = 0 := by have := x.rkMono g; dsimp only at hrk0; omega
  obtain ⟨tid0, t0, hget0, hfin0, hpc0, hid0, hr0⟩ := h hroot0 hrk00
  by_cases e : tid = tid0
  · subst e
    rw [hget] at hget0; cases hget0
    have hrd : rd s.mem g = ⟨0, g⟩ := by
      show (⟨rk s.mem g, par s.mem g⟩ : Word) = _
      rw [hrk00, hroot0]
    cases heff with
    | none hne => exact (hne hpc0 (by rw [hid0, hr0]; exact hrd)).elim
    | halve hp _ => rw [hpc0] at hp; cases hp
    | link hp _ => rw [hpc0] at hp; cases hp
    | bump _ _ =>
      dsimp only at hrk0
      rw [rk_wr _ _ _ _ (hlt hpc0), hid0] at hrk0
      simp at hrk0
  · exact ⟨tid0, t0, by dsimp only; rw [List.getElem?_set_ne e]; exact hget0, hfin0, hpc0, hid0, hr0⟩

theorem step_inv {s : State} (hI : Inv n s) (tid : Nat) (sp : Bool) :
    Inv n (step s tid sp).1 ∧ Rely s (step s tid sp).1 := by
  rcases step_cases s tid sp with e | ⟨t, op, w, ok, m', E', hget, hfin, hc, hw, heff, e⟩
  · rw [e]; exact ⟨hI, Ext.refl _ _, fun _ h => h⟩
  rw [e]
  have hT := hI.thr tid t hget
  obtain ⟨ids, h⟩ := hT.cur op hc
  have htid : tid < s.thr.length := (List.getElem?_eq_some_iff.1 hget).1
  obtain ⟨hm', x, hl⟩ : MemInv n m' E' ∧ Ext s.mem m' s.links E' ∧
      (t.pc = .uLink → ok = true → Conn E' t.id1 t.id2) := by
    cases heff with
    | none => exact ⟨hI.mem, Ext.refl _ _, fun _ h => by cases h⟩
    | halve hpc hrd =>
      rw [hpc] at h
      obtain ⟨⟨_, fl, _⟩, ⟨nr, _⟩, a, b, _, d, _⟩ := h
      obtain ⟨hm', x, _⟩ := halve_mem hI.mem fl hrd nr a b d
      exact ⟨hm', x, fun h => by rw [hpc] at h; cases h⟩
    | link hpc hrd =>
      rw [hpc] at h
      obtain ⟨⟨a, b, rfl⟩, u1, _, u3, u4⟩ := h
      obtain ⟨hm', x⟩ := link_mem hI.mem ids.1 ids.2.1 hrd u1 u3 u4
      exact ⟨hm', x, fun _ _ => .base (List.mem_cons_self ..)⟩
    | bump hpc hrd =>
      rw [hpc] at h
      obtain ⟨⟨a, b, rfl⟩, _⟩ := h
      obtain ⟨hm', x⟩ := bump_mem hI.mem ids.2.1 hrd
      exact ⟨hm', x, fun h => by rw [hpc] at h; cases h⟩
  have hp3 : ∀ g, P3 s g → P3 ⟨m', s.thr.set tid (t.next w ok), E'⟩ g := fun g =>
    P3.step hget heff x fun hpc => by
      rw [hpc] at h; obtain ⟨⟨a, b, rfl⟩, _⟩ := h; exact hI.mem.len ▸ ids.2.1
  have ht' : TInv n m' E' (P3 ⟨m', s.thr.set tid (t.next w ok), E'⟩) (t.next w ok) := by
    cases hmo : t.memOp with
    | load i => obtain rfl := hw i hmo; exact (next_load hI.mem hI.child hT hc hmo ok).mono x hp3
    | cas i exp des weak => exact next_cas x hp3 hT hc hmo w ok hl
  refine ⟨⟨hm', fun tid2 t2 h2 => ?_, fun g j hg hj hjg hpar => ?_⟩, x, hp3⟩
  · dsimp only at h2
    by_cases e2 : tid = tid2
    · subst e2; rw [List.getElem?_set_self htid] at h2; cases h2; exact ht'
    · rw [List.getElem?_set_ne e2] at h2; exact (hI.thr tid2 t2 h2).mono x hp3
  · by_cases hold : par s.mem j = g
    · exact hp3 g (hI.child g j hg hj hjg hold)
    dsimp only at hpar
    cases heff with
    | none _ => exact (hold hpar).elim
    | halve hpc _ =>
      rw [hpc] at h
      obtain ⟨⟨_, fl, _⟩, _, _, _, _, _, q⟩ := h
      obtain ⟨rfl, rfl⟩ := par_wr_new (hI.mem.len ▸ fl) hpar hold
      exact hp3 _ q
    | link hpc _ =>
      -- `j = t.id1`, `g = t.id2`: the linking thread itself is now pending on `g`
      rw [hpc] at h
      obtain ⟨⟨a, b, rfl⟩, _, _, u3, u4⟩ := h
      obtain ⟨rfl, rfl⟩ := par_wr_new (hI.mem.len ▸ ids.1) hpar hold
      intro _ hrk0
      have hr2 : t.r2 = 0 := by have := x.rkMono t.id2; dsimp only at hrk0; omega
      have hr12 : t.r1 = t.r2 := by omega
      have hn : t.next w true = { t with pc := .uRankCas } := by
        unfold Thr.next; rw [hpc]; dsimp only; rw [if_pos rfl, if_pos hr12]
      refine ⟨tid, t.next w true, List.getElem?_set_self htid, ?_⟩
      rw [hn]; exact ⟨hfin, rfl, rfl, hr2⟩
    | bump hpc _ =>
      rw [hpc] at h
      obtain ⟨⟨a, b, rfl⟩, _⟩ := h
      obtain ⟨rfl, e⟩ := par_wr_new (hI.mem.len ▸ ids.2.1) hpar hold
      exact (hjg e).elim

theorem init_thr {n : Nat} {progs : List (List Op)} {tid : Nat} {t : Thr}
    (h : (init n progs).thr[tid]? = some t) :
    ∃ p, p ∈ progs ∧ t = Thr.startOp { prog := p } := by
  simp only [init, List.getElem?_map, Option.map_eq_some_iff] at h
  obtain ⟨p, hp, rfl⟩ := h
  exact ⟨p, List.mem_of_getElem? hp, rfl⟩

theorem init_inv (n : Nat) (progs : List (List Op))
    (hok : ∀ p, p ∈ progs → ∀ op, op ∈ p → op.Ok n) : Inv n (init n progs) := by
  refine ⟨⟨by simp [init], ?_, ?_, ?_, ?_, ?_⟩, fun tid t h => ?_, fun g j _ hj hjg hpar => ?_⟩
  · intro i hi; simp [init, par, rd_initMem n i hi, hi]
  · intro i hi h; simp [init, par, rd_initMem n i hi] at h
  · intro i hi; simp only [init, par, rd_initMem n i hi]; exact .refl _
  · intro a b _ _ hab _ _; exact hab.nil_eq
  · intro a b h; cases h
  · obtain ⟨p, hp, rfl⟩ := init_thr h
    exact startOp_inv ⟨hok p hp, rfl, Nat.zero_le _, fun j op r _ h2 => by cases h2⟩
  · simp only [init, par, rd_initMem n j hj] at hpar
    exact (hjg hpar).elim

/-- a property that every step preserves in states satisfying `Inv` holds after every schedule -/
theorem exec_induct {n : Nat} {P : State → Prop}
    (hstep : ∀ {s : State} (tid : Nat) (sp : Bool), Inv n s → P s → P (step s tid sp).1)
    {s : State} (hI : Inv n s) (hP : P s) (sched : List (Nat × Bool)) : P (exec s sched) := by
  induction sched generalizing s with
  | nil => exact hP
  | cons e rest ih => exact ih (step_inv hI e.1 e.2).1 (hstep e.1 e.2 hI hP)

theorem exec_inv {n : Nat} {s : State} (hI : Inv n s) (sched : List (Nat × Bool)) :
    Inv n (exec s sched) :=
  exec_induct (fun tid sp h _ => (step_inv h tid sp).1) hI hI sched

/-- at quiescence nothing is pending, so (I3) holds without exception -/
theorem quiescent_noChild0 {s : State} (hI : Inv n s) (hq : quiescent s = true) :
    NoChild0 n s.mem := by
  intro r j hr hj hroot hrk hpar
  apply Classical.byContradiction
  intro hne
  obtain ⟨tid, t, hget, hfin, _⟩ := hI.child r j hr hj hne hpar hroot hrk
  unfold quiescent at hq
  have := List.all_eq_true.1 hq t (List.mem_of_getElem? hget)
  rw [this] at hfin; cases hfin

end MV.Dsu
