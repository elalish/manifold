import MV.Model.CrossOps
import MV.Proof.CrossOpsField
/-!
Convex hull (Andrew's monotone chain), part A: the lexicographic order on points at the exact
instance, and the one fact about it the chain invariant needs (`lle.comb`).
-/
namespace MV.CrossOps
set_option linter.unusedSectionVars false

section
variable {F : Type} [Field F] [LinearOrder F]

/-- the lexicographic order `lexLe` decides -/
def lle (a b : V2 F) : Prop := a.x < b.x ∨ (a.x = b.x ∧ a.y ≤ b.y)

theorem lexLe_iff (a b : V2 F) : lexLe a b = true ↔ lle a b := by
  simp only [lexLe, lexLess, sc_beq, sc_lt, lle]
  by_cases h : b.x = a.x
  · simp [h]
  · have h' : ¬ a.x = b.x := fun e => h e.symm
    simp only [h, h', decide_false, Bool.false_eq_true, if_false, Bool.not_eq_true',
      decide_eq_false_iff_not, not_lt, false_and, or_false]
    exact ⟨fun hle => lt_of_le_of_ne hle h', le_of_lt⟩

theorem lle_refl (a : V2 F) : lle a a := Or.inr ⟨rfl, le_refl _⟩

theorem lle_total (a b : V2 F) : lle a b ∨ lle b a := by
  unfold lle
  rcases lt_trichotomy a.x b.x with h | h | h
  · exact Or.inl (Or.inl h)
  · rcases le_total a.y b.y with hy | hy
    · exact Or.inl (Or.inr ⟨h, hy⟩)
    · exact Or.inr (Or.inr ⟨h.symm, hy⟩)
  · exact Or.inr (Or.inl h)

theorem lle_antisymm {a b : V2 F} (h1 : lle a b) (h2 : lle b a) : a = b := by
  unfold lle at h1 h2
  rcases h1 with h1 | ⟨h1, h1'⟩ <;> rcases h2 with h2 | ⟨h2, h2'⟩
  · exact absurd h1 (lt_asymm h2)
  · exact absurd h1 (by rw [h2]; exact lt_irrefl _)
  · exact absurd h2 (by rw [h1]; exact lt_irrefl _)
  · exact V2.ext' h1 (le_antisymm h1' h2')

theorem lle_trans {a b c : V2 F} (h1 : lle a b) (h2 : lle b c) : lle a c := by
  unfold lle at *
  rcases h1 with h1 | ⟨h1, h1'⟩ <;> rcases h2 with h2 | ⟨h2, h2'⟩
  · exact Or.inl (lt_trans h1 h2)
  · exact Or.inl (h2 ▸ h1)
  · exact Or.inl (h1 ▸ h2)
  · exact Or.inr ⟨h1.trans h2, le_trans h1' h2'⟩

theorem lle.x_le {a b : V2 F} (h : lle a b) : a.x ≤ b.x := by
  rcases h with h | ⟨h, _⟩
  · exact le_of_lt h
  · exact le_of_eq h

end

section
variable {F : Type} [Field F] [LinearOrder F] [IsStrictOrderedRing F]

/-- the strict part of `lle` -/
theorem lle.lt_cases {a b : V2 F} (h : lle a b) (hne : a ≠ b) :
    a.x < b.x ∨ (a.x = b.x ∧ a.y < b.y) := by
  rcases h with h | ⟨h, h'⟩
  · exact Or.inl h
  · exact Or.inr ⟨h, lt_of_le_of_ne h' (fun e => hne (V2.ext' h e))⟩

/-- a nonnegative multiple of a lex-nonnegative vector with vanishing `x` has nonnegative `y` -/
theorem lle.y_term {u₀ u₁ : V2 F} {A : F} (hu : lle u₀ u₁) (hA : 0 ≤ A)
    (h0 : (u₁.x - u₀.x) * A = 0) : 0 ≤ (u₁.y - u₀.y) * A := by
  rcases hu with h | ⟨_, h⟩
  · rw [(mul_eq_zero.1 h0).resolve_left (sub_pos.2 h).ne', mul_zero]
  · exact mul_nonneg (sub_nonneg.2 h) hA

/-!
All the chain invariant needs from the order is that the differences `b - a` of ordered points
`lle a b` form a salient convex cone (the lex-nonnegative vectors): if `X • k = A • u + B • v` for
such differences `k ≠ 0`, `u`, `v` and `0 ≤ A`, `0 ≤ B`, then `0 ≤ X`.  Where `k` is vertical the
`x`-equation makes both summands vertical as well and the `y`-equation decides.  Every hull lemma
is this fact applied to the identity `cross v w • u + cross w u • v + cross u v • w = 0` of three
plane vectors.
-/
theorem lle.comb {k₀ k₁ u₀ u₁ v₀ v₁ : V2 F} {X A B : F} (hk : lle k₀ k₁) (hne : k₀ ≠ k₁)
    (hu : lle u₀ u₁) (hv : lle v₀ v₁) (hA : 0 ≤ A) (hB : 0 ≤ B)
    (hx : (k₁.x - k₀.x) * X = (u₁.x - u₀.x) * A + (v₁.x - v₀.x) * B)
    (hy : (k₁.y - k₀.y) * X = (u₁.y - u₀.y) * A + (v₁.y - v₀.y) * B) : 0 ≤ X := by
  have a1 := mul_nonneg (sub_nonneg.2 hu.x_le) hA
  have a2 := mul_nonneg (sub_nonneg.2 hv.x_le) hB
  rcases hk.lt_cases hne with h | ⟨h, h'⟩
  · exact (mul_nonneg_iff_of_pos_left (sub_pos.2 h)).1 (hx ▸ add_nonneg a1 a2)
  · rw [h, sub_self, zero_mul] at hx
    obtain ⟨e1, e2⟩ := (add_eq_zero_iff_of_nonneg a1 a2).1 hx.symm
    exact (mul_nonneg_iff_of_pos_left (sub_pos.2 h')).1
      (hy ▸ add_nonneg (hu.y_term hA e1) (hv.y_term hB e2))

/-- one pop, the point is at or after the popped vertex -/
theorem orient_L2a {a b p q : V2 F} (h1 : orient a b p ≤ 0) (h2 : 0 ≤ orient a b q)
    (h3 : 0 ≤ orient b p q) : 0 ≤ orient a p q := by
  have key : orient a p q = orient a b q + orient b p q - orient a b p := by
    unfold orient; ring
  rw [key]
  exact sub_nonneg.2 (h1.trans (add_nonneg h2 h3))

end
end MV.CrossOps
