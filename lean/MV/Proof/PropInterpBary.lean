import MV.Proof.PropInterpField
/-!
Lemmas for property C07 (interpolation half), part 2: what `getBarycentric` returns in the
triangle branch, at a linearly ordered field.
-/
namespace MV.PropInterp
section Field
variable {F : Type} [Field F] [LinearOrder F] [IsStrictOrderedRing F]

/-- edge `i` is snapped: `area2v < d2[i] * tol2` -/
def Snap0 (v t0 t1 t2 : V3 F) (tol : F) : Prop := A0 v t1 t2 < (d2of t0 t1 t2).x * (tol * tol)
def Snap1 (v t0 t1 t2 : V3 F) (tol : F) : Prop := A1 v t0 t2 < (d2of t0 t1 t2).y * (tol * tol)
def Snap2 (v t0 t1 t2 : V3 F) (tol : F) : Prop := A2 v t0 t1 < (d2of t0 t1 t2).z * (tol * tol)
instance (v t0 t1 t2 : V3 F) (tol : F) : Decidable (Snap0 v t0 t1 t2 tol) := by unfold Snap0; infer_instance
instance (v t0 t1 t2 : V3 F) (tol : F) : Decidable (Snap1 v t0 t1 t2 tol) := by unfold Snap1; infer_instance
instance (v t0 t1 t2 : V3 F) (tol : F) : Decidable (Snap2 v t0 t1 t2 tol) := by unfold Snap2; infer_instance

omit [IsStrictOrderedRing F] in
theorem raw_x (v t0 t1 t2 : V3 F) (tol : F) : (rawWeights v t0 t1 t2 tol).x =
    if Snap0 v t0 t1 t2 tol then 0 else U0 v t0 t1 t2 :=
  (edgeWeight_field _ _ _ _ _).trans (if_congr Iff.rfl rfl rfl)
omit [IsStrictOrderedRing F] in
theorem raw_y (v t0 t1 t2 : V3 F) (tol : F) : (rawWeights v t0 t1 t2 tol).y =
    if Snap1 v t0 t1 t2 tol then 0 else U1 v t0 t1 t2 :=
  (edgeWeight_field _ _ _ _ _).trans (if_congr Iff.rfl rfl rfl)
omit [IsStrictOrderedRing F] in
theorem raw_z (v t0 t1 t2 : V3 F) (tol : F) : (rawWeights v t0 t1 t2 tol).z =
    if Snap2 v t0 t1 t2 tol then 0 else U2 v t0 t1 t2 :=
  (edgeWeight_field _ _ _ _ _).trans (if_congr Iff.rfl rfl rfl)

theorem dot_self_nonneg (a : V3 F) : 0 ≤ dot a a := by
  rw [dot_eq]
  exact add_nonneg (add_nonneg (mul_self_nonneg _) (mul_self_nonneg _)) (mul_self_nonneg _)

omit [IsStrictOrderedRing F] in
theorem dLong_ge (t0 t1 t2 : V3 F) :
    (d2of t0 t1 t2).x ≤ dLong t0 t1 t2 ∧ (d2of t0 t1 t2).y ≤ dLong t0 t1 t2 ∧
    (d2of t0 t1 t2).z ≤ dLong t0 t1 t2 := by
  unfold dLong longSide
  generalize d2of t0 t1 t2 = d
  obtain ⟨a, b, c⟩ := d
  simp only [sc_lt, Bool.and_eq_true, decide_eq_true_eq]
  split_ifs with h1 h2
  · simp only [V3.get]; exact ⟨le_refl _, le_of_lt h1.1, le_of_lt h1.2⟩
  · simp only [V3.get]
    have h1' : ¬ (b < a ∧ c < a) := h1
    refine ⟨?_, le_refl _, le_of_lt h2⟩
    by_contra hc
    exact h1' ⟨not_le.1 hc, lt_trans h2 (not_le.1 hc)⟩
  · simp only [V3.get]
    have h1' : ¬ (b < a ∧ c < a) := h1
    have hcb : b ≤ c := not_lt.1 h2
    refine ⟨?_, hcb, le_refl _⟩
    by_contra hc
    exact h1' ⟨lt_of_le_of_lt hcb (not_le.1 hc), not_le.1 hc⟩

/-- the facts the triangle branch gives at the exact instance -/
structure TriFacts (t0 t1 t2 : V3 F) (tol : F) : Prop where
  tol2 : 0 ≤ tol * tol
  a_pos : 0 < area2of t0 t1 t2
  b0 : (d2of t0 t1 t2).x * (tol * tol) < area2of t0 t1 t2
  b1 : (d2of t0 t1 t2).y * (tol * tol) < area2of t0 t1 t2
  b2 : (d2of t0 t1 t2).z * (tol * tol) < area2of t0 t1 t2
  d0 : 0 < (d2of t0 t1 t2).x
  d1 : 0 < (d2of t0 t1 t2).y
  d2 : 0 < (d2of t0 t1 t2).z

theorem triFacts (v t0 t1 t2 : V3 F) (tol : F) (h : TriBranch v t0 t1 t2 tol) :
    TriFacts t0 t1 t2 tol := by
  obtain ⟨_, _, ht⟩ := h
  simp only [sc_lt, sc_mul, decide_eq_true_eq] at ht
  have htol : 0 ≤ tol * tol := mul_self_nonneg tol
  obtain ⟨g0, g1, g2⟩ := dLong_ge t0 t1 t2
  have hL : 0 ≤ dLong t0 t1 t2 := le_trans (dot_self_nonneg _) g0
  have ha : 0 < area2of t0 t1 t2 := lt_of_le_of_lt (mul_nonneg hL htol) ht
  -- `0 < area2 ≤ d2[i] d2[j]`, so no edge has length zero
  have p01 : 0 < (d2of t0 t1 t2).x * (d2of t0 t1 t2).y :=
    area2_le_d01 t0 t1 t2 ▸ add_pos_of_pos_of_nonneg ha (sq_nonneg _)
  have p12 : 0 < (d2of t0 t1 t2).y * (d2of t0 t1 t2).z :=
    area2_le_d12 t0 t1 t2 ▸ add_pos_of_pos_of_nonneg ha (sq_nonneg _)
  have hd1 : 0 < (d2of t0 t1 t2).y := pos_of_mul_pos_right p01 (dot_self_nonneg _)
  exact ⟨htol, ha, lt_of_le_of_lt (mul_le_mul_of_nonneg_right g0 htol) ht,
    lt_of_le_of_lt (mul_le_mul_of_nonneg_right g1 htol) ht,
    lt_of_le_of_lt (mul_le_mul_of_nonneg_right g2 htol) ht,
    pos_of_mul_pos_left p01 hd1.le, hd1, pos_of_mul_pos_right p12 hd1.le⟩

/-- generic step: a snapped edge's un-snapped weight is smaller than `area2` -/
theorem snap_small {A U d a z tol2 : F} (hlag : A * a = U ^ 2 + d * z ^ 2) (hs : A < d * tol2)
    (hb : d * tol2 < a) (ha : 0 < a) (hd : 0 < d) : U < a := by
  by_contra hc
  have hUa : a ≤ U := not_lt.1 hc
  -- `a² ≤ U² ≤ A a < a²`
  have h1 : a * a ≤ U ^ 2 := sq U ▸ mul_le_mul hUa hUa ha.le (ha.le.trans hUa)
  have h2 : U ^ 2 ≤ A * a := hlag ▸ le_add_of_nonneg_right (mul_nonneg hd.le (sq_nonneg z))
  exact absurd (h1.trans h2) (not_le.2 (mul_lt_mul_of_pos_right (hs.trans hb) ha))

/-- generic step: if edge `i` is snapped and the un-snapped weight of `k` vanishes, `k` is snapped too -/
theorem snap_transfer {Ai Ui di Ak Uk dk a z tol2 : F} (hi : Ai * a = Ui ^ 2 + di * z ^ 2)
    (hk : Ak * a = Uk ^ 2 + dk * z ^ 2) (hUk : Uk = 0) (hs : Ai < di * tol2) (ha : 0 < a)
    (hdi : 0 < di) (hdk : 0 < dk) : Ak < dk * tol2 := by
  -- `di z² ≤ Ai a < di tol2 a`, so `z² < tol2 a`, so `Ak a = dk z² < dk tol2 a`
  rw [hUk, zero_pow two_ne_zero, zero_add] at hk
  have h0 : di * z ^ 2 ≤ Ai * a := hi ▸ le_add_of_nonneg_left (sq_nonneg Ui)
  have h1 : di * z ^ 2 < di * (tol2 * a) :=
    mul_assoc di tol2 a ▸ h0.trans_lt (mul_lt_mul_of_pos_right hs ha)
  have h2 : z ^ 2 < tol2 * a := lt_of_mul_lt_mul_left h1 hdi.le
  have h3 : Ak * a < dk * tol2 * a := by
    rw [hk, mul_assoc]; exact mul_lt_mul_of_pos_left h2 hdk
  exact lt_of_mul_lt_mul_right h3 ha.le

/-- all three edge tests fire -/
def AllSnapped (v t0 t1 t2 : V3 F) (tol : F) : Prop :=
  Snap0 v t0 t1 t2 tol ∧ Snap1 v t0 t1 t2 tol ∧ Snap2 v t0 t1 t2 tol

/-- the normalising sum `uvw[0] + uvw[1] + uvw[2]` of the triangle branch -/
def rawSum (v t0 t1 t2 : V3 F) (tol : F) : F :=
  (rawWeights v t0 t1 t2 tol).x + (rawWeights v t0 t1 t2 tol).y + (rawWeights v t0 t1 t2 tol).z

theorem rawSum_ne_zero (v t0 t1 t2 : V3 F) (tol : F) (h : TriBranch v t0 t1 t2 tol)
    (hn : ¬ AllSnapped v t0 t1 t2 tol) : rawSum v t0 t1 t2 tol ≠ 0 := by
  have f := triFacts v t0 t1 t2 tol h
  have hsum := U_sum v t0 t1 t2
  have l0 := lag0 v t0 t1 t2
  have l1 := lag1 v t0 t1 t2
  have l2 := lag2 v t0 t1 t2
  unfold rawSum
  rw [raw_x, raw_y, raw_z]
  intro hz
  -- `U0 + U1 + U2 = area2 > 0` and a snapped edge drops its `Ui`.  One dropped: `Ui < area2`
  -- (`snap_small`), the rest is positive.  Two dropped: the remaining weight cannot vanish without
  -- its edge being snapped too (`snap_transfer`), against `hn`.
  by_cases s0 : Snap0 v t0 t1 t2 tol
  · rw [if_pos s0, zero_add] at hz
    by_cases s1 : Snap1 v t0 t1 t2 tol
    · have s2 : ¬ Snap2 v t0 t1 t2 tol := fun s2 => hn ⟨s0, s1, s2⟩
      rw [if_pos s1, zero_add, if_neg s2] at hz
      exact s2 (snap_transfer l0 l2 hz s0 f.a_pos f.d0 f.d2)
    · rw [if_neg s1] at hz
      by_cases s2 : Snap2 v t0 t1 t2 tol
      · rw [if_pos s2, add_zero] at hz
        exact s1 (snap_transfer l0 l1 hz s0 f.a_pos f.d0 f.d1)
      · rw [if_neg s2] at hz
        exact (snap_small l0 s0 f.b0 f.a_pos f.d0).ne (by rw [← hsum, add_assoc, hz, add_zero])
  · rw [if_neg s0] at hz
    by_cases s1 : Snap1 v t0 t1 t2 tol
    · rw [if_pos s1, add_zero] at hz
      by_cases s2 : Snap2 v t0 t1 t2 tol
      · rw [if_pos s2, add_zero] at hz
        exact s0 (snap_transfer l1 l0 hz s1 f.a_pos f.d1 f.d0)
      · rw [if_neg s2] at hz
        exact (snap_small l1 s1 f.b1 f.a_pos f.d1).ne (by rw [← hsum, add_right_comm, hz, zero_add])
    · rw [if_neg s1] at hz
      by_cases s2 : Snap2 v t0 t1 t2 tol
      · rw [if_pos s2, add_zero] at hz
        exact (snap_small l2 s2 f.b2 f.a_pos f.d2).ne (by rw [← hsum, hz, zero_add])
      · rw [if_neg s2] at hz
        exact f.a_pos.ne (hz.symm.trans hsum)

omit [IsStrictOrderedRing F] in
theorem gb_tri_field (v t0 t1 t2 : V3 F) (tol : F) (h : TriBranch v t0 t1 t2 tol) :
    getBarycentric v t0 t1 t2 tol =
      ⟨(rawWeights v t0 t1 t2 tol).x / rawSum v t0 t1 t2 tol,
       (rawWeights v t0 t1 t2 tol).y / rawSum v t0 t1 t2 tol,
       (rawWeights v t0 t1 t2 tol).z / rawSum v t0 t1 t2 tol⟩ := by
  rw [gb_tri v t0 t1 t2 tol h]
  simp only [sc_add, sc_div, rawSum]

theorem tri_sum_one (v t0 t1 t2 : V3 F) (tol : F) (h : TriBranch v t0 t1 t2 tol)
    (hn : ¬ AllSnapped v t0 t1 t2 tol) :
    (getBarycentric v t0 t1 t2 tol).x + (getBarycentric v t0 t1 t2 tol).y +
      (getBarycentric v t0 t1 t2 tol).z = 1 := by
  have hs := rawSum_ne_zero v t0 t1 t2 tol h hn
  rw [gb_tri_field v t0 t1 t2 tol h]
  simp only
  rw [← add_div, ← add_div]
  exact div_self hs

omit [IsStrictOrderedRing F] in
/-- triangle branch, all three edge tests firing: `0/0` in every component (`x / 0 = 0` in a
field; `NaN` at `Float`) -/
theorem tri_all_snapped (v t0 t1 t2 : V3 F) (tol : F) (h : TriBranch v t0 t1 t2 tol)
    (ha : AllSnapped v t0 t1 t2 tol) :
    getBarycentric v t0 t1 t2 tol = ⟨0, 0, 0⟩ ∧ rawSum v t0 t1 t2 tol = 0 ∧
      rawWeights v t0 t1 t2 tol = ⟨0, 0, 0⟩ := by
  have hx : (rawWeights v t0 t1 t2 tol).x = 0 := by rw [raw_x, if_pos ha.1]
  have hy : (rawWeights v t0 t1 t2 tol).y = 0 := by rw [raw_y, if_pos ha.2.1]
  have hz : (rawWeights v t0 t1 t2 tol).z = 0 := by rw [raw_z, if_pos ha.2.2]
  have hs : rawSum v t0 t1 t2 tol = 0 := by simp [rawSum, hx, hy, hz]
  refine ⟨?_, hs, V3.ext' hx hy hz⟩
  rw [gb_tri_field v t0 t1 t2 tol h, hx, hy, hz, hs]
  simp

instance (v t0 t1 t2 : V3 F) (tol : F) : Decidable (TriBranch v t0 t1 t2 tol) := by
  unfold TriBranch NoVertex; infer_instance
instance (v t0 t1 t2 : V3 F) (tol : F) : Decidable (AllSnapped v t0 t1 t2 tol) := by
  unfold AllSnapped; infer_instance

end Field
end MV.PropInterp
