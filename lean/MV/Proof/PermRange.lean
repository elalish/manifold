/-!
A list of naturals that is a permutation of `range N`, read through `getD · 0` as a bijection of `[0, N)`:
values below `N`, injective, onto.  Core Lean only.
-/

namespace List.Perm

variable {l : List Nat} {N : Nat}

theorem getD_eq_getElem_of_range (h : l.Perm (range N)) {p : Nat} (hp : p < N) :
    l.getD p 0 = l[p]'(by rw [h.length_eq, length_range]; exact hp) :=
  (getElem_eq_getD 0).symm

theorem getD_lt_of_range (h : l.Perm (range N)) {p : Nat} (hp : p < N) : l.getD p 0 < N := by
  rw [h.getD_eq_getElem_of_range hp]
  exact mem_range.mp (h.mem_iff.mp (getElem_mem _))

theorem getD_inj_of_range (h : l.Perm (range N)) {p q : Nat} (hp : p < N) (hq : q < N)
    (he : l.getD p 0 = l.getD q 0) : p = q := by
  rw [h.getD_eq_getElem_of_range hp, h.getD_eq_getElem_of_range hq] at he
  exact (getElem_inj (h.nodup_iff.mpr nodup_range)).mp he

theorem getD_surj_of_range (h : l.Perm (range N)) {e : Nat} (he : e < N) : ∃ p, p < N ∧ l.getD p 0 = e := by
  obtain ⟨p, hp, hpe⟩ := getElem_of_mem (h.mem_iff.mpr (mem_range.mpr he))
  have hp' : p < N := by rw [h.length_eq, length_range] at hp; exact hp
  exact ⟨p, hp', (h.getD_eq_getElem_of_range hp').trans hpe⟩

end List.Perm
