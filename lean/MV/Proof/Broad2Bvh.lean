/-
Lemmas for the 2-D BVH of boolean2.cpp (MV/Model/Broad2.lean): `buildNode` fills every internal
cell with the union of the leaf cells below it (`Cells`), the arrays of `bvh2Build` pass the
decidable checks `wfTree` / `unionBoxes` of the 3-D collider after embedding (`z = [0,0]`), hence
the 3-D query theorem `findCollision_of_wf` applies.
-/
import MV.Proof.ColliderRadix
import MV.Proof.ColliderQuery
import MV.Proof.Broad2Sweep
import MV.Proof.PermRange

namespace MV.Broad2
open MV.Collider

theorem Box2.ofBox_embed (b : Box2) : Box2.ofBox b.embed = b := rfl

theorem Box2.embed_union (a b : Box2) : (a.union b).embed = a.embed.union b.embed := by
  simp [Box2.embed, Box2.union, Box.union]

theorem Box2.ofBox_union (a b : Box) : Box2.ofBox (a.union b) = (Box2.ofBox a).union (Box2.ofBox b) := rfl

theorem Box2.doesOverlap_comm (a b : Box2) : a.doesOverlap b = b.doesOverlap a := by
  simp only [Box2.doesOverlap]
  rw [Bool.eq_iff_iff]
  simp only [Bool.and_eq_true, decide_eq_true_eq]
  omega

theorem Box2.union_comm (a b : Box2) : a.union b = b.union a := by
  simp only [Box2.union, Int.min_comm a.minX, Int.min_comm a.minY, Int.max_comm a.maxX,
    Int.max_comm a.maxY]

theorem Box2.doesOverlap_union_left (q a b : Box2) (h : a.doesOverlap q = true) :
    (a.union b).doesOverlap q = true := by
  simp only [Box2.doesOverlap, Bool.and_eq_true, decide_eq_true_eq] at h
  obtain ⟨⟨⟨h1, h2⟩, h3⟩, h4⟩ := h
  simp only [Box2.doesOverlap, Box2.union, Bool.and_eq_true]
  exact ⟨⟨⟨decide_eq_true (Int.le_trans (Int.min_le_left ..) h1),
    decide_eq_true (Int.le_trans h2 (Int.le_max_left ..))⟩,
    decide_eq_true (Int.le_trans (Int.min_le_left ..) h3)⟩,
    decide_eq_true (Int.le_trans h4 (Int.le_max_left ..))⟩

theorem Box2.doesOverlap_union_right (q a b : Box2) (h : b.doesOverlap q = true) :
    (a.union b).doesOverlap q = true :=
  Box2.union_comm b a ▸ Box2.doesOverlap_union_left q b a h

/-- `buildNode` on a subtree contained in `internalChildren`: it succeeds, returns the union of
the leaf cells, writes exactly the cells of the internal nodes of the subtree. -/
theorem buildNode_spec {ch : Array (Int × Int)} {n : Nat} :
    ∀ (t : T) (fuel : Nat) (boxes : Array Box2),
    Rep ch t → t.internals.Nodup → Below n t → boxes.size = 2 * n - 1 → t.height < fuel →
    ∃ boxes', buildNode ch fuel t.id boxes =
        some (T.val Box2.union (fun i => boxes.getD (2 * i) default) t, boxes') ∧
      boxes'.size = boxes.size ∧
      (∀ c, (∀ k ∈ t.internals, c ≠ 2 * k + 1) → boxes'[c]? = boxes[c]?) ∧
      Cells Box2.union (fun i => boxes.getD (2 * i) default) boxes' t := by
  intro t
  induction t with
  | leaf i =>
    intro fuel boxes _ _ hl hsz hf
    obtain ⟨f, rfl⟩ : ∃ f, fuel = f + 1 := ⟨fuel - 1, by omega⟩
    have hi : 2 * i < boxes.size := by have : i < n := hl; omega
    have hget := getElem?_eq_some_getD (default : Box2) hi
    refine ⟨boxes, ?_, rfl, fun _ _ => rfl, hget⟩
    rw [buildNode, if_neg (Int.not_lt.mpr (id_nonneg _)), if_pos (isLeaf_leaf_id i), id_leaf_toNat,
      hget]
    rfl
  | node k l r ihl ihr =>
    intro fuel boxes hrep hnd hb hsz hf
    obtain ⟨f, rfl⟩ : ∃ f, fuel = f + 1 := ⟨fuel - 1, by omega⟩
    obtain ⟨hc, rl, rr⟩ := hrep
    obtain ⟨hk, bl, br⟩ := hb
    simp only [T.internals, List.nodup_cons, List.nodup_append, List.mem_append] at hnd
    obtain ⟨hkn, nl, nr, nlr⟩ := hnd
    rw [T.height_node] at hf
    obtain ⟨b1, e1, s1, f1, F1⟩ := ihl f boxes rl nl bl hsz (by omega)
    obtain ⟨b2, e2, s2, f2, F2⟩ := ihr f b1 rr nr br (s1.trans hsz) (by omega)
    have hkk : 2 * k + 1 < b2.size := by rw [s2, s1, hsz]; omega
    -- leaf cells never change
    have odd : ∀ j i : Nat, 2 * j + 1 ≠ 2 * i := fun _ _ => by omega
    have even1 : ∀ i, b1[2 * i]? = boxes[2 * i]? := fun i => f1 _ (fun j _ => (odd j i).symm)
    have even2 : ∀ i, b2[2 * i]? = b1[2 * i]? := fun i => f2 _ (fun j _ => (odd j i).symm)
    have g1 : ∀ i, b1.getD (2 * i) default = boxes.getD (2 * i) default :=
      fun i => getD_of_getElem?_eq default (even1 i)
    rw [T.val_congr r (fun i _ => g1 i)] at e2
    refine ⟨b2.setIfInBounds (2 * k + 1) (T.val Box2.union (fun i => boxes.getD (2 * i) default)
      (.node k l r)), ?_, ?_, ?_, ?_, ?_, ?_⟩
    · rw [buildNode, if_neg (Int.not_lt.mpr (id_nonneg _)),
        if_neg (by rw [isLeaf_node_id]; exact Bool.false_ne_true), node2Internal_node_id, hc]
      simp only [e1, e2, id_node_toNat, hkk, if_true, T.val]
    · rw [Array.size_setIfInBounds, s2, s1]
    · intro c hcne
      have hck : c ≠ 2 * k + 1 := hcne k (by simp [T.internals])
      rw [Array.getElem?_setIfInBounds_ne (by omega),
        f2 c (fun j hj => hcne j (by simp [T.internals, hj])),
        f1 c (fun j hj => hcne j (by simp [T.internals, hj]))]
    · rw [Array.getElem?_setIfInBounds_self_of_lt hkk]
    · refine F1.frame l (fun i _ => ⟨?_, rfl⟩) (fun j hj => ?_)
      · rw [Array.getElem?_setIfInBounds_ne (odd k i), even2 i]
      · have : j ≠ k := fun e => hkn (Or.inl (e ▸ hj))
        rw [Array.getElem?_setIfInBounds_ne (by omega)]
        exact f2 _ (fun j' hj' e => nlr j hj j' hj' (by omega))
    · refine F2.frame r (fun i _ => ⟨?_, (g1 i).symm⟩) (fun j hj => ?_)
      · rw [Array.getElem?_setIfInBounds_ne (odd k i)]
      · have : j ≠ k := fun e => hkn (Or.inr (e ▸ hj))
        rw [Array.getElem?_setIfInBounds_ne (by omega)]

/-- `leafToOrig` -/
def leafOrder (codes : Array Nat) (n : Nat) : List Nat :=
  stableSort (fun a b => decide (codes.getD a 0 < codes.getD b 0)) (List.range n)

def sortedMorton (codes : Array Nat) (n : Nat) : Array Nat :=
  ((leafOrder codes n).map fun i => codes.getD i 0).toArray

theorem leafOrder_spec (codes : Array Nat) (n : Nat) :
    SortedRange (fun i => (codes.getD i 0 : Int)) n (leafOrder codes n) :=
  stableSort_range_spec_nat _ n

theorem leafOrder_sorted (codes : Array Nat) (n : Nat) :
    (leafOrder codes n).Pairwise (fun a b => codes.getD a 0 ≤ codes.getD b 0) :=
  (leafOrder_spec codes n).sorted.imp Int.ofNat_le.mp

/-- `leafToOrig[leaf]` -/
def lget (codes : Array Nat) (n leaf : Nat) : Nat := (leafOrder codes n).getD leaf 0

theorem leafToOrig_getD (codes : Array Nat) (n leaf : Nat) :
    (leafOrder codes n).toArray.getD leaf 0 = lget codes n leaf := by
  simp [lget, Array.getD_eq_getD_getElem?, List.getD_eq_getElem?_getD]

theorem lget_eq (codes : Array Nat) (n leaf : Nat) (h : leaf < n) :
    lget codes n leaf = (leafOrder codes n)[leaf]'(by rw [(leafOrder_spec _ _).length]; exact h) :=
  (leafOrder_spec codes n).perm.getD_eq_getElem_of_range h

theorem sortedMorton_size (codes : Array Nat) (n : Nat) : (sortedMorton codes n).size = n := by
  simp [sortedMorton, (leafOrder_spec codes n).length]

theorem sortedMorton_getD (codes : Array Nat) (n i : Nat) (hi : i < n) :
    (sortedMorton codes n).getD i 0 =
      codes.getD ((leafOrder codes n)[i]'(by rw [(leafOrder_spec _ _).length]; exact hi)) 0 := by
  have hl : i < (leafOrder codes n).length := by rw [(leafOrder_spec _ _).length]; exact hi
  simp [sortedMorton, Array.getD_eq_getD_getElem?, hl]

theorem sortedMorton_sorted (codes : Array Nat) (n : Nat)
    (hc : ∀ i, i < n → codes.getD i 0 < 2 ^ 32) : Sorted (sortedMorton codes n) := by
  rw [Sorted, sortedMorton_size]
  constructor
  · intro i hi
    rw [sortedMorton_getD codes n i hi]
    exact hc _ (((leafOrder_spec codes n).mem _).mp (List.getElem_mem _))
  · intro i j hij hj
    rw [sortedMorton_getD codes n i (by omega), sortedMorton_getD codes n j hj]
    by_cases e : i = j
    · subst e; exact Nat.le_refl _
    · exact (List.pairwise_iff_getElem.mp (leafOrder_sorted codes n)) i j _ _ (by omega)

theorem leafCells_size (boxes : Array Box2) (l : List Nat) :
    (leafCells boxes l).size = 2 * l.length - 1 := by
  simp [leafCells]

theorem leafCells_even (boxes : Array Box2) (l : List Nat) (i : Nat) (hi : i < l.length) :
    (leafCells boxes l)[2 * i]? = some (boxAt boxes l[i]) := by
  have h : 2 * i < 2 * l.length - 1 := by omega
  simp [leafCells, h, hi]

/-- the leaf boxes in leaf order -/
def leafBoxes (codes : Array Nat) (boxes : Array Box2) : Array Box2 :=
  ((leafOrder codes boxes.size).map fun i => boxAt boxes i).toArray

theorem leafBoxes_get (codes : Array Nat) (boxes : Array Box2) (i : Nat) (hi : i < boxes.size) :
    (leafBoxes codes boxes)[i]? = some (boxAt boxes (lget codes boxes.size i)) := by
  have hl : i < (leafOrder codes boxes.size).length := by rw [(leafOrder_spec _ _).length]; exact hi
  simp [leafBoxes, lget, hl]

theorem bvh2Build_unfold (codes : Array Nat) (boxes : Array Box2) :
    bvh2Build codes boxes =
      if boxes.size = 0 then some ⟨#[], #[], #[]⟩
      else if boxes.size > 1 then
        match buildNode (createRadixTree (sortedMorton codes boxes.size)).1 (2 * boxes.size) kRoot
            (leafCells boxes (leafOrder codes boxes.size)) with
        | none => none
        | some (_, nb) => some ⟨nb, (createRadixTree (sortedMorton codes boxes.size)).1,
            (leafOrder codes boxes.size).toArray⟩
      else some ⟨leafCells boxes (leafOrder codes boxes.size),
        (createRadixTree (sortedMorton codes boxes.size)).1, (leafOrder codes boxes.size).toArray⟩ :=
  rfl

/-- **BVHBuildFromBoxes is a well-formed collider** (two or more boxes): the model's guards
never fire, `leafToOrig` is the code-sorted permutation, and the arrays pass the two decidable
checks of the 3-D collider after embedding. -/
theorem bvh2Build_wf (codes : Array Nat) (boxes : Array Box2)
    (hc : ∀ i, i < boxes.size → codes.getD i 0 < 2 ^ 32) (hn : boxes.size < 2 ^ 32)
    (h2 : 2 ≤ boxes.size) :
    ∃ nb, bvh2Build codes boxes = some ⟨nb, (createRadixTree (sortedMorton codes boxes.size)).1,
        (leafOrder codes boxes.size).toArray⟩ ∧
      wfTree (createRadixTree (sortedMorton codes boxes.size)).1
        (createRadixTree (sortedMorton codes boxes.size)).2 boxes.size = true ∧
      unionBoxes (createRadixTree (sortedMorton codes boxes.size)).1 (nb.map Box2.embed)
        ((leafBoxes codes boxes).map Box2.embed) boxes.size = true := by
  have hs := sortedMorton_sorted codes boxes.size hc
  have hsz := sortedMorton_size codes boxes.size
  have hwf := createRadixTree_wf hs (by rw [hsz]; exact hn) (by rw [hsz]; exact h2)
  rw [hsz] at hwf
  obtain ⟨t, c⟩ := wfTree_iff.mp hwf
  have hlen : (leafOrder codes boxes.size).length = boxes.size := (leafOrder_spec _ _).length
  have hcsz : (leafCells boxes (leafOrder codes boxes.size)).size = 2 * boxes.size - 1 := by
    rw [leafCells_size, hlen]
  obtain ⟨nb, e, snb, _, fl⟩ := buildNode_spec t (2 * boxes.size)
    (leafCells boxes (leafOrder codes boxes.size)) c.rep c.nodup_internals c.below hcsz
    (by have := c.height_le; omega)
  rw [show t.id = kRoot from c.id_eq] at e
  refine ⟨nb, ?_, hwf, unionBoxes_of_cells c (by rw [Array.size_map, snb, hcsz])
    (by simp [leafBoxes, hlen]) ?_⟩
  · rw [bvh2Build_unfold, if_neg (by omega), if_pos (by omega), e]
  · refine (fl.map (f := Box2.embed) (P := fun _ => True)
      (fun a b _ _ => ⟨trivial, Box2.embed_union a b⟩) t (fun _ _ => trivial)).frame t
      (fun i hi => ⟨rfl, ?_⟩) (fun _ _ => rfl)
    have hi := (c.mem_leaves i).mp hi
    have h := leafCells_even boxes _ i (hlen.symm ▸ hi)
    rw [Array.getD_eq_getD_getElem?, Array.getD_eq_getD_getElem?, h, Array.getElem?_map,
      leafBoxes_get codes boxes i hi, lget_eq codes _ i hi]
    rfl

/-- **one `collideOne`** against the BVH built from two or more boxes: the traversal stays
within its fuel and its 64-entry stack and records leaf `l` iff the box of `leafToOrig[l]`
overlaps the query, each leaf once. -/
theorem bvh2Query_spec (codes : Array Nat) (boxes : Array Box2)
    (hc : ∀ i, i < boxes.size → codes.getD i 0 < 2 ^ 32) (hn : boxes.size < 2 ^ 32)
    (h2 : 2 ≤ boxes.size) {bvh : BVH} (hb : bvh2Build codes boxes = some bvh) (q : Box2) :
    ∃ out, bvh2Query bvh q = some out ∧ out.toList.Nodup ∧
      ∀ leaf, leaf ∈ out.toList ↔
        (leaf < boxes.size ∧ (boxAt boxes (bvh.leafToOrig.getD leaf 0)).doesOverlap q = true) := by
  obtain ⟨nb, e, hwf, hub⟩ := bvh2Build_wf codes boxes hc hn h2
  rw [e] at hb
  simp only [Option.some.injEq] at hb
  subst hb
  obtain ⟨out, h1, h2', h3⟩ := findCollision_of_wf hwf hub
    (fun b => (Box2.ofBox b).doesOverlap q)
    (fun a b h => by
      show (Box2.ofBox (a.union b)).doesOverlap q = true
      rw [Box2.ofBox_union]; exact Box2.doesOverlap_union_left q _ _ h)
    (fun a b h => by
      show (Box2.ofBox (a.union b)).doesOverlap q = true
      rw [Box2.ofBox_union]; exact Box2.doesOverlap_union_right q _ _ h)
    false 0
  refine ⟨out, h1, h2', ?_⟩
  intro leaf
  rw [h3 leaf, leafToOrig_getD]
  constructor
  · rintro ⟨hl, ⟨b, hb, ho⟩, _⟩
    refine ⟨hl, ?_⟩
    rw [Array.getElem?_map, leafBoxes_get codes boxes leaf hl, Option.map_some,
      Option.some.injEq] at hb
    subst hb
    exact ho
  · rintro ⟨hl, ho⟩
    refine ⟨hl, ⟨(boxAt boxes (lget codes boxes.size leaf)).embed, ?_, ho⟩, fun h => by cases h⟩
    rw [Array.getElem?_map, leafBoxes_get codes boxes leaf hl, Option.map_some]

theorem collectAll_spec (f : Nat → Option (List (Nat × Nat))) : ∀ (l : List Nat),
    (∀ q ∈ l, ∃ r, f q = some r) →
    collectAll f l = some (l.flatMap fun q => (f q).getD []) := by
  intro l
  induction l with
  | nil => intro _; rfl
  | cons q qs ih =>
    intro h
    obtain ⟨r, hr⟩ := h q List.mem_cons_self
    have := ih (fun q' hq' => h q' (List.mem_cons_of_mem _ hq'))
    simp only [collectAll, hr, this, List.flatMap_cons, Option.getD_some]

theorem pairLe_iff (a b : Nat × Nat) :
    pairLe a b = true ↔ (a.1 < b.1 ∨ (a.1 = b.1 ∧ a.2 ≤ b.2)) := by
  simp [pairLe]

theorem pairLe_trans (a b c : Nat × Nat) : pairLe a b = true → pairLe b c = true →
    pairLe a c = true := by
  rw [pairLe_iff, pairLe_iff, pairLe_iff]; omega

theorem pairLe_total (a b : Nat × Nat) : (pairLe a b || pairLe b a) = true := by
  rw [Bool.or_eq_true, pairLe_iff, pairLe_iff]; omega

theorem radixSortPairs_perm (l : List (Nat × Nat)) : (radixSortPairs l).Perm l :=
  List.mergeSort_perm _ _

theorem radixSortPairs_strict {l : List (Nat × Nat)} (hn : l.Nodup) :
    (radixSortPairs l).Pairwise pairLt := by
  have h1 : (radixSortPairs l).Pairwise (fun a b => pairLe a b = true) :=
    List.pairwise_mergeSort pairLe_trans pairLe_total l
  have h2 : (radixSortPairs l).Nodup := (radixSortPairs_perm l).symm.nodup hn
  refine (h1.and h2).imp ?_
  intro a b ⟨h, hne⟩
  rw [pairLe_iff] at h
  unfold pairLt
  have : ¬ (a.1 = b.1 ∧ a.2 = b.2) := fun ⟨e1, e2⟩ => hne (Prod.ext e1 e2)
  omega

/-- `bvh.Empty()`: nothing is ever reported -/
theorem bvh2Pairs_empty (bvh : BVH) (edgeBoxes : Array Box2) (skip : Nat → Nat → Bool)
    (h : bvh.internalChildren.size = 0) : bvh2Pairs bvh edgeBoxes skip = some [] := by
  have hf : ∀ q, (bvh2Query bvh (boxAt edgeBoxes q)).map
      (fun out => bvh2Keep bvh skip q out.toList) = some [] := by
    intro q
    simp [bvh2Query, findCollision, h, bvh2Keep]
  unfold bvh2Pairs bvh2Raw
  rw [collectAll_spec _ _ (fun q _ => ⟨[], hf q⟩)]
  have : ((List.range edgeBoxes.size).flatMap fun q => ((bvh2Query bvh (boxAt edgeBoxes q)).map
      (fun out => bvh2Keep bvh skip q out.toList)).getD []) = [] := by
    rw [List.flatMap_eq_nil_iff]
    intro q _
    rw [hf q]; rfl
  rw [this]
  simp [radixSortPairs]

/-- what one query contributes after the recorder's filter -/
theorem mem_bvh2Keep (codes : Array Nat) (n : Nat) (nb : Array Box2) (ch : Array (Int × Int))
    (skip : Nat → Nat → Bool) (qi : Nat) (leaves : List Nat) (a b : Nat) :
    (a, b) ∈ bvh2Keep ⟨nb, ch, (leafOrder codes n).toArray⟩ skip qi leaves ↔
      (a = qi ∧ ∃ leaf ∈ leaves, b = lget codes n leaf ∧ qi < b ∧ skip qi b = false) := by
  unfold bvh2Keep
  rw [List.mem_filterMap]
  simp only [leafToOrig_getD]
  constructor
  · rintro ⟨leaf, hl, h⟩
    split at h
    · cases h
    · split at h
      · cases h
      · rename_i h1 h2
        simp only [Option.some.injEq, Prod.mk.injEq] at h
        obtain ⟨e1, e2⟩ := h
        subst e1; subst e2
        exact ⟨rfl, leaf, hl, rfl, by omega, by simpa using h2⟩
  · rintro ⟨e, leaf, hl, eb, hlt, hs⟩
    subst e; subst eb
    refine ⟨leaf, hl, ?_⟩
    rw [if_neg (by omega), if_neg (by simp [hs])]

theorem nodup_bvh2Keep (codes : Array Nat) (n : Nat) (nb : Array Box2) (ch : Array (Int × Int))
    (skip : Nat → Nat → Bool) (qi : Nat) (leaves : List Nat) (hn : leaves.Nodup)
    (hlt : ∀ l ∈ leaves, l < n) :
    (bvh2Keep ⟨nb, ch, (leafOrder codes n).toArray⟩ skip qi leaves).Nodup := by
  unfold bvh2Keep List.Nodup
  rw [List.pairwise_filterMap]
  refine List.Pairwise.imp_of_mem ?_ hn
  intro l l' hl hl' hne p hp p' hp' e
  subst e
  simp only [leafToOrig_getD] at hp hp'
  split at hp
  · cases hp
  · split at hp
    · cases hp
    · split at hp'
      · cases hp'
      · split at hp'
        · cases hp'
        · simp only [Option.some.injEq] at hp hp'
          rw [← hp] at hp'
          simp only [Prod.mk.injEq, true_and] at hp'
          exact hne ((leafOrder_spec codes n).perm.getD_inj_of_range (hlt l hl) (hlt l' hl') hp'.symm)

/-- **The BVH branch of `CollectIntersectionPairs`**, two or more boxes. -/
theorem bvh2Pairs_spec_ge2 (codes : Array Nat) (boxes : Array Box2) (skip : Nat → Nat → Bool)
    (hc : ∀ i, i < boxes.size → codes.getD i 0 < 2 ^ 32) (hn : boxes.size < 2 ^ 32)
    (h2 : 2 ≤ boxes.size) :
    ∃ bvh ps, bvh2Build codes boxes = some bvh ∧ bvh2Pairs bvh boxes skip = some ps ∧
      ps.Pairwise pairLt ∧
      ∀ i j, (i, j) ∈ ps ↔
        (i < j ∧ j < boxes.size ∧ (boxAt boxes i).doesOverlap (boxAt boxes j) = true ∧
          skip i j = false) := by
  obtain ⟨nb, e, _, _⟩ := bvh2Build_wf codes boxes hc hn h2
  let bvh : BVH := ⟨nb, (createRadixTree (sortedMorton codes boxes.size)).1,
    (leafOrder codes boxes.size).toArray⟩
  let f : Nat → Option (List (Nat × Nat)) := fun qi =>
    (bvh2Query bvh (boxAt boxes qi)).map fun out => bvh2Keep bvh skip qi out.toList
  have hf : ∀ qi, ∃ out : Array Nat, f qi = some (bvh2Keep bvh skip qi out.toList) ∧ out.toList.Nodup ∧
      ∀ leaf, leaf ∈ out.toList ↔ (leaf < boxes.size ∧
        (boxAt boxes (lget codes boxes.size leaf)).doesOverlap (boxAt boxes qi) = true) := by
    intro qi
    obtain ⟨out, h1, h2', h3⟩ := bvh2Query_spec codes boxes hc hn h2 (bvh := bvh) e (boxAt boxes qi)
    exact ⟨out, by simp only [f, h1, Option.map_some], h2',
      fun leaf => (h3 leaf).trans (by rw [leafToOrig_getD])⟩
  have hraw : bvh2Raw bvh boxes skip =
      some ((List.range boxes.size).flatMap fun q => (f q).getD []) :=
    collectAll_spec f _ (fun q _ => by obtain ⟨out, h, _⟩ := hf q; exact ⟨_, h⟩)
  have hgrp : ∀ qi a b, (a, b) ∈ (f qi).getD [] ↔
      (a = qi ∧ qi < b ∧ b < boxes.size ∧
        (boxAt boxes b).doesOverlap (boxAt boxes qi) = true ∧ skip qi b = false) := by
    intro qi a b
    obtain ⟨out, h1, _, h3⟩ := hf qi
    rw [h1, Option.getD_some, mem_bvh2Keep]
    constructor
    · rintro ⟨ea, leaf, hl, eb, hlt, hs⟩
      obtain ⟨hl1, hl2⟩ := (h3 leaf).mp hl
      subst eb
      exact ⟨ea, hlt, (leafOrder_spec codes _).perm.getD_lt_of_range hl1, hl2, hs⟩
    · rintro ⟨ea, hlt, hb, ho, hs⟩
      obtain ⟨leaf, hl, el⟩ := (leafOrder_spec codes boxes.size).perm.getD_surj_of_range hb
      subst el
      exact ⟨ea, leaf, (h3 leaf).mpr ⟨hl, ho⟩, rfl, hlt, hs⟩
  have hnd : ((List.range boxes.size).flatMap fun q => (f q).getD []).Nodup := by
    unfold List.Nodup
    rw [List.pairwise_flatMap]
    constructor
    · intro qi _
      obtain ⟨out, h1, h2', h3⟩ := hf qi
      rw [h1, Option.getD_some]
      exact nodup_bvh2Keep codes _ nb _ skip qi _ h2' (fun l hl => ((h3 l).mp hl).1)
    · refine List.nodup_range.imp ?_
      intro q1 q2 hne x hx y hy e
      subst e
      have h1 := ((hgrp q1 x.1 x.2).mp hx).1
      have h2' := ((hgrp q2 x.1 x.2).mp hy).1
      exact hne (h1.symm.trans h2')
  refine ⟨bvh, _, e, by simp only [bvh2Pairs, hraw, Option.map_some], radixSortPairs_strict hnd, ?_⟩
  intro i j
  rw [(radixSortPairs_perm _).mem_iff, List.mem_flatMap]
  constructor
  · rintro ⟨qi, _, h⟩
    obtain ⟨ea, hlt, hb, ho, hs⟩ := (hgrp qi i j).mp h
    subst ea
    exact ⟨hlt, hb, by rw [Box2.doesOverlap_comm]; exact ho, hs⟩
  · rintro ⟨hij, hj, ho, hs⟩
    exact ⟨i, List.mem_range.mpr (by omega),
      (hgrp i i j).mpr ⟨rfl, hij, hj, by rw [Box2.doesOverlap_comm]; exact ho, hs⟩⟩

end MV.Broad2
