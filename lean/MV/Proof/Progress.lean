/-
Lemmas for property C15 (progress accounting and cancellation), about MV/Model/Progress.lean:
* the interleaving machine keeps `Inv` (numerators never above denominators at any micro step, given the
  coded store order; what an observer between its two loads can have seen)
* `BatchBoolean` / `BatchUnion` credit exactly `n - 1`
* the evaluation of an expression credits at most `NumLeaves - 1` reductions, exactly that for a tree
* cancellation on one Impl (post-loop check discipline) and on an expression (poisoned caches)
-/
import MV.Model.Progress

namespace MV.Progress

/-- the counters fit the writer's place in the reset discipline -/
def PhaseOk (ph : WPhase) (c : Counters) : Prop :=
  match ph with
  | .run b => c.donePhases + b = c.totalPhases
  | .r1 => c.donePhases ≤ c.totalPhases
  | .r2 => c.donePhases = 0
  | .r3 => c.donePhases = 0

/-- what an observer `p` between its two loads has seen.  Five clauses because `crossed` / `dirty` record what
happened to the counters since the first load (a `totalPhases.store`; after it a positive credit) and `inRun` /
`gen` when that load was: the loaded `total` is current unless a store crossed it, the numerator is still 0 after
a clean crossing, an observer that loaded in `run` of this generation has seen no store, and the last two order the
generations (inside a reset window an observer that loaded in `run` is of an older one). -/
def PendOk (c : Counters) (ph : WPhase) (gen : Nat) (p : Pending) : Prop :=
  (p.crossed = false → p.total = c.totalPhases) ∧
  (p.crossed = true → p.dirty = false → c.donePhases = 0) ∧
  (p.inRun = true → p.gen = gen → p.crossed = false) ∧
  (isRun ph = false → p.inRun = true → p.gen < gen) ∧
  p.gen ≤ gen

/-- invariant of the interleaving machine -/
structure Inv (s : St) : Prop where
  phase : PhaseOk s.ph s.c
  pend : ∀ p, s.pend = some p → PendOk s.c s.ph s.gen p
  logLe : ∀ o ∈ s.log, o.dirty = false → o.done ≤ o.total
  logCur : ∀ o ∈ s.log, o.clean = true → o.gen = s.gen → isRun s.ph = true →
      o.total = s.c.totalPhases ∧ o.done ≤ s.c.donePhases
  logGen : ∀ o ∈ s.log, o.gen ≤ s.gen
  logRun : ∀ o ∈ s.log, isRun s.ph = false → o.clean = true → o.gen < s.gen
  logMono : s.log.Pairwise (fun newer older => older.clean = true → newer.clean = true → older.gen = newer.gen →
      older.total = newer.total ∧ older.done ≤ newer.done)

theorem inv_init : Inv {} := by
  constructor <;> simp [isRun, PhaseOk]

theorem done_le_total {s : St} (h : Inv s) : s.c.donePhases ≤ s.c.totalPhases := by
  have := h.phase
  cases hp : s.ph <;> simp [hp, PhaseOk] at this <;> omega

/-- A step of the writer.  What the log needs of it: the generation never goes back and is advanced
when the writer leaves `run`; inside one evaluation the denominator stays and the numerator does not go
down. -/
theorem Inv.writer {s : St} (h : Inv s) (c' : Counters) (ph' : WPhase) (gen' : Nat)
    (pend' : Option Pending)
    (hgen : s.gen ≤ gen') (hkeep : isRun ph' = true → gen' = s.gen)
    (hrun : isRun s.ph = true → isRun ph' = true →
      c'.totalPhases = s.c.totalPhases ∧ s.c.donePhases ≤ c'.donePhases)
    (hleave : isRun ph' = false → isRun s.ph = true → s.gen < gen')
    (hphase : PhaseOk ph' c') (hpend : ∀ p, pend' = some p → PendOk c' ph' gen' p) :
    Inv { s with c := c', ph := ph', gen := gen', pend := pend' } := by
  refine ⟨hphase, hpend, h.logLe, fun o ho hc hg hr' => ?_, fun o ho => ?_, fun o ho hr' hc => ?_,
    h.logMono⟩
  · -- a clean observation of the current generation was made in `run`, so the writer is still there
    have hg' : o.gen = s.gen := hg.trans (hkeep hr')
    cases hr : isRun s.ph with
    | false => exact absurd hg' (Nat.ne_of_lt (h.logRun o ho hr hc))
    | true =>
      have h1 := h.logCur o ho hc hg' hr
      have h2 := hrun hr hr'
      exact ⟨h1.1.trans h2.1.symm, Nat.le_trans h1.2 h2.2⟩
  · exact Nat.le_trans (h.logGen o ho) hgen
  · cases hr : isRun s.ph with
    | false => exact Nat.lt_of_lt_of_le (h.logRun o ho hr hc) hgen
    | true => exact Nat.lt_of_le_of_lt (h.logGen o ho) (hleave hr' hr)

theorem step_inv_w {s s' : St} {e : WEv} (h : Inv s) (hs : s.step (.w e) = some s') : Inv s' := by
  have hdt := done_le_total h
  have hph := h.phase
  have hpend := h.pend
  unfold St.step at hs
  cases hst : s.ph.step e with
  | none => simp [hst] at hs
  | some ph' =>
    simp only [hst, Option.some.injEq] at hs
    subst hs
    cases e <;> cases hp : s.ph <;> simp [WPhase.step, hp] at hst
    all_goals (try obtain ⟨hv, rfl⟩ := hst) <;> (try subst hst) <;> (try subst hv)
    all_goals simp only [hp, PhaseOk] at hph
    all_goals refine h.writer _ _ _ _ ?_ ?_ ?_ ?_ ?_ fun p' hp' => ?_
    all_goals try (simp [hp, isRun, Counters.apply, PhaseOk] <;> omega)
    all_goals
      obtain ⟨p, hpp, rfl⟩ := Option.map_eq_some_iff.1 hp'
      obtain ⟨p1, p2, p3, p4, p5⟩ := hpend p hpp
      simp only [hp, isRun] at p4
    all_goals clear hp' hpp h hpend
    all_goals simp only [PendOk, Counters.apply, isRun]
    · -- `stDoneB` in `run`: reset begins, no observer belongs to the new generation yet
      exact ⟨p1, p2, fun _ hg => absurd hg (by omega), fun _ _ => by omega, by omega⟩
    · -- `stDoneP` in `r1`
      exact ⟨p1, fun _ _ => trivial, p3, p4, p5⟩
    · -- `stTotalB` in `r2`
      exact ⟨p1, p2, p3, p4, p5⟩
    · -- `stTotalP` in `r3`, the denominator store: the numerator is 0, and an observer of this generation did
      -- not load in `run`
      exact ⟨nofun, fun _ _ => hph, fun hi hg => absurd hg (Nat.ne_of_lt (p4 trivial hi)), nofun, p5⟩
    · -- `addDoneP` in `run`: a credit after a denominator store makes the observer dirty unless it is 0
      split
      · exact ⟨p1, nofun, p3, nofun, p5⟩
      · next hc =>
        refine ⟨p1, fun hcr hd => ?_, p3, nofun, p5⟩
        have := p2 hcr hd
        simp only [hcr, Bool.true_and, decide_eq_true_eq] at hc
        omega
    · -- `addDoneB` in `run`
      exact ⟨p1, p2, p3, p4, p5⟩
    · -- `topUpB` in `run`
      exact ⟨p1, p2, p3, p4, p5⟩
    · -- `topUpP` in `run`: a crossed observer becomes dirty
      split
      · exact ⟨p1, nofun, p3, nofun, p5⟩
      · next hc => exact ⟨p1, fun hcr => absurd hcr hc, p3, nofun, p5⟩

/-- The observer logs `o`.  A clean observation is one of the current evaluation, made in `run`, and
shows the counters as they are. -/
theorem Inv.observe {s : St} (h : Inv s) (o : Obs) (pend' : Option Pending)
    (hpend : ∀ p, pend' = some p → PendOk s.c s.ph s.gen p)
    (hle : o.dirty = false → o.done ≤ o.total) (hgen : o.gen ≤ s.gen)
    (hclean : o.clean = true → o.gen = s.gen ∧ isRun s.ph = true ∧
      o.total = s.c.totalPhases ∧ o.done = s.c.donePhases) :
    Inv { s with pend := pend', log := o :: s.log } := by
  refine ⟨h.phase, hpend, List.forall_mem_cons.2 ⟨hle, h.logLe⟩,
    List.forall_mem_cons.2 ⟨fun hc _ _ => ?_, h.logCur⟩, List.forall_mem_cons.2 ⟨hgen, h.logGen⟩,
    List.forall_mem_cons.2 ⟨fun hr hc => ?_, h.logRun⟩,
    List.pairwise_cons.2 ⟨fun o' ho' hc' hc hg => ?_, h.logMono⟩⟩
  · obtain ⟨-, -, ht, hd⟩ := hclean hc
    exact ⟨ht, Nat.le_of_eq hd⟩
  · rw [(hclean hc).2.1] at hr; cases hr
  · obtain ⟨hg', hr, ht, hd⟩ := hclean hc
    have := h.logCur o' ho' hc' (hg.trans hg') hr
    exact ⟨this.1.trans ht.symm, hd ▸ this.2⟩

theorem step_inv_loadTotal {s s' : St} (h : Inv s) (hs : s.step .loadTotal = some s') : Inv s' := by
  have hdt := done_le_total h
  unfold St.step at hs
  cases hpd : s.pend with
  | some p => simp [hpd] at hs
  | none =>
    simp only [hpd] at hs
    by_cases h0 : s.c.totalPhases = 0
    · simp only [h0, if_true, Option.some.injEq] at hs
      subst hs
      rw [← hpd]
      exact h.observe _ _ h.pend (fun _ => Nat.le_refl 0) (Nat.le_refl _)
        fun hc => ⟨rfl, hc, h0.symm, show 0 = s.c.donePhases by omega⟩
    · simp only [h0, if_false, Option.some.injEq] at hs
      subst hs
      refine ⟨h.phase, fun p hp => ?_, h.logLe, h.logCur, h.logGen, h.logRun, h.logMono⟩
      cases hp
      simp [PendOk]

theorem step_inv_loadDone {s s' : St} (h : Inv s) (hs : s.step .loadDone = some s') : Inv s' := by
  have hdt := done_le_total h
  unfold St.step at hs
  cases hpd : s.pend with
  | none => simp [hpd] at hs
  | some p =>
    simp only [hpd, Option.some.injEq] at hs
    subst hs
    obtain ⟨p1, p2, p3, -, -⟩ := h.pend p hpd
    refine h.observe _ none nofun (fun hd => ?_) (Nat.le_refl _) fun hc => ?_
    · -- not dirty: no denominator store in between, or one but no credit after it
      cases hc : p.crossed
      · have := p1 hc; show s.c.donePhases ≤ p.total; omega
      · have := p2 hc hd; show s.c.donePhases ≤ p.total; omega
    · simp only [Bool.and_eq_true, decide_eq_true_eq] at hc
      exact ⟨rfl, hc.1.2, p1 (p3 hc.1.1 hc.2), rfl⟩

theorem step_inv {s s' : St} {e : Ev} (h : Inv s) (hs : s.step e = some s') : Inv s' := by
  cases e with
  | w e => exact step_inv_w h hs
  | loadTotal => exact step_inv_loadTotal h hs
  | loadDone => exact step_inv_loadDone h hs

theorem run_inv {s s' : St} (evs : List Ev) (h : Inv s) (hs : s.run evs = some s') : Inv s' := by
  induction evs generalizing s with
  | nil => simp only [St.run, Option.some.injEq] at hs; exact hs ▸ h
  | cons e es ih =>
    unfold St.run at hs
    cases he : s.step e with
    | none => simp [he] at hs
    | some s1 =>
      simp only [he] at hs
      exact ih (step_inv h he) hs

theorem batchBooleanCount_go (fuel h : Nat) (hf : h ≤ fuel) : batchBooleanCount.go fuel h = h - 1 := by
  induction fuel generalizing h with
  | zero => simp [batchBooleanCount.go]; omega
  | succ n ih =>
    unfold batchBooleanCount.go
    by_cases h1 : h ≤ 1
    · simp [h1]
    · simp only [h1, if_false]
      have hj : 1 ≤ min 4 (h / 2) := by omega
      have hj2 : min 4 (h / 2) ≤ h / 2 := Nat.min_le_right _ _
      rw [ih (h - min 4 (h / 2)) (by omega)]
      omega

theorem batchBooleanCount_eq (k : Nat) : batchBooleanCount k = k - 1 :=
  batchBooleanCount_go k k (Nat.le_refl k)

theorem sum_pred (sets : List Nat) (hpos : sets.all (0 < ·) = true) :
    (sets.map (· - 1)).sum + sets.length = sets.sum := by
  induction sets with
  | nil => simp
  | cons a rest ih =>
    simp only [List.all_cons, Bool.and_eq_true, decide_eq_true_eq] at hpos
    have := ih hpos.2
    simp only [List.map_cons, List.sum_cons, List.length_cons]
    omega

theorem batchUnionRound_eq (sets : List Nat) (hpos : sets.all (0 < ·) = true) (h2 : 1 ≤ sets.sum) :
    batchUnionRound sets = sets.sum - 1 := by
  unfold batchUnionRound
  rw [batchBooleanCount_eq]
  have := sum_pred sets hpos
  have hl : 1 ≤ sets.length := by
    cases sets with
    | nil => simp at h2
    | cons => simp
  omega

theorem batchUnionCredits_eq (rounds : List (List Nat)) (n c : Nat)
    (h : batchUnionCredits n rounds = some c) : c = n - 1 := by
  induction rounds generalizing n c with
  | nil =>
    unfold batchUnionCredits at h
    split at h <;> simp at h
    omega
  | cons sets rest ih =>
    unfold batchUnionCredits at h
    by_cases h1 : n ≤ 1
    · simp [h1] at h
    · simp only [h1, if_false] at h
      split at h
      · rename_i hc
        obtain ⟨hs, hp⟩ := hc
        cases hr : batchUnionCredits (n - min n 1000 + 1) rest with
        | none => simp [hr] at h
        | some c' =>
          simp [hr] at h
          have := ih _ _ hr
          rw [Nat.add_sub_cancel, ← hs] at this
          have hle : sets.sum ≤ n := hs ▸ Nat.min_le_left ..
          have h2 : 1 ≤ sets.sum := by omega
          rw [batchUnionRound_eq sets hp h2] at h
          clear hs
          omega
      · simp at h

mutual
theorem Csg.numLeaves_pos : ∀ (t : Csg) (memo : List Nat), t.wf = true → 1 ≤ t.numLeaves memo
  | .leaf, _, _ => by simp [Csg.numLeaves]
  | .node op col share kids, memo, h => by
    simp only [Csg.wf, Bool.and_eq_true, decide_eq_true_eq] at h
    have := Kids.numLeaves_pos kids memo h.2 h.1
    unfold Csg.numLeaves
    cases share with
    | none => simpa using this
    | some id => by_cases hm : id ∈ memo <;> simp [hm] <;> omega
theorem Kids.numLeaves_pos : ∀ (ks : Kids) (memo : List Nat), ks.wf = true → 1 ≤ ks.length → 1 ≤ ks.numLeaves memo
  | .nil, _, _, h => by simp [Kids.length] at h
  | .cons t ks, memo, h, _ => by
    simp only [Kids.wf, Bool.and_eq_true] at h
    have := Csg.numLeaves_pos t memo h.1
    simp only [Kids.numLeaves]
    omega
end

mutual
theorem Csg.numLeaves_mono : ∀ (t : Csg) (m m' : List Nat), t.wf = true → (∀ x ∈ m, x ∈ m') →
    t.numLeaves m' ≤ t.numLeaves m
  | .leaf, _, _, _, _ => by simp [Csg.numLeaves]
  | .node op col share kids, m, m', h, hs => by
    have hw := h
    simp only [Csg.wf, Bool.and_eq_true, decide_eq_true_eq] at h
    have ih := Kids.numLeaves_mono kids m m' h.2 hs
    have hp := Kids.numLeaves_pos kids m h.2 h.1
    unfold Csg.numLeaves
    cases share with
    | none => simpa using ih
    | some id =>
      simp only
      by_cases hm : id ∈ m
      · simp [hm, hs id hm]
      · by_cases hm' : id ∈ m' <;> simp [hm, hm'] <;> omega
theorem Kids.numLeaves_mono : ∀ (ks : Kids) (m m' : List Nat), ks.wf = true → (∀ x ∈ m, x ∈ m') →
    ks.numLeaves m' ≤ ks.numLeaves m
  | .nil, _, _, _, _ => by simp [Kids.numLeaves]
  | .cons t ks, m, m', h, hs => by
    simp only [Kids.wf, Bool.and_eq_true] at h
    have := Csg.numLeaves_mono t m m' h.1 hs
    have := Kids.numLeaves_mono ks m m' h.2 hs
    simp only [Kids.numLeaves]
    omega
end

/-- what one frame does, against the unfolded leaf count `n` of what it processed -/
structure EvalSpec (n : Nat) (memo : List Nat) (tree : Bool) (o : Out) : Prop where
  le : o.pos + o.neg + o.credits ≤ n
  eq : tree = true → o.pos + o.neg + o.credits = n ∧ o.memo = memo
  sub : ∀ x ∈ memo, x ∈ o.memo

theorem finalize_spec {op : Op} {p q f : Nat} (hp : 1 ≤ p) (h : finalizeCredits op p q = some f) :
    f + 1 = p + q := by
  cases op <;> simp only [finalizeCredits] at h
  · split at h <;> simp at h; omega
  · split at h <;> simp at h
    rw [batchBooleanCount_eq] at h; omega
  · split at h
    · omega
    · split at h <;> simp at h <;> omega

/-- a frame that is finalized: its children go to its own lists, then `finalizeCredits` -/
theorem finalize_case {op : Op} {col : Bool} {share : Option Nat} {kids : Kids} {memo : List Nat} {o : Out}
    (ih : ∀ ok, kids.eval op true true memo = some ok →
      EvalSpec (kids.numLeaves memo) memo kids.isTree ok ∧ 1 ≤ ok.pos)
    (h : (match kids.eval op true true memo with
      | none => none
      | some ok => match finalizeCredits op ok.pos ok.neg with
        | none => none
        | some f => some { pos := 1, neg := 0, credits := ok.credits + f,
                           memo := match share with | some id => id :: ok.memo | none => ok.memo }) = some o)
    (hit : ∀ id, share = some id → id ∉ memo) :
    EvalSpec ((Csg.node op col share kids).numLeaves memo) memo (Csg.node op col share kids).isTree o ∧
      1 ≤ o.pos := by
  cases hk : kids.eval op true true memo with
  | none => simp [hk] at h
  | some ok =>
    simp only [hk] at h
    cases hf : finalizeCredits op ok.pos ok.neg with
    | none => simp [hf] at h
    | some f =>
      simp only [hf, Option.some.injEq] at h
      subst h
      obtain ⟨sp, hp⟩ := ih ok hk
      refine ⟨?_, Nat.le_refl 1⟩
      have hfin := finalize_spec hp hf
      have hnl : (Csg.node op col share kids).numLeaves memo = kids.numLeaves memo := by
        unfold Csg.numLeaves
        cases share with
        | none => rfl
        | some id =>
          have : id ∉ memo := hit id rfl
          simp [this]
      refine ⟨?_, ?_, ?_⟩
      · rw [hnl]; have := sp.le; simp only; omega
      · intro ht
        simp only [Csg.isTree, Bool.and_eq_true, Option.isNone_iff_eq_none] at ht
        obtain ⟨hsh, htk⟩ := ht
        subst hsh
        have := sp.eq htk
        rw [hnl]
        simp only
        constructor
        · omega
        · exact this.2
      · intro x hx
        have := sp.sub x hx
        cases share with
        | none => simpa using this
        | some id => simp [this]

mutual
theorem Csg.eval_spec : ∀ (t : Csg) (pop : Op) (hn : Bool) (memo : List Nat) (o : Out),
    t.wf = true → t.eval pop hn memo = some o →
    EvalSpec (t.numLeaves memo) memo t.isTree o ∧ 1 ≤ o.pos
  | .leaf, _, _, memo, o, _, h => by
    simp only [Csg.eval, Option.some.injEq] at h
    subst h
    exact ⟨⟨by simp [Csg.numLeaves], by simp [Csg.numLeaves], fun _ hx => hx⟩, Nat.le_refl 1⟩
  | .node op col share kids, pop, hn, memo, o, hw, h => by
    have hw' := hw
    simp only [Csg.wf, Bool.and_eq_true, decide_eq_true_eq] at hw'
    unfold Csg.eval at h
    cases share with
    | none =>
      simp only [Bool.false_eq_true, if_false, Option.isNone_none, Bool.true_and] at h
      by_cases hc : (col && decide (op = pop)) = true
      · rw [if_pos hc] at h
        obtain ⟨sp, hpos⟩ := Kids.eval_spec kids op hn true memo o hw'.2 h
        refine ⟨⟨?_, ?_, sp.sub⟩, hpos (Or.inl rfl) hw'.1⟩
        · simpa [Csg.numLeaves] using sp.le
        · intro ht
          simp only [Csg.isTree, Bool.and_eq_true] at ht
          simpa [Csg.numLeaves] using sp.eq ht.2
      · rw [if_neg hc] at h
        exact finalize_case (share := none) (fun ok hk =>
          have ⟨sp, hpos⟩ := Kids.eval_spec kids op true true memo ok hw'.2 hk
          ⟨sp, hpos (Or.inl rfl) hw'.1⟩) h nofun
    | some id =>
      simp only [Option.isNone_some, Bool.false_and, Bool.false_eq_true, if_false] at h
      by_cases hm : id ∈ memo
      · simp only [hm, decide_true, if_true, Option.some.injEq] at h
        subst h
        refine ⟨⟨?_, ?_, fun _ hx => hx⟩, Nat.le_refl 1⟩
        · simp [Csg.numLeaves, hm]
        · simp [Csg.isTree]
      · simp only [hm, decide_false, Bool.false_eq_true, if_false] at h
        exact finalize_case (share := some id) (fun ok hk =>
          have ⟨sp, hpos⟩ := Kids.eval_spec kids op true true memo ok hw'.2 hk
          ⟨sp, hpos (Or.inl rfl) hw'.1⟩) h (by simpa using hm)
theorem Kids.eval_spec : ∀ (ks : Kids) (op : Op) (hn first : Bool) (memo : List Nat) (o : Out),
    ks.wf = true → ks.eval op hn first memo = some o →
    EvalSpec (ks.numLeaves memo) memo ks.isTree o ∧
      ((first = true ∨ op ≠ .subtract) → 1 ≤ ks.length → 1 ≤ o.pos)
  | .nil, _, _, _, memo, o, _, h => by
    simp only [Kids.eval, Option.some.injEq] at h
    subst h
    exact ⟨⟨by simp [Kids.numLeaves], by simp [Kids.numLeaves], fun _ hx => hx⟩, by simp [Kids.length]⟩
  | .cons t ks, op, hn, first, memo, o, hw, h => by
    simp only [Kids.wf, Bool.and_eq_true] at hw
    unfold Kids.eval at h
    simp only at h
    generalize hN : (decide (op = Op.subtract) && !first) = negative at h
    generalize hC : (decide (op = Op.subtract) && first && hn) = chn at h
    by_cases hg : (negative && !hn) = true
    · rw [if_pos hg] at h; cases h
    · rw [if_neg hg] at h
      cases ht : t.eval (if negative = true then Op.add else op) chn memo with
      | none => simp [ht] at h
      | some a =>
        simp only [ht] at h
        by_cases hg' : (decide (a.neg ≠ 0) && !chn) = true
        · rw [if_pos hg'] at h; cases h
        · rw [if_neg hg'] at h
          cases hk : ks.eval op hn false a.memo with
          | none => simp [hk] at h
          | some b =>
            simp only [hk] at h
            obtain ⟨sa, hpa⟩ := Csg.eval_spec t _ _ memo a hw.1 ht
            obtain ⟨sb, _⟩ := Kids.eval_spec ks op hn false a.memo b hw.2 hk
            have hmono := Kids.numLeaves_mono ks memo a.memo hw.2 sa.sub
            have hsub : ∀ x ∈ memo, x ∈ b.memo := fun x hx => sb.sub x (sa.sub x hx)
            have hle := sa.le
            have hle2 := sb.le
            have heq : (Kids.cons t ks).isTree = true →
                a.pos + a.neg + a.credits + (b.pos + b.neg + b.credits) = (Kids.cons t ks).numLeaves memo ∧ b.memo = memo := by
              intro htr
              simp only [Kids.isTree, Bool.and_eq_true] at htr
              have ea := sa.eq htr.1
              have eb := sb.eq htr.2
              rw [ea.2] at eb
              simp only [Kids.numLeaves]
              exact ⟨by omega, eb.2⟩
            cases negative with
            | true =>
              simp only [if_true, Option.some.injEq] at h
              subst h
              refine ⟨⟨?_, ?_, hsub⟩, ?_⟩
              · simp only [Kids.numLeaves]; omega
              · intro htr
                have := heq htr
                exact ⟨by simp only; omega, this.2⟩
              · intro hfo
                simp only [Bool.and_eq_true, decide_eq_true_eq, Bool.not_eq_true'] at hN
                rcases hfo with hf | hf
                · simp [hf] at hN
                · exact absurd hN.1 hf
            | false =>
              simp only [Bool.false_eq_true, if_false, Option.some.injEq] at h
              subst h
              refine ⟨⟨?_, ?_, hsub⟩, ?_⟩
              · simp only [Kids.numLeaves]; omega
              · intro htr
                have := heq htr
                exact ⟨by simp only; omega, this.2⟩
              · intro _ _
                simp only
                omega
end

/-- the root frame is an ordinary frame that is never collapsed into a parent -/
theorem Csg.evalRoot_eq_eval (pop : Op) (hn : Bool) (memo : List Nat) (op : Op) (col : Bool)
    (share : Option Nat) (kids : Kids) :
    (Csg.node op col share kids).evalRoot memo = (Csg.node op false share kids).eval pop hn memo := by
  simp [Csg.evalRoot, Csg.eval]

/-- `Csg.eval_spec` for the root frame, which returns one positive leaf -/
theorem Csg.evalRoot_spec (t : Csg) (memo : List Nat) (o : Out) (hw : t.wf = true)
    (h : t.evalRoot memo = some o) :
    EvalSpec (t.numLeaves memo) memo t.isTree o ∧ o.pos = 1 ∧ o.neg = 0 := by
  cases t with
  | leaf =>
    refine ⟨(Csg.eval_spec .leaf .add false memo o hw h).1, ?_⟩
    cases h; exact ⟨rfl, rfl⟩
  | node op col share kids =>
    have h' := h
    rw [Csg.evalRoot_eq_eval .add false] at h'
    refine ⟨by simpa [Csg.numLeaves, Csg.isTree] using
      (Csg.eval_spec (.node op false share kids) .add false memo o hw h').1, ?_⟩
    -- every branch of `evalRoot` that returns something returns one positive leaf
    rcases share with _ | id <;> simp only [Csg.evalRoot] at h <;> repeat' split at h
    all_goals first | (cases h; exact ⟨rfl, rfl⟩) | cases h

theorem tick_zero : tick (some 0) = (true, some 0) := rfl
theorem tick_none : tick none = (false, none) := rfl

theorem tick_true {f f' : Fuel} (h : tick f = (true, f')) : f = some 0 ∧ f' = some 0 := by
  cases f with
  | none => simp [tick] at h
  | some n => cases n with
    | zero => simp [tick] at h; exact ⟨rfl, h.symm⟩
    | succ n => simp [tick] at h

theorem runLoop_none (n : Nat) : runLoop n none = (true, none) := by
  induction n with
  | zero => rfl
  | succ n ih => simp [runLoop, tick, ih]

theorem runLoop_false {n : Nat} {f f' : Fuel} (h : runLoop n f = (false, f')) : f' = some 0 := by
  induction n generalizing f with
  | zero => simp [runLoop] at h
  | succ n ih =>
    unfold runLoop at h
    cases ht : tick f with
    | mk c f1 =>
      cases c with
      | true => simp [ht] at h; rw [← h]; exact (tick_true ht).2
      | false => simp [ht] at h; exact ih h

theorem runLoop_zero_fuel (n : Nat) : (runLoop n (some 0)).2 = some 0 := by
  cases n with
  | zero => rfl
  | succ n => simp [runLoop, tick]

/-- the flag is sticky: once seen, every later `check` aborts -/
theorem exec_cancelled_of_check (p : List Stmt) (b : Built) (h : p.contains .check = true) :
    (exec p (some 0) b).1 = .cancelled := by
  induction p generalizing b with
  | nil => simp at h
  | cons s rest ih =>
    cases s with
    | work id =>
      simp only [exec]
      apply ih
      simpa using h
    | loop id n =>
      have hr : rest.contains .check = true := by simpa using h
      simp only [exec]
      have h0 := runLoop_zero_fuel n
      cases hl : runLoop n (some 0) with
      | mk c f1 =>
        rw [hl] at h0
        simp only at h0
        subst h0
        cases c <;> simp only <;> exact ih _ hr
    | check => simp [exec, tick]

theorem exec_all_or_nothing (p : List Stmt) (hg : guarded p = true) (f : Fuel) (b : Built) :
    (exec p f b).1 = .cancelled ∨ (exec p f b).1 = (exec p none b).1 := by
  induction p generalizing f b with
  | nil => right; rfl
  | cons s rest ih =>
    cases s with
    | work id =>
      simp only [exec]
      exact ih (by simpa [guarded] using hg) f _
    | loop id n =>
      simp only [guarded, Bool.and_eq_true] at hg
      simp only [exec, runLoop_none]
      cases hl : runLoop n f with
      | mk c f1 =>
        cases c with
        | true => simp only; exact ih hg.2 f1 _
        | false =>
          simp only
          have := runLoop_false hl
          subst this
          left
          exact exec_cancelled_of_check rest _ hg.1
    | check =>
      simp only [exec, tick_none]
      cases ht : tick f with
      | mk c f1 =>
        cases c with
        | true => left; rfl
        | false => simp only; exact ih (by simpa [guarded] using hg) f1 b

/-- an uncancelled run never produces partial output -/
theorem exec_none_not_partial (p : List Stmt) (b : Built) :
    ∃ b', (exec p none b).1 = .value b' ∧ b'.partialOutput = b.partialOutput := by
  induction p generalizing b with
  | nil => exact ⟨b, rfl, rfl⟩
  | cons s rest ih =>
    cases s with
    | work id => simp only [exec]; exact ih _
    | loop id n => simp only [exec, runLoop_none]; exact ih _
    | check => simp only [exec, tick_none]; exact ih _

theorem ticks_none (n : Nat) : ticks n none = (false, none) := by
  induction n with
  | zero => rfl
  | succ n ih => simp [ticks, tick, ih]

theorem ticks_true {n : Nat} {f f' : Fuel} (h : ticks n f = (true, f')) : f' = some 0 := by
  induction n generalizing f with
  | zero => simp [ticks] at h
  | succ n ih =>
    unfold ticks at h
    cases ht : tick f with
    | mk c f1 =>
      cases c with
      | true => simp [ht] at h; rw [← h]; exact (tick_true ht).2
      | false => simp [ht] at h; exact ih h

theorem poisonPending_doneClosed : ∀ (ks : CKids), ks.doneClosed = true → ks.poisonPending.doneClosed = true
  | .nil, _ => by simp [CKids.poisonPending, CKids.doneClosed]
  | .cons t ks, h => by
    simp only [CKids.doneClosed, Bool.and_eq_true] at h
    have ih := poisonPending_doneClosed ks h.2
    simp only [CKids.poisonPending, CKids.doneClosed, Bool.and_eq_true]
    refine ⟨?_, ih⟩
    cases t with
    | leaf => simp [CTree.doneClosed]
    | node c n kids =>
      cases c
      · simp only [CTree.doneClosed, Bool.and_eq_true, Bool.or_eq_true] at h ⊢
        exact ⟨Or.inl (by simp), h.1.2⟩
      · exact h.1
      · exact h.1

mutual
theorem CTree.doneClosed_of_allDone : ∀ (t : CTree), t.allDone = true → t.doneClosed = true
  | .leaf, _ => by simp [CTree.doneClosed]
  | .node c n kids, h => by
    simp only [CTree.allDone, Bool.and_eq_true, decide_eq_true_eq] at h
    simp only [CTree.doneClosed, Bool.and_eq_true, Bool.or_eq_true]
    exact ⟨Or.inr h.2, CKids.doneClosed_of_allDone kids h.2⟩
theorem CKids.doneClosed_of_allDone : ∀ (ks : CKids), ks.allDone = true → ks.doneClosed = true
  | .nil, _ => by simp [CKids.doneClosed]
  | .cons t ks, h => by
    simp only [CKids.allDone, Bool.and_eq_true] at h
    simp only [CKids.doneClosed, Bool.and_eq_true]
    exact ⟨CTree.doneClosed_of_allDone t h.1, CKids.doneClosed_of_allDone ks h.2⟩
end

/-- what one evaluation does to a node, for every fuel -/
structure EvalC (f : Fuel) (c : Bool) (f' : Fuel) : Prop where
  fuel : c = true → f' = some 0

mutual
theorem CTree.eval_spec : ∀ (t : CTree) (f : Fuel), t.clean = true → t.doneClosed = true →
    ((t.eval f).1 = false → (t.eval f).2.2 = (t.eval none).2.2 ∧ (t.eval f).2.2.allDone = true) ∧
    ((t.eval f).1 = true → (t.eval f).2.1 = some 0 ∧ (t.eval f).2.2.cacheOf = .cancelled ∧ (t.eval f).2.2.doneClosed = true) ∧
    (t.eval none).1 = false ∧ (t.eval none).2.1 = none
  | .leaf, f, _, _ => by simp [CTree.eval, CTree.allDone]
  | .node c n kids, f, hc, hd => by
    simp only [CTree.clean, Bool.and_eq_true, decide_eq_true_eq] at hc
    simp only [CTree.doneClosed, Bool.and_eq_true, Bool.or_eq_true, decide_eq_true_eq] at hd
    cases c with
    | cancelled => exact absurd rfl hc.1
    | done =>
      have : kids.allDone = true := by
        rcases hd.1 with h | h
        · exact absurd rfl h
        · exact h
      simp [CTree.eval, CTree.allDone, this]
    | empty =>
      obtain ⟨ih1, ih2, ih3, ih4⟩ := CKids.eval_spec kids f hc.2 hd.2
      have e0 : (CTree.node Cache.empty n kids).eval none = (false, none, .node .done n (kids.eval none).2.2) := by
        simp only [CTree.eval]
        rcases hk : kids.eval none with ⟨c0, f0, k0⟩
        rw [hk] at ih3 ih4
        simp only at ih3 ih4
        subst ih3; subst ih4
        simp [ticks_none]
      rw [e0]
      simp only [CTree.eval]
      rcases hk : kids.eval f with ⟨c1, f1, k1⟩
      rw [hk] at ih1 ih2
      simp only at ih1 ih2
      cases c1 with
      | true =>
        obtain ⟨hf, hdc⟩ := ih2 rfl
        simp only [CTree.cacheOf, CTree.doneClosed, Bool.and_eq_true, Bool.or_eq_true, decide_eq_true_eq]
        refine ⟨by simp, fun _ => ⟨hf, trivial, Or.inl (by simp), hdc⟩, trivial, trivial⟩
      | false =>
        obtain ⟨hk1, had⟩ := ih1 rfl
        simp only
        rcases ht : ticks (n + 1) f1 with ⟨c2, f2⟩
        cases c2 with
        | true =>
          have := ticks_true ht
          simp only [CTree.cacheOf, CTree.doneClosed, Bool.and_eq_true, Bool.or_eq_true, decide_eq_true_eq]
          refine ⟨by simp, fun _ => ⟨this, trivial, Or.inl (by simp), ?_⟩, trivial, trivial⟩
          exact CKids.doneClosed_of_allDone k1 had
        | false =>
          simp only [CTree.allDone, Bool.and_eq_true, decide_eq_true_eq]
          refine ⟨fun _ => ⟨by rw [hk1], trivial, had⟩, by simp, trivial, trivial⟩
theorem CKids.eval_spec : ∀ (ks : CKids) (f : Fuel), ks.clean = true → ks.doneClosed = true →
    ((ks.eval f).1 = false → (ks.eval f).2.2 = (ks.eval none).2.2 ∧ (ks.eval f).2.2.allDone = true) ∧
    ((ks.eval f).1 = true → (ks.eval f).2.1 = some 0 ∧ (ks.eval f).2.2.doneClosed = true) ∧
    (ks.eval none).1 = false ∧ (ks.eval none).2.1 = none
  | .nil, f, _, _ => by simp [CKids.eval, CKids.allDone]
  | .cons t ks, f, hc, hd => by
    simp only [CKids.clean, Bool.and_eq_true] at hc
    simp only [CKids.doneClosed, Bool.and_eq_true] at hd
    obtain ⟨t1, t2, t3, t4⟩ := CTree.eval_spec t f hc.1 hd.1
    have e0 : (CKids.cons t ks).eval none = ((ks.eval none).1, (ks.eval none).2.1, .cons (t.eval none).2.2 (ks.eval none).2.2) := by
      simp only [CKids.eval]
      rcases hk : t.eval none with ⟨c0, f0, k0⟩
      rw [hk] at t3 t4
      simp only at t3 t4
      subst t3; subst t4
      simp
    obtain ⟨_, _, k03, k04⟩ := CKids.eval_spec ks none hc.2 hd.2
    rw [e0]
    simp only [CKids.eval]
    rcases ht : t.eval f with ⟨c1, f1, t'⟩
    rw [ht] at t1 t2
    simp only at t1 t2
    cases c1 with
    | true =>
      obtain ⟨hf, _, hdc⟩ := t2 rfl
      simp only [CKids.doneClosed, Bool.and_eq_true]
      exact ⟨by simp, fun _ => ⟨hf, hdc, poisonPending_doneClosed ks hd.2⟩, k03, k04⟩
    | false =>
      obtain ⟨ht1, had⟩ := t1 rfl
      simp only
      obtain ⟨k1, k2, _, _⟩ := CKids.eval_spec ks f1 hc.2 hd.2
      rcases hk : ks.eval f1 with ⟨c2, f2, ks'⟩
      rw [hk] at k1 k2
      simp only at k1 k2
      simp only [CKids.allDone, CKids.doneClosed, Bool.and_eq_true]
      refine ⟨fun h2 => ?_, fun h2 => ?_, k03, k04⟩
      · obtain ⟨e, a⟩ := k1 h2
        exact ⟨by rw [ht1, e], had, a⟩
      · obtain ⟨e, a⟩ := k2 h2
        exact ⟨e, CTree.doneClosed_of_allDone t' had, a⟩
end

end MV.Progress
