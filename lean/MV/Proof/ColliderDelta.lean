import MV.Model.Collider
/-!
Karras' δ function for the model of `PrefixLength` (collider.h:92-105): `prefixLength codes i j`
is the length of the common prefix of the 64-bit keys `code * 2^32 + index`, and therefore
satisfies `δ(i,k) = min (δ(i,j)) (δ(j,k))` and `δ(i,j) ≠ δ(j,k)` on sorted codes.
Core Lean only.
-/
namespace MV.Collider

/-- keys agree on their top `L` bits of `W` -/
def agree (W L x y : Nat) : Prop := x / 2 ^ (W - L) = y / 2 ^ (W - L)

theorem agree_mid {W L x y z : Nat} (hxy : x ≤ y) (hyz : y ≤ z) (h : agree W L x z) :
    agree W L x y ∧ agree W L y z := by
  unfold agree at *
  have h1 : x / 2 ^ (W - L) ≤ y / 2 ^ (W - L) := Nat.div_le_div_right hxy
  have h2 : y / 2 ^ (W - L) ≤ z / 2 ^ (W - L) := Nat.div_le_div_right hyz
  omega

theorem agree_trans {W L x y z : Nat} (h1 : agree W L x y) (h2 : agree W L y z) :
    agree W L x z := by
  unfold agree at *; omega

theorem agree_mono {W L L' x y : Nat} (h : L' ≤ L) (hL : L ≤ W) (a : agree W L x y) :
    agree W L' x y := by
  unfold agree at *
  rw [← Nat.sub_add_sub_cancel hL h, Nat.pow_add, ← Nat.div_div_eq_div_mul,
    ← Nat.div_div_eq_div_mul, a]

/-- one more bit: with `p` the `L`-prefix, the `(L+1)`-prefix is `2p` or `2p + 1` -/
theorem prefix_succ (W L x : Nat) (hL : L < W) :
    2 * (x / 2 ^ (W - L)) ≤ x / 2 ^ (W - (L+1)) ∧ x / 2 ^ (W - (L+1)) ≤ 2 * (x / 2 ^ (W - L)) + 1 := by
  have : W - L = (W - (L+1)) + 1 := by omega
  rw [this, Nat.pow_succ, ← Nat.div_div_eq_div_mul]
  omega

/-- three sorted keys cannot have the same "first differing bit" for (x,y) and (y,z) -/
theorem no_equal_split {W L x y z : Nat} (hL : L < W) (hxy : x ≤ y) (hyz : y ≤ z)
    (a1 : agree W L x y) (d1 : ¬ agree W (L+1) x y)
    (a2 : agree W L y z) (d2 : ¬ agree W (L+1) y z) : False := by
  unfold agree at *
  have m1 : x / 2 ^ (W - (L+1)) ≤ y / 2 ^ (W - (L+1)) := Nat.div_le_div_right hxy
  have m2 : y / 2 ^ (W - (L+1)) ≤ z / 2 ^ (W - (L+1)) := Nat.div_le_div_right hyz
  -- the three (L+1)-prefixes increase strictly inside `{2p, 2p+1}`
  have hx := (prefix_succ W L x hL).1
  have hz := (prefix_succ W L z hL).2
  omega

/-- codes fit in 32 bits and are non-decreasing -/
def Sorted (codes : Array Nat) : Prop :=
  (∀ i, i < codes.size → codes.getD i 0 < 2 ^ 32) ∧
  ∀ i j, i ≤ j → j < codes.size → codes.getD i 0 ≤ codes.getD j 0

theorem sorted_of_sortedCodes {codes : Array Nat} (h : sortedCodes codes = true) :
    Sorted codes := by
  unfold sortedCodes at h
  rw [Bool.and_eq_true, List.all_eq_true, List.all_eq_true] at h
  obtain ⟨h1, h2⟩ := h
  have adj : ∀ i, i + 1 < codes.size → codes.getD i 0 ≤ codes.getD (i + 1) 0 := by
    intro i hi
    have := h2 i (List.mem_range.mpr (by omega))
    exact of_decide_eq_true this
  refine ⟨?_, ?_⟩
  · intro i hi
    have hm : codes[i] ∈ codes.toList := by simp
    have := of_decide_eq_true (h1 _ hm)
    simpa [Array.getD, hi] using this
  · intro i j
    induction j with
    | zero =>
      intro hij _
      have : i = 0 := by omega
      subst this; exact Nat.le_refl _
    | succ j ih =>
      intro hij hj
      by_cases hij' : i = j + 1
      · subst hij'; exact Nat.le_refl _
      · exact Nat.le_trans (ih (by omega) (by omega)) (adj j hj)

/-- the 64-bit key: Morton code in the high word, leaf index in the low word -/
def key (codes : Array Nat) (i : Nat) : Nat := codes.getD i 0 * 2 ^ 32 + i

theorem key_mono {codes : Array Nat} (hs : Sorted codes) {i j : Nat} (hij : i ≤ j)
    (hj : j < codes.size) : key codes i ≤ key codes j := by
  unfold key
  have := hs.2 i j hij hj
  omega

theorem xor_eq_zero_iff {a b : Nat} : a ^^^ b = 0 ↔ a = b := by
  constructor
  · intro h
    apply Nat.eq_of_testBit_eq
    intro i
    have := congrArg (·.testBit i) h
    simp [Nat.testBit_xor] at this
    exact this
  · rintro rfl; exact Nat.xor_self a

theorem bitLen_le_iff (x k : Nat) : bitLen x ≤ k ↔ x < 2 ^ k := by
  unfold bitLen
  split
  · next h => subst h; simp [Nat.two_pow_pos]
  · next h =>
    rw [← Nat.log2_lt h]
    omega

theorem shiftRight_eq_iff (x y k : Nat) : x >>> k = y >>> k ↔ bitLen (x ^^^ y) ≤ k := by
  rw [bitLen_le_iff, ← xor_eq_zero_iff, ← Nat.shiftRight_xor_distrib, Nat.shiftRight_eq_div_pow,
    Nat.div_eq_zero_iff]
  have : 2 ^ k ≠ 0 := Nat.ne_of_gt (Nat.two_pow_pos k)
  constructor
  · rintro (h | h)
    · exact absurd h this
    · exact h
  · exact Or.inr

/-- clz32 (a xor b) is the number of leading bits (of 32) on which a and b agree: for every L ≤ 32,
 a and b agree on the top L bits iff L ≤ clz32 (a ^^^ b). (For a = b this gives 32.) -/
theorem clz32_xor_spec {a b : Nat} (ha : a < 2 ^ 32) (hb : b < 2 ^ 32) (L : Nat) (hL : L ≤ 32) :
    (a >>> (32 - L) = b >>> (32 - L)) ↔ L ≤ clz32 (a ^^^ b) := by
  rw [shiftRight_eq_iff]
  have hx : bitLen (a ^^^ b) ≤ 32 := (bitLen_le_iff _ _).mpr (Nat.xor_lt_two_pow ha hb)
  unfold clz32
  omega

theorem clz32_le (x : Nat) : clz32 x ≤ 32 := by unfold clz32; omega

theorem clz32_lt_of_ne_zero {x : Nat} (h : x ≠ 0) : clz32 x < 32 := by
  unfold clz32 bitLen
  rw [if_neg h]; omega

theorem clz32_zero : clz32 0 = 32 := by
  unfold clz32 bitLen; simp

theorem key_div32 (c i : Nat) (hi : i < 2 ^ 32) : (c * 2 ^ 32 + i) / 2 ^ 32 = c := by
  rw [Nat.mul_comm, Nat.mul_add_div (Nat.two_pow_pos _), Nat.div_eq_of_lt hi]
  rfl

theorem key_div_low (c i L : Nat) (hi : i < 2 ^ 32) (hL : L ≤ 32) :
    (c * 2 ^ 32 + i) / 2 ^ (64 - L) = c / 2 ^ (32 - L) := by
  have : 64 - L = 32 + (32 - L) := by omega
  rw [this, Nat.pow_add, ← Nat.div_div_eq_div_mul, key_div32 c i hi]

theorem key_div_high (c i L : Nat) (hL : 32 ≤ L) (hL' : L ≤ 64) :
    (c * 2 ^ 32 + i) / 2 ^ (64 - L) = c * 2 ^ (L - 32) + i / 2 ^ (64 - L) := by
  have : (2 : Nat) ^ 32 = 2 ^ (64 - L) * 2 ^ (L - 32) := by
    rw [← Nat.pow_add]; congr 1; omega
  have h2 : c * 2 ^ 32 = 2 ^ (64 - L) * (c * 2 ^ (L - 32)) := by
    rw [this, Nat.mul_left_comm]
  rw [h2, Nat.mul_add_div (Nat.two_pow_pos _)]

theorem agree_key_iff {ci cj a b : Nat} (hci : ci < 2 ^ 32) (hcj : cj < 2 ^ 32)
    (ha : a < 2 ^ 32) (hb : b < 2 ^ 32) (L : Nat) (hL : L ≤ 64) :
    agree 64 L (ci * 2 ^ 32 + a) (cj * 2 ^ 32 + b) ↔
      (L : Int) ≤ (if ci = cj then 32 + (clz32 (a ^^^ b) : Int) else (clz32 (ci ^^^ cj) : Int)) := by
  by_cases h32 : L ≤ 32
  · unfold agree
    rw [key_div_low ci a L ha h32, key_div_low cj b L hb h32, ← Nat.shiftRight_eq_div_pow,
      ← Nat.shiftRight_eq_div_pow, clz32_xor_spec hci hcj L h32]
    split
    · next h =>
      subst h
      rw [Nat.xor_self, clz32_zero]
      omega
    · omega
  · have h32' : 32 ≤ L := by omega
    split
    · next h =>
      subst h
      unfold agree
      rw [key_div_high ci a L h32' hL, key_div_high ci b L h32' hL]
      have hs := clz32_xor_spec ha hb (L - 32) (by omega)
      have e : 32 - (L - 32) = 64 - L := by omega
      rw [e, Nat.shiftRight_eq_div_pow, Nat.shiftRight_eq_div_pow] at hs
      generalize ci * 2 ^ (L - 32) = t
      omega
    · next h =>
      -- keys that agree on more than 32 bits have the same code
      have hc := clz32_le (ci ^^^ cj)
      refine ⟨fun heq => absurd ?_ h, fun hle => by omega⟩
      have h' : (ci * 2 ^ 32 + a) / 2 ^ 32 = (cj * 2 ^ 32 + b) / 2 ^ 32 :=
        agree_mono (W := 64) (L' := 32) h32' hL heq
      rwa [key_div32 ci a ha, key_div32 cj b hb] at h'

theorem prefixLength_in {codes : Array Nat} {i j : Int} (hj0 : 0 ≤ j) (hj : j < codes.size) :
    prefixLength codes i j =
      if codes.getD i.toNat 0 = codes.getD j.toNat 0 then
        32 + (clz32 (i.toNat ^^^ j.toNat) : Int)
      else (clz32 (codes.getD i.toNat 0 ^^^ codes.getD j.toNat 0) : Int) := by
  unfold prefixLength code
  rw [if_neg (by omega)]

/-- the model's PrefixLength is the common-prefix length of the 64-bit keys -/
theorem prefixLength_spec {codes : Array Nat} (hs : Sorted codes) (hn : codes.size < 2 ^ 32)
    {i j : Int} (hi0 : 0 ≤ i) (hi : i < codes.size) (hj0 : 0 ≤ j) (hj : j < codes.size)
    (L : Nat) (hL : L ≤ 64) :
    ((L : Int) ≤ prefixLength codes i j) ↔ agree 64 L (key codes i.toNat) (key codes j.toNat) := by
  have hi' : i.toNat < codes.size := by omega
  have hj' : j.toNat < codes.size := by omega
  rw [prefixLength_in hj0 hj]
  unfold key
  exact (agree_key_iff (hs.1 _ hi') (hs.1 _ hj') (by omega) (by omega) L hL).symm

theorem prefixLength_out {codes : Array Nat} {i j : Int} (hj : j < 0 ∨ (codes.size : Int) ≤ j) :
    prefixLength codes i j = -1 := by
  unfold prefixLength
  rw [if_pos (by omega)]

theorem prefixLength_self {codes : Array Nat} {i : Int} (hi0 : 0 ≤ i) (hi : i < codes.size) :
    prefixLength codes i i = 64 := by
  rw [prefixLength_in hi0 hi, if_pos rfl, Nat.xor_self, clz32_zero]
  rfl

theorem prefixLength_bounds {codes : Array Nat} {i j : Int} (hj0 : 0 ≤ j) (hj : j < codes.size) :
    0 ≤ prefixLength codes i j ∧ prefixLength codes i j ≤ 64 := by
  rw [prefixLength_in hj0 hj]
  have h1 := clz32_le (i.toNat ^^^ j.toNat)
  have h2 := clz32_le (codes.getD i.toNat 0 ^^^ codes.getD j.toNat 0)
  split <;> omega

theorem prefixLength_range {codes : Array Nat}
    {i j : Int} (hi0 : 0 ≤ i) (hj0 : 0 ≤ j) (hj : j < codes.size) (hij : i ≠ j) :
    0 ≤ prefixLength codes i j ∧ prefixLength codes i j ≤ 63 := by
  rw [prefixLength_in hj0 hj]
  split
  · have : i.toNat ^^^ j.toNat ≠ 0 := fun h => hij (by have := xor_eq_zero_iff.mp h; omega)
    have := clz32_lt_of_ne_zero this
    omega
  · next h =>
    have := clz32_lt_of_ne_zero (fun h' => h (xor_eq_zero_iff.mp h'))
    omega

theorem prefixLength_symm {codes : Array Nat} {i j : Int} (hi0 : 0 ≤ i) (hi : i < codes.size)
    (hj0 : 0 ≤ j) (hj : j < codes.size) : prefixLength codes i j = prefixLength codes j i := by
  rw [prefixLength_in hj0 hj, prefixLength_in hi0 hi, Nat.xor_comm j.toNat,
    Nat.xor_comm (codes.getD j.toNat 0)]
  by_cases h : codes.getD i.toNat 0 = codes.getD j.toNat 0
  · rw [if_pos h, if_pos h.symm]
  · rw [if_neg h, if_neg (fun h' => h h'.symm)]

/-- in range the prefix length is a number `d ≤ 64`, determined by the levels on which the two
keys agree -/
theorem prefixLength_nat {codes : Array Nat} (hs : Sorted codes) (hn : codes.size < 2 ^ 32)
    {i j : Int} (hi0 : 0 ≤ i) (hi : i < codes.size) (hj0 : 0 ≤ j) (hj : j < codes.size) :
    ∃ d : Nat, prefixLength codes i j = d ∧ d ≤ 64 ∧
      ∀ L : Nat, L ≤ 64 → (L ≤ d ↔ agree 64 L (key codes i.toNat) (key codes j.toNat)) := by
  have b := prefixLength_bounds (codes := codes) (i := i) hj0 hj
  refine ⟨(prefixLength codes i j).toNat, by omega, by omega, fun L hL => ?_⟩
  rw [← prefixLength_spec hs hn hi0 hi hj0 hj L hL]
  omega

/-- Karras' δ(i,k) = min(δ(i,j), δ(j,k)) for i ≤ j ≤ k: the keys `i`, `k` agree on a level iff
both pairs do, the middle key lying between them -/
theorem delta_min {codes : Array Nat} (hs : Sorted codes) (hn : codes.size < 2 ^ 32)
    {i j k : Int} (hi0 : 0 ≤ i) (hij : i ≤ j) (hjk : j ≤ k) (hk : k < codes.size) :
    prefixLength codes i k = min (prefixLength codes i j) (prefixLength codes j k) := by
  have hj0 : 0 ≤ j := Int.le_trans hi0 hij
  have hj : j < codes.size := Int.lt_of_le_of_lt hjk hk
  have hi : i < codes.size := Int.lt_of_le_of_lt hij hj
  have hk0 : 0 ≤ k := Int.le_trans hj0 hjk
  have kij : key codes i.toNat ≤ key codes j.toNat :=
    key_mono hs (Int.toNat_le_toNat hij) (by omega)
  have kjk : key codes j.toNat ≤ key codes k.toNat :=
    key_mono hs (Int.toNat_le_toNat hjk) (by omega)
  obtain ⟨dik, eik, _, sik⟩ := prefixLength_nat hs hn hi0 hi hk0 hk
  obtain ⟨dij, eij, _, sij⟩ := prefixLength_nat hs hn hi0 hi hj0 hj
  obtain ⟨djk, ejk, _, sjk⟩ := prefixLength_nat hs hn hj0 hj hk0 hk
  have key : ∀ L, L ≤ 64 → (L ≤ dik ↔ L ≤ dij ∧ L ≤ djk) := fun L hL => by
    rw [sik L hL, sij L hL, sjk L hL]
    exact ⟨agree_mid kij kjk, fun h => agree_trans h.1 h.2⟩
  have e1 := key dik (by omega)
  have e2 := key (min dij djk) (by omega)
  rw [eik, eij, ejk]
  omega

theorem delta_ne {codes : Array Nat} (hs : Sorted codes) (hn : codes.size < 2 ^ 32)
    {i j k : Int} (hi0 : 0 ≤ i) (hij : i < j) (hjk : j < k) (hk : k < codes.size) :
    prefixLength codes i j ≠ prefixLength codes j k := by
  intro heq
  have hj0 : 0 ≤ j := Int.le_trans hi0 (Int.le_of_lt hij)
  have hj : j < codes.size := Int.lt_trans hjk hk
  have kij : key codes i.toNat ≤ key codes j.toNat :=
    key_mono hs (Int.toNat_le_toNat (Int.le_of_lt hij)) (by omega)
  have kjk : key codes j.toNat ≤ key codes k.toNat :=
    key_mono hs (Int.toNat_le_toNat (Int.le_of_lt hjk)) (by omega)
  obtain ⟨d, eij, _, sij⟩ := prefixLength_nat hs hn hi0 (Int.lt_trans hij hj) hj0 hj
  obtain ⟨d', ejk, _, sjk⟩ := prefixLength_nat hs hn hj0 hj (Int.le_trans hj0 (Int.le_of_lt hjk)) hk
  have r1 := prefixLength_range (codes := codes) hi0 hj0 hj (Int.ne_of_lt hij)
  rw [show d' = d by omega] at sjk
  exact no_equal_split (L := d) (by omega) kij kjk
    ((sij d (by omega)).mp (Nat.le_refl d))
    (fun h => absurd ((sij (d + 1) (by omega)).mpr h) (by omega))
    ((sjk d (by omega)).mp (Nat.le_refl d))
    (fun h => absurd ((sjk (d + 1) (by omega)).mpr h) (by omega))

end MV.Collider
