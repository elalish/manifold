import MV.Proof.EarClipAlgebra
import MV.Proof.AssocList
/-!
Lemmas for the C10 theorems (`MV/Props/C10.lean`).  Core Lean only.
-/
namespace MV.EarClip

open MV.Extrude (lsum lsum_range lsum_filter lsum_one lsum_congr wsum wsum_map net_eq_wsum pr nx pr_lt nx_lt pr_nx nx_pr)

theorem getV_set (vs : Array Vert) (i j : Nat) (x : Vert) :
    getV (vs.setIfInBounds i x) j = if j = i ∧ i < vs.size then x else getV vs j := by
  unfold getV; simp only [Array.getD_setIfInBounds, eq_comm (a := i)]

theorem getV_push (vs : Array Vert) (j : Nat) (x : Vert) :
    getV (vs.push x) j = if j = vs.size then x else getV vs j := by
  unfold getV
  simp only [Array.getD_eq_getD_getElem?, Array.getElem?_push]
  split <;> simp

theorem getV_ge (vs : Array Vert) (j : Nat) (h : vs.size ≤ j) : getV vs j = ⟨0, 0, 0⟩ := by
  unfold getV
  simp [Array.getD_eq_getD_getElem?, Array.getElem?_eq_none h]

@[simp] theorem size_setLeft (vs : Array Vert) (i x : Nat) : (setLeft vs i x).size = vs.size := by
  simp [setLeft]
@[simp] theorem size_setRight (vs : Array Vert) (i x : Nat) : (setRight vs i x).size = vs.size := by
  simp [setRight]
@[simp] theorem size_linkV (vs : Array Vert) (l r : Nat) : (linkV vs l r).size = vs.size := by
  simp [linkV]

theorem getV_setLeft (vs : Array Vert) (i x j : Nat) :
    getV (setLeft vs i x) j =
      ⟨(getV vs j).meshIdx, if j = i ∧ i < vs.size then x else (getV vs j).left, (getV vs j).right⟩ := by
  rw [setLeft, getV_set]; split
  · next h => rw [h.1]
  · rfl

theorem getV_setRight (vs : Array Vert) (i x j : Nat) :
    getV (setRight vs i x) j =
      ⟨(getV vs j).meshIdx, (getV vs j).left, if j = i ∧ i < vs.size then x else (getV vs j).right⟩ := by
  rw [setRight, getV_set]; split
  · next h => rw [h.1]
  · rfl

/-- `Link(l, r)` writes `l->right` and `r->left` and nothing else -/
theorem getV_linkV (vs : Array Vert) (l r j : Nat) :
    getV (linkV vs l r) j =
      ⟨(getV vs j).meshIdx, if j = r ∧ r < vs.size then l else (getV vs j).left,
        if j = l ∧ l < vs.size then r else (getV vs j).right⟩ := by
  rw [linkV, getV_setLeft, getV_setRight, size_setRight]

theorem clipEar_n (s : State) (e : Nat) : (clipEar s e).n = s.n := by
  unfold clipEar State.n; dsimp only; split <;> simp

theorem clipEar_verts (s : State) (e : Nat) :
    (clipEar s e).verts = linkV s.verts (s.L e) (s.R e) := by
  unfold clipEar; dsimp only; split <;> rfl

theorem clipEar_mesh (s : State) (e v : Nat) : (clipEar s e).mesh v = s.mesh v := by
  simp only [State.mesh, clipEar_verts, getV_linkV]

theorem clipEar_L (s : State) (e v : Nat) :
    (clipEar s e).L v = if v = s.R e ∧ s.R e < s.n then s.L e else s.L v := by
  simp only [State.L, clipEar_verts, getV_linkV, State.n]; rfl

theorem clipEar_R (s : State) (e v : Nat) :
    (clipEar s e).R v = if v = s.L e ∧ s.L e < s.n then s.R e else s.R v := by
  simp only [State.R, clipEar_verts, getV_linkV, State.n]; rfl

/-- well-linked state: all pointers in range; for every unclipped `v` (`v.right.left = v`)
    also `v.left.right = v`, and `v.right` is unclipped.  Hence `right` is a bijection of the
    unclipped verts with inverse `left` (`liveList_map_R_perm`): they decompose into disjoint
    cycles. -/
structure Linked (s : State) : Prop where
  range : ∀ v, v < s.n → s.L v < s.n ∧ s.R v < s.n
  live : ∀ v, v < s.n → s.live v → s.R (s.L v) = v ∧ s.live (s.R v)

theorem Linked.liveL {s : State} (h : Linked s) {v : Nat} (hv : v < s.n) (hl : s.live v) :
    s.live (s.L v) := by
  unfold State.live; rw [(h.live v hv hl).1]

/-- the contribution of vert `v` to the sum of a weight `g` over the edges of the live rings:
    `g = ind · · a b` gives the ring boundaries, `g = 1` counts the unclipped verts -/
def term (s : State) (g : Nat → Nat → Int) (v : Nat) : Int :=
  if s.L (s.R v) = v then g (s.mesh v) (s.mesh (s.R v)) else 0

theorem wsum_liveEdges (s : State) (g : Nat → Nat → Int) :
    wsum g (liveEdges s) = sumTo s.n (term s g) := by
  unfold liveEdges liveList
  rw [wsum_map, lsum_filter, lsum_range]
  apply sumTo_congr
  intro v _
  simp only [term, State.clipped, Bool.not_eq_eq_eq_not, Bool.not_true, bne_eq_false_iff_eq]

theorem netLive_eq (s : State) (a b : Nat) :
    net (liveEdges s) a b = sumTo s.n (term s fun x y => ind x y a b) := by
  rw [net_eq_wsum, wsum_liveEdges]

def liveCount (s : State) : Nat := (liveList s).length

theorem liveCount_eq (s : State) : (liveCount s : Int) = sumTo s.n (term s fun _ _ => 1) := by
  rw [← wsum_liveEdges, wsum, lsum_one, liveEdges, List.length_map, liveCount]

theorem clip_term (s : State) (h : Linked s) (e : Nat) (he : e < s.n) (hl : s.live e)
    (hne : s.L e ≠ e) (g : Nat → Nat → Int) (v : Nat) (hv : v < s.n) :
    term (clipEar s e) g v = term s g v
      + (if v = s.L e then g (s.mesh (s.L e)) (s.mesh (s.R e)) - g (s.mesh (s.L e)) (s.mesh e) else 0)
      + (if v = e then - g (s.mesh e) (s.mesh (s.R e)) else 0) := by
  have hr := h.range e he
  have h1 := h.live e he hl
  have h2 := h.live v hv
  have h3 := h.range v hv
  have h4 := h.live (s.L e) hr.1 (h.liveL he hl)
  unfold State.live at *
  simp only [term, clipEar_L, clipEar_R, clipEar_mesh]
  grind

/-- clipping the single vert of a one-vert ring changes no pointer -/
theorem clip_term_single (s : State) (h : Linked s) (e : Nat) (he : e < s.n) (hl : s.live e)
    (heq : s.L e = e) (g : Nat → Nat → Int) (v : Nat) :
    term (clipEar s e) g v = term s g v := by
  have h1 := h.live e he hl
  unfold State.live at *
  simp only [term, clipEar_L, clipEar_R, clipEar_mesh]
  grind

/-- `ClipEar(e)` replaces the ring edges `l → e → r` by `l → r` -/
theorem clip_sum (s : State) (h : Linked s) (e : Nat) (he : e < s.n) (hl : s.live e)
    (hne : s.L e ≠ e) (g : Nat → Nat → Int) :
    sumTo (clipEar s e).n (term (clipEar s e) g) = sumTo s.n (term s g)
      + (g (s.mesh (s.L e)) (s.mesh (s.R e)) - g (s.mesh (s.L e)) (s.mesh e))
      + - g (s.mesh e) (s.mesh (s.R e)) := by
  rw [clipEar_n]
  exact sumTo_two_points (h.range e he).1 he (fun v hv => clip_term s h e he hl hne g v hv)

theorem clip_linked (s : State) (h : Linked s) (e : Nat) (he : e < s.n) (hl : s.live e) :
    Linked (clipEar s e) := by
  have hr := h.range e he
  have h1 := h.live e he hl
  have h4 := h.live (s.L e) hr.1 (h.liveL he hl)
  have h5 := h.live (s.R e) hr.2 h1.2
  constructor
  · intro v hv
    rw [clipEar_n] at hv
    have h3 := h.range v hv
    simp only [clipEar_L, clipEar_R, clipEar_n]
    grind
  · intro v hv
    rw [clipEar_n] at hv
    have h2 := h.live v hv
    have h3 := h.range v hv
    have h6 := h.live (s.L v) h3.1
    have h7 := h.live (s.R v) h3.2
    unfold State.live at *
    simp only [clipEar_L, clipEar_R]
    grind

theorem join_n (st : State) (s c : Nat) : (joinPolygons st s c).n = st.n + 2 := by
  simp [joinPolygons, State.n]

theorem join_mesh (st : State) (s c v : Nat) (hc : c < st.n) :
    (joinPolygons st s c).mesh v =
      if v = st.n then st.mesh s else if v = st.n + 1 then st.mesh c else st.mesh v := by
  simp only [joinPolygons, State.mesh, State.n, getV_linkV, getV_setLeft, getV_setRight, getV_push,
    Array.size_push] at *
  grind

theorem join_L (st : State) (s c v : Nat) (hs : s < st.n) (hc : c < st.n) (hrs : st.R s < st.n) :
    (joinPolygons st s c).L v =
      if v = st.n then st.n + 1 else if v = c then s else if v = st.R s then st.n
      else if v = st.n + 1 then st.L c else st.L v := by
  simp only [joinPolygons, State.L, State.R, State.n, getV_linkV, getV_setLeft, getV_setRight, getV_push,
    Array.size_push, size_linkV, size_setLeft, size_setRight] at *
  grind

theorem join_R (st : State) (s c v : Nat) (hs : s < st.n) (hc : c < st.n) (hrs : st.R s < st.n)
    (hlc : st.L c < st.n) :
    (joinPolygons st s c).R v =
      if v = st.n + 1 then st.n else if v = s then c
      else if v = (if c = st.R s then st.n else st.L c) then st.n + 1
      else if v = st.n then st.R s else st.R v := by
  simp only [joinPolygons, State.L, State.R, State.n, getV_linkV, getV_setLeft, getV_setRight, getV_push,
    Array.size_push, size_linkV, size_setLeft, size_setRight] at *
  grind

theorem join_term (st : State) (h : Linked st) (s c : Nat) (hs : s < st.n) (hc : c < st.n)
    (hls : st.live s) (hlc : st.live c) (hne : st.R s ≠ c) (g : Nat → Nat → Int) (v : Nat)
    (hv : v < st.n + 2) :
    term (joinPolygons st s c) g v =
      if v = st.n then g (st.mesh s) (st.mesh (st.R s))
      else if v = st.n + 1 then g (st.mesh c) (st.mesh s)
      else term st g v +
        (if v = s then g (st.mesh s) (st.mesh c) - g (st.mesh s) (st.mesh (st.R s)) else 0) := by
  have hrs := h.range s hs
  have hrc := h.range c hc
  have h1 := h.live s hs hls
  have h2 := h.live c hc hlc
  have h3 := fun hv' : v < st.n => h.live v hv'
  have h4 := fun hv' : v < st.n => h.range v hv'
  unfold State.live at *
  simp only [term, join_L st s c _ hs hc hrs.2, join_R st s c _ hs hc hrs.2 hrc.1, join_mesh st s c _ hc]
  grind

theorem join_live (st : State) (h : Linked st) (s c : Nat) (hs : s < st.n) (hc : c < st.n)
    (hls : st.live s) (hlc : st.live c) (hne : st.R s ≠ c) (v : Nat) (hv : v < st.n + 2) :
    (joinPolygons st s c).live v ↔ (v < st.n → st.live v) := by
  have hrs := h.range s hs
  have hrc := h.range c hc
  have h1 := h.live s hs hls
  have h2 := h.live c hc hlc
  have h3 := fun hv' : v < st.n => h.live v hv'
  have h4 := fun hv' : v < st.n => h.range v hv'
  unfold State.live at *
  simp only [join_L st s c _ hs hc hrs.2, join_R st s c _ hs hc hrs.2 hrc.1]
  grind

theorem join_range (st : State) (h : Linked st) (s c : Nat) (hs : s < st.n) (hc : c < st.n)
    (v : Nat) (hv : v < st.n + 2) :
    (joinPolygons st s c).L v < st.n + 2 ∧ (joinPolygons st s c).R v < st.n + 2 := by
  have hrs := h.range s hs
  have hrc := h.range c hc
  have h4 := fun hv' : v < st.n => h.range v hv'
  simp only [join_L st s c _ hs hc hrs.2, join_R st s c _ hs hc hrs.2 hrc.1]
  grind

theorem join_linked (st : State) (h : Linked st) (s c : Nat) (hs : s < st.n) (hc : c < st.n)
    (hls : st.live s) (hlc : st.live c) (hne : st.R s ≠ c) : Linked (joinPolygons st s c) := by
  have hrs := h.range s hs
  have hrc := h.range c hc
  have h1 := h.live s hs hls
  have h2 := h.live c hc hlc
  constructor
  · intro v hv
    rw [join_n] at hv ⊢
    exact join_range st h s c hs hc v hv
  · intro v hv hl'
    rw [join_n] at hv
    have hl := (join_live st h s c hs hc hls hlc hne v hv).1 hl'
    have h3 := fun hv' : v < st.n => h.live v hv' (hl hv')
    have h4 := fun hv' : v < st.n => h.range v hv'
    constructor
    · unfold State.live at *
      simp only [join_L st s c _ hs hc hrs.2, join_R st s c _ hs hc hrs.2 hrc.1]
      grind
    · rw [join_live st h s c hs hc hls hlc hne _ (join_range st h s c hs hc v hv).2]
      unfold State.live at *
      simp only [join_R st s c _ hs hc hrs.2 hrc.1]
      grind

theorem join_tris (st : State) (s c : Nat) : (joinPolygons st s c).tris = st.tris := by
  simp only [joinPolygons]

/-- `JoinPolygons(s, c)` replaces the ring edge `s → s.right` by `s → c`, `newConnector → newStart`
    (a copy of `c → s`) and `newStart → s.right` -/
theorem join_sum (st : State) (h : Linked st) (s c : Nat) (hs : s < st.n) (hc : c < st.n)
    (hls : st.live s) (hlc : st.live c) (hne : st.R s ≠ c) (g : Nat → Nat → Int) :
    sumTo (joinPolygons st s c).n (term (joinPolygons st s c) g) =
      sumTo st.n (term st g) + g (st.mesh s) (st.mesh c) + g (st.mesh c) (st.mesh s) := by
  have hsum : sumTo st.n (term (joinPolygons st s c) g) = sumTo st.n (term st g)
      + (g (st.mesh s) (st.mesh c) - g (st.mesh s) (st.mesh (st.R s))) + 0 := by
    apply sumTo_two_points hs hs
    intro v hv
    rw [join_term st h s c hs hc hls hlc hne g v (by omega), if_neg (by omega), if_neg (by omega)]
    omega
  rw [join_n]
  show sumTo st.n _ + _ + _ = _
  rw [hsum, join_term st h s c hs hc hls hlc hne g _ (by omega),
    join_term st h s c hs hc hls hlc hne g _ (by omega), if_pos rfl, if_neg (by omega), if_pos rfl]
  omega

/-- `net(triangles) + Σ_rings net(ring edges)` -/
def chainVal (s : State) (a b : Nat) : Int := net (triEdges s.tris) a b + net (liveEdges s) a b

/-- what `ClipEar` appends to the triangle list, in the group: the boundary of the ear triangle,
    or nothing when two of the three mesh indices coincide — in which case that boundary is zero
    anyway. -/
theorem clipEar_tris_net (s : State) (e a b : Nat) :
    net (triEdges (clipEar s e).tris) a b = net (triEdges s.tris) a b +
      (ind (s.mesh (s.L e)) (s.mesh e) a b + ind (s.mesh e) (s.mesh (s.R e)) a b +
        ind (s.mesh (s.R e)) (s.mesh (s.L e)) a b) := by
  unfold clipEar; dsimp only
  split
  · rw [net_triEdges_append, net_triEdges_cons, net_triEdges_nil, bdTri_eq]; omega
  · next hdeg =>
    show net (triEdges s.tris) a b = _
    have h1 := ind_swap (s.mesh (s.L e)) (s.mesh e) a b
    have h2 := ind_swap (s.mesh e) (s.mesh (s.R e)) a b
    have h3 := ind_swap (s.mesh (s.R e)) (s.mesh (s.L e)) a b
    by_cases c1 : s.mesh (s.L e) = s.mesh e
    · rw [c1] at *; rw [ind_self]; omega
    · by_cases c2 : s.mesh e = s.mesh (s.R e)
      · rw [c2] at *; rw [ind_self]; omega
      · have c3 : s.mesh (s.R e) = s.mesh (s.L e) := by
          false_or_by_contra; exact hdeg ⟨c1, c2, by assumption⟩
        rw [c3] at *; rw [ind_self]; omega

theorem clip_chain (s : State) (h : Linked s) (e : Nat) (he : e < s.n) (hl : s.live e)
    (a b : Nat) : chainVal (clipEar s e) a b = chainVal s a b := by
  unfold chainVal
  rw [clipEar_tris_net, netLive_eq, netLive_eq]
  by_cases hne : s.L e = e
  · have hR : s.R e = e := by
      have := (h.live e he hl).1; rw [hne] at this; exact this
    rw [clipEar_n, show term (clipEar s e) _ = term s _ from funext (clip_term_single s h e he hl hne _)]
    rw [hne, hR, ind_self]; omega
  · rw [clip_sum s h e he hl hne]
    have h1 := ind_swap (s.mesh (s.L e)) (s.mesh (s.R e)) a b
    omega

theorem join_chain (st : State) (h : Linked st) (s c : Nat) (hs : s < st.n) (hc : c < st.n)
    (hls : st.live s) (hlc : st.live c) (hne : st.R s ≠ c) (a b : Nat) :
    chainVal (joinPolygons st s c) a b = chainVal st a b := by
  unfold chainVal
  rw [join_tris, netLive_eq, netLive_eq, join_sum st h s c hs hc hls hlc hne]
  have h1 := ind_swap (st.mesh s) (st.mesh c) a b
  omega

/-- append one contour (closed form of one round of the `Initialize` loop) -/
def appendPoly (s : State) (p : List Nat) : State :=
  { s with verts := s.verts ++ (initPoly s.verts.size p).toArray }

theorem appendPoly_n (s : State) (p : List Nat) : (appendPoly s p).n = s.n + p.length := by
  simp [appendPoly, State.n, initPoly]

theorem appendPoly_tris (s : State) (p : List Nat) : (appendPoly s p).tris = s.tris := rfl

/-- the old verts are untouched … -/
theorem appendPoly_getV_old (s : State) (p : List Nat) {v : Nat} (hv : v < s.n) :
    getV (appendPoly s p).verts v = getV s.verts v := by
  unfold getV appendPoly
  simp only [Array.getD_eq_getD_getElem?, Array.getElem?_append_left hv]

/-- … and the new ones form one ring: vert `s.n + i` carries `p[i]` and points to its cyclic
    neighbours inside the block -/
theorem appendPoly_getV_new (s : State) (p : List Nat) {i : Nat} (hi : i < p.length) :
    getV (appendPoly s p).verts (s.n + i) =
      ⟨p.getD i 0, s.n + pr p.length i, s.n + nx p.length i⟩ := by
  unfold getV appendPoly State.n initPoly
  rw [Array.getD_eq_getD_getElem?, Array.getElem?_append_right (Nat.le_add_right _ _),
    Nat.add_sub_cancel_left, List.getElem?_toArray, List.getElem?_map, List.getElem?_range hi]
  simp only [Option.map_some, Option.getD_some, pr, nx]
  congr 2
  split <;> rfl

section
variable (s : State) (p : List Nat) {v i : Nat}

theorem appendPoly_mesh_old (hv : v < s.n) : (appendPoly s p).mesh v = s.mesh v := by
  rw [State.mesh, appendPoly_getV_old s p hv]; rfl
theorem appendPoly_L_old (hv : v < s.n) : (appendPoly s p).L v = s.L v := by
  rw [State.L, appendPoly_getV_old s p hv]; rfl
theorem appendPoly_R_old (hv : v < s.n) : (appendPoly s p).R v = s.R v := by
  rw [State.R, appendPoly_getV_old s p hv]; rfl
theorem appendPoly_mesh_new (hi : i < p.length) : (appendPoly s p).mesh (s.n + i) = p.getD i 0 := by
  rw [State.mesh, appendPoly_getV_new s p hi]
theorem appendPoly_L_new (hi : i < p.length) : (appendPoly s p).L (s.n + i) = s.n + pr p.length i := by
  rw [State.L, appendPoly_getV_new s p hi]
theorem appendPoly_R_new (hi : i < p.length) : (appendPoly s p).R (s.n + i) = s.n + nx p.length i := by
  rw [State.R, appendPoly_getV_new s p hi]

theorem appendPoly_linked (h : Linked s) : Linked (appendPoly s p) := by
  constructor
  · intro v hv
    rw [appendPoly_n] at hv ⊢
    by_cases h1 : v < s.n
    · rw [appendPoly_L_old s p h1, appendPoly_R_old s p h1]; have := h.range v h1; omega
    · obtain ⟨i, rfl⟩ : ∃ i, v = s.n + i := ⟨v - s.n, by omega⟩
      have hi : i < p.length := by omega
      rw [appendPoly_L_new s p hi, appendPoly_R_new s p hi]
      have := pr_lt hi; have := nx_lt hi; omega
  · intro v hv hl
    rw [appendPoly_n] at hv
    unfold State.live at hl ⊢
    by_cases h1 : v < s.n
    · have hr := h.range v h1
      rw [appendPoly_R_old s p h1, appendPoly_L_old s p hr.2] at hl
      rw [appendPoly_L_old s p h1, appendPoly_R_old s p hr.1, appendPoly_R_old s p h1,
        appendPoly_R_old s p hr.2, appendPoly_L_old s p (h.range _ hr.2).2]
      exact h.live v h1 hl
    · obtain ⟨i, rfl⟩ : ∃ i, v = s.n + i := ⟨v - s.n, by omega⟩
      have hi : i < p.length := by omega
      rw [appendPoly_L_new s p hi, appendPoly_R_new s p (pr_lt hi), appendPoly_R_new s p hi,
        appendPoly_R_new s p (nx_lt hi), appendPoly_L_new s p (nx_lt (nx_lt hi)), nx_pr hi,
        pr_nx (nx_lt hi)]
      exact ⟨rfl, rfl⟩

theorem appendPoly_term_old (h : Linked s) (g : Nat → Nat → Int) (hv : v < s.n) :
    term (appendPoly s p) g v = term s g v := by
  have hr := (h.range v hv).2
  simp only [term, appendPoly_R_old s p hv, appendPoly_L_old s p hr, appendPoly_mesh_old s p hv,
    appendPoly_mesh_old s p hr]

theorem appendPoly_term_new (g : Nat → Nat → Int) (hi : i < p.length) :
    term (appendPoly s p) g (s.n + i) = g (p.getD i 0) (p.getD (nx p.length i) 0) := by
  simp only [term, appendPoly_R_new s p hi, appendPoly_L_new s p (nx_lt hi), pr_nx hi, if_true,
    appendPoly_mesh_new s p hi, appendPoly_mesh_new s p (nx_lt hi)]

/-- `Initialize` adds the contour's own edges to the ring edges -/
theorem appendPoly_sum (h : Linked s) (g : Nat → Nat → Int) :
    sumTo (appendPoly s p).n (term (appendPoly s p) g) = sumTo s.n (term s g) + wsum g (polyEdges p) := by
  have e1 : sumTo s.n (term (appendPoly s p) g) = sumTo s.n (term s g) :=
    sumTo_congr fun v hv => appendPoly_term_old s p h g hv
  have e2 : sumTo p.length (fun i => term (appendPoly s p) g (s.n + i)) = wsum g (polyEdges p) :=
    (sumTo_congr fun i hi => appendPoly_term_new s p g hi).trans (wsum_polyEdges p g).symm
  rw [appendPoly_n, sumTo_split, e1, e2]

theorem appendPoly_chain (h : Linked s) (a b : Nat) :
    chainVal (appendPoly s p) a b = chainVal s a b + net (polyEdges p) a b := by
  unfold chainVal
  rw [appendPoly_tris, netLive_eq, netLive_eq, appendPoly_sum s p h, net_eq_wsum (polyEdges p)]
  omega

theorem appendPoly_liveCount (h : Linked s) : liveCount (appendPoly s p) = liveCount s + p.length := by
  have := appendPoly_sum s p h fun _ _ => 1
  rw [← liveCount_eq, ← liveCount_eq, wsum, lsum_one, polyEdges, List.length_map, List.length_range] at this
  omega

end

theorem net_polyEdges (p : List Nat) (a b : Nat) :
    net (polyEdges p) a b = sumTo p.length (fun i =>
      ind (p.getD i 0) (p.getD (if i + 1 < p.length then i + 1 else 0) 0) a b) := by
  rw [net_eq_wsum, wsum_polyEdges]; rfl

def totalVerts (polys : List (List Nat)) : Nat := (polys.map List.length).sum

theorem foldl_appendPoly_verts (polys : List (List Nat)) (s : State) :
    (polys.foldl appendPoly s).verts =
      polys.foldl (fun vs p => vs ++ (initPoly vs.size p).toArray) s.verts := by
  induction polys generalizing s with
  | nil => rfl
  | cons p ps ih => simp only [List.foldl_cons, ih]; rfl

theorem foldl_appendPoly_tris (polys : List (List Nat)) (s : State) :
    (polys.foldl appendPoly s).tris = s.tris ∧ (polys.foldl appendPoly s).skipped = s.skipped := by
  induction polys generalizing s with
  | nil => exact ⟨rfl, rfl⟩
  | cons p ps ih => simp only [List.foldl_cons]; exact ih _

def emptyState : State := ⟨#[], [], 0⟩

theorem initState_eq (polys : List (List Nat)) : initState polys = polys.foldl appendPoly emptyState := by
  have h1 := foldl_appendPoly_verts polys emptyState
  have h2 := foldl_appendPoly_tris polys emptyState
  generalize polys.foldl appendPoly emptyState = t at *
  cases t
  simp only [initState, initVerts, emptyState] at *
  simp [h1, h2.1, h2.2]

theorem linked_empty : Linked emptyState := by
  constructor <;> intro v hv <;> simp [State.n, emptyState] at hv

/-- all rounds of `Initialize`: the state stays well linked, the contours' edges are added to the
    chain, and every new vert is unclipped -/
theorem foldl_appendPoly_inv (polys : List (List Nat)) (s : State) (h : Linked s) :
    Linked (polys.foldl appendPoly s) ∧
    (∀ a b, chainVal (polys.foldl appendPoly s) a b = chainVal s a b + net (contourEdges polys) a b) ∧
    (polys.foldl appendPoly s).n = s.n + totalVerts polys ∧
    liveCount (polys.foldl appendPoly s) = liveCount s + totalVerts polys := by
  induction polys generalizing s with
  | nil => exact ⟨h, fun a b => by simp [contourEdges], by simp [totalVerts], by simp [totalVerts]⟩
  | cons p ps ih =>
    obtain ⟨h1, h2, h3, h4⟩ := ih (appendPoly s p) (appendPoly_linked s p h)
    rw [appendPoly_n] at h3
    rw [appendPoly_liveCount s p h] at h4
    simp only [totalVerts, List.map_cons, List.sum_cons] at h3 h4 ⊢
    refine ⟨h1, fun a b => ?_, by rw [List.foldl_cons, h3]; omega, by rw [List.foldl_cons, h4]; omega⟩
    rw [List.foldl_cons, h2, appendPoly_chain s p h]
    simp only [contourEdges, List.flatMap_cons, net_append]
    omega

theorem init_linked (polys : List (List Nat)) : Linked (initState polys) := by
  rw [initState_eq]; exact (foldl_appendPoly_inv polys _ linked_empty).1

theorem init_chain (polys : List (List Nat)) (a b : Nat) :
    chainVal (initState polys) a b = net (contourEdges polys) a b := by
  rw [initState_eq, (foldl_appendPoly_inv polys _ linked_empty).2.1]
  simp [chainVal, emptyState, liveEdges, liveList, State.n, triEdges]

theorem init_count (polys : List (List Nat)) :
    (initState polys).n = totalVerts polys ∧ liveCount (initState polys) = totalVerts polys := by
  rw [initState_eq]
  have := (foldl_appendPoly_inv polys _ linked_empty).2.2
  simpa [emptyState, State.n, liveCount, liveList] using this

theorem mem_liveList (s : State) (v : Nat) : v ∈ liveList s ↔ v < s.n ∧ s.live v := by
  simp [liveList, State.clipped, State.live]

theorem liveList_nodup (s : State) : (liveList s).Nodup :=
  List.Nodup.sublist List.filter_sublist List.nodup_range

/-- `right` permutes the unclipped verts: they decompose into disjoint cycles -/
theorem liveList_map_R_perm (s : State) (h : Linked s) : ((liveList s).map s.R).Perm (liveList s) := by
  rw [List.perm_ext_iff_of_nodup _ (liveList_nodup s)]
  · intro a
    rw [List.mem_map]
    constructor
    · rintro ⟨v, hv, rfl⟩
      rw [mem_liveList] at hv ⊢
      exact ⟨(h.range v hv.1).2, (h.live v hv.1 hv.2).2⟩
    · intro ha
      rw [mem_liveList] at ha
      refine ⟨s.L a, ?_, (h.live a ha.1 ha.2).1⟩
      rw [mem_liveList]
      exact ⟨(h.range a ha.1).1, h.liveL ha.1 ha.2⟩
  · refine (nodup_map_iff_of_injOn ?_).2 (liveList_nodup s)
    intro x hx y hy hxy
    rw [mem_liveList] at hx hy
    have h1 := hx.2; have h2 := hy.2
    unfold State.live at h1 h2
    rw [← h1, ← h2, hxy]

/-- exit: if every live ring has ≤ 2 verts the rings' boundaries vanish -/
theorem liveEdges_net_zero (s : State) (h : Linked s) (hd : ringsDone s = true) (a b : Nat) :
    net (liveEdges s) a b = 0 := by
  have hRR : ∀ v, v ∈ liveList s → s.R (s.R v) = v := by
    intro v hv
    rw [mem_liveList] at hv
    simp only [ringsDone, List.all_eq_true, List.mem_range, Bool.or_eq_true, beq_iff_eq,
      State.clipped, bne_iff_ne] at hd
    rcases hd v hv.1 with h1 | h1
    · exact absurd hv.2 h1
    · rw [h1]; exact (h.live v hv.1 hv.2).1
  have hperm : (liveEdges s).map (fun e => (e.2, e.1)) |>.Perm (liveEdges s) := by
    have h1 : (liveEdges s).map (fun e => (e.2, e.1)) =
        ((liveList s).map s.R).map (fun v => (s.mesh v, s.mesh (s.R v))) := by
      simp only [liveEdges, List.map_map]
      apply List.map_congr_left
      intro v hv
      simp [hRR v hv]
    rw [h1]
    exact (liveList_map_R_perm s h).map _
  unfold net
  have := hperm.count_eq (a, b)
  rw [count_map_swap] at this
  omega

theorem clip_liveCount (s : State) (h : Linked s) (e : Nat) (he : e < s.n) (hl : s.live e)
    (hne : s.L e ≠ e) : liveCount (clipEar s e) + 1 = liveCount s := by
  have := clip_sum s h e he hl hne fun _ _ => 1
  rw [← liveCount_eq, ← liveCount_eq] at this
  omega

theorem join_liveCount (st : State) (h : Linked st) (s c : Nat) (hs : s < st.n) (hc : c < st.n)
    (hls : st.live s) (hlc : st.live c) (hne : st.R s ≠ c) :
    liveCount (joinPolygons st s c) = liveCount st + 2 := by
  have := join_sum st h s c hs hc hls hlc hne fun _ _ => 1
  rw [← liveCount_eq, ← liveCount_eq] at this
  omega

theorem clipEar_emit (s : State) (e : Nat) :
    (clipEar s e).tris.length + (clipEar s e).skipped = s.tris.length + s.skipped + 1 := by
  unfold clipEar; dsimp only; split
  · simp; omega
  · simp; omega

/-- the guard needed for the chain invariant: the vert(s) are in range and unclipped;
    for a join additionally `start->right ≠ connector` (true whenever they are in different rings) -/
def OpLive (st : State) : Op → Prop
  | .clip v => v < st.n ∧ st.live v
  | .join s c => s < st.n ∧ c < st.n ∧ st.live s ∧ st.live c ∧ st.R s ≠ c

/-- the guard the C++ call sites establish (`opOk` is its decision procedure) -/
def OpOk (st : State) : Op → Prop
  | .clip v => v < st.n ∧ st.live v ∧ st.L v ≠ st.R v
  | .join s c => s < st.n ∧ c < st.n ∧ st.live s ∧ st.live c ∧ st.R s ≠ c

theorem opOk_iff (st : State) (op : Op) : opOk st op = true ↔ OpOk st op := by
  cases op <;> simp [opOk, OpOk, State.clipped, State.live, and_assoc]

theorem OpOk.toLive {st : State} {op : Op} (h : OpOk st op) : OpLive st op := by
  cases op
  · exact ⟨h.1, h.2.1⟩
  · exact h

/-- every op of the sequence satisfies guard `G` in the state it is applied to -/
def RunOk (G : State → Op → Prop) : State → List Op → Prop
  | _, [] => True
  | st, op :: rest => G st op ∧ RunOk G (step st op) rest

theorem RunOk.toLive {st : State} {ops : List Op} (h : RunOk OpOk st ops) : RunOk OpLive st ops := by
  induction ops generalizing st with
  | nil => trivial
  | cons op rest ih => exact ⟨h.1.toLive, ih h.2⟩

theorem runChecked_ok (st : State) (ops : List Op) (k : Nat) (st' : State) :
    runChecked st ops k = .ok st' ↔ (RunOk OpOk st ops ∧ st' = run st ops) := by
  induction ops generalizing st k with
  | nil => simp [runChecked, RunOk, run]; exact eq_comm
  | cons op rest ih =>
    unfold runChecked
    by_cases h : opOk st op = true
    · simp only [h, if_true, ih, RunOk, run, List.foldl_cons, ← opOk_iff, true_and]
    · have : ¬ OpOk st op := fun h' => h ((opOk_iff st op).2 h')
      simp [h, RunOk, this]

theorem step_linked (st : State) (h : Linked st) (op : Op) (hop : OpLive st op) :
    Linked (step st op) := by
  cases op with
  | clip v => exact clip_linked st h v hop.1 hop.2
  | join s c => exact join_linked st h s c hop.1 hop.2.1 hop.2.2.1 hop.2.2.2.1 hop.2.2.2.2

theorem step_chain (st : State) (h : Linked st) (op : Op) (hop : OpLive st op) (a b : Nat) :
    chainVal (step st op) a b = chainVal st a b := by
  cases op with
  | clip v => exact clip_chain st h v hop.1 hop.2 a b
  | join s c => exact join_chain st h s c hop.1 hop.2.1 hop.2.2.1 hop.2.2.2.1 hop.2.2.2.2 a b

/-- the one induction over op sequences.  `P rest st` may speak of the ops still to come: a guard
    (`RunOk.invariant`), or a count of them (`run_size`). -/
theorem run_induct {P : List Op → State → Prop}
    (hstep : ∀ rest st op, P (op :: rest) st → P rest (step st op)) :
    ∀ (ops : List Op) (st : State), P ops st → P [] (run st ops)
  | [], _, h => h
  | op :: rest, st, h => run_induct hstep rest _ (hstep rest st op h)

/-- what every guarded step keeps, every guarded run keeps -/
theorem RunOk.invariant {G : State → Op → Prop} {Q : State → Prop}
    (hstep : ∀ st op, Q st → G st op → Q (step st op)) {st : State} {ops : List Op}
    (h : Q st) (hr : RunOk G st ops) : Q (run st ops) :=
  (run_induct (P := fun rest st => RunOk G st rest ∧ Q st)
    (fun _ st op h => ⟨h.1.2, hstep st op h.2 h.1.1⟩) ops st ⟨hr, h⟩).2

def numJoins : List Op → Nat
  | [] => 0
  | .clip _ :: r => numJoins r
  | .join _ _ :: r => numJoins r + 1

def numClips : List Op → Nat
  | [] => 0
  | .clip _ :: r => numClips r + 1
  | .join _ _ :: r => numClips r

/-- guarded or not: every join pushes two verts, every clip emits a triangle or skips one -/
theorem run_size (st : State) (ops : List Op) :
    (run st ops).n = st.n + 2 * numJoins ops ∧
    (run st ops).tris.length + (run st ops).skipped = st.tris.length + st.skipped + numClips ops := by
  refine run_induct (P := fun rest s => s.n + 2 * numJoins rest = st.n + 2 * numJoins ops ∧
    s.tris.length + s.skipped + numClips rest = st.tris.length + st.skipped + numClips ops)
    (fun rest s op h => ?_) ops st ⟨rfl, rfl⟩
  cases op with
  | clip v =>
    have := clipEar_emit s v
    simp only [step, clipEar_n, numJoins, numClips] at h ⊢; omega
  | join a c =>
    have : (joinPolygons s a c).skipped = s.skipped := by simp only [joinPolygons]
    simp only [step, join_n, join_tris, numJoins, numClips, this] at h ⊢; omega

/-- every vert pushed to `polygon_` is unclipped, or was clipped with a triangle or a skip -/
def Balanced (s : State) : Prop := s.tris.length + s.skipped + liveCount s = s.n

theorem Balanced.init (polys : List (List Nat)) : Balanced (initState polys) := by
  show 0 + 0 + _ = _
  rw [(init_count polys).1, (init_count polys).2]; exact Nat.zero_add _

theorem Balanced.step (st : State) (op : Op) (h : Linked st ∧ Balanced st) (hop : OpOk st op) :
    Linked (step st op) ∧ Balanced (step st op) := by
  refine ⟨step_linked st h.1 op hop.toLive, ?_⟩
  have hb := h.2
  unfold Balanced at hb ⊢
  cases op with
  | clip v =>
    have hne : st.L v ≠ v := fun heq => hop.2.2 (by
      have := (h.1.live v hop.1 hop.2.1).1; rw [heq] at this; rw [heq, this])
    have h1 := clip_liveCount st h.1 v hop.1 hop.2.1 hne
    have h2 := clipEar_emit st v
    show (clipEar st v).tris.length + (clipEar st v).skipped + liveCount (clipEar st v) = (clipEar st v).n
    rw [clipEar_n]; omega
  | join s c =>
    have h1 := join_liveCount st h.1 s c hop.1 hop.2.1 hop.2.2.1 hop.2.2.2.1 hop.2.2.2.2
    have : (joinPolygons st s c).skipped = st.skipped := by simp only [joinPolygons]
    show (joinPolygons st s c).tris.length + (joinPolygons st s c).skipped + liveCount (joinPolygons st s c)
      = (joinPolygons st s c).n
    rw [join_n, join_tris]; omega

def TriIn (M : Nat → Prop) (t : Tri) : Prop := M t.1 ∧ M t.2.1 ∧ M t.2.2
def TriDistinct (t : Tri) : Prop := t.1 ≠ t.2.1 ∧ t.2.1 ≠ t.2.2 ∧ t.2.2 ≠ t.1

/-- all mesh indices stored in the lists and all emitted indices satisfy `M` -/
def MeshIn (M : Nat → Prop) (s : State) : Prop :=
  (∀ v, v < s.n → M (s.mesh v)) ∧ (∀ t, t ∈ s.tris → TriIn M t)

theorem clipEar_tris_mem (s : State) (e : Nat) (t : Tri) (ht : t ∈ (clipEar s e).tris) :
    t ∈ s.tris ∨ (t = (s.mesh (s.L e), s.mesh e, s.mesh (s.R e)) ∧ TriDistinct t) := by
  unfold clipEar at ht; dsimp only at ht
  split at ht
  · next hd =>
    simp only [List.mem_append, List.mem_singleton] at ht
    rcases ht with ht | ht
    · exact Or.inl ht
    · right; subst ht; exact ⟨rfl, hd⟩
  · exact Or.inl ht

theorem step_meshIn (M : Nat → Prop) (st : State) (h : Linked st) (hm : MeshIn M st) (op : Op)
    (hop : OpLive st op) : MeshIn M (step st op) := by
  cases op with
  | clip v =>
    have hr := h.range v hop.1
    constructor
    · intro u hu
      simp only [step, clipEar_n, clipEar_mesh] at hu ⊢
      exact hm.1 u hu
    · intro t ht
      rcases clipEar_tris_mem st v t ht with h1 | ⟨h1, _⟩
      · exact hm.2 t h1
      · subst h1; exact ⟨hm.1 _ hr.1, hm.1 _ hop.1, hm.1 _ hr.2⟩
  | join s c =>
    constructor
    · intro u hu
      simp only [step, join_n] at hu
      simp only [step, join_mesh st s c u hop.2.1]
      split
      · exact hm.1 _ hop.1
      · split
        · exact hm.1 _ hop.2.1
        · exact hm.1 _ (by omega)
    · intro t ht
      simp only [step, join_tris] at ht
      exact hm.2 t ht

theorem init_meshIn (polys : List (List Nat)) : MeshIn (· ∈ polys.flatten) (initState polys) := by
  rw [initState_eq]
  have : ∀ (s : State) (I : List Nat), (∀ v, v < s.n → s.mesh v ∈ I) →
      ∀ v, v < (polys.foldl appendPoly s).n → (polys.foldl appendPoly s).mesh v ∈ I ++ polys.flatten := by
    induction polys with
    | nil => intro s I h v hv; simpa using h v hv
    | cons p ps ih =>
      intro s I h v hv
      have := ih (appendPoly s p) (I ++ p) (by
        intro u hu
        rw [appendPoly_n] at hu
        by_cases h' : u < s.n
        · rw [appendPoly_mesh_old s p h']; exact List.mem_append_left _ (h u h')
        · obtain ⟨i, rfl⟩ : ∃ i, u = s.n + i := ⟨u - s.n, by omega⟩
          rw [appendPoly_mesh_new s p (by omega)]
          exact List.mem_append_right _ (getD_mem p _ (by omega))) v hv
      simpa using this
  constructor
  · intro v hv
    have := this emptyState [] (by intro v hv; simp [emptyState, State.n] at hv) v hv
    simpa using this
  · intro t ht
    rw [(foldl_appendPoly_tris polys emptyState).1] at ht
    simp [emptyState] at ht

theorem step_trisDistinct (st : State) (op : Op) (hd : ∀ t, t ∈ st.tris → TriDistinct t) :
    ∀ t, t ∈ (step st op).tris → TriDistinct t := by
  intro t ht
  cases op with
  | clip v =>
    rcases clipEar_tris_mem st v t ht with h1 | ⟨_, h1⟩
    · exact hd t h1
    · exact h1
  | join s c => simp only [step, join_tris] at ht; exact hd t ht

theorem run_trisDistinct (st : State) (ops : List Op) (hd : ∀ t, t ∈ st.tris → TriDistinct t) :
    ∀ t, t ∈ (run st ops).tris → TriDistinct t :=
  run_induct (P := fun _ s => ∀ t, t ∈ s.tris → TriDistinct t) (fun _ s op => step_trisDistinct s op) ops st hd

/-- what `Initialize` establishes and every guarded `ClipEar` / `JoinPolygons` keeps: the lists are
    well linked, triangles and live rings together have the class `c`, and every mesh index
    satisfies `M` -/
structure Inv (M : Nat → Prop) (c : Nat → Nat → Int) (s : State) : Prop where
  linked : Linked s
  chain : ∀ a b, chainVal s a b = c a b
  meshIn : MeshIn M s

theorem Inv.step {M : Nat → Prop} {c : Nat → Nat → Int} (st : State) (op : Op) (h : Inv M c st)
    (hop : OpLive st op) : Inv M c (step st op) :=
  ⟨step_linked st h.linked op hop, fun a b => (step_chain st h.linked op hop a b).trans (h.chain a b),
    step_meshIn M st h.linked h.meshIn op hop⟩

theorem Inv.init (polys : List (List Nat)) :
    Inv (· ∈ polys.flatten) (fun a b => net (contourEdges polys) a b) (initState polys) :=
  ⟨init_linked polys, init_chain polys, init_meshIn polys⟩

/-- from any well-linked state, with its own class and no claim on the indices -/
theorem Inv.of_linked {s : State} (h : Linked s) : Inv (fun _ => True) (chainVal s) s :=
  ⟨h, fun _ _ => rfl, fun _ _ => trivial, fun _ _ => ⟨trivial, trivial, trivial⟩⟩

theorem stackOf_setStack (m : Stacks) (k k' : Edge) (st : List Nat) :
    stackOf (setStack m k st) k' = if k' = k then st else stackOf m k' := by
  unfold stackOf setStack
  dsimp only
  by_cases he : st.isEmpty = true
  · simp only [he, if_true, lookup_filter_ne]
    have : st = [] := by simpa using he
    by_cases h : k' = k <;> simp [h, this]
  · simp only [he]
    by_cases h : k' = k
    · subst h; simp
    · have : (k' == k) = false := by simpa using h
      simp [h, this, List.lookup, lookup_filter_ne]

theorem getH_set (hs : Array Halfedge) (i j : Nat) (x : Halfedge) :
    getH (hs.setIfInBounds i x) j = if j = i ∧ i < hs.size then x else getH hs j := by
  unfold getH; simp only [Array.getD_setIfInBounds, eq_comm (a := i)]

theorem getH_push (hs : Array Halfedge) (j : Nat) (x : Halfedge) :
    getH (hs.push x) j = if j = hs.size then x else getH hs j := by
  unfold getH
  simp only [Array.getD_eq_getD_getElem?, Array.getElem?_push]
  split <;> simp

def HT.size (t : HT) : Nat := t.halfedges.size
def HT.st (t : HT) (i : Nat) : Nat := (getH t.halfedges i).startVert
def HT.en (t : HT) (i : Nat) : Nat := (getH t.halfedges i).endVert
def HT.pr (t : HT) (i : Nat) : Int := (getH t.halfedges i).paired
def HT.stk (t : HT) (k : Edge) : List Nat := stackOf t.stacks k

theorem add_size (t : HT) (a b : Nat) : (t.addHalfedge a b).size = t.size + 1 := by
  unfold HT.addHalfedge HT.size; dsimp only; split <;> simp

/-- start and end of the old halfedges are untouched; the new one is `(a, b)` -/
theorem add_st_en (t : HT) (a b : Nat) :
    (∀ i, (t.addHalfedge a b).st i = if i = t.size then a else t.st i) ∧
    (∀ i, (t.addHalfedge a b).en i = if i = t.size then b else t.en i) := by
  unfold HT.addHalfedge HT.st HT.en HT.size
  constructor <;> intro i <;> split <;>
    simp only [getH_push, getH_set, Array.size_setIfInBounds] <;> grind

/-- a halfedge `p` waits under the reverse key: it is popped and paired with the new one -/
theorem add_pop (t : HT) (a b p : Nat) (rest : List Nat) (h : t.stk (b, a) = p :: rest) (hp : p < t.size) :
    (∀ i, (t.addHalfedge a b).pr i = if i = t.size then (p : Int) else if i = p then (t.size : Int) else t.pr i) ∧
    (∀ k, (t.addHalfedge a b).stk k = if k = (b, a) then rest else t.stk k) := by
  unfold HT.stk at h
  unfold HT.addHalfedge HT.pr HT.stk HT.size at *
  simp only [h, getH_push, getH_set, Array.size_setIfInBounds, stackOf_setStack]
  constructor <;> intro i <;> grind

/-- nothing waits under the reverse key: the new halfedge is pushed under its own -/
theorem add_push (t : HT) (a b : Nat) (h : t.stk (b, a) = []) :
    (∀ i, (t.addHalfedge a b).pr i = if i = t.size then -1 else t.pr i) ∧
    (∀ k, (t.addHalfedge a b).stk k = if k = (a, b) then t.size :: t.stk (a, b) else t.stk k) := by
  unfold HT.stk at h
  unfold HT.addHalfedge HT.pr HT.stk HT.size at *
  simp only [h, getH_push, stackOf_setStack]
  constructor <;> intro i <;> grind

/-- all halfedges added so far, as directed edges -/
def HT.edges (t : HT) : List Edge := (List.range t.size).map fun i => (t.st i, t.en i)

/-- the invariant of `HalfedgeTriangulation` between calls of `AddHalfedge`.  `netEq` only gives the
DIFFERENCE of the two stack lengths; `excl` is what lets `hinv_all_paired` conclude from net 0 that
both stacks are empty (`self` is the same clause for a key that is its own reverse). -/
structure HInv (t : HT) : Prop where
  prLow : ∀ h, h < t.size → -1 ≤ t.pr h
  pair : ∀ h, h < t.size → ∀ p : Nat, t.pr h = (p : Int) →
    p < t.size ∧ t.pr p = (h : Int) ∧ t.st p = t.en h ∧ t.en p = t.st h ∧ p ≠ h
  stk : ∀ k h, h ∈ t.stk k ↔ (h < t.size ∧ t.pr h = -1 ∧ (t.st h, t.en h) = k)
  nodup : ∀ k, (t.stk k).Nodup
  excl : ∀ a b, a ≠ b → t.stk (a, b) = [] ∨ t.stk (b, a) = []
  self : ∀ a, (t.stk (a, a)).length ≤ 1
  nonempty : ∀ e, e ∈ t.stacks → e.2 ≠ []
  netEq : ∀ a b, net t.edges a b = ((t.stk (a, b)).length : Int) - ((t.stk (b, a)).length : Int)

theorem edges_addHalfedge (t : HT) (a b : Nat) : (t.addHalfedge a b).edges = t.edges ++ [(a, b)] := by
  obtain ⟨hst, hen⟩ := add_st_en t a b
  unfold HT.edges
  rw [add_size, List.range_succ, List.map_append]
  congr 1
  · apply List.map_congr_left
    intro i hi
    have : i ≠ t.size := by have := List.mem_range.1 hi; omega
    simp [hst, hen, this]
  · simp [hst, hen]

theorem setStack_nonempty (m : Stacks) (k : Edge) (st : List Nat) (h : ∀ e, e ∈ m → e.2 ≠ []) :
    ∀ e, e ∈ setStack m k st → e.2 ≠ [] := by
  intro e he
  unfold setStack at he
  dsimp only at he
  split at he
  · exact h e (List.mem_filter.1 he).1
  · next hne =>
    rcases List.mem_cons.1 he with h1 | h1
    · subst h1; simpa using hne
    · exact h e (List.mem_filter.1 h1).1

theorem ind_eq_pair (a b x y : Nat) :
    ind a b x y = (if (x, y) = (a, b) then 1 else 0) - (if (y, x) = (a, b) then 1 else 0) := by
  unfold ind
  simp only [Prod.mk.injEq, eq_comm (a := x), eq_comm (a := y)]

theorem hinv_empty : HInv HT.empty := by
  constructor <;> simp [HT.empty, HT.size, HT.stk, stackOf, HT.edges]

theorem hinv_add (t : HT) (hI : HInv t) (a b : Nat) : HInv (t.addHalfedge a b) := by
  obtain ⟨hst, hen⟩ := add_st_en t a b
  have hne : ∀ e, e ∈ (t.addHalfedge a b).stacks → e.2 ≠ [] := by
    intro e he
    simp only [HT.addHalfedge] at he
    split at he <;> exact setStack_nonempty t.stacks _ _ hI.nonempty e (by simpa using he)
  cases hc : t.stk (b, a) with
  | nil =>
    obtain ⟨hpr, hstk⟩ := add_push t a b hc
    constructor
    · intro h hh; rw [add_size] at hh; have := hI.prLow h; rw [hpr]; clear hI hne hstk hpr hst hen; grind
    · intro h hh p hp
      rw [add_size] at hh ⊢
      rw [hpr] at hp
      have hh' : h ≠ t.size := by rintro rfl; rw [if_pos rfl] at hp; omega
      rw [if_neg hh'] at hp
      obtain ⟨h1, h2⟩ := hI.pair h (by omega) p hp
      simp only [hst, hen, hpr, if_neg hh', if_neg (Nat.ne_of_lt h1)]
      exact ⟨Nat.lt_succ_of_lt h1, h2⟩
    · intro k h
      rw [add_size, hstk, hst, hen, hpr]
      have := hI.stk k h
      have := hI.stk (a, b) h
      clear hI hne hstk hpr hst hen
      grind
    · intro k
      rw [hstk]
      have := hI.nodup k
      have := hI.stk (a, b) t.size
      split
      · next hk => subst hk; rw [List.nodup_cons]; exact ⟨fun hm => by have := ((hI.stk (a, b) t.size).1 hm).1; omega, hI.nodup _⟩
      · exact hI.nodup k
    · intro x y hxy
      have := hI.excl x y hxy
      simp only [hstk]
      clear hI hne hstk hpr hst hen
      grind
    · intro x
      have := hI.self x
      simp only [hstk]
      clear hI hne hstk hpr hst hen
      grind
    · exact hne
    · intro x y
      rw [edges_addHalfedge, net_append, net_cons, net_nil, hI.netEq, hstk, hstk, ind_eq_pair]
      by_cases h1 : (x, y) = (a, b) <;> by_cases h2 : (y, x) = (a, b) <;>
        simp only [h1, h2, if_true, if_false, List.length_cons] <;> omega
  | cons p rest =>
    have hp := (hI.stk (b, a) p).1 (by rw [hc]; exact List.mem_cons_self)
    obtain ⟨hpr, hstk⟩ := add_pop t a b p rest hc hp.1
    have hnd := hI.nodup (b, a)
    rw [hc, List.nodup_cons] at hnd
    constructor
    · intro h hh; rw [add_size] at hh; have := hI.prLow h; rw [hpr]; clear hI hne hstk hpr hst hen hc hnd; grind
    · intro h hh q hq
      rw [add_size] at hh ⊢
      have := hI.pair h
      rw [hpr] at hq
      simp only [hst, hen, hpr]
      clear hI hne hstk hpr hst hen hc hnd
      grind
    · intro k h
      rw [add_size, hstk, hst, hen, hpr]
      have := hI.stk k h
      have := hI.stk (b, a) h
      rw [hc] at this
      clear hI hne hstk hpr hst hen
      grind
    · intro k
      rw [hstk]
      split
      · exact hnd.2
      · exact hI.nodup k
    · intro x y hxy
      have := hI.excl x y hxy
      simp only [hstk]
      clear hI hne hstk hpr hst hen hnd
      grind
    · intro x
      have := hI.self x
      simp only [hstk]
      clear hI hne hstk hpr hst hen hnd
      grind
    · exact hne
    · -- the popped entry leaves the stack of `(b,a)`: `ind a b = - ind b a` there
      intro x y
      have hlen : (t.stk (b, a)).length = rest.length + 1 := by rw [hc]; rfl
      have := ind_swap a b x y
      rw [edges_addHalfedge, net_append, net_cons, net_nil, hI.netEq, hstk, hstk]
      rw [ind_eq_pair b a x y] at this
      by_cases h1 : (x, y) = (b, a) <;> by_cases h2 : (y, x) = (b, a) <;>
        simp only [h1, h2, if_true, if_false] at this ⊢ <;> omega

theorem hinv_addEdges (t : HT) (hI : HInv t) (es : List Edge) :
    HInv (t.addEdges es) ∧ (t.addEdges es).edges = t.edges ++ es := by
  induction es generalizing t with
  | nil => simp [HT.addEdges, hI]
  | cons e es ih =>
    have := ih (t.addHalfedge e.1 e.2) (hinv_add t hI e.1 e.2)
    simp only [HT.addEdges, List.foldl_cons] at this ⊢
    refine ⟨this.1, ?_⟩
    rw [this.2, edges_addHalfedge]; simp

theorem hinv_of_edges (es : List Edge) :
    HInv (HT.empty.addEdges es) ∧ (HT.empty.addEdges es).edges = es :=
  hinv_addEdges HT.empty hinv_empty es

theorem addTriangle_eq (t : HT) (tr : Tri) : t.addTriangle tr = t.addEdges (triEdgesOf tr) := rfl

theorem addTriangles_eq (t : HT) (ts : List Tri) : t.addTriangles ts = t.addEdges (triEdges ts) := by
  induction ts generalizing t with
  | nil => rfl
  | cons tr ts ih =>
    simp only [HT.addTriangles, List.foldl_cons] at ih ⊢
    rw [ih, addTriangle_eq]
    simp [HT.addEdges, triEdges, List.foldl_append]

/-- if the added halfedges cancel in the group and none is a self-loop, nothing is left unpaired -/
theorem hinv_all_paired (t : HT) (hI : HInv t) (hnet : ∀ a b, net t.edges a b = 0)
    (hloop : ∀ i, i < t.size → t.st i ≠ t.en i) :
    t.stacks = [] ∧ ∀ i, i < t.size → 0 ≤ t.pr i := by
  have hempty : ∀ k, t.stk k = [] := by
    intro k
    obtain ⟨a, b⟩ := k
    by_cases hab : a = b
    · subst hab
      cases hc : t.stk (a, a) with
      | nil => rfl
      | cons h rest =>
        have := (hI.stk (a, a) h).1 (by rw [hc]; exact List.mem_cons_self)
        have h1 := hloop h this.1
        have h2 := this.2.2
        simp only [Prod.mk.injEq] at h2
        exact absurd (h2.1.trans h2.2.symm) h1
    · have h1 := hI.netEq a b
      rw [hnet] at h1
      rcases hI.excl a b hab with h | h
      · exact h
      · rw [h] at h1
        simp only [List.length_nil] at h1
        exact List.eq_nil_of_length_eq_zero (by omega)
  constructor
  · cases hs : t.stacks with
    | nil => rfl
    | cons e m =>
      have h1 := hempty e.1
      have h2 := hI.nonempty e (by rw [hs]; exact List.mem_cons_self)
      unfold HT.stk stackOf at h1
      rw [hs] at h1
      simp [List.lookup] at h1
      exact absurd h1 h2
  · intro i hi
    have h1 := hI.prLow i hi
    have h2 := hI.stk (t.st i, t.en i) i
    rw [hempty] at h2
    have : t.pr i ≠ -1 := by
      intro h; exact absurd (h2.2 ⟨hi, h, rfl⟩) (by simp)
    omega

theorem finalizeOk_of (t : HT) (hI : HInv t) (hs : t.stacks = [])
    (hp : ∀ i, i < t.size → 0 ≤ t.pr i) : t.finalizeOk = true := by
  unfold HT.finalizeOk
  simp only [hs, List.isEmpty_nil, Bool.true_and, List.all_eq_true, List.mem_range]
  intro i hi
  have h0 := hp i hi
  have := hI.pair i hi (t.pr i).toNat (by omega)
  unfold HT.pr HT.st HT.en HT.size at *
  simp only [Bool.and_eq_true, decide_eq_true_eq, beq_iff_eq]
  exact ⟨⟨h0, this.1⟩, ⟨this.2.1, this.2.2.2.1.symm⟩, this.2.2.1.symm⟩

theorem mem_edges (t : HT) (i : Nat) (hi : i < t.size) : (t.st i, t.en i) ∈ t.edges := by
  unfold HT.edges
  exact List.mem_map.2 ⟨i, List.mem_range.2 hi, rfl⟩

theorem triEdges_noloop (ts : List Tri) (hd : ∀ t, t ∈ ts → TriDistinct t) :
    ∀ e, e ∈ triEdges ts → e.1 ≠ e.2 := by
  intro e he
  simp only [triEdges, List.mem_flatMap] at he
  obtain ⟨t, ht, he⟩ := he
  have := hd t ht
  simp only [triEdgesOf, List.mem_cons, List.not_mem_nil, or_false] at he
  rcases he with rfl | rfl | rfl
  · exact this.1
  · exact this.2.1
  · exact this.2.2

theorem halfedgeTriangulation_hinv (polys : List (List Nat)) (ts : List Tri) :
    HInv (halfedgeTriangulation polys ts) ∧
    (halfedgeTriangulation polys ts).edges =
      ((contourEdges polys).map fun e => (e.2, e.1)) ++ triEdges ts := by
  unfold halfedgeTriangulation HT.addContours
  rw [addTriangles_eq]
  have h1 := hinv_of_edges ((contourEdges polys).map fun e => (e.2, e.1))
  have h2 := hinv_addEdges _ h1.1 (triEdges ts)
  exact ⟨h2.1, by rw [h2.2, h1.2]⟩

/-- `Finalize`'s asserts hold for contours + triangles whenever the triangles' boundary is the
    contours, no contour edge is a self-loop and no triangle is degenerate -/
theorem halfedgeTriangulation_ok (polys : List (List Nat)) (ts : List Tri)
    (hnet : ∀ a b, net (triEdges ts) a b = net (contourEdges polys) a b)
    (hcont : ∀ e, e ∈ contourEdges polys → e.1 ≠ e.2)
    (hd : ∀ t, t ∈ ts → TriDistinct t) :
    (halfedgeTriangulation polys ts).finalizeOk = true := by
  obtain ⟨hI, hE⟩ := halfedgeTriangulation_hinv polys ts
  have hall := hinv_all_paired _ hI
    (by intro a b; rw [hE, net_append, net_map_swap, hnet]; omega)
    (by
      intro i hi
      have := mem_edges _ i hi
      rw [hE, List.mem_append] at this
      rcases this with h | h
      · rw [List.mem_map] at h
        obtain ⟨e, he, heq⟩ := h
        have := hcont e he
        simp only [Prod.mk.injEq] at heq
        rw [← heq.1, ← heq.2]; exact fun h => this h.symm
      · exact triEdges_noloop ts hd _ h)
  exact finalizeOk_of _ hI hall.1 hall.2

/-- edge `p[t] → p[t+1]` evaluated at `(a,b)` -/
def pe (p : List Nat) (a b t : Nat) : Int := ind (p.getD t 0) (p.getD (t + 1) 0) a b

theorem strip_net (p : List Nat) (a b : Nat) (fuel i k : Nat) (right : Bool)
    (hik : i ≤ k) (hf : k - i ≤ fuel + 1) :
    net (triEdges (strip p fuel i k right)) a b =
      (sumTo k (pe p a b) - sumTo i (pe p a b)) + ind (p.getD k 0) (p.getD i 0) a b := by
  -- nothing is emitted for `k ≤ i + 1`: the open path `i … k` and the closing edge cancel
  have empty : ∀ i k, i ≤ k → ¬ i + 1 < k →
      net (triEdges []) a b = (sumTo k (pe p a b) - sumTo i (pe p a b)) + ind (p.getD k 0) (p.getD i 0) a b := by
    intro i k h1 h2
    have : k = i ∨ k = i + 1 := by omega
    rcases this with rfl | rfl
    · rw [ind_self, net_triEdges_nil]; omega
    · have := ind_swap (p.getD i 0) (p.getD (i + 1) 0) a b
      simp only [net_triEdges_nil, sumTo, pe]; omega
  induction fuel generalizing i k right with
  | zero => exact empty i k hik (by omega)
  | succ fuel ih =>
    unfold strip
    by_cases h : i + 1 < k
    · simp only [h, if_true]
      cases right
      · -- left step: triangle (i, k-1, k), continue with (i, k-1)
        simp only [Bool.false_eq_true, if_false, net_triEdges_cons, bdTri_eq]
        rw [ih i (k - 1) _ (by omega) (by omega)]
        have hk : k = (k - 1) + 1 := by omega
        have e : sumTo k (pe p a b) = sumTo (k - 1) (pe p a b) + pe p a b (k - 1) := by
          conv => lhs; rw [hk]
          rfl
        rw [e]
        simp only [pe]
        rw [← hk]
        have := ind_swap (p.getD i 0) (p.getD (k - 1) 0) a b
        omega
      · simp only [if_true, net_triEdges_cons, bdTri_eq]
        rw [ih (i + 1) k _ (by omega) (by omega)]
        have e : sumTo (i + 1) (pe p a b) = sumTo i (pe p a b) + pe p a b i := rfl
        rw [e]
        simp only [pe]
        have := ind_swap (p.getD (i + 1) 0) (p.getD k 0) a b
        omega
    · rw [if_neg h]; exact empty i k hik h

theorem strip_length (p : List Nat) (fuel i k : Nat) (right : Bool)
    (hf : k - i ≤ fuel + 1) : (strip p fuel i k right).length = k - i - 1 := by
  induction fuel generalizing i k right with
  | zero => simp [strip]; omega
  | succ fuel ih =>
    unfold strip
    by_cases h : i + 1 < k
    · simp only [h, if_true]
      cases right
      · simp only [Bool.false_eq_true, if_false, List.length_cons]
        rw [ih i (k - 1) _ (by omega)]; omega
      · simp only [if_true, List.length_cons]
        rw [ih (i + 1) k _ (by omega)]; omega
    · simp only [h, if_false, List.length_nil]; omega

theorem polyEdges_net_open (p : List Nat) (hp : 1 ≤ p.length) (a b : Nat) :
    net (polyEdges p) a b =
      sumTo (p.length - 1) (pe p a b) + ind (p.getD (p.length - 1) 0) (p.getD 0 0) a b := by
  rw [net_polyEdges]
  obtain ⟨m, hm⟩ : ∃ m, p.length = m + 1 := ⟨p.length - 1, by omega⟩
  rw [hm]
  simp only [sumTo, Nat.add_sub_cancel, Nat.lt_irrefl, if_false]
  congr 1
  apply sumTo_congr
  intro v hv
  have : v + 1 < m + 1 := by omega
  simp [this, pe]

theorem stripPoly_net (p : List Nat) (a b : Nat) :
    net (triEdges (stripPoly p)) a b = net (polyEdges p) a b := by
  by_cases hp : 1 ≤ p.length
  case neg =>
    have : p = [] := List.eq_nil_of_length_eq_zero (by omega)
    subst this; rfl
  unfold stripPoly
  rw [strip_net p a b _ 0 _ true (by omega) (by omega), polyEdges_net_open p hp]
  simp [sumTo]

theorem stripPoly_length (p : List Nat) : (stripPoly p).length = p.length - 2 := by
  unfold stripPoly
  rw [strip_length _ _ _ _ _ (by omega)]; omega

theorem triangulateConvex_net (polys : List (List Nat)) (a b : Nat) :
    net (triEdges (triangulateConvex polys)) a b = net (contourEdges polys) a b := by
  induction polys with
  | nil => rfl
  | cons p ps ih =>
    simp only [triangulateConvex, contourEdges, triEdges, List.flatMap_cons, List.flatMap_append,
      net_append] at ih ⊢
    rw [ih]
    have := stripPoly_net p a b
    simp only [triEdges] at this
    rw [this]

theorem triangulateConvex_length (polys : List (List Nat)) :
    (triangulateConvex polys).length = (polys.map fun p => p.length - 2).sum := by
  induction polys with
  | nil => rfl
  | cons p ps ih =>
    simp only [triangulateConvex, List.flatMap_cons, List.length_append, List.map_cons,
      List.sum_cons, stripPoly_length] at ih ⊢
    rw [ih]

theorem strip_mem (p : List Nat) (fuel i k : Nat) (right : Bool) (t : Tri)
    (ht : t ∈ strip p fuel i k right) :
    ∃ x y z, i ≤ x ∧ x < y ∧ y < z ∧ z ≤ k ∧ t = (p.getD x 0, p.getD y 0, p.getD z 0) := by
  induction fuel generalizing i k right with
  | zero => simp [strip] at ht
  | succ fuel ih =>
    unfold strip at ht
    by_cases h : i + 1 < k
    · simp only [h, if_true, List.mem_cons] at ht
      rcases ht with rfl | ht
      · cases right
        · exact ⟨i, k - 1, k, by omega, by omega, by omega, by omega, by simp⟩
        · exact ⟨i, i + 1, k, by omega, by omega, by omega, by omega, by simp⟩
      · cases right
        · simp only [Bool.false_eq_true, if_false] at ht
          obtain ⟨x, y, z, h1, h2, h3, h4, h5⟩ := ih _ _ _ ht
          exact ⟨x, y, z, h1, h2, h3, by omega, h5⟩
        · simp only [if_true] at ht
          obtain ⟨x, y, z, h1, h2, h3, h4, h5⟩ := ih _ _ _ ht
          exact ⟨x, y, z, by omega, h2, h3, h4, h5⟩
    · simp [h] at ht

theorem nodup_getD_ne (p : List Nat) (hp : p.Nodup) (x y : Nat) (hxy : x < y) (hy : y < p.length) :
    p.getD x 0 ≠ p.getD y 0 := by
  have hx : x < p.length := by omega
  rw [List.getD_eq_getElem?_getD, List.getD_eq_getElem?_getD, List.getElem?_eq_getElem hx,
    List.getElem?_eq_getElem hy]
  simp only [Option.getD_some]
  exact (List.pairwise_iff_getElem.1 hp) x y hx hy hxy

theorem stripPoly_mem (p : List Nat) (t : Tri) (ht : t ∈ stripPoly p) :
    ∃ x y z, x < y ∧ y < z ∧ z < p.length ∧ t = (p.getD x 0, p.getD y 0, p.getD z 0) := by
  obtain ⟨x, y, z, _, h2, h3, h4, rfl⟩ := strip_mem _ _ _ _ _ _ ht
  have hlen : 0 < p.length := by
    cases p with
    | nil => simp [stripPoly, strip] at ht
    | cons => simp
  exact ⟨x, y, z, h2, h3, by omega, rfl⟩

theorem stripPoly_distinct (p : List Nat) (hp : p.Nodup) :
    ∀ t, t ∈ stripPoly p → TriDistinct t := by
  intro t ht
  obtain ⟨x, y, z, h1, h2, h3, rfl⟩ := stripPoly_mem p t ht
  exact ⟨nodup_getD_ne p hp x y h1 (by omega), nodup_getD_ne p hp y z h2 h3,
    fun h => nodup_getD_ne p hp x z (by omega) h3 h.symm⟩

theorem stripPoly_in (p : List Nat) : ∀ t, t ∈ stripPoly p → TriIn (· ∈ p) t := by
  intro t ht
  obtain ⟨x, y, z, h1, h2, h3, rfl⟩ := stripPoly_mem p t ht
  exact ⟨getD_mem p x (by omega), getD_mem p y (by omega), getD_mem p z h3⟩

theorem polyEdges_noloop (p : List Nat) (hp : p.Nodup) (hlen : 2 ≤ p.length) :
    ∀ e, e ∈ polyEdges p → e.1 ≠ e.2 := by
  intro e he
  simp only [polyEdges, List.mem_map, List.mem_range] at he
  obtain ⟨i, hi, rfl⟩ := he
  dsimp only
  split
  · next h => exact nodup_getD_ne p hp i (i + 1) (by omega) h
  · next h => exact fun h' => nodup_getD_ne p hp 0 i (by omega) hi h'.symm

theorem net_eq_zero_of_not_mem (es : List Edge) (a b : Nat) (h1 : (a, b) ∉ es) (h2 : (b, a) ∉ es) :
    net es a b = 0 := by
  unfold net
  rw [List.count_eq_zero_of_not_mem h1, List.count_eq_zero_of_not_mem h2]; rfl

/-- the driver's brute-force comparison decides equality in the group -/
theorem netEqCheck_iff (es₁ es₂ : List Edge) :
    netEqCheck es₁ es₂ = true ↔ ∀ a b, net es₁ a b = net es₂ a b := by
  unfold netEqCheck allEdgeKeys
  simp only [List.all_eq_true, beq_iff_eq]
  constructor
  · intro h a b
    by_cases hm : (a, b) ∈ es₁ ++ es₂ ∨ (b, a) ∈ es₁ ++ es₂
    · rcases hm with hm | hm
      · exact h (a, b) (List.mem_append_left _ hm)
      · have := h (b, a) (List.mem_append_left _ hm)
        rw [net_anti es₁, net_anti es₂]; dsimp only at this; omega
    · have h1 : (a, b) ∉ es₁ ++ es₂ := fun h => hm (Or.inl h)
      have h2 : (b, a) ∉ es₁ ++ es₂ := fun h => hm (Or.inr h)
      simp only [List.mem_append, not_or] at h1 h2
      rw [net_eq_zero_of_not_mem es₁ a b h1.1 h2.1, net_eq_zero_of_not_mem es₂ a b h1.2 h2.2]
  · intro h e _
    exact h e.1 e.2

theorem array_ext_getV (a b : Array Vert) (hs : a.size = b.size)
    (h : ∀ j, j < a.size → getV a j = getV b j) : a = b := by
  apply Array.ext hs
  intro i h1 h2
  have := h i h1
  unfold getV at this
  simpa [Array.getD_eq_getD_getElem?, h1, h2] using this

def seqStep (acc : Array Vert × Nat) (i : Nat) : Array Vert × Nat :=
  (linkV (acc.1.push ⟨i, 0, 0⟩) acc.2 acc.1.size, acc.1.size)

/-- vert `j` after the inner loop of `Initialize` has pushed `i0 :: done` on top of `vs`, each
    linked to its predecessor, before the closing `Link(last, first)` -/
def openChain (vs : Array Vert) (i0 : Nat) (done : List Nat) (j : Nat) : Vert :=
  if j < vs.size then getV vs j
  else ⟨(i0 :: done).getD (j - vs.size) 0, if j = vs.size then 0 else j - 1,
    if j < vs.size + done.length then j + 1 else 0⟩

theorem openChain_old {vs : Array Vert} {i0 : Nat} {done : List Nat} {j : Nat} (h : j < vs.size) :
    openChain vs i0 done j = getV vs j := if_pos h

theorem openChain_new (vs : Array Vert) (i0 : Nat) (done : List Nat) (i : Nat) :
    openChain vs i0 done (vs.size + i) =
      ⟨(i0 :: done).getD i 0, if i = 0 then 0 else vs.size + i - 1,
        if i < done.length then vs.size + i + 1 else 0⟩ := by
  rw [openChain, if_neg (by omega), Nat.add_sub_cancel_left]
  congr 1
  · split <;> split <;> omega
  · split <;> split <;> omega

/-- one round of the inner loop: push `x`, `Link(last, next)` -/
theorem seqStep_chain (vs : Array Vert) (i0 : Nat) (done : List Nat) (arr : Array Vert) (x : Nat)
    (hs : arr.size = vs.size + 1 + done.length)
    (h : ∀ j, j < arr.size → getV arr j = openChain vs i0 done j) (j : Nat) (hj : j < arr.size + 1) :
    getV (linkV (arr.push ⟨x, 0, 0⟩) (vs.size + done.length) arr.size) j
      = openChain vs i0 (done ++ [x]) j := by
  rw [getV_linkV, getV_push, Array.size_push]
  by_cases h1 : j < vs.size
  · rw [if_neg (by omega), if_neg (by omega), if_neg (by omega), h j (by omega), openChain_old h1,
      openChain_old h1]
  · obtain ⟨i, rfl⟩ : ∃ i, j = vs.size + i := ⟨j - vs.size, by omega⟩
    rw [openChain_new, List.length_append, List.length_singleton, ← List.cons_append, List.getD_concat,
      List.length_cons]
    by_cases hn : i = done.length + 1
    · -- the vert just pushed
      subst hn
      have c1 : vs.size + (done.length + 1) = arr.size := by omega
      simp only [c1, if_true, Nat.lt_irrefl, if_false, Nat.lt_succ_self, and_true]
      congr 1
      all_goals (repeat' split)
      all_goals omega
    · have c1 : vs.size + i ≠ arr.size := by omega
      have c2 : i < done.length + 1 := by omega
      rw [if_neg c1, h _ (by omega), openChain_new]
      simp only [c1, c2, false_and, if_false, if_true]
      congr 1
      repeat' split
      all_goals omega

theorem seq_foldl (vs : Array Vert) (i0 : Nat) (rest done : List Nat) (arr : Array Vert)
    (hs : arr.size = vs.size + 1 + done.length)
    (h : ∀ j, j < arr.size → getV arr j = openChain vs i0 done j) :
    ∃ arr', rest.foldl seqStep (arr, vs.size + done.length) = (arr', vs.size + (done ++ rest).length) ∧
      arr'.size = vs.size + 1 + (done ++ rest).length ∧
      ∀ j, j < arr'.size → getV arr' j = openChain vs i0 (done ++ rest) j := by
  induction rest generalizing done arr with
  | nil => exact ⟨arr, by simp, by simpa using hs, by simpa using h⟩
  | cons x rest ih =>
    have := ih (done ++ [x]) (linkV (arr.push ⟨x, 0, 0⟩) (vs.size + done.length) arr.size)
      (by simp [hs]; omega) (by
        intro j hj
        rw [size_linkV, Array.size_push] at hj
        exact seqStep_chain vs i0 done arr x hs h j hj)
    have e : arr.size = vs.size + (done ++ [x]).length := by simp [hs]; omega
    rw [← e] at this
    simpa [seqStep] using this

theorem initPolySeq_eq (vs : Array Vert) (p : List Nat) :
    initPolySeq vs p = vs ++ (initPoly vs.size p).toArray := by
  cases p with
  | nil => simp [initPolySeq, initPoly]
  | cons i0 rest =>
    obtain ⟨arr, hfold, hs, h⟩ := seq_foldl vs i0 rest [] (vs.push ⟨i0, 0, 0⟩) (by simp) (by
      intro j hj
      rw [Array.size_push] at hj
      rw [getV_push]
      by_cases h1 : j < vs.size
      · rw [if_neg (by omega), openChain_old h1]
      · obtain rfl : j = vs.size := by omega
        rw [if_pos rfl]; exact (openChain_new vs i0 [] 0).symm)
    have hdef : initPolySeq vs (i0 :: rest) =
        linkV (rest.foldl seqStep (vs.push ⟨i0, 0, 0⟩, vs.size)).1
          (rest.foldl seqStep (vs.push ⟨i0, 0, 0⟩, vs.size)).2 vs.size := rfl
    simp only [List.length_nil, Nat.add_zero, List.nil_append] at hfold hs h
    rw [hdef, hfold]
    apply array_ext_getV
    · simp [initPoly, hs]; omega
    · intro j hj
      dsimp only at hj ⊢
      rw [size_linkV] at hj
      show _ = getV (appendPoly ⟨vs, [], 0⟩ (i0 :: rest)).verts j
      rw [getV_linkV, h j hj]
      by_cases h1 : j < vs.size
      · rw [appendPoly_getV_old _ _ h1, if_neg (by omega), if_neg (by omega), openChain_old h1]
      · -- the closing `Link(last, first)` turns the chain into the ring
        obtain ⟨i, rfl⟩ : ∃ i, j = vs.size + i := ⟨j - vs.size, by omega⟩
        refine Eq.trans ?_ (appendPoly_getV_new ⟨vs, [], 0⟩ (i0 :: rest) (i := i) (by simp; omega)).symm
        rw [openChain_new]
        simp only [List.length_cons, pr, nx, State.n]
        rw [Vert.mk.injEq]
        refine ⟨rfl, ?_, ?_⟩
        all_goals (repeat' split)
        all_goals omega

end MV.EarClip
