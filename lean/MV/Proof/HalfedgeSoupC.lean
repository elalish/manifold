import MV.Proof.HalfedgeSoupB
/-!
C09b, part C: the initial state, the final pairing (impl.cpp:535-556) and the assembled statement:
on EVERY triangle list with an even number of triangles `createHalfedges` returns normally, every
slot of `halfedge_` is written exactly once, and what is written is described halfedge by halfedge.
-/
namespace MV.Halfedge
open MV.Mesh List

theorem sortIds_perm (he : Array CH) : (sortIds he).toList ~ List.range he.size := by
  unfold sortIds
  exact List.mergeSort_perm _ _

theorem replicate_getD_false (n e : Nat) : (Array.replicate n false).getD e false = false := by
  rw [Array.getD_eq_getD_getElem?]
  by_cases h : e < n <;> simp [h]

theorem sinv_init (ts : List Tri) (M : Nat) (hM : 3 * ts.length = 2 * M) :
    SInv (prep ts) M 0 ⟨sortIds (prep ts), Array.replicate (3 * ts.length) false⟩ := by
  have hp := sortIds_perm (prep ts)
  rw [prep_size, hM] at hp
  refine ⟨by rw [prep_size, hM], by omega, ?_, by simp [hM], hp, ?_, ?_⟩
  · have := hp.length_eq; simpa using this
  · intro p _ hr; unfold remAt at hr; rw [replicate_getD_false] at hr; cases hr
  · intro j _; unfold remAt; rw [replicate_getD_false, replicate_getD_false]

/-- `removalState` never faults on an even triangle list -/
theorem removalState_spec (ts : List Tri) (M : Nat) (hM : 3 * ts.length = 2 * M) :
    ∃ s, removalState ts = .ok s ∧ SInv (prep ts) M M s := by
  obtain ⟨s, hs, inv⟩ := serialLoop_spec (he := prep ts) M 0 0 _ (by omega) (Nat.le_refl 0) (sinv_init ts M hM)
  refine ⟨s, ?_, inv⟩
  unfold removalState
  have : 3 * ts.length / 2 = M := by omega
  simp only [prep_size, this]; exact hs

/-- the position facing `p` in the other half of `ids` -/
def facing (M p : Nat) : Nat := if p < M then p + M else p - M

theorem facing_lt {n M p : Nat} (hn : n = 2 * M) (hp : p < n) : facing M p < n := by
  unfold facing; split <;> omega

theorem facing_facing {n M p : Nat} (hn : n = 2 * M) (hp : p < n) : facing M (facing M p) = p := by
  unfold facing; split <;> split <;> omega

theorem facing_ne {n M p : Nat} (hn : n = 2 * M) (hp : p < n) : facing M p ≠ p := by
  unfold facing; split <;> omega

theorem SInv.sym_facing {he : Array CH} {M i : Nat} {s : St} (h : SInv he M i s) {p : Nat}
    (hp : p < 2 * M) : remAt s.removed s.ids (facing M p) = remAt s.removed s.ids p := by
  unfold facing
  split
  · exact (h.sym p ‹_›).symm
  · rw [h.sym (p - M) (by omega), show p - M + M = p by omega]

/-- start, pair and prop that the final pairing writes for the halfedge at position `p` of `ids` -/
def want (he : Array CH) (M : Nat) (s : St) (p : Nat) : Int × Int × Int :=
  if remAt s.removed s.ids p = true then (-1, -1, 0)
  else ((he.getD (s.ids.getD p 0) default).startVert, (s.ids.getD (facing M p) 0 : Nat),
    (he.getD (s.ids.getD p 0) default).propVert)

/-- the slot of the halfedge at position `p` of `ids` holds what the final pairing writes there -/
def SlotOk (he : Array CH) (M : Nat) (s : St) (o : Out) (p : Nat) : Prop :=
  o.start[s.ids.getD p 0]? = some (want he M s p).1 ∧
  o.paired[s.ids.getD p 0]? = some (want he M s p).2.1 ∧
  o.prop[s.ids.getD p 0]? = some (want he M s p).2.2

structure FQ (he : Array CH) (M : Nat) (s : St) (i : Nat) (o : Out) : Prop where
  ssize : o.start.size = 2 * M
  psize : o.paired.size = 2 * M
  qsize : o.prop.size = 2 * M
  done : ∀ p, (p < i ∨ (M ≤ p ∧ p < M + i)) → SlotOk he M s o p

theorem set2_get' {x : Array Int} {p0 p1 : Nat} {v0 v1 : Int} (h0 : p0 < x.size) (h1 : p1 < x.size)
    (e : Nat) :
    ((x.setIfInBounds p0 v0).setIfInBounds p1 v1)[e]?
      = if p1 = e then some v1 else if p0 = e then some v0 else x[e]? := by
  simp only [Array.getElem?_setIfInBounds, Array.size_setIfInBounds, h0, h1, if_true]

/-- One step of the final pairing (impl.cpp:537-556) writes `want i` into the slot of `ids[i]` and
`want (i + M)` into the slot of `ids[i + M]`, whether or not the pair is removed. -/
theorem finishStep_spec {he : Array CH} {M : Nat} {s : St} (h : SInv he M M s) {i : Nat} (hi : i < M)
    {o : Out} (fi : FQ he M s i o) :
    ∃ o', finishStep he M s o i = .ok o' ∧ FQ he M s (i + 1) o' := by
  have hv := perm_val h.isz h.perm
  have hinj := perm_inj h.isz h.perm
  have hi2 : i < 2 * M := by omega
  have hiM : i + M < 2 * M := by omega
  have hl0 := hv i hi2
  have hl1 := hv (i + M) hiM
  have hne : s.ids.getD (i + M) 0 ≠ s.ids.getD i 0 := fun e => by
    have := hinj _ _ hiM hi2 e; omega
  have hp0 : rd s.ids (i : Int) = .ok (s.ids.getD i 0) := rd_nat 0 (by rw [h.isz]; exact hi2)
  have hp1 : rd s.ids ((i : Int) + (M : Int)) = .ok (s.ids.getD (i + M) 0) := by
    have := rd_nat (x := s.ids) (k := i + M) 0 (by rw [h.isz]; exact hiM)
    rwa [Int.natCast_add] at this
  have hr : rd s.removed ((s.ids.getD i 0 : Nat) : Int) = .ok (remAt s.removed s.ids i) :=
    rd_nat false (by rw [h.rsz]; exact hl0)
  have hh0 : rd he ((s.ids.getD i 0 : Nat) : Int) = .ok (he.getD (s.ids.getD i 0) default) :=
    rd_nat default (by rw [h.hsz]; exact hl0)
  have hh1 : rd he ((s.ids.getD (i + M) 0 : Nat) : Int) = .ok (he.getD (s.ids.getD (i + M) 0) default) :=
    rd_nat default (by rw [h.hsz]; exact hl1)
  have w : ∀ (x : Array Int) (e : Nat) (v : Int), x.size = 2 * M → e < 2 * M →
      wr x (e : Int) v = .ok (x.setIfInBounds e v) := fun x e v hx he => wr_ok (by omega)
  have hf0 : facing M i = i + M := by unfold facing; rw [if_pos hi]
  have hf1 : facing M (i + M) = i := by rw [← hf0]; exact facing_facing rfl (by omega)
  have hw : finishStep he M s o i = .ok
      ⟨(o.start.setIfInBounds (s.ids.getD i 0) (want he M s i).1).setIfInBounds
          (s.ids.getD (i + M) 0) (want he M s (i + M)).1,
        (o.paired.setIfInBounds (s.ids.getD i 0) (want he M s i).2.1).setIfInBounds
          (s.ids.getD (i + M) 0) (want he M s (i + M)).2.1,
        (o.prop.setIfInBounds (s.ids.getD i 0) (want he M s i).2.2).setIfInBounds
          (s.ids.getD (i + M) 0) (want he M s (i + M)).2.2⟩ := by
    unfold finishStep want
    simp only [hp0, hp1, hr, bind, Except.bind, ← h.sym i hi, hf0, hf1]
    cases remAt s.removed s.ids i <;>
      simp only [Bool.not_false, Bool.not_true, Bool.false_eq_true, if_true, if_false, hh0, hh1,
        w o.start _ _ fi.ssize hl0, w o.prop _ _ fi.qsize hl0, w o.paired _ _ fi.psize hl0,
        w (o.start.setIfInBounds _ _) _ _ (by simp [fi.ssize]) hl1,
        w (o.prop.setIfInBounds _ _) _ _ (by simp [fi.qsize]) hl1,
        w (o.paired.setIfInBounds _ _) _ _ (by simp [fi.psize]) hl1, pure, Except.pure]
  refine ⟨_, hw, by simp [fi.ssize], by simp [fi.psize], by simp [fi.qsize], ?_⟩
  intro p hp
  have hp2 : p < 2 * M := by omega
  have hpd : p ≠ i → p ≠ i + M → p < i ∨ (M ≤ p ∧ p < M + i) := by omega
  have g := fun (x : Array Int) (v0 v1 : Int) (hx : x.size = 2 * M) =>
    set2_get' (x := x) (v0 := v0) (v1 := v1) (show s.ids.getD i 0 < x.size by rw [hx]; exact hl0)
      (show s.ids.getD (i + M) 0 < x.size by rw [hx]; exact hl1)
  unfold SlotOk
  simp only [g _ _ _ fi.ssize, g _ _ _ fi.psize, g _ _ _ fi.qsize]
  by_cases h1 : p = i
  · subst h1; simp only [hne, if_false, if_true]; trivial
  · by_cases h2 : p = i + M
    · subst h2; simp only [if_true]; trivial
    · have n0 : s.ids.getD i 0 ≠ s.ids.getD p 0 := fun e => h1 (hinj _ _ hp2 hi2 e.symm)
      have n1 : s.ids.getD (i + M) 0 ≠ s.ids.getD p 0 := fun e => h2 (hinj _ _ hp2 hiM e.symm)
      simp only [n0, n1, if_false]
      exact fi.done p (hpd h1 h2)

theorem finish_spec {he : Array CH} {M : Nat} {s : St} (h : SInv he M M s) :
    ∀ (m i : Nat) (o : Out), i + m = M → FQ he M s i o →
      ∃ o', finish he M s m i o = .ok o' ∧ FQ he M s M o'
  | 0, i, o, hm, fi => by
    have : i = M := by omega
    subst this; exact ⟨o, rfl, fi⟩
  | m + 1, i, o, hm, fi => by
    obtain ⟨o', ho', fi'⟩ := finishStep_spec h (show i < M by omega) fi
    obtain ⟨o'', ho'', fi''⟩ := finish_spec h m (i + 1) o' (by omega) fi'
    refine ⟨o'', ?_, fi''⟩
    rw [finish]; simp only [ho', bind, Except.bind]; exact ho''

/-- The facts about `createHalfedges ts` that hold for EVERY even triangle list: sizes; `ids`
ends as a permutation (every slot of `halfedge_` is written exactly once, none stays
uninitialised); a removed halfedge is a full tombstone; a kept halfedge carries the start / prop
vertex of the input and is paired, mutually, with another kept halfedge. -/
structure SoupResult (ts : List Tri) (s : St) (o : Out) : Prop where
  ssize : o.start.size = 3 * ts.length
  psize : o.paired.size = 3 * ts.length
  qsize : o.prop.size = 3 * ts.length
  rsize : s.removed.size = 3 * ts.length
  perm : s.ids.toList ~ List.range (3 * ts.length)
  dead : ∀ e, e < 3 * ts.length → s.removed.getD e false = true →
    o.start[e]? = some (-1) ∧ o.paired[e]? = some (-1) ∧ o.prop[e]? = some 0
  alive : ∀ e, e < 3 * ts.length → s.removed.getD e false = false →
    o.start[e]? = some ((edgeAt ts e).1 : Int) ∧ o.prop[e]? = some ((edgeAt ts e).1 : Int) ∧
    ∃ e', e' < 3 * ts.length ∧ e' ≠ e ∧ s.removed.getD e' false = false ∧
      o.paired[e]? = some (e' : Int) ∧ o.paired[e']? = some (e : Int)

theorem perm_surj {N : Nat} {ids : Array Nat} (hs : ids.size = N) (h : ids.toList ~ List.range N)
    (e : Nat) (he : e < N) : ∃ p, p < N ∧ ids.getD p 0 = e := by
  have hm : e ∈ ids.toList := (h.mem_iff).2 (List.mem_range.2 he)
  obtain ⟨p, hp, hpe⟩ := List.getElem_of_mem hm
  have hp' : p < ids.size := by simpa using hp
  exact ⟨p, by omega, by rw [getD_toList ids p hp']; exact hpe⟩

/-- on an even triangle list both phases return; the removal state satisfies the loop invariant and
every slot of the output is described by `SlotOk` -/
theorem createHalfedges_slots (ts : List Tri) (M : Nat) (hM : 3 * ts.length = 2 * M) :
    ∃ s o, removalState ts = .ok s ∧ createHalfedges ts = .ok o ∧ SInv (prep ts) M M s ∧
      FQ (prep ts) M s M o := by
  obtain ⟨s, hs, inv⟩ := removalState_spec ts M hM
  have fq0 : FQ (prep ts) M s 0 ⟨Array.replicate (3 * ts.length) 0, Array.replicate (3 * ts.length) 0,
      Array.replicate (3 * ts.length) 0⟩ :=
    ⟨by simp [hM], by simp [hM], by simp [hM], fun p hp => by omega⟩
  obtain ⟨o, ho, fq⟩ := finish_spec inv M 0 _ (by omega) fq0
  refine ⟨s, o, hs, ?_, inv, fq⟩
  unfold createHalfedges
  have : 3 * ts.length / 2 = M := by omega
  simp only [hs, prep_size, this, bind, Except.bind]; exact ho

/-- what the output holds at halfedge `e`, where `e'` is the halfedge facing it in `ids` -/
structure Slot (he : Array CH) (s : St) (o : Out) (e e' : Nat) : Prop where
  lt : e' < he.size
  ne : e' ≠ e
  rm_partner : s.removed.getD e' false = s.removed.getD e false
  dead : s.removed.getD e false = true →
    o.start[e]? = some (-1) ∧ o.paired[e]? = some (-1) ∧ o.prop[e]? = some 0
  alive : s.removed.getD e false = false →
    o.start[e]? = some ((he.getD e default).startVert : Int) ∧ o.paired[e]? = some (e' : Int) ∧
    o.paired[e']? = some (e : Int) ∧ o.prop[e]? = some ((he.getD e default).propVert : Int)

/-- `SlotOk` at a position and at the one facing it, read as a statement about the two halfedges -/
theorem slot_at {he : Array CH} {M : Nat} {s : St} {o : Out} (inv : SInv he M M s)
    (fq : FQ he M s M o) {q : Nat} (hq : q < 2 * M) :
    Slot he s o (s.ids.getD q 0) (s.ids.getD (facing M q) 0) := by
  have hf := facing_lt rfl hq
  have h1 := fq.done q (by omega)
  have h2 := fq.done (facing M q) (by omega)
  have hsym : remAt s.removed s.ids (facing M q) = remAt s.removed s.ids q := inv.sym_facing hq
  unfold SlotOk want at h1 h2
  rw [hsym, facing_facing rfl hq] at h2
  unfold remAt at h1 h2 hsym
  refine ⟨by rw [inv.hsz]; exact perm_val inv.isz inv.perm _ hf,
    fun h => facing_ne rfl hq (perm_inj inv.isz inv.perm _ _ hf hq h), hsym, fun hr => ?_,
    fun hr => ?_⟩
  · rw [if_pos hr] at h1; exact h1
  · rw [if_neg (by rw [hr]; simp)] at h1 h2
    exact ⟨h1.1, h1.2.1, h2.2.1, h1.2.2⟩

end MV.Halfedge
