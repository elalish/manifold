/-
What the node boxes must be: the cell of a node holds the fold of the union over the leaf values
below it (`T.val`).  `Cells` says so for every node of a subtree; for the arrays of a well-formed
tree it is exactly what the decidable check `unionBoxes` tests (`cells_of_unionBoxes`,
`unionBoxes_of_cells`), so the builders establish `Cells` and the readers consume it.
-/
import MV.Proof.ColliderBase

namespace MV.Collider

section
variable {β : Type} (u : β → β → β) (g : Nat → β)

/-- the fold of `u` over the leaf values `g i` of the subtree -/
def T.val : T → β
  | .leaf i => g i
  | .node _ l r => u (T.val l) (T.val r)

/-- every node of the subtree has its value in its cell -/
def Cells (cells : Array β) : T → Prop
  | .leaf i => cells[2 * i]? = some (g i)
  | .node k l r =>
    cells[2 * k + 1]? = some (T.val u g (.node k l r)) ∧ Cells cells l ∧ Cells cells r

variable {u g} {cells : Array β}

theorem T.val_congr {g' : Nat → β} : ∀ (t : T), (∀ i ∈ t.leaves, g i = g' i) →
    T.val u g t = T.val u g' t
  | .leaf i, h => h i (List.mem_singleton.mpr rfl)
  | .node _ l r, h => by
    rw [T.val, T.val, T.val_congr l (fun i hi => h i (List.mem_append_left _ hi)),
      T.val_congr r (fun i hi => h i (List.mem_append_right _ hi))]

theorem Cells.cell : ∀ {t : T}, Cells u g cells t → cells[t.id.toNat]? = some (T.val u g t)
  | .leaf i, h => by rw [id_leaf_toNat]; exact h
  | .node k l r, h => by rw [id_node_toNat]; exact h.1

theorem Cells.leaf : ∀ (t : T), Cells u g cells t → ∀ i ∈ t.leaves, cells[2 * i]? = some (g i)
  | .leaf _, h, _, hi => List.mem_singleton.mp hi ▸ h
  | .node _ a b, h, i, hi =>
    (List.mem_append.mp hi).elim (Cells.leaf a h.2.1 i) (Cells.leaf b h.2.2 i)

/-- at an internal index of a represented tree: its two children and the three cells -/
theorem Cells.node {ch : Array (Int × Int)} {t : T} (hr : Rep ch t) (hc : Cells u g cells t)
    {k : Nat} (hk : k ∈ t.internals) :
    ∃ a b : T, ch[k]? = some (a.id, b.id) ∧ cells[a.id.toNat]? = some (T.val u g a) ∧
      cells[b.id.toNat]? = some (T.val u g b) ∧
      cells[2 * k + 1]? = some (u (T.val u g a) (T.val u g b)) := by
  obtain ⟨a, b, ⟨hch, _, _⟩, h0, ha, hb⟩ :=
    exists_node_of_mem (P := fun s => Rep ch s ∧ Cells u g cells s)
      (fun _ _ _ h => ⟨⟨h.1.2.1, h.2.2.1⟩, h.1.2.2, h.2.2.2⟩) t ⟨hr, hc⟩ k hk
  exact ⟨a, b, hch, ha.cell, hb.cell, h0⟩

/-- the cells of the subtree and its leaf values are all that `Cells` reads -/
theorem Cells.frame {cells' : Array β} {g' : Nat → β} : ∀ (t : T), Cells u g cells t →
    (∀ i ∈ t.leaves, cells'[2 * i]? = cells[2 * i]? ∧ g' i = g i) →
    (∀ k ∈ t.internals, cells'[2 * k + 1]? = cells[2 * k + 1]?) → Cells u g' cells' t
  | .leaf i, h, hl, _ => by
    have := hl i (List.mem_singleton.mpr rfl)
    rw [Cells, this.1, this.2]; exact h
  | .node k l r, h, hl, hk => by
    refine ⟨?_, Cells.frame l h.2.1 (fun i hi => hl i (List.mem_append_left _ hi))
        (fun j hj => hk j (List.mem_cons_of_mem _ (List.mem_append_left _ hj))),
      Cells.frame r h.2.2 (fun i hi => hl i (List.mem_append_right _ hi))
        (fun j hj => hk j (List.mem_cons_of_mem _ (List.mem_append_right _ hj)))⟩
    rw [hk k List.mem_cons_self, h.1, T.val_congr _ (fun i hi => (hl i hi).2)]

/-- a map `f` that commutes with the union on values satisfying `P` (closed under the union)
commutes with `T.val` -/
theorem T.val_map {γ : Type} {u' : γ → γ → γ} {f : β → γ} {P : β → Prop}
    (hP : ∀ a b, P a → P b → P (u a b) ∧ f (u a b) = u' (f a) (f b)) :
    ∀ t : T, (∀ i ∈ t.leaves, P (g i)) →
      P (T.val u g t) ∧ f (T.val u g t) = T.val u' (fun i => f (g i)) t
  | .leaf i, h => ⟨h i (List.mem_singleton.mpr rfl), rfl⟩
  | .node _ l r, h => by
    have hl := T.val_map hP l (fun i hi => h i (List.mem_append_left _ hi))
    have hr := T.val_map hP r (fun i hi => h i (List.mem_append_right _ hi))
    have := hP _ _ hl.1 hr.1
    exact ⟨this.1, by rw [T.val, this.2, hl.2, hr.2]; rfl⟩

theorem Cells.map {γ : Type} {u' : γ → γ → γ} {f : β → γ} {P : β → Prop}
    (hP : ∀ a b, P a → P b → P (u a b) ∧ f (u a b) = u' (f a) (f b)) :
    ∀ t : T, (∀ i ∈ t.leaves, P (g i)) → Cells u g cells t →
      Cells u' (fun i => f (g i)) (cells.map f) t
  | .leaf i, _, h => by rw [Cells, Array.getElem?_map, show cells[2 * i]? = _ from h]; rfl
  | .node k l r, hg, h => by
    refine ⟨?_, Cells.map hP l (fun i hi => hg i (List.mem_append_left _ hi)) h.2.1,
      Cells.map hP r (fun i hi => hg i (List.mem_append_right _ hi)) h.2.2⟩
    rw [Array.getElem?_map, h.1, Option.map_some, (T.val_map hP _ hg).2]

end

/-- the decidable check read on a tree contained in the arrays -/
theorem cells_of_unionBoxes {ch : Array (Int × Int)} {boxes leafBB : Array Box} {n : Nat}
    (hub : unionBoxes ch boxes leafBB n = true) :
    ∀ t : T, Rep ch t → Below n t → Cells Box.union (fun i => leafBB.getD i default) boxes t := by
  obtain ⟨_, hl, hleaf, hint⟩ := unionBoxes_iff.mp hub
  intro t
  induction t with
  | leaf i =>
    intro _ hi
    have hi : i < n := hi
    rw [Cells, hleaf i hi]
    exact getElem?_eq_some_getD default (hl ▸ hi)
  | node k a b iha ihb =>
    intro ⟨hc, ra, rb⟩ ⟨hk, ba, bb⟩
    obtain ⟨c1, c2, b1, b2, e, _, _, e1, e2, e0⟩ := hint k hk
    rw [hc] at e; cases e
    have ca := iha ra ba
    have cb := ihb rb bb
    refine ⟨?_, ca, cb⟩
    rw [e0, Option.some.inj (e1.symm.trans ca.cell), Option.some.inj (e2.symm.trans cb.cell)]
    rfl

/-- … and established from the tree the arrays unfold to -/
theorem unionBoxes_of_cells {ch : Array (Int × Int)} {parent : Array Int} {n : Nat} {t : T}
    (c : TreeCtx ch parent n t) {boxes leafBB : Array Box} (hb : boxes.size = 2 * n - 1)
    (hl : leafBB.size = n) (h : Cells Box.union (fun i => leafBB.getD i default) boxes t) :
    unionBoxes ch boxes leafBB n = true := by
  refine unionBoxes_iff.mpr ⟨hb, hl, fun i hi => ?_, fun k hk => ?_⟩
  · rw [h.leaf t i ((c.mem_leaves i).mpr hi), getElem?_eq_some_getD default (hl ▸ hi)]
  · obtain ⟨a, b, h1, h2, h3, h4⟩ := h.node c.rep ((c.mem_internals k).mpr hk)
    exact ⟨_, _, _, _, h1, id_nonneg a, id_nonneg b, h2, h3, h4⟩

end MV.Collider
