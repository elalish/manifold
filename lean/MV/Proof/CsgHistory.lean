import MV.Proof.Csg
/-
Sequences of forcing calls on one store, and programs of API commands: the lazy session `Sess` and
the eager specification `Spec` stay in agreement along every run whose events the valuation respects.
-/
set_option autoImplicit false
namespace MV.Csg
open SolidAlg XfAct

variable {M S : Type} [One M] [Mul M] [SolidAlg S] [XfAct M S]

/-- any sequence of forcing calls, each with its own oracle, on nodes of the initial store -/
theorem forceSeq_spec (s : Store M) (hwf : WFs s) (calls : List (Nat × List Bool))
    (hvalid : ∀ c ∈ calls, c.1 < s.nodes.length) :
    (forceSeq s calls).2.2.2 = true ∧ WFs (forceSeq s calls).1 ∧
    ∀ (L : Val S), Respects L (forceSeq s calls).2.2.1 → CacheOK L s →
      (forceSeq s calls).2.1.map (Option.map L.leaf)
        = calls.map (fun c => some (denote L s c.1)) ∧
      SemExt L s (forceSeq s calls).1 ∧ CacheOK L (forceSeq s calls).1 ∧
      s.nodes.length ≤ (forceSeq s calls).1.nodes.length := by
  induction calls generalizing s with
  | nil =>
    exact ⟨rfl, hwf, fun L _ hc => ⟨rfl, SemExt.refl L s, hc, Nat.le_refl _⟩⟩
  | cons c cs ih =>
    obtain ⟨n, orc⟩ := c
    have hn : n < s.nodes.length := hvalid (n, orc) (by simp)
    obtain ⟨ok, ub, wf1, ⟨l, hl⟩, hmono, hsem⟩ := force_evald (S := S) s hwf n hn orc
    obtain ⟨ok', wf', hsem'⟩ := ih (force s n orc).st wf1
      (fun c hc => Nat.lt_of_lt_of_le (hvalid c (by simp [hc])) hmono)
    refine ⟨by simp [forceSeq, ok, ub, ok'], wf', ?_⟩
    intro L hL hc
    simp only [forceSeq] at hL ⊢
    obtain ⟨hL1, hL2⟩ := (Respects_append L _ _).1 hL
    have b := hsem L hL1 hc
    obtain ⟨r1, s2, c2, m2⟩ := hsem' L hL2 b.cache
    refine ⟨?_, SemExt.trans b.mono b.sem s2, c2, Nat.le_trans b.mono m2⟩
    simp only [List.map_cons, leafAt_of_node hl, Option.map_some]
    rw [← denote_leaf L hl, b.val, r1]
    congr 1
    apply List.map_congr_left
    intro c' hc'
    rw [b.sem c'.1 (hvalid c' (by simp [hc']))]

theorem lookup_cons_eq {α : Type} (l : List (Nat × α)) (h h' : Nat) (v : α) :
    ((h, v) :: l).lookup h' = if h' = h then some v else l.lookup h' := by
  rw [List.lookup_cons]
  by_cases e : h' = h
  · subst e; simp
  · have : (h' == h) = false := by simpa using e
    simp [this, e]

theorem lookup_filter_ne {α : Type} (l : List (Nat × α)) (h h' : Nat) :
    (l.filter (fun p => p.1 != h)).lookup h' = if h' = h then none else l.lookup h' := by
  induction l with
  | nil => simp
  | cons p ps ih =>
    obtain ⟨k, v⟩ := p
    simp only [List.filter_cons]
    by_cases hk : k = h
    · subst hk
      simp only [bne_self_eq_false, Bool.false_eq_true, if_false, ih, lookup_cons_eq]
      by_cases e : h' = k <;> simp [e]
    · have : (k != h) = true := by simpa using hk
      simp only [this, if_true, lookup_cons_eq, ih]
      by_cases e : h' = k
      · subst e; simp [hk]
      · simp [e]

/-- the lazy session and the eager specification agree: the eager environment is the lazy one
with every root replaced by what it denotes -/
structure SessInv (L : Val S) (σ : Sess M) (sp : Spec S) : Prop where
  wf : WFs σ.st
  cache : CacheOK L σ.st
  lt : ∀ h n, σ.handles.lookup h = some n → n < σ.st.nodes.length
  env : ∀ h, sp.env.lookup h = (σ.handles.lookup h).map (denote L σ.st)
  rets : σ.rets.map L.leaf = sp.rets

section
variable {L : Val S} {σ : Sess M} {sp : Spec S} (inv : SessInv L σ sp)
include inv

/-- a store operation that builds `n'` of value `v`, after which `h` is bound to `n'` on the lazy
and to `v` on the eager side -/
theorem SessInv.rebind {σ' : Sess M} {sp' : Spec S} {n' : Nat} {v : S} (h : Nat)
    (b : Built L σ.st σ'.st n' v) (hh : σ'.handles = (h, n') :: σ.handles)
    (he : ∀ h', sp'.env.lookup h' = if h' = h then some v else sp.env.lookup h')
    (hr : σ'.rets.map L.leaf = sp'.rets) : SessInv L σ' sp' := by
  refine ⟨b.wf, b.cache, fun h' n hl => ?_, fun h' => ?_, hr⟩
  · rw [hh, lookup_cons_eq] at hl
    by_cases e : h' = h
    · rw [if_pos e] at hl; cases hl; exact b.lt
    · rw [if_neg e] at hl; exact Nat.lt_of_lt_of_le (inv.lt h' n hl) b.mono
  · rw [he, hh, lookup_cons_eq]
    by_cases e : h' = h
    · rw [if_pos e, if_pos e, Option.map_some, b.val]
    · rw [if_neg e, if_neg e, inv.env h']
      cases hl : σ.handles.lookup h' with
      | none => rfl
      | some n => rw [Option.map_some, Option.map_some, b.sem n (inv.lt h' n hl)]

theorem SessInv.bind {st' : Store M} {n' : Nat} {v : S} (h : Nat) (b : Built L σ.st st' n' v) :
    SessInv L { σ with st := st', handles := (h, n') :: σ.handles }
      { sp with env := (h, v) :: sp.env } :=
  inv.rebind h b rfl (fun _ => lookup_cons_eq _ _ _ _) inv.rets

theorem SessInv.all (as : List Nat) :
    lookupAll sp.env as = (lookupAll σ.handles as).map (List.map (denote L σ.st)) ∧
    ∀ ns, lookupAll σ.handles as = some ns → ∀ n ∈ ns, n < σ.st.nodes.length := by
  induction as with
  | nil => simp [lookupAll]
  | cons a as ih =>
    simp only [lookupAll, inv.env a, ih.1]
    cases ha : σ.handles.lookup a with
    | none => simp
    | some n =>
      cases has : lookupAll σ.handles as with
      | none => simp
      | some ns =>
        refine ⟨rfl, fun ns' e n' hn' => ?_⟩
        cases e
        rcases List.mem_cons.1 hn' with rfl | h'
        · exact inv.lt a _ ha
        · exact ih.2 ns has n' h'

theorem SessInv.fail : SessInv L { σ with ok := false } sp :=
  ⟨inv.wf, inv.cache, inv.lt, inv.env, inv.rets⟩

theorem exec_inv (c : Cmd M) (hL : Respects L (σ.exec c).evs) :
    SessInv L (σ.exec c) (sp.exec L c) := by
  cases c with
  | leaf h => exact inv.bind h (newLeaf_built L σ.st inv.wf inv.cache h)
  | bool h o a b =>
    simp only [Sess.exec, Spec.exec, inv.env]
    cases ha : σ.handles.lookup a with
    | none => exact inv.fail
    | some na =>
      cases hb : σ.handles.lookup b with
      | none => exact inv.fail
      | some nb =>
        exact inv.bind h (boolean_built L σ.st inv.wf inv.cache na nb o (inv.lt a na ha)
          (inv.lt b nb hb))
  | batch h o as =>
    simp only [Sess.exec, Spec.exec, (inv.all as).1]
    cases has : lookupAll σ.handles as with
    | none => exact inv.fail
    | some ns => exact inv.bind h (batch_built L σ.st inv.wf inv.cache ns o ((inv.all as).2 ns has))
  | xf h a m =>
    simp only [Sess.exec, Spec.exec, inv.env]
    cases ha : σ.handles.lookup a with
    | none => exact inv.fail
    | some na => exact inv.bind h (transform_built L σ.st inv.wf inv.cache na m (inv.lt a na ha))
  | drop h =>
    refine ⟨inv.wf, inv.cache, fun h' n hl => ?_, fun h' => ?_, inv.rets⟩
    · simp only [Sess.exec, lookup_filter_ne] at hl
      split at hl
      · cases hl
      · exact inv.lt h' n hl
    · simp only [Sess.exec, Spec.exec, lookup_filter_ne, inv.env]
      split <;> rfl
  | force h orc =>
    simp only [Sess.exec, Spec.exec, inv.env] at hL ⊢
    cases hh : σ.handles.lookup h with
    | none => exact inv.fail
    | some n =>
      obtain ⟨_, _, _, ⟨l, hl⟩, _, hsem⟩ := force_evald (S := S) σ.st inv.wf n (inv.lt h n hh) orc
      simp only [hh, leafAt_of_node hl] at hL
      have b := hsem L ((Respects_append L _ _).1 hL).2 inv.cache
      simp only [leafAt_of_node hl, Option.map_some]
      refine inv.rebind h b rfl (fun h' => ?_) ?_
      · split
        · rename_i e; rw [e, inv.env, hh]; rfl
        · rfl
      · simp only [List.map_append, List.map_cons, List.map_nil, inv.rets]
        rw [← denote_leaf L hl, b.val]

end

omit [SolidAlg S] [XfAct M S] in
theorem exec_evs (σ : Sess M) (c : Cmd M) : ∃ e, (σ.exec c).evs = σ.evs ++ e := by
  cases c with
  | leaf h => exact ⟨[], by simp [Sess.exec]⟩
  | bool h o a b => simp only [Sess.exec]; split <;> exact ⟨[], by simp⟩
  | batch h o as => simp only [Sess.exec]; split <;> exact ⟨[], by simp⟩
  | xf h a m => simp only [Sess.exec]; split <;> exact ⟨[], by simp⟩
  | drop h => exact ⟨[], by simp [Sess.exec]⟩
  | force h orc =>
    simp only [Sess.exec]
    split
    · split
      · exact ⟨_, rfl⟩
      · exact ⟨[], by simp⟩
    · exact ⟨[], by simp⟩

omit [SolidAlg S] [XfAct M S] in
theorem run_evs (σ : Sess M) (prog : List (Cmd M)) : ∃ e, (σ.run prog).evs = σ.evs ++ e := by
  induction prog generalizing σ with
  | nil => exact ⟨[], by simp [Sess.run]⟩
  | cons c cs ih =>
    obtain ⟨e1, h1⟩ := exec_evs σ c
    obtain ⟨e2, h2⟩ := ih (σ.exec c)
    exact ⟨e1 ++ e2, by simp only [Sess.run, List.foldl_cons] at h2 ⊢; rw [h2, h1, List.append_assoc]⟩

/-- a whole program, from any consistent pair of states -/
theorem run_inv {L : Val S} (prog : List (Cmd M)) (σ : Sess M) (sp : Spec S)
    (inv : SessInv L σ sp) (hL : Respects L (σ.run prog).evs) :
    SessInv L (σ.run prog) (sp.run L prog) := by
  induction prog generalizing σ sp with
  | nil => exact inv
  | cons c cs ih =>
    obtain ⟨e, he⟩ := run_evs (σ.exec c) cs
    have hL' : Respects L (σ.exec c).evs := by
      have : (σ.run (c :: cs)).evs = (σ.exec c).evs ++ e := he
      rw [this] at hL
      exact ((Respects_append L _ _).1 hL).1
    exact ih (σ.exec c) (sp.exec L c) (exec_inv inv c hL') hL

omit [One M] [Mul M] in
theorem wfs_empty : WFs ({} : Store M) := by
  refine ⟨?_, ?_, ?_, ?_, ?_⟩ <;> intros <;> simp_all

theorem sessInv_empty (L : Val S) : SessInv L ({} : Sess M) ({} : Spec S) :=
  ⟨wfs_empty, fun h => by simp at h, fun h n hl => by simp at hl, fun h => rfl, rfl⟩

end MV.Csg
