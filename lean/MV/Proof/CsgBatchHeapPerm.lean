import MV.Proof.CsgBatchHeap
/-
"The heap is a list": the serial numbers of the heap entries are pairwise distinct, so the entry
`popMax` extracts is a function of the MULTISET of heap entries, and two runs of `BatchBoolean`'s
loop started from rearrangements of the same heap agree (the trace of pop / push events, the fresh
leaf ids, the serial numbers handed out, the final entry).  Hence, for at least three operands, the
INITIAL arrangement (whatever `std::make_heap` leaves) is irrelevant; in both runs the later heaps
are the model's lists, so the arrangements `push_heap` / `pop_heap` leave are not quantified over.
Core Lean only.
-/
set_option autoImplicit false
namespace MV.CsgBatch

variable {α : Type}

/-! ## distinct serial numbers -/

/-- in a list whose serial numbers are pairwise distinct, an entry is determined by its serial -/
theorem eq_of_serial_eq {l : List (Entry α)} (hnd : (l.map (·.2)).Nodup) {a b : Entry α}
    (ha : a ∈ l) (hb : b ∈ l) (h : a.2 = b.2) : a = b := by
  induction l with
  | nil => cases ha
  | cons x xs ih =>
    rw [List.map_cons, List.nodup_cons] at hnd
    rcases List.mem_cons.1 ha with e1 | ha'
    · rcases List.mem_cons.1 hb with e2 | hb'
      · rw [e1, e2]
      · exact absurd (List.mem_map.2 ⟨b, hb', by rw [← h, e1]⟩) hnd.1
    · rcases List.mem_cons.1 hb with e2 | hb'
      · exact absurd (List.mem_map.2 ⟨a, ha', by rw [h, e2]⟩) hnd.1
      · exact ih hnd.2 ha' hb'

/-- two entries neither of which is above the other under `MeshCompare` carry the same serial -/
theorem serial_eq_of_incomparable (orc : Orc α) {a b : Entry α}
    (h1 : meshCompare orc a b = false) (h2 : meshCompare orc b a = false) : a.2 = b.2 := by
  by_cases hk : orc.key a = orc.key b
  · have := congrArg Prod.snd hk
    exact this
  · rcases keyLt_total hk with h | h
    · simp only [meshCompare] at h1; rw [h1] at h; cases h
    · simp only [meshCompare] at h2; rw [h2] at h; cases h

/-! ## popMax is a function of the multiset -/

/-- **the popped entry does not depend on the arrangement**: if the serial numbers are pairwise
distinct, every rearrangement of the heap pops the same entry and leaves a rearrangement of the
same remainder -/
theorem popMax_perm_inv (orc : Orc α) {l l' : List (Entry α)} (hp : l.Perm l')
    (hnd : (l.map (·.2)).Nodup) {m : Entry α} {r : List (Entry α)}
    (h : popMax (meshCompare orc) l = some (m, r)) :
    ∃ r', popMax (meshCompare orc) l' = some (m, r') ∧ r.Perm r' := by
  have hl := popMax_perm _ h
  have hne : l' ≠ [] := by
    intro e
    have := hp.length_eq
    rw [e, popMax_length _ h] at this
    simp at this
  obtain ⟨m', r', h'⟩ := popMax_isSome (meshCompare orc) hne
  have hl' := popMax_perm _ h'
  have hm : m ∈ l := hl.mem_iff.2 (List.mem_cons_self ..)
  have hm' : m' ∈ l := hp.mem_iff.2 (hl'.mem_iff.2 (List.mem_cons_self ..))
  have hmm : m' = m := by
    by_cases e : m' = m
    · exact e
    · -- `m'` is left in `r`, `m` is left in `r'`; neither is above the other
      have h1 : m' ∈ r := by
        rcases List.mem_cons.1 (hl.mem_iff.1 hm') with e' | e'
        · exact absurd e' e
        · exact e'
      have h2 : m ∈ r' := by
        rcases List.mem_cons.1 (hl'.mem_iff.1 (hp.mem_iff.1 hm)) with e' | e'
        · exact absurd e'.symm e
        · exact e'
      exact eq_of_serial_eq hnd hm' hm
        (serial_eq_of_incomparable orc (popMax_max orc h' m h2) (popMax_max orc h m' h1))
  subst hmm
  exact ⟨r', h', (hl.symm.trans (hp.trans hl')).cons_inv⟩

/-! ## the serial-number invariant -/

/-- the entries of `L` carry pairwise distinct serial numbers, all below `n` -/
def SerL (L : List (Entry α)) (n : Nat) : Prop :=
  (L.map (·.2)).Nodup ∧ ∀ e ∈ L, e.2 < n

theorem SerL.perm {L L' : List (Entry α)} {n : Nat} (hp : L.Perm L') (h : SerL L n) :
    SerL L' n :=
  ⟨(hp.map _).nodup h.1, fun e he => h.2 e (hp.mem_iff.2 he)⟩

theorem SerL.of_cons {a : Entry α} {L : List (Entry α)} {n : Nat} (h : SerL (a :: L) n) :
    SerL L n := by
  refine ⟨?_, fun e he => h.2 e (List.mem_cons_of_mem _ he)⟩
  have := h.1
  rw [List.map_cons, List.nodup_cons] at this
  exact this.2

/-- `emplace_back(x, nextSerial++)` keeps the serial numbers distinct -/
theorem SerL.snoc {L : List (Entry α)} {n : Nat} (h : SerL L n) (x : BLeaf α) :
    SerL (L ++ [(x, n)]) (n + 1) := by
  have hp : (L ++ [(x, n)]).Perm ((x, n) :: L) := List.perm_append_comm
  apply SerL.perm hp.symm
  refine ⟨?_, ?_⟩
  · rw [List.map_cons, List.nodup_cons]
    refine ⟨?_, h.1⟩
    intro hm
    obtain ⟨e, he, hen⟩ := List.mem_map.1 hm
    have := h.2 e he
    simp only at hen
    omega
  · intro e he
    rcases List.mem_cons.1 he with rfl | he
    · exact Nat.lt_succ_self _
    · exact Nat.lt_succ_of_lt (h.2 e he)

theorem SerL.left {A B : List (Entry α)} {n : Nat} (h : SerL (A ++ B) n) : SerL A n := by
  refine ⟨?_, fun e he => h.2 e (List.mem_append_left _ he)⟩
  have := h.1
  rw [List.map_append, List.nodup_append] at this
  exact this.1

/-- **the invariant of `BatchBoolean`'s loop**: the entries alive (in the heap or waiting in
`tmp`) carry pairwise distinct serial numbers, all below `nextSerial` -/
def SerOK (σ : HeapSt α) : Prop := SerL (σ.heap ++ σ.tmp) σ.nextSerial

theorem SerOK_iff (σ : HeapSt α) :
    SerOK σ ↔ ((σ.heap ++ σ.tmp).map (·.2)).Nodup ∧ ∀ e ∈ σ.heap ++ σ.tmp, e.2 < σ.nextSerial :=
  Iff.rfl

theorem SerOK.heap_nodup {σ : HeapSt α} (h : SerOK σ) : (σ.heap.map (·.2)).Nodup :=
  (SerL.left h).1

/-- one iteration of the pop loop keeps the invariant (whatever leaf is pushed, whatever is
traced) -/
theorem SerOK.pair (ops : Ops α) (orc : Orc α) {σ : HeapSt α} (hs : SerOK σ)
    {a b : Entry α} {h1 h2 : List (Entry α)}
    (hp1 : popMax (meshCompare orc) σ.heap = some (a, h1))
    (hp2 : popMax (meshCompare orc) h1 = some (b, h2)) : SerOK (σ.pair ops a b h2) := by
  have p : (σ.heap ++ σ.tmp).Perm (a :: b :: (h2 ++ σ.tmp)) :=
    ((popMax_perm _ hp1).trans ((popMax_perm _ hp2).cons a)).append_right σ.tmp
  have h3 : SerL (h2 ++ σ.tmp) σ.nextSerial := (SerL.perm p hs).of_cons.of_cons
  show SerL (h2 ++ (σ.tmp ++ [(_, σ.nextSerial)])) (σ.nextSerial + 1)
  rw [← List.append_assoc]
  exact h3.snoc _

section Loop
variable (ops : Ops α) (orc : Orc α)

theorem popPairs_serOK (k : Nat) (σ : HeapSt α) (hs : SerOK σ) :
    SerOK (popPairs ops orc k σ) :=
  popPairs_induction ops orc (fun _ _ _ _ _ h hp1 hp2 => h.pair ops orc hp1 hp2) k σ hs

theorem pushTmp_serOK (σ : HeapSt α) (hs : SerOK σ) : SerOK (pushTmp σ) := by
  show SerL ((σ.heap ++ σ.tmp) ++ []) σ.nextSerial
  rw [List.append_nil]
  exact hs

theorem heapLoop_serOK (grp f : Nat) (σ : HeapSt α) (hs : SerOK σ) :
    SerOK (heapLoop ops orc grp f σ) := by
  induction f generalizing σ with
  | zero => exact hs
  | succ f ih =>
    simp only [heapLoop]
    split
    · exact ih _ (pushTmp_serOK _ (popPairs_serOK ops orc grp σ hs))
    · exact hs

/-! ## the loop is a function of the multiset of heap entries -/

/-- two states of the loop that differ only in the arrangement of the heap -/
def HeapSt.Eqv (σ σ' : HeapSt α) : Prop :=
  σ.heap.Perm σ'.heap ∧ σ.tmp = σ'.tmp ∧ σ.next = σ'.next ∧ σ.nextSerial = σ'.nextSerial ∧
    σ.evs = σ'.evs

theorem HeapSt.Eqv.refl (σ : HeapSt α) : σ.Eqv σ := ⟨List.Perm.refl _, rfl, rfl, rfl, rfl⟩

theorem HeapSt.Eqv.symm {σ σ' : HeapSt α} (h : σ.Eqv σ') : σ'.Eqv σ :=
  ⟨h.1.symm, h.2.1.symm, h.2.2.1.symm, h.2.2.2.1.symm, h.2.2.2.2.symm⟩

/-- **the pop loop does not see the arrangement**: same pops (ids and serials) in the same
order, same fresh ids, same `tmp`; the heaps left are rearrangements of each other -/
theorem popPairs_perm_inv (k : Nat) (σ σ' : HeapSt α) (he : σ.Eqv σ') (hs : SerOK σ) :
    (popPairs ops orc k σ).Eqv (popPairs ops orc k σ') := by
  induction k generalizing σ σ' with
  | zero => exact he
  | succ k ih =>
    have hlen := he.1.length_eq
    rcases popPairs_succ ops orc k σ with ⟨h, e⟩ | ⟨a, h1, b, h2, _, hp1, hp2, e⟩
    · rw [e, show popPairs ops orc (k + 1) σ' = σ' by simp only [popPairs, ← hlen, h, if_false]]
      exact he
    · obtain ⟨h1', hp1', q1⟩ := popMax_perm_inv orc he.1 hs.heap_nodup hp1
      have nd1 : (h1.map (·.2)).Nodup := by
        have := ((popMax_perm _ hp1).map (·.2)).nodup hs.heap_nodup
        rw [List.map_cons, List.nodup_cons] at this
        exact this.2
      obtain ⟨h2', hp2', q2⟩ := popMax_perm_inv orc q1 nd1 hp2
      rcases popPairs_succ ops orc k σ' with ⟨h', _⟩ | ⟨a', _, b', h2'', _, r1, r2, e'⟩
      · omega
      · rw [hp1'] at r1; cases r1
        rw [hp2'] at r2; cases r2
        rw [e, e']
        obtain ⟨_, e1, e2, e3, e4⟩ := he
        exact ih _ _ ⟨q2, by simp only [HeapSt.pair, e1, e2, e3], by simp only [HeapSt.pair, e2],
          by simp only [HeapSt.pair, e3], by simp only [HeapSt.pair, e4]⟩ (hs.pair ops orc hp1 hp2)

theorem pushTmp_perm_inv (σ σ' : HeapSt α) (he : σ.Eqv σ') : (pushTmp σ).Eqv (pushTmp σ') := by
  obtain ⟨hp, e1, e2, e3, e4⟩ := he
  refine ⟨?_, rfl, e2, e3, ?_⟩
  · show (σ.heap ++ σ.tmp).Perm (σ'.heap ++ σ'.tmp)
    rw [← e1]
    exact hp.append_right _
  · show σ.evs ++ σ.tmp.map _ = σ'.evs ++ σ'.tmp.map _
    rw [e1, e4]

/-- **the whole loop does not see the arrangement**: the same trace of pop / push events, the
same fresh ids and serial numbers; the final heaps are rearrangements of each other -/
theorem heapLoop_perm_inv (grp f : Nat) (σ σ' : HeapSt α) (he : σ.Eqv σ') (hs : SerOK σ) :
    (heapLoop ops orc grp f σ).Eqv (heapLoop ops orc grp f σ') := by
  induction f generalizing σ σ' with
  | zero => exact he
  | succ f ih =>
    simp only [heapLoop]
    rw [← he.1.length_eq]
    split
    · exact ih _ _ (pushTmp_perm_inv _ _ (popPairs_perm_inv ops orc grp σ σ' he hs))
        (pushTmp_serOK _ (popPairs_serOK ops orc grp σ hs))
    · exact he

end Loop

/-! ## the initial heap -/

theorem withSerials_serial_range (l : List (BLeaf α)) (i : Nat) :
    ∀ e ∈ withSerials l i, i ≤ e.2 ∧ e.2 < i + l.length := by
  induction l generalizing i with
  | nil => intro e he; cases he
  | cons x xs ih =>
    intro e he
    simp only [withSerials] at he
    rcases List.mem_cons.1 he with rfl | he
    · simp only [List.length_cons]; omega
    · have := ih (i + 1) e he
      simp only [List.length_cons]; omega

theorem withSerials_nodup (l : List (BLeaf α)) (i : Nat) :
    ((withSerials l i).map (·.2)).Nodup := by
  induction l generalizing i with
  | nil => simp [withSerials]
  | cons x xs ih =>
    simp only [withSerials, List.map_cons, List.nodup_cons]
    refine ⟨?_, ih (i + 1)⟩
    intro hm
    obtain ⟨e, he, hei⟩ := List.mem_map.1 hm
    have := (withSerials_serial_range xs (i + 1) e he).1
    omega

/-- the heap `BatchBoolean` starts from satisfies the invariant -/
theorem withSerials_serL (l : List (BLeaf α)) : SerL (withSerials l 0) l.length :=
  ⟨withSerials_nodup l 0, fun e he => by
    have := (withSerials_serial_range l 0 e he).2
    omega⟩

/-! ## BatchBoolean from any arrangement of the initial heap -/

section Main
variable (ops : Ops α) (orc : Orc α)

/-- `BatchBoolean`'s heap path (l.501-555) started from an arbitrary arrangement `h0` of the
heap instead of the list `withSerials results 0` -/
def batchBooleanFrom (grp : Nat) (results : List (BLeaf α)) (next : Nat)
    (h0 : List (Entry α)) : BBRes α :=
  let σ := heapLoop ops orc grp results.length
    { heap := h0, next := next, nextSerial := results.length,
      evs := [.start (results.map (·.id))] }
  match σ.heap with
  | [e] => { ret := some e.1, next := σ.next, evs := σ.evs }
  | _ => { ret := none, next := σ.next, evs := σ.evs }

/-- for three operands or more `batchBoolean` IS the heap path from `withSerials results 0` -/
theorem batchBoolean_eq_from (grp : Nat) (results : List (BLeaf α)) (next : Nat)
    (h3 : 3 ≤ results.length) :
    batchBoolean ops orc grp results next =
      batchBooleanFrom ops orc grp results next (withSerials results 0) := by
  match results, h3 with
  | a :: b :: c :: rest, _ => rfl

end Main
end MV.CsgBatch
