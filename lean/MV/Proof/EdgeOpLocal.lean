import MV.Proof.EdgeOpBasic
/-!
Local edge operations of `MV.Model.EdgeOp` preserve the pairing invariant: `CollapseTri`
(`collapseTri_eval`, `collapseTri_inv`; the statements for particular hypotheses are in Props/C01b.lean)
and `RemoveIfFolded`; before them the executable checkers `goodB`, `checkPairInv` decide their
predicates.  (`checkVertOrbit` and `PairUp` are treated in Props/C01b.lean; the test states they are
instantiated on are defined here.)
-/
namespace MV.EdgeOp
open MV.Halfedge (HErr rd wr nextHalfedge GoodHalfedge Tomb endOf rd_ok wr_ok next_lt next_next_next)

/-! ## the executable checkers decide the invariants -/

theorem goodB_iff (start paired : Array Int) (e : Nat) :
    goodB start paired e = true ↔ MV.Halfedge.GoodHalfedge start paired e := by
  unfold goodB GoodHalfedge Tomb endOf
  grind

theorem checkPairInv_iff (start paired : Array Int) :
    checkPairInv start paired = true ↔ MV.Halfedge.PairInv start paired := by
  unfold checkPairInv MV.Halfedge.PairInv
  simp only [Bool.and_eq_true, beq_iff_eq, List.all_eq_true, List.mem_range, goodB_iff, and_assoc]

/-- every two live halfedges with the same start vertex lie on one `ForVert` cycle -/
def VertOrbitOk (start paired : Array Int) : Prop :=
  ∀ e, e < start.size → 0 ≤ paired[e]! → ∀ e', e' < start.size → 0 ≤ paired[e']! →
    start[e]! = start[e']! → reaches paired start.size e e' = true

/-- the tetrahedron used in the non-vacuity examples -/
def tetra : HE :=
  { start := #[0,2,1, 0,1,3, 1,2,3, 2,0,3], paired := #[9,6,3, 2,8,10, 1,11,4, 0,5,7],
    prop := #[0,2,1, 0,1,3, 1,2,3, 2,0,3], nVert := 4, nPropVert := 4 }

theorem tetra_checks :
    checkPairInv tetra.start tetra.paired = true ∧ checkVertOrbit tetra.start tetra.paired = true := by
  decide +kernel
theorem tetra_inv : PairInv tetra := ⟨by decide, (checkPairInv_iff _ _).1 tetra_checks.1⟩

example : checkPairInv tetra.start tetra.paired = true ∧ checkVertOrbit tetra.start tetra.paired = true :=
  tetra_checks
example : PairInv tetra := tetra_inv

/-! ## `PairUp`: a test state -/

/-- the tetrahedron with the edge 0-9 un-paired; `pairUp_preserves` of Props/C01b.lean is
instantiated on it -/
def tetraCut : HE := { tetra with paired := #[-1,6,3, 2,8,10, 1,11,4, -1,5,7] }

theorem tetraCut_ok :
    PairInvExcept tetraCut [0, 9] ∧ (0 : Nat) < tetraCut.start.size ∧ (9 : Nat) < tetraCut.start.size ∧
    (∀ e, e < tetraCut.start.size → e ∉ [0, 9] → tetraCut.P e = ((0 : Nat) : Int) → e = 9) ∧
    (∀ e, e < tetraCut.start.size → e ∉ [0, 9] → tetraCut.P e = ((9 : Nat) : Int) → e = 0) ∧
    (tetraCut.S (nx 0) ≠ -1 ∧ tetraCut.S (nx (nx 0)) ≠ -1) ∧
    (tetraCut.S (nx 9) ≠ -1 ∧ tetraCut.S (nx (nx 9)) ≠ -1) ∧
    (tetraCut.S 0 = tetraCut.S (nx 9) ∧ tetraCut.S (nx 0) = tetraCut.S 9 ∧
      tetraCut.S 0 ≠ tetraCut.S (nx 0)) := by decide +kernel

/-- non-vacuity: halfedges 0 and 9 dangling (in the exception list), `PairUp 0 9` restores the
invariant -/
example :
    PairInvExcept tetraCut [0, 9] ∧ (0 : Nat) < tetraCut.start.size ∧ (9 : Nat) < tetraCut.start.size ∧
    (∀ e, e < tetraCut.start.size → e ∉ [0, 9] → tetraCut.P e = ((0 : Nat) : Int) → e = 9) ∧
    (∀ e, e < tetraCut.start.size → e ∉ [0, 9] → tetraCut.P e = ((9 : Nat) : Int) → e = 0) ∧
    (tetraCut.S (nx 0) ≠ -1 ∧ tetraCut.S (nx (nx 0)) ≠ -1) ∧
    (tetraCut.S (nx 9) ≠ -1 ∧ tetraCut.S (nx (nx 9)) ≠ -1) ∧
    (tetraCut.S 0 = tetraCut.S (nx 9) ∧ tetraCut.S (nx 0) = tetraCut.S 9 ∧
      tetraCut.S 0 ≠ tetraCut.S (nx 0)) ∧
    pairUp tetraCut ((0 : Nat) : Int) ((9 : Nat) : Int) = .ok tetra := by
  obtain ⟨h, h0, h1, hp0, hp1, hl0, hl1, hv⟩ := tetraCut_ok
  exact ⟨h, h0, h1, hp0, hp1, hl0, hl1, hv, rfl⟩

/-! ## tombstoning a triangle -/

/-- pure `halfedge_.Set(e, -1, -1, pp)` -/
def kill (s : HE) (e : Nat) (pp : Int) : HE := ((s.setS e (-1)).setP e (-1)).setR e pp

/-- the three halfedges of the triangle of `e0` tombstoned (`propVert_` set to `r0 r1 r2`) -/
def killTri (s : HE) (e0 : Nat) (r0 r1 r2 : Int) : HE :=
  kill (kill (kill s e0 r0) (nx e0) r1) (nx (nx e0)) r2

section kill
variable (s : HE) (e j : Nat) (pp : Int)
@[simp] theorem S_kill : (kill s e pp).S j = if e = j ∧ e < s.start.size then -1 else s.S j := by
  simp [kill]
@[simp] theorem P_kill : (kill s e pp).P j = if e = j ∧ e < s.paired.size then -1 else s.P j := by
  by_cases h : e = j ∧ e < s.paired.size
  · rw [if_pos h]; unfold kill; rw [P_setR, P_setP, if_pos (by simpa using h)]
  · rw [if_neg h]; unfold kill; rw [P_setR, P_setP, if_neg (by simpa using h), P_setS]
@[simp] theorem R_kill : (kill s e pp).R j = if e = j ∧ e < s.prop.size then pp else s.R j := by
  by_cases h : e = j ∧ e < s.prop.size
  · rw [if_pos h]; unfold kill; rw [R_setR, if_pos (by simpa using h)]
  · rw [if_neg h]; unfold kill; rw [R_setR, if_neg (by simpa using h), R_setP, R_setS]
@[simp] theorem start_size_kill : (kill s e pp).start.size = s.start.size := by simp [kill]
@[simp] theorem paired_size_kill : (kill s e pp).paired.size = s.paired.size := by simp [kill]
@[simp] theorem prop_size_kill : (kill s e pp).prop.size = s.prop.size := by simp [kill]
@[simp] theorem nVert_kill : (kill s e pp).nVert = s.nVert := rfl
@[simp] theorem nPropVert_kill : (kill s e pp).nPropVert = s.nPropVert := rfl
theorem WF_kill (h : WF s) : WF (kill s e pp) := WF_setR _ _ _ (WF_setP _ _ _ (WF_setS _ _ _ h))
theorem kill_ok (hs : s.start.size = s.paired.size) (hp : s.prop.size = s.paired.size)
    (h : e < s.paired.size) : s.set (e : Int) (-1) (-1) pp = .ok (kill s e pp) :=
  set_ok s e hs hp h _ _ _

theorem setIfInBounds_self (a : Array Int) (i : Nat) : a.setIfInBounds i a[i]! = a := by
  apply Array.ext
  · simp
  · intro j h1 h2
    rw [Array.getElem_setIfInBounds]
    split
    · next h => subst h; simp [h2]
    · rfl

theorem prop_kill_self : (kill s e (s.R e)).prop = s.prop := by
  show s.prop.setIfInBounds e s.prop[e]! = s.prop
  exact setIfInBounds_self _ _
end kill

section killTri
variable (s : HE) (e0 j : Nat) (r0 r1 r2 : Int)
@[simp] theorem start_size_killTri : (killTri s e0 r0 r1 r2).start.size = s.start.size := by
  simp [killTri]
@[simp] theorem paired_size_killTri : (killTri s e0 r0 r1 r2).paired.size = s.paired.size := by
  simp [killTri]
@[simp] theorem prop_size_killTri : (killTri s e0 r0 r1 r2).prop.size = s.prop.size := by
  simp [killTri]
@[simp] theorem nVert_killTri : (killTri s e0 r0 r1 r2).nVert = s.nVert := by
  simp only [killTri, nVert_kill]
@[simp] theorem nPropVert_killTri : (killTri s e0 r0 r1 r2).nPropVert = s.nPropVert := by
  simp only [killTri, nPropVert_kill]
theorem WF_killTri (h : WF s) : WF (killTri s e0 r0 r1 r2) :=
  WF_kill _ _ _ (WF_kill _ _ _ (WF_kill _ _ _ h))

/-- a field that `kill` tombstones at its index (`start`, `paired`) is tombstoned by `killTri` on the
triangle -/
theorem field_killTri (F : HE → Nat → Int) (n : HE → Nat)
    (hk : ∀ s e j pp, F (kill s e pp) j = if e = j ∧ e < n s then -1 else F s j)
    (hn : ∀ s e pp, n (kill s e pp) = n s)
    (hw : WF s) (hs : n s = s.start.size) (h0 : e0 < s.start.size) :
    F (killTri s e0 r0 r1 r2) j = if j / 3 = e0 / 3 then -1 else F s j := by
  have h1 := nx_lt hw.2.2 h0
  have h2 := nx_lt hw.2.2 h1
  rw [← hs] at h0 h1 h2
  unfold killTri
  simp only [hk, hn]
  by_cases hj : j / 3 = e0 / 3
  · rw [if_pos hj]
    rcases nx_cases hj.symm with h | h | h <;> subst h <;> simp [h0, h1, h2]
  · rw [if_neg hj]
    obtain ⟨a0, a1, a2⟩ := not_tri hj
    simp [a0, a1, a2]

theorem S_killTri (hw : WF s) (h0 : e0 < s.start.size) :
    (killTri s e0 r0 r1 r2).S j = if j / 3 = e0 / 3 then -1 else s.S j :=
  field_killTri s e0 j r0 r1 r2 HE.S (fun s => s.start.size) S_kill start_size_kill hw rfl h0

theorem P_killTri (hw : WF s) (h0 : e0 < s.start.size) :
    (killTri s e0 r0 r1 r2).P j = if j / 3 = e0 / 3 then -1 else s.P j :=
  field_killTri s e0 j r0 r1 r2 HE.P (fun s => s.paired.size) P_kill paired_size_kill hw hw.1.symm h0

/-- `CollapseTri` rewrites `propVert_` with the values it holds -/
theorem prop_killTri_self :
    (killTri s e0 (s.R e0) (s.R (nx e0)) (s.R (nx (nx e0)))).prop = s.prop := by
  unfold killTri
  have a1 : s.R (nx e0) = (kill s e0 (s.R e0)).R (nx e0) := by
    rw [R_kill, if_neg (fun h => nx_ne e0 h.1.symm)]
  have a2 : s.R (nx (nx e0)) = (kill (kill s e0 (s.R e0)) (nx e0) (s.R (nx e0))).R (nx (nx e0)) := by
    rw [R_kill, if_neg (fun h => nx_ne _ h.1.symm), R_kill, if_neg (fun h => nx_nx_ne e0 h.1.symm)]
  rw [a2, prop_kill_self]
  rw [a1, prop_kill_self, prop_kill_self]

/-- the three `Set(triEdge[i], -1, -1, r_i)` calls -/
theorem killTri_ok (hw : WF s) (h0 : e0 < s.start.size) :
    (do let s ← s.set (e0 : Int) (-1) (-1) r0
        let s ← s.set ((nx e0 : Nat) : Int) (-1) (-1) r1
        s.set ((nx (nx e0) : Nat) : Int) (-1) (-1) r2) = Except.ok (killTri s e0 r0 r1 r2) := by
  have h1 := nx_lt hw.2.2 h0
  have h2 := nx_lt hw.2.2 h1
  rw [hw.1] at h0 h1 h2
  simp only [kill_ok, ok_bind, start_size_kill, paired_size_kill, prop_size_kill, hw.1, hw.2.1, h0,
    h1, h2, killTri]
end killTri

/-- general frame for "tombstone the halfedges in `D`, rewire `paired` on `Y`": a `Good` halfedge
outside `D ∪ Y` whose partner is outside `D ∪ Y` stays `Good` -/
theorem good_rewire {s s' : HE} (D : Nat → Prop) (Y : List Nat)
    (hsz : s'.start.size = s.start.size) (hD : ∀ j, D (nx j) ↔ D j)
    (hS : ∀ j, ¬ D j → s'.S j = s.S j) (hP : ∀ j, ¬ D j → j ∉ Y → s'.P j = s.P j)
    {e : Nat} (hg : Good s e) (heD : ¬ D e) (heY : e ∉ Y)
    (hq : 0 ≤ s.P e → ¬ D (s.Pn e) ∧ s.Pn e ∉ Y) : Good s' e := by
  have d1 : ¬ D (nx e) := fun h => heD ((hD e).1 h)
  have d2 : ¬ D (nx (nx e)) := fun h => d1 ((hD _).1 h)
  refine good_frame (s := s) hsz (hS e heD) (hS _ d1) (hS _ d2) (hP e heD heY) (fun hl => ?_) hg
  obtain ⟨q1, q2⟩ := hq hl
  exact ⟨hP _ q1 q2, hS _ q1, hS _ (fun h => q1 ((hD _).1 h))⟩

/-- a tombstoned halfedge of a tombstoned triangle is `Good` -/
theorem good_dead {s s' : HE} (D : Nat → Prop)
    (hw : WF s) (hD : ∀ j, D (nx j) ↔ D j)
    (hT : ∀ j, D j → j < s.start.size → s'.S j = -1 ∧ s'.P j = -1)
    {e : Nat} (he : e < s.start.size) (heD : D e) : Good s' e :=
  good_of_tomb (hT e heD he).1 (hT _ ((hD e).2 heD) (nx_lt hw.2.2 he)).1 (hT e heD he).2

theorem tri_closed (e0 j : Nat) : nx j / 3 = e0 / 3 ↔ j / 3 = e0 / 3 := by rw [nx_div]

/-! ## `CollapseTri` -/

/-- `CollapseTri` evaluated: pair the two outer partners, tombstone the triangle -/
theorem collapseTri_ok (s : HE) (e0 : Nat) (hw : WF s) (h0 : e0 < s.start.size)
    (hq1 : 0 ≤ s.P (nx e0) ∧ s.Pn (nx e0) < s.start.size)
    (hq2 : 0 ≤ s.P (nx (nx e0)) ∧ s.Pn (nx (nx e0)) < s.start.size) :
    collapseTri s (triOf (e0 : Int)) =
      .ok (killTri (pairS s (s.Pn (nx e0)) (s.Pn (nx (nx e0)))) e0
        (s.R e0) (s.R (nx e0)) (s.R (nx (nx e0)))) := by
  have h1 := nx_lt hw.2.2 h0
  have h2 := nx_lt hw.2.2 h1
  have n1 : ¬ e0 = nx e0 := fun h => nx_ne e0 h.symm
  have n2 : ¬ e0 = nx (nx e0) := fun h => nx_nx_ne e0 h.symm
  have n3 : ¬ nx e0 = nx (nx e0) := fun h => nx_ne _ h.symm
  rw [hw.1] at h0 h1 h2 hq1 hq2
  simp only [collapseTri, triOf_cast, getPair_ok, getProp_ok, pairUp_ok', kill_ok, ok_bind,
    P_eq_Pn hq1.1, P_eq_Pn hq2.1, cast_ne_neg_one, if_false, start_pairS, paired_size_pairS,
    prop_pairS, start_size_kill, paired_size_kill, prop_size_kill, R_kill, R_pairS, hw.1, hw.2.1,
    h0, h1, h2, hq1.2, hq2.2, n1, n2, n3, false_and]
  rfl

/-- `CollapseTri` evaluated and described pointwise: the triangle of `e0` is tombstoned, the outer
partners `p1 = Pn (nx e0)`, `p2 = Pn (nx (nx e0))` are paired with each other, nothing else moves -/
theorem collapseTri_eval (s : HE) (e0 : Nat) (hw : WF s) (h0 : e0 < s.start.size)
    (hq1 : 0 ≤ s.P (nx e0) ∧ s.Pn (nx e0) < s.start.size)
    (hq2 : 0 ≤ s.P (nx (nx e0)) ∧ s.Pn (nx (nx e0)) < s.start.size) :
    ∃ s', collapseTri s (triOf (e0 : Int)) = .ok s' ∧ WF s' ∧ s'.prop = s.prop ∧
      s'.nVert = s.nVert ∧ s'.nPropVert = s.nPropVert ∧ s'.start.size = s.start.size ∧
      (∀ j, j / 3 ≠ e0 / 3 → s'.S j = s.S j) ∧
      (∀ j, j / 3 = e0 / 3 → j < s.start.size → s'.S j = -1 ∧ s'.P j = -1) ∧
      (∀ j, j / 3 ≠ e0 / 3 → s'.P j =
        if j = s.Pn (nx (nx e0)) then (s.Pn (nx e0) : Int) else
        if j = s.Pn (nx e0) then (s.Pn (nx (nx e0)) : Int) else s.P j) := by
  have hp1 : s.Pn (nx e0) < s.paired.size := hw.1 ▸ hq1.2
  have hp2 : s.Pn (nx (nx e0)) < s.paired.size := hw.1 ▸ hq2.2
  have hw1 : WF (pairS s (s.Pn (nx e0)) (s.Pn (nx (nx e0)))) := WF_pairS s _ _ hw
  have h0' : e0 < (pairS s (s.Pn (nx e0)) (s.Pn (nx (nx e0)))).start.size := by
    rw [start_pairS]; exact h0
  refine ⟨_, collapseTri_ok s e0 hw h0 hq1 hq2, WF_killTri _ _ _ _ _ hw1, ?_, ?_, ?_, ?_, ?_, ?_, ?_⟩
  · have := prop_killTri_self (pairS s (s.Pn (nx e0)) (s.Pn (nx (nx e0)))) e0
    simp only [R_pairS, prop_pairS] at this
    exact this
  · rw [nVert_killTri, nVert_pairS]
  · rw [nPropVert_killTri, nPropVert_pairS]
  · rw [start_size_killTri, start_pairS]
  · intro j hj; rw [S_killTri _ _ _ _ _ _ hw1 h0', if_neg hj, S_pairS]
  · intro j hj _
    rw [S_killTri _ _ _ _ _ _ hw1 h0', P_killTri _ _ _ _ _ _ hw1 h0', if_pos hj, if_pos hj]
    exact ⟨rfl, rfl⟩
  · intro j hj
    rw [P_killTri _ _ _ _ _ _ hw1 h0', if_neg hj, P_pairS s _ _ j hp1 hp2]

/-- the invariant part of `CollapseTri`, for any state described as in `collapseTri_eval`: the
triangle leaves the exception list, the old partner of `e0` is left dangling, the outer partners
stay in the list -/
theorem collapseTri_inv {s s' : HE} {X : List Nat} {e0 : Nat} (h : PairInvExcept s X)
    (hq1 : s.P (s.Pn (nx e0)) = ((nx e0 : Nat) : Int))
    (hq2 : s.P (s.Pn (nx (nx e0))) = ((nx (nx e0) : Nat) : Int))
    (hw' : WF s') (hsz : s'.start.size = s.start.size)
    (hS : ∀ j, j / 3 ≠ e0 / 3 → s'.S j = s.S j)
    (hT : ∀ j, j / 3 = e0 / 3 → j < s.start.size → s'.S j = -1 ∧ s'.P j = -1)
    (hP : ∀ j, j / 3 ≠ e0 / 3 → j ≠ s.Pn (nx e0) → j ≠ s.Pn (nx (nx e0)) → s'.P j = s.P j) :
    PairInvExcept s'
      ((X.filter fun e => e / 3 ≠ e0 / 3) ++ [s.Pn e0, s.Pn (nx e0), s.Pn (nx (nx e0))]) := by
  refine ⟨hw', fun e he hx => ?_⟩
  rw [hsz] at he
  simp only [List.mem_append, List.mem_filter, decide_eq_true_eq, List.mem_cons,
    List.not_mem_nil, or_false, not_or, not_and, ne_eq] at hx
  obtain ⟨hx, hne0, hne1, hne2⟩ := hx
  by_cases hD : e / 3 = e0 / 3
  · exact good_dead (fun j => j / 3 = e0 / 3) h.1 (tri_closed e0) hT he hD
  have hg : Good s e := h.good he (fun hc => hx hc hD)
  refine good_rewire (fun j => j / 3 = e0 / 3) [s.Pn (nx e0), s.Pn (nx (nx e0))] hsz
    (tri_closed e0) hS (fun j hj hY => ?_) hg hD (by simp [hne1, hne2]) (fun hl => ?_)
  · simp only [List.mem_cons, List.not_mem_nil, or_false, not_or] at hY
    exact hP j hj hY.1 hY.2
  obtain ⟨_, _, _, _, hinv, _⟩ := hg.live (live_of_nonneg hl)
  constructor
  · intro hc
    rcases nx_cases hc.symm with hq | hq | hq
    · rw [hq] at hinv; exact hne0 (Pn_eq_of_P hinv).symm
    · rw [hq] at hinv; exact hne1 (Pn_eq_of_P hinv).symm
    · rw [hq] at hinv; exact hne2 (Pn_eq_of_P hinv).symm
  · simp only [List.mem_cons, List.not_mem_nil, or_false, not_or]
    exact ⟨Pn_ne_of_P hinv hq1 (fun hc => hD (hc ▸ nx_div e0)),
      Pn_ne_of_P hinv hq2 (fun hc => hD (hc ▸ (nx_div _).trans (nx_div e0)))⟩

/-- the two outer partners are paired with each other -/
theorem collapseTri_pairs {s s' : HE} {e0 : Nat}
    (hP : ∀ j, j / 3 ≠ e0 / 3 → s'.P j =
      if j = s.Pn (nx (nx e0)) then (s.Pn (nx e0) : Int) else
      if j = s.Pn (nx e0) then (s.Pn (nx (nx e0)) : Int) else s.P j)
    (ho1 : s.Pn (nx e0) / 3 ≠ e0 / 3) (ho2 : s.Pn (nx (nx e0)) / 3 ≠ e0 / 3) :
    s'.P (s.Pn (nx e0)) = (s.Pn (nx (nx e0)) : Int) ∧
      s'.P (s.Pn (nx (nx e0))) = (s.Pn (nx e0) : Int) := by
  refine ⟨?_, (hP _ ho2).trans (if_pos rfl)⟩
  rw [hP _ ho1]; split
  · next hc => rw [← hc]
  · rw [if_pos rfl]

/-- `x` re-paired with `y`, both triangles untouched, labels matching: `x` is `Good` afterwards -/
theorem good_of_pair_frame {s s' : HE} {x y : Nat} (hsz : s'.start.size = s.start.size)
    (hSx : ∀ j, j / 3 = x / 3 → s'.S j = s.S j) (hSy : ∀ j, j / 3 = y / 3 → s'.S j = s.S j)
    (hy : y < s.start.size) (hxy : s'.P x = (y : Int)) (hyx : s'.P y = (x : Int))
    (l1 : s.S (nx x) ≠ -1) (l2 : s.S (nx (nx x)) ≠ -1)
    (hne : s.S x ≠ s.S (nx x)) (h1 : s.S x = s.S (nx y)) (h2 : s.S (nx x) = s.S y) : Good s' x := by
  have a0 := hSx x rfl
  have a1 := hSx (nx x) (nx_div x)
  have a2 := hSx (nx (nx x)) ((nx_div _).trans (nx_div x))
  have b0 := hSy y rfl
  have b1 := hSy (nx y) (nx_div y)
  exact good_of_pair (Nat.lt_of_lt_of_eq hy hsz.symm) hxy hyx (fun q => l1 (a1.symm.trans q))
    (fun q => l2 (a2.symm.trans q)) (fun q => hne (a0.symm.trans (q.trans a1))) (a0.trans (h1.trans b1.symm)) (a1.trans (h2.trans b0.symm))

/-- in a live `Good` triangle the next halfedge is live too -/
theorem live_next {s : HE} {e : Nat} (hg : Good s e) (hl : s.P e ≠ -1) (hg1 : Good s (nx e)) :
    s.P (nx e) ≠ -1 := by
  obtain ⟨a, _⟩ := hg.live hl
  rcases (good_iff s (nx e)).1 hg1 with ⟨b, _, _⟩ | hb
  · exact absurd b a
  · omega

/-- facts about the outer partners `p1 = Pn (nx e0)`, `p2 = Pn (nx (nx e0))` of a triangle whose
edges `nx e0`, `nx (nx e0)` are `Good` and live: either both lie outside the triangle, or
`p1 = nx (nx e0)` and `p2 = nx e0` (the two outer edges are paired with each other) -/
theorem tri_partners (s : HE) (X : List Nat) (e0 : Nat) (h : PairInvExcept s X)
    (h0 : e0 < s.start.size) (hl : s.P (nx e0) ≠ -1) (hX1 : nx e0 ∉ X) (hX2 : nx (nx e0) ∉ X) :
    (0 ≤ s.P (nx e0) ∧ s.Pn (nx e0) < s.start.size ∧ s.P (s.Pn (nx e0)) = ((nx e0 : Nat) : Int)) ∧
    (0 ≤ s.P (nx (nx e0)) ∧ s.Pn (nx (nx e0)) < s.start.size ∧
      s.P (s.Pn (nx (nx e0))) = ((nx (nx e0) : Nat) : Int)) ∧
    ((s.Pn (nx e0) / 3 ≠ e0 / 3 ∧ s.Pn (nx (nx e0)) / 3 ≠ e0 / 3) ∨
     (s.Pn (nx e0) = nx (nx e0) ∧ s.Pn (nx (nx e0)) = nx e0)) := by
  have h1 := nx_lt h.1.2.2 h0
  have h2 := nx_lt h.1.2.2 h1
  have g1 := h.good h1 hX1
  have g2 := h.good h2 hX2
  have hl2 := live_next g1 hl g2
  have L1 := g1.live hl
  have L2 := g2.live hl2
  simp only [nx_nx_nx] at L1 L2
  obtain ⟨a1, a2, a3, a4, a5, a6, a7, a8⟩ := L1
  obtain ⟨b1, b2, b3, b4, b5, b6, b7, b8⟩ := L2
  refine ⟨⟨a3, a4, a5⟩, ⟨b3, b4, b5⟩, ?_⟩
  by_cases ho1 : s.Pn (nx e0) / 3 = e0 / 3
  · right
    rcases nx_cases ho1.symm with hc | hc | hc
    · rw [hc] at a8; exact absurd a8 b6
    · rw [hc] at a7; exact absurd a7 a6
    · refine ⟨hc, ?_⟩
      rw [hc] at a5; exact Pn_eq_of_P a5
  · by_cases ho2 : s.Pn (nx (nx e0)) / 3 = e0 / 3
    · exfalso
      rcases nx_cases ho2.symm with hc | hc | hc
      · rw [hc] at b7; exact absurd b7.symm a6
      · rw [hc] at b5
        have := Pn_eq_of_P b5
        rw [this] at ho1
        exact ho1 ((nx_div _).trans (nx_div e0))
      · rw [hc, nx_nx_nx] at b7; exact absurd b7 b6
    · exact Or.inl ⟨ho1, ho2⟩

/-- `MV.C01b.collapseTri_frame` with the hypotheses stated as `Good`-ness of the two outer edges -/
theorem collapseTri_frame' (s : HE) (X : List Nat) (e0 : Nat) (h : PairInvExcept s X)
    (h0 : e0 < s.start.size) (hl : s.P (nx e0) ≠ -1) (hX1 : nx e0 ∉ X) (hX2 : nx (nx e0) ∉ X) :
    ∃ s', collapseTri s (triOf (e0 : Int)) = .ok s' ∧ s'.prop = s.prop ∧ s'.nVert = s.nVert ∧
      s'.nPropVert = s.nPropVert ∧ s'.start.size = s.start.size ∧
      (∀ j, j / 3 ≠ e0 / 3 → s'.S j = s.S j) ∧
      (∀ j, j / 3 = e0 / 3 → j < s.start.size → s'.S j = -1 ∧ s'.P j = -1) ∧
      (∀ j, j / 3 ≠ e0 / 3 → j ≠ s.Pn (nx e0) → j ≠ s.Pn (nx (nx e0)) → s'.P j = s.P j) ∧
      (s.Pn (nx e0) / 3 ≠ e0 / 3 → s'.P (s.Pn (nx e0)) = (s.Pn (nx (nx e0)) : Int) ∧
        s'.P (s.Pn (nx (nx e0))) = (s.Pn (nx e0) : Int)) ∧
      PairInvExcept s'
        ((X.filter fun e => e / 3 ≠ e0 / 3) ++ [s.Pn e0, s.Pn (nx e0), s.Pn (nx (nx e0))]) := by
  obtain ⟨hq1, hq2, hcase⟩ := tri_partners s X e0 h h0 hl hX1 hX2
  obtain ⟨s', heq, hw', hprop, hnv, hnp, hsz, hS, hT, hP⟩ :=
    collapseTri_eval s e0 h.1 h0 ⟨hq1.1, hq1.2.1⟩ ⟨hq2.1, hq2.2.1⟩
  have hP' : ∀ j, j / 3 ≠ e0 / 3 → j ≠ s.Pn (nx e0) → j ≠ s.Pn (nx (nx e0)) → s'.P j = s.P j :=
    fun j hj a b => by rw [hP j hj, if_neg b, if_neg a]
  refine ⟨s', heq, hprop, hnv, hnp, hsz, hS, hT, hP', fun ho1 => ?_,
    collapseTri_inv h hq1.2.2 hq2.2.2 hw' hsz hS hT hP'⟩
  rcases hcase with ⟨_, ho2⟩ | ⟨hc, _⟩
  · exact collapseTri_pairs hP ho1 ho2
  · rw [hc] at ho1; exact absurd ((nx_div _).trans (nx_div e0)) ho1

/-- an octahedron (vertices 0 top, 1 bottom, 2 3 4 5 equator), 24 halfedges -/
def octa : HE :=
  { start := #[0,2,3, 0,3,4, 0,4,5, 0,5,2, 1,3,2, 1,4,3, 1,5,4, 1,2,5],
    paired := #[11,13,3, 2,16,6, 5,19,9, 8,22,0, 17,1,21, 20,4,12, 23,7,15, 14,10,18],
    prop := #[0,2,3, 0,3,4, 0,4,5, 0,5,2, 1,3,2, 1,4,3, 1,5,4, 1,2,5], nVert := 6, nPropVert := 6 }

/-- the octahedron with vertex 2 relabelled to its neighbour 3: halfedges 1 and 13 (the edge 2-3)
are degenerate -/
def octaDeg : HE :=
  { octa with start := #[0,3,3, 0,3,4, 0,4,5, 0,5,3, 1,3,3, 1,4,3, 1,5,4, 1,3,5] }

/-- two copies of the degenerate triangle (0,0,1) glued to each other ("pillow"): in each, the two
outer edges are paired with each other -/
def pillow : HE :=
  { start := #[0,0,1, 0,0,1], paired := #[3,2,1, 0,5,4], prop := #[0,0,1, 0,0,1],
    nVert := 2, nPropVert := 2 }

example : PairInv octa := ⟨by decide, (checkPairInv_iff _ _).1 (by decide +kernel)⟩

theorem octaDeg_inv : PairInvExcept octaDeg [1, 13] := by decide +kernel

/-- the hypotheses of `MV.C01b.collapseTri_preserves_of_good` on `octaDeg`, triangle of the
degenerate halfedge 1 -/
theorem octaDeg_ok : 1 < octaDeg.start.size ∧ octaDeg.P (nx 1) ≠ -1 ∧ nx 1 ∉ [1, 13] ∧
    nx (nx 1) ∉ [1, 13] ∧ octaDeg.S 1 = octaDeg.S (nx 1) ∧ octaDeg.Pn (nx 1) ∉ [1, 13] ∧
    octaDeg.Pn (nx (nx 1)) ∉ [1, 13] := by decide +kernel

/-- non-vacuity of `collapseTri_frame'`: collapse the triangle of halfedge 0 of the tetrahedron -/
example : ∃ s', collapseTri tetra (triOf ((0 : Nat) : Int)) = .ok s' ∧
    PairInvExcept s' (([].filter fun e => e / 3 ≠ 0 / 3) ++
      [tetra.Pn 0, tetra.Pn (nx 0), tetra.Pn (nx (nx 0))]) := by
  obtain ⟨s', h1, _, _, _, _, _, _, _, _, h2⟩ :=
    collapseTri_frame' tetra [] 0 ((pairInv_iff _).1 tetra_inv) (by decide +kernel) (by decide +kernel)
      (by decide +kernel) (by decide +kernel)
  exact ⟨s', h1, h2⟩

/-! ## the neighbourhood of a live edge -/

/-- the ten live halfedges around a live edge: its two triangles and their four outer partners -/
structure Geo (s : HE) (edge : Nat) : Prop where
  ledge : LiveF s edge
  le1 : LiveF s (nx edge)
  le2 : LiveF s (nx (nx edge))
  lpr : LiveF s (s.Pn edge)
  lq1 : LiveF s (nx (s.Pn edge))
  lq2 : LiveF s (nx (nx (s.Pn edge)))
  lc0 : LiveF s (s.Pn (nx (s.Pn edge)))
  lr : LiveF s (s.Pn (nx (nx (s.Pn edge))))
  lu : LiveF s (s.Pn (nx edge))
  lv : LiveF s (s.Pn (nx (nx edge)))

theorem geo_of {s : HE} {edge : Nat} (h : PairInv s) (he : edge < s.start.size) (hl : s.P edge ≠ -1) :
    Geo s edge := by
  have ledge := liveF h he hl
  have le1 := liveF h ledge.nlt ledge.npl
  have le2 := liveF h le1.nlt le1.npl
  have lpr := liveF h ledge.plt ledge.ppl
  have lq1 := liveF h lpr.nlt lpr.npl
  have lq2 := liveF h lq1.nlt lq1.npl
  exact ⟨ledge, le1, le2, lpr, lq1, lq2, liveF h lq1.plt lq1.ppl, liveF h lq2.plt lq2.ppl,
    liveF h le1.plt le1.ppl, liveF h le2.plt le2.ppl⟩

/-- the vertex labels around a live edge `A → B`; `w0`, `w1` are the two apexes -/
structure Lab (s : HE) (edge : Nat) : Prop where
  ab : s.S edge ≠ s.S (nx edge)
  bw0 : s.S (nx edge) ≠ s.S (nx (nx edge))
  w0a : s.S (nx (nx edge)) ≠ s.S edge
  aw1 : s.S edge ≠ s.S (nx (nx (s.Pn edge)))
  w1b : s.S (nx (nx (s.Pn edge))) ≠ s.S (nx edge)
  a1 : s.S edge ≠ -1
  b1 : s.S (nx edge) ≠ -1
  w01 : s.S (nx (nx edge)) ≠ -1
  w11 : s.S (nx (nx (s.Pn edge))) ≠ -1
  spr : s.S (s.Pn edge) = s.S (nx edge)
  sq1 : s.S (nx (s.Pn edge)) = s.S edge
  sc0 : s.S (s.Pn (nx (s.Pn edge))) = s.S (nx (nx (s.Pn edge)))
  snc0 : s.S (nx (s.Pn (nx (s.Pn edge)))) = s.S edge
  sr : s.S (s.Pn (nx (nx (s.Pn edge)))) = s.S (nx edge)
  snr : s.S (nx (s.Pn (nx (nx (s.Pn edge))))) = s.S (nx (nx (s.Pn edge)))
  su : s.S (s.Pn (nx edge)) = s.S (nx (nx edge))
  snu : s.S (nx (s.Pn (nx edge))) = s.S (nx edge)
  sv : s.S (s.Pn (nx (nx edge))) = s.S edge
  snv : s.S (nx (s.Pn (nx (nx edge)))) = s.S (nx (nx edge))

theorem lab_of {s : HE} {edge : Nat} (G : Geo s edge) : Lab s edge := by
  have w0a := G.le2.nd; have sv := G.le2.es; have w1p := G.lq2.nd; have pr := G.lq2.es
  rw [nx_nx_nx] at w0a sv w1p pr
  exact {
    ab := G.ledge.nd, bw0 := G.le1.nd, w0a := w0a, aw1 := fun q => G.lq1.nd (G.ledge.se.symm.trans q),
    w1b := fun q => w1p (q.trans G.ledge.es), a1 := G.ledge.s0, b1 := G.le1.s0, w01 := G.le2.s0, w11 := G.lq2.s0,
    spr := G.ledge.es.symm, sq1 := G.ledge.se.symm, sc0 := G.lq1.es.symm,
    snc0 := G.lq1.se.symm.trans G.ledge.se.symm, sr := pr.symm.trans G.ledge.es.symm,
    snr := G.lq2.se.symm, su := G.le1.es.symm, snu := G.le1.se.symm, sv := sv.symm,
    snv := G.le2.se.symm }

/-! ## `RemoveIfFolded` -/

/-- the six `Set(…, -1, -1, -1)` of `RemoveIfFolded`, in the order of the C++ loop -/
def kill2 (s : HE) (e f : Nat) : HE :=
  kill (kill (kill (kill (kill (kill s e (-1)) f (-1)) (nx e) (-1)) (nx f) (-1))
    (nx (nx e)) (-1)) (nx (nx f)) (-1)

section kill2
variable (s : HE) (e f j : Nat)
@[simp] theorem start_size_kill2 : (kill2 s e f).start.size = s.start.size := by simp [kill2]
@[simp] theorem paired_size_kill2 : (kill2 s e f).paired.size = s.paired.size := by simp [kill2]
@[simp] theorem prop_size_kill2 : (kill2 s e f).prop.size = s.prop.size := by simp [kill2]
@[simp] theorem nVert_kill2 : (kill2 s e f).nVert = s.nVert := by simp [kill2]
theorem WF_kill2 (h : WF s) : WF (kill2 s e f) :=
  WF_kill _ _ _ (WF_kill _ _ _ (WF_kill _ _ _ (WF_kill _ _ _ (WF_kill _ _ _ (WF_kill _ _ _ h)))))

theorem field_kill2 (F : HE → Nat → Int) (n : HE → Nat)
    (hk : ∀ s e j pp, F (kill s e pp) j = if e = j ∧ e < n s then -1 else F s j)
    (hn : ∀ s e pp, n (kill s e pp) = n s)
    (hw : WF s) (hs : n s = s.start.size) (he : e < s.start.size) (hf : f < s.start.size) :
    F (kill2 s e f) j = if j / 3 = e / 3 ∨ j / 3 = f / 3 then -1 else F s j := by
  have e1 := nx_lt hw.2.2 he
  have e2 := nx_lt hw.2.2 e1
  have f1 := nx_lt hw.2.2 hf
  have f2 := nx_lt hw.2.2 f1
  rw [← hs] at he hf e1 e2 f1 f2
  unfold kill2
  simp only [hk, hn]
  by_cases hj : j / 3 = e / 3 ∨ j / 3 = f / 3
  · rw [if_pos hj]
    rcases hj with hj | hj <;> rcases nx_cases hj.symm with h | h | h <;> subst h <;>
      simp [he, hf, e1, e2, f1, f2]
  · rw [if_neg hj]
    obtain ⟨a0, a1, a2⟩ := not_tri (fun h => hj (Or.inl h))
    obtain ⟨b0, b1, b2⟩ := not_tri (fun h => hj (Or.inr h))
    simp [a0, a1, a2, b0, b1, b2]

theorem S_kill2 (hw : WF s) (he : e < s.start.size) (hf : f < s.start.size) :
    (kill2 s e f).S j = if j / 3 = e / 3 ∨ j / 3 = f / 3 then -1 else s.S j :=
  field_kill2 s e f j HE.S (fun s => s.start.size) S_kill start_size_kill hw rfl he hf

theorem P_kill2 (hw : WF s) (he : e < s.start.size) (hf : f < s.start.size) :
    (kill2 s e f).P j = if j / 3 = e / 3 ∨ j / 3 = f / 3 then -1 else s.P j :=
  field_kill2 s e f j HE.P (fun s => s.paired.size) P_kill paired_size_kill hw hw.1.symm he hf

theorem kill2_ok (hw : WF s) (he : e < s.start.size) (hf : f < s.start.size) :
    (do let s ← s.set (e : Int) (-1) (-1) (-1)
        let s ← s.set (f : Int) (-1) (-1) (-1)
        let s ← s.set ((nx e : Nat) : Int) (-1) (-1) (-1)
        let s ← s.set ((nx f : Nat) : Int) (-1) (-1) (-1)
        let s ← s.set ((nx (nx e) : Nat) : Int) (-1) (-1) (-1)
        s.set ((nx (nx f) : Nat) : Int) (-1) (-1) (-1)) = Except.ok (kill2 s e f) := by
  have e1 := nx_lt hw.2.2 he
  have e2 := nx_lt hw.2.2 e1
  have f1 := nx_lt hw.2.2 hf
  have f2 := nx_lt hw.2.2 f1
  rw [hw.1] at he hf e1 e2 f1 f2
  simp only [kill_ok, ok_bind, start_size_kill, paired_size_kill, prop_size_kill, hw.1, hw.2.1, he,
    hf, e1, e2, f1, f2, kill2]
end kill2

/-- the configuration on which `RemoveIfFolded` acts: `e` paired with `f`, the two triangles have
the same apex, `a b c d` the four outer partners; all labels as forced by the invariant -/
structure FoldCfg (s : HE) (e f a b c d : Nat) : Prop where
  lf : f < s.start.size
  la : a < s.start.size
  lb : b < s.start.size
  lc : c < s.start.size
  ld : d < s.start.size
  Pe : s.P e = (f : Int)
  Pf : s.P f = (e : Int)
  Pe1 : s.P (nx e) = (a : Int)
  Pa : s.P a = ((nx e : Nat) : Int)
  Pe2 : s.P (nx (nx e)) = (c : Int)
  Pc : s.P c = ((nx (nx e) : Nat) : Int)
  Pf1 : s.P (nx f) = (d : Int)
  Pd : s.P d = ((nx f : Nat) : Int)
  Pf2 : s.P (nx (nx f)) = (b : Int)
  Pb : s.P b = ((nx (nx f) : Nat) : Int)
  uv : s.S e ≠ s.S (nx e)
  vw : s.S (nx e) ≠ s.S (nx (nx e))
  wu : s.S (nx (nx e)) ≠ s.S e
  u1 : s.S e ≠ -1
  v1 : s.S (nx e) ≠ -1
  w1 : s.S (nx (nx e)) ≠ -1
  Sf : s.S f = s.S (nx e)
  Sf1 : s.S (nx f) = s.S e
  Sf2 : s.S (nx (nx f)) = s.S (nx (nx e))
  Sa : s.S a = s.S (nx (nx e))
  Sa1 : s.S (nx a) = s.S (nx e)
  Sa2 : s.S (nx (nx a)) ≠ -1
  Sb : s.S b = s.S (nx e)
  Sb1 : s.S (nx b) = s.S (nx (nx e))
  Sb2 : s.S (nx (nx b)) ≠ -1
  Sc : s.S c = s.S e
  Sc1 : s.S (nx c) = s.S (nx (nx e))
  Sc2 : s.S (nx (nx c)) ≠ -1
  Sd : s.S d = s.S (nx (nx e))
  Sd1 : s.S (nx d) = s.S e
  Sd2 : s.S (nx (nx d)) ≠ -1

theorem fold_table {s : HE} {e : Nat} (h : PairInv s) (he : e < s.start.size) (hl : s.P e ≠ -1)
    (hfold : s.S (nx (nx e)) = s.S (nx (nx (s.Pn e)))) :
    FoldCfg s e (s.Pn e) (s.Pn (nx e)) (s.Pn (nx (nx (s.Pn e)))) (s.Pn (nx (nx e)))
      (s.Pn (nx (s.Pn e))) :=
  have G := geo_of h he hl
  have Lb := lab_of G
  { lf := G.lpr.lt, la := G.lu.lt, lb := G.lr.lt, lc := G.lv.lt, ld := G.lc0.lt
    Pe := P_eq_Pn G.ledge.p0, Pf := G.ledge.pp, Pe1 := P_eq_Pn G.le1.p0, Pa := G.le1.pp
    Pe2 := P_eq_Pn G.le2.p0, Pc := G.le2.pp, Pf1 := P_eq_Pn G.lq1.p0, Pd := G.lq1.pp
    Pf2 := P_eq_Pn G.lq2.p0, Pb := G.lq2.pp
    uv := Lb.ab, vw := Lb.bw0, wu := Lb.w0a, u1 := Lb.a1, v1 := Lb.b1, w1 := Lb.w01
    Sf := Lb.spr, Sf1 := Lb.sq1, Sf2 := hfold.symm
    Sa := Lb.su, Sa1 := Lb.snu, Sa2 := G.lu.s2
    Sb := Lb.sr, Sb1 := Lb.snr.trans hfold.symm, Sb2 := G.lr.s2
    Sc := Lb.sv, Sc1 := Lb.snv, Sc2 := G.lv.s2
    Sd := Lb.sc0.trans hfold.symm, Sd1 := Lb.snc0, Sd2 := G.lc0.s2 }

/-- `RemoveIfFolded` evaluated on a folded configuration -/
theorem removeIfFolded_fold_ok {s : HE} {e f a b c d : Nat} (hw : WF s) (he : e < s.start.size)
    (F : FoldCfg s e f a b c d) :
    removeIfFolded s (e : Int) = .ok (kill2 (pairS (pairS s a b) c d) e f) := by
  have e1 := nx_lt hw.2.2 he
  have e2 := nx_lt hw.2.2 e1
  have f1 := nx_lt hw.2.2 F.lf
  have f2 := nx_lt hw.2.2 f1
  -- the reads after the first `PairUp(a, b)` are not disturbed by it (labels differ)
  have n1 : nx (nx e) ≠ a := fun hc =>
    F.uv (by have := F.Sa1; rw [← hc, nx_nx_nx] at this; exact this)
  have n2 : nx (nx e) ≠ b := fun hc => F.vw (by rw [← F.Sb, ← hc])
  have n3 : nx f ≠ a := fun hc => F.wu (by rw [← F.Sa, ← hc]; exact F.Sf1)
  have n4 : nx f ≠ b := fun hc => F.uv (by rw [← F.Sb, ← hc]; exact F.Sf1.symm)
  have hz := hw.1
  have la := hz ▸ F.la; have lb := hz ▸ F.lb; have lc := hz ▸ F.lc; have ld := hz ▸ F.ld
  have he' := he; have lf := F.lf
  rw [hz] at he' e1 e2 f1 f2
  simp only [removeIfFolded, triOf_cast, getPair_ok, getStart_ok, pairUp_ok', ok_bind, F.Pe, F.Pe1,
    F.Pf2, F.Pe2, F.Pf1, cast_ne_neg_one, if_false, F.Sf2, if_true, P_pairS, paired_size_pairS,
    hz, he', e1, e2, f1, f2, la, lb, lc, ld, n1, n2, n3, n4]
  exact kill2_ok _ e f (WF_pairS _ _ _ (WF_pairS _ _ _ hw))
    (by rw [start_pairS, start_pairS]; exact he) (by rw [start_pairS, start_pairS]; exact lf)

theorem lab_eq {s : HE} {x y : Nat} (h : x = y) : s.S x = s.S y ∧ s.S (nx x) = s.S (nx y) := by
  subst h; exact ⟨rfl, rfl⟩

theorem six_cases {e f x : Nat} (hx : x / 3 = e / 3 ∨ x / 3 = f / 3) :
    x = e ∨ x = nx e ∨ x = nx (nx e) ∨ x = f ∨ x = nx f ∨ x = nx (nx f) := by
  rcases hx with hx | hx <;> rcases nx_cases hx.symm with h | h | h <;> simp [h]

namespace FoldCfg
variable {s : HE} {e f a b c d : Nat} (F : FoldCfg s e f a b c d)
include F

/-- the four outer partners are pairwise distinct (their labels differ) -/
theorem distinct : a ≠ b ∧ a ≠ c ∧ a ≠ d ∧ b ≠ c ∧ b ≠ d ∧ c ≠ d := by
  refine ⟨?_, ?_, ?_, ?_, ?_, ?_⟩ <;> intro hc <;> have h := lab_eq (s := s) hc
  · exact F.vw ((F.Sb.symm.trans h.1.symm).trans F.Sa)
  · exact F.wu (F.Sa.symm.trans (h.1.trans F.Sc))
  · exact F.uv (F.Sd1.symm.trans (h.2.symm.trans F.Sa1))
  · exact F.uv (F.Sc.symm.trans (h.1.symm.trans F.Sb))
  · exact F.vw (F.Sb.symm.trans (h.1.trans F.Sd))
  · exact F.wu (F.Sd.symm.trans (h.1.symm.trans F.Sc))

/-! An outer partner that lies in one of the two folded triangles is the halfedge of that triangle
carrying its labels: `a : w → v`, `b : v → w`, `c : u → w`, `d : w → u`, the triangles being
`e : u → v → w` and `f : v → u → w`. -/

theorem a_in (hx : a / 3 = e / 3 ∨ a / 3 = f / 3) : a = nx (nx f) := by
  rcases six_cases hx with hc | hc | hc | hc | hc | hc <;> have h := lab_eq (s := s) hc
  · exact absurd (F.Sa.symm.trans h.1) F.wu
  · exact absurd (h.1.symm.trans F.Sa) F.vw
  · rw [nx_nx_nx] at h; exact absurd (h.2.symm.trans F.Sa1) F.uv
  · exact absurd ((F.Sf.symm.trans h.1.symm).trans F.Sa) F.vw
  · exact absurd (F.Sa.symm.trans (h.1.trans F.Sf1)) F.wu
  · exact hc

theorem b_in (hx : b / 3 = e / 3 ∨ b / 3 = f / 3) : b = nx e := by
  rcases six_cases hx with hc | hc | hc | hc | hc | hc <;> have h := lab_eq (s := s) hc
  · exact absurd (h.1.symm.trans F.Sb) F.uv
  · exact hc
  · exact absurd (F.Sb.symm.trans h.1) F.vw
  · exact absurd (F.Sb1.symm.trans (h.2.trans F.Sf1)) F.wu
  · exact absurd ((h.1.trans F.Sf1).symm.trans F.Sb) F.uv
  · exact absurd (F.Sb.symm.trans (h.1.trans F.Sf2)) F.vw

theorem c_in (hx : c / 3 = e / 3 ∨ c / 3 = f / 3) : c = nx f := by
  rcases six_cases hx with hc | hc | hc | hc | hc | hc <;> have h := lab_eq (s := s) hc
  · exact absurd (h.2.symm.trans F.Sc1) F.vw
  · exact absurd (F.Sc.symm.trans h.1) F.uv
  · exact absurd (h.1.symm.trans F.Sc) F.wu
  · exact absurd (F.Sc.symm.trans (h.1.trans F.Sf)) F.uv
  · exact hc
  · exact absurd ((h.1.trans F.Sf2).symm.trans F.Sc) F.wu

theorem d_in (hx : d / 3 = e / 3 ∨ d / 3 = f / 3) : d = nx (nx e) := by
  rcases six_cases hx with hc | hc | hc | hc | hc | hc <;> have h := lab_eq (s := s) hc
  · exact absurd (F.Sd.symm.trans h.1) F.wu
  · exact absurd (h.1.symm.trans F.Sd) F.vw
  · exact hc
  · exact absurd ((F.Sf.symm.trans h.1.symm).trans F.Sd) F.vw
  · exact absurd (F.Sd.symm.trans (h.1.trans F.Sf1)) F.wu
  · rw [nx_nx_nx] at h; exact absurd (F.Sd1.symm.trans (h.2.trans F.Sf)) F.uv

/-- `a` lies in the dying triangles iff `b` does (then `nx e` and `nx (nx f)` are paired with
each other) -/
theorem ab_in : (a / 3 = e / 3 ∨ a / 3 = f / 3) ↔ (b / 3 = e / 3 ∨ b / 3 = f / 3) := by
  constructor
  · intro hx
    have h := F.a_in hx
    have h1 := F.Pa; rw [h, F.Pf2] at h1
    have : b = nx e := Int.ofNat_inj.1 h1
    left; rw [this, nx_div]
  · intro hx
    have h := F.b_in hx
    have h1 := F.Pb; rw [h, F.Pe1] at h1
    have : a = nx (nx f) := Int.ofNat_inj.1 h1
    right; rw [this, nx_div, nx_div]

theorem cd_in : (c / 3 = e / 3 ∨ c / 3 = f / 3) ↔ (d / 3 = e / 3 ∨ d / 3 = f / 3) := by
  constructor
  · intro hx
    have h := F.c_in hx
    have h1 := F.Pc; rw [h, F.Pf1] at h1
    have : d = nx (nx e) := Int.ofNat_inj.1 h1
    left; rw [this, nx_div, nx_div]
  · intro hx
    have h := F.d_in hx
    have h1 := F.Pd; rw [h, F.Pe2] at h1
    have : c = nx f := Int.ofNat_inj.1 h1
    right; rw [this, nx_div]

end FoldCfg

/-- description of the state after the folded pair has been removed -/
theorem fold_state {s : HE} {e f a b c d : Nat} (hw : WF s) (he : e < s.start.size)
    (F : FoldCfg s e f a b c d) :
    (∀ j, ¬ (j / 3 = e / 3 ∨ j / 3 = f / 3) →
      (kill2 (pairS (pairS s a b) c d) e f).S j = s.S j) ∧
    (∀ j, (j / 3 = e / 3 ∨ j / 3 = f / 3) → j < s.start.size →
      (kill2 (pairS (pairS s a b) c d) e f).S j = -1 ∧
      (kill2 (pairS (pairS s a b) c d) e f).P j = -1) ∧
    (∀ j, ¬ (j / 3 = e / 3 ∨ j / 3 = f / 3) →
      (kill2 (pairS (pairS s a b) c d) e f).P j =
        if j = d then (c : Int) else if j = c then (d : Int) else
        if j = b then (a : Int) else if j = a then (b : Int) else s.P j) := by
  have hz := hw.1
  have hw2 : WF (pairS (pairS s a b) c d) := WF_pairS _ _ _ (WF_pairS _ _ _ hw)
  -- sizes of the re-paired state by rewriting: unfolding `pairS` twice is slow to check
  have hsz : (pairS (pairS s a b) c d).start.size = s.start.size := by
    rw [start_pairS, start_pairS]
  have he2 : e < (pairS (pairS s a b) c d).start.size := by rw [hsz]; exact he
  have hf2 : f < (pairS (pairS s a b) c d).start.size := by rw [hsz]; exact F.lf
  have hS := fun j => S_kill2 _ e f j hw2 he2 hf2
  have hP := fun j => P_kill2 _ e f j hw2 he2 hf2
  refine ⟨?_, ?_, ?_⟩
  · intro j hj
    exact (hS j).trans ((if_neg hj).trans ((S_pairS _ c d j).trans (S_pairS s a b j)))
  · intro j hj _
    exact ⟨(hS j).trans (if_pos hj), (hP j).trans (if_pos hj)⟩
  · intro j hj
    refine (hP j).trans ((if_neg hj).trans ?_)
    rw [P_pairS _ c d j (by rw [paired_size_pairS]; exact hz ▸ F.lc)
        (by rw [paired_size_pairS]; exact hz ▸ F.ld),
      P_pairS s a b j (hz ▸ F.la) (hz ▸ F.lb)]

/-- a halfedge outside the two triangles and different from the four outer partners keeps its
partner -/
theorem fold_good_generic {s s' : HE} {e f a b c d : Nat} (F : FoldCfg s e f a b c d)
    (hsz : s'.start.size = s.start.size)
    (hS : ∀ j, ¬ (j / 3 = e / 3 ∨ j / 3 = f / 3) → s'.S j = s.S j)
    (hP : ∀ j, ¬ (j / 3 = e / 3 ∨ j / 3 = f / 3) → j ∉ [a, b, c, d] → s'.P j = s.P j)
    {j : Nat} (hg : Good s j) (hDj : ¬ (j / 3 = e / 3 ∨ j / 3 = f / 3)) (hY : j ∉ [a, b, c, d]) :
    Good s' j := by
  refine good_rewire (fun j => j / 3 = e / 3 ∨ j / 3 = f / 3) [a, b, c, d] hsz
    (fun j => by simp only [nx_div]) hS hP hg hDj hY (fun hl => ?_)
  obtain ⟨_, _, _, _, hinv, _⟩ := hg.live (live_of_nonneg hl)
  simp only [List.mem_cons, List.not_mem_nil, or_false, not_or] at hY
  obtain ⟨ya, yb, yc, yd⟩ := hY
  have inE : ∀ x, x / 3 = e / 3 → ¬ j = x := fun x hx hc => hDj (Or.inl (hc ▸ hx))
  have inF : ∀ x, x / 3 = f / 3 → ¬ j = x := fun x hx hc => hDj (Or.inr (hc ▸ hx))
  have j0 := inE e rfl
  have j1 := inE (nx e) (nx_div e)
  have j2 := inE (nx (nx e)) ((nx_div _).trans (nx_div e))
  have k0 := inF f rfl
  have k1 := inF (nx f) (nx_div f)
  have k2 := inF (nx (nx f)) ((nx_div _).trans (nx_div f))
  constructor
  · intro hD
    rcases six_cases hD with hc | hc | hc | hc | hc | hc
    · exact Pn_ne_of_P hinv F.Pe k0 hc
    · exact Pn_ne_of_P hinv F.Pe1 ya hc
    · exact Pn_ne_of_P hinv F.Pe2 yc hc
    · exact Pn_ne_of_P hinv F.Pf j0 hc
    · exact Pn_ne_of_P hinv F.Pf1 yd hc
    · exact Pn_ne_of_P hinv F.Pf2 yb hc
  · simp only [List.mem_cons, List.not_mem_nil, or_false, not_or]
    exact ⟨Pn_ne_of_P hinv F.Pa j1, Pn_ne_of_P hinv F.Pb k2, Pn_ne_of_P hinv F.Pc j2,
      Pn_ne_of_P hinv F.Pd k1⟩

/-- a state that is described pointwise as "the folded pair removed" satisfies the invariant -/
theorem fold_preserves {s s' : HE} {e f a b c d : Nat} (h : PairInv s)
    (F : FoldCfg s e f a b c d) (hw' : WF s') (hsz : s'.start.size = s.start.size)
    (hS : ∀ j, ¬ (j / 3 = e / 3 ∨ j / 3 = f / 3) → s'.S j = s.S j)
    (hT : ∀ j, (j / 3 = e / 3 ∨ j / 3 = f / 3) → j < s.start.size → s'.S j = -1 ∧ s'.P j = -1)
    (hP : ∀ j, ¬ (j / 3 = e / 3 ∨ j / 3 = f / 3) → s'.P j =
        if j = d then (c : Int) else if j = c then (d : Int) else
        if j = b then (a : Int) else if j = a then (b : Int) else s.P j) : PairInv s' := by
  have hi := (pairInv_iff s).1 h
  have hw := hi.1
  obtain ⟨nab, nac, nad, nbc, nbd, ncd⟩ := F.distinct
  rw [pairInv_iff]
  refine ⟨hw', fun j hj _ => ?_⟩
  rw [hsz] at hj
  by_cases hDj : j / 3 = e / 3 ∨ j / 3 = f / 3
  · exact good_dead (fun j => j / 3 = e / 3 ∨ j / 3 = f / 3) hw (fun j => by simp only [nx_div])
      hT hj hDj
  have hSj : ∀ x, ¬ (x / 3 = e / 3 ∨ x / 3 = f / 3) → ∀ y, y / 3 = x / 3 → s'.S y = s.S y :=
    fun x hx y hy => hS y (by rw [hy]; exact hx)
  have Pa : ¬ (a / 3 = e / 3 ∨ a / 3 = f / 3) → s'.P a = b := fun hD => by
    rw [hP a hD, if_neg nad, if_neg nac, if_neg nab, if_pos rfl]
  have Pb : ¬ (b / 3 = e / 3 ∨ b / 3 = f / 3) → s'.P b = a := fun hD => by
    rw [hP b hD, if_neg nbd, if_neg nbc, if_pos rfl]
  have Pc : ¬ (c / 3 = e / 3 ∨ c / 3 = f / 3) → s'.P c = d := fun hD => by
    rw [hP c hD, if_neg ncd, if_pos rfl]
  have Pd : ¬ (d / 3 = e / 3 ∨ d / 3 = f / 3) → s'.P d = c := fun hD => by
    rw [hP d hD, if_pos rfl]
  by_cases ja : j = a
  · rw [ja] at hDj ⊢
    have hDb := fun hb => hDj (F.ab_in.2 hb)
    exact good_of_pair_frame hsz (hSj a hDj) (hSj b hDb) F.lb (Pa hDj) (Pb hDb)
      (fun q => F.v1 (F.Sa1.symm.trans q)) F.Sa2
      (fun q => F.vw (F.Sa1.symm.trans (q.symm.trans F.Sa)))
      (F.Sa.trans F.Sb1.symm) (F.Sa1.trans F.Sb.symm)
  by_cases jb : j = b
  · rw [jb] at hDj ⊢
    have hDa := fun ha => hDj (F.ab_in.1 ha)
    exact good_of_pair_frame hsz (hSj b hDj) (hSj a hDa) F.la (Pb hDj) (Pa hDa)
      (fun q => F.w1 (F.Sb1.symm.trans q)) F.Sb2
      (fun q => F.vw (F.Sb.symm.trans (q.trans F.Sb1)))
      (F.Sb.trans F.Sa1.symm) (F.Sb1.trans F.Sa.symm)
  by_cases jc : j = c
  · rw [jc] at hDj ⊢
    have hDd := fun hd => hDj (F.cd_in.2 hd)
    exact good_of_pair_frame hsz (hSj c hDj) (hSj d hDd) F.ld (Pc hDj) (Pd hDd)
      (fun q => F.w1 (F.Sc1.symm.trans q)) F.Sc2
      (fun q => F.wu (F.Sc1.symm.trans (q.symm.trans F.Sc)))
      (F.Sc.trans F.Sd1.symm) (F.Sc1.trans F.Sd.symm)
  by_cases jd : j = d
  · rw [jd] at hDj ⊢
    have hDc := fun hc => hDj (F.cd_in.1 hc)
    exact good_of_pair_frame hsz (hSj d hDj) (hSj c hDc) F.lc (Pd hDj) (Pc hDc)
      (fun q => F.u1 (F.Sd1.symm.trans q)) F.Sd2
      (fun q => F.wu (F.Sd.symm.trans (q.trans F.Sd1)))
      (F.Sd.trans F.Sc1.symm) (F.Sd1.trans F.Sc.symm)
  refine fold_good_generic F hsz hS (fun x hx hY => ?_) (hi.good hj (by simp)) hDj
    (by simp [ja, jb, jc, jd])
  simp only [List.mem_cons, List.not_mem_nil, or_false, not_or] at hY
  rw [hP x hx, if_neg hY.2.2.2, if_neg hY.2.2.1, if_neg hY.2.1, if_neg hY.1]

/-- `RemoveIfFolded` keeps the invariant (and does not touch `vertPos_` / the size of
`propVert_`) -/
theorem removeIfFolded_preserves (s : HE) (e : Nat) (h : PairInv s) (he : e < s.start.size) :
    ∃ s', removeIfFolded s (e : Int) = .ok s' ∧ PairInv s' ∧ s'.nVert = s.nVert ∧
      s'.prop.size = s.prop.size := by
  have hi := (pairInv_iff s).1 h
  have hw := hi.1
  have hz := hw.1
  have G : ∀ x, x < s.start.size → Good s x := fun x hx => hi.good hx (by simp)
  have e1 := nx_lt hw.2.2 he
  have e2 := nx_lt hw.2.2 e1
  by_cases hl : s.P e = -1
  · -- dead halfedge: `TriOf(-1) = (-1, 0, 1)`, and `Pair(tri0edge[1]) = -1` returns at once
    refine ⟨s, ?_, h, rfl, rfl⟩
    have hS0 : s.S e = -1 := by
      rcases (good_iff s e).1 (G e he) with ⟨a, _, _⟩ | ⟨_, _, c, _⟩
      · exact a
      · omega
    have hP1 : s.P (nx e) = -1 := by
      rcases (good_iff s (nx e)).1 (G _ e1) with ⟨_, _, c⟩ | ⟨_, b, _⟩
      · exact c
      · rw [nx_nx_nx] at b; exact absurd hS0 b
    simp only [removeIfFolded, triOf_cast, getPair_ok, ok_bind, hl, hP1, hz ▸ he, hz ▸ e1, if_true]
    rfl
  · have L0 := (G e he).live hl
    have hPe : s.P e = ((s.Pn e : Nat) : Int) := P_eq_Pn L0.2.2.1
    have hf := L0.2.2.2.1
    have f1 := nx_lt hw.2.2 hf
    have f2 := nx_lt hw.2.2 f1
    have hl1 := live_next (G e he) hl (G _ e1)
    by_cases hfold : s.S (nx (nx e)) = s.S (nx (nx (s.Pn e)))
    · have F := fold_table h he hl hfold
      obtain ⟨hS, hT, hP⟩ := fold_state hw he F
      refine ⟨_, removeIfFolded_fold_ok hw he F,
        fold_preserves h F (WF_kill2 _ _ _ (WF_pairS _ _ _ (WF_pairS _ _ _ hw)))
          (by rw [start_size_kill2, start_pairS, start_pairS]) hS hT hP, ?_, ?_⟩
      · rw [nVert_kill2, nVert_pairS, nVert_pairS]
      · rw [prop_size_kill2, prop_pairS, prop_pairS]
    · refine ⟨s, ?_, h, rfl, rfl⟩
      simp only [removeIfFolded, triOf_cast, getPair_ok, getStart_ok, ok_bind, hPe, hl1, hfold, hz ▸ he,
        hz ▸ e1, e2, f2, if_false]
      rfl

/-- a pillow `(1,2,0),(2,1,0)` (triangles 0, 1) with a folded pair `(0,1,2),(1,0,2)` (triangles
2, 3) inserted along two of its edges: halfedges 6 and 9 are the fold -/
def foldEx : HE :=
  { start := #[1,2,0, 2,1,0, 0,1,2, 1,0,2], paired := #[11,10,4, 7,2,8, 9,3,5, 6,1,0],
    prop := #[1,2,0, 2,1,0, 0,1,2, 1,0,2], nVert := 3, nPropVert := 3 }

theorem foldEx_ok : PairInv foldEx ∧ removeIfFolded foldEx ((6 : Nat) : Int) = .ok
    { start := #[1,2,0, 2,1,0, -1,-1,-1, -1,-1,-1], paired := #[3,5,4, 0,2,1, -1,-1,-1, -1,-1,-1],
      prop := #[1,2,0, 2,1,0, -1,-1,-1, -1,-1,-1], nVert := 3, nPropVert := 3 } :=
  ⟨⟨by decide, (checkPairInv_iff _ _).1 (by decide +kernel)⟩, rfl⟩

/-- non-vacuity of `removeIfFolded_preserves` (general case: the four outer partners 3, 0, 5, 1 are
outside the fold and get paired 3-0, 5-1) -/
example : PairInv foldEx ∧ (6 : Nat) < foldEx.start.size ∧
    removeIfFolded foldEx ((6 : Nat) : Int) = .ok
      { start := #[1,2,0, 2,1,0, -1,-1,-1, -1,-1,-1], paired := #[3,5,4, 0,2,1, -1,-1,-1, -1,-1,-1],
        prop := #[1,2,0, 2,1,0, -1,-1,-1, -1,-1,-1], nVert := 3, nPropVert := 3 } :=
  ⟨foldEx_ok.1, by decide, foldEx_ok.2⟩
/-- a bare pillow of two non-degenerate triangles -/
def pillow2 : HE :=
  { start := #[0,1,2, 1,0,2], paired := #[3,5,4, 0,2,1], prop := #[0,1,2, 1,0,2],
    nVert := 3, nPropVert := 3 }
/-- one tombstoned triangle -/
def dead3 : HE :=
  { start := #[-1,-1,-1], paired := #[-1,-1,-1], prop := #[0,0,0], nVert := 0, nPropVert := 0 }

/-- … the special case where both pairs are internal (everything dies) -/
example : PairInv pillow2 ∧
    removeIfFolded pillow2 ((0 : Nat) : Int) = .ok
      { start := #[-1,-1,-1, -1,-1,-1], paired := #[-1,-1,-1, -1,-1,-1],
        prop := #[-1,-1,-1, -1,-1,-1], nVert := 3, nPropVert := 3 } :=
  ⟨⟨by decide, (checkPairInv_iff _ _).1 (by decide +kernel)⟩, rfl⟩
/-- … and the unchanged cases (apexes differ; dead halfedge) -/
example : removeIfFolded tetra ((2 : Nat) : Int) = .ok tetra := rfl
example : PairInv dead3 ∧ removeIfFolded dead3 ((0 : Nat) : Int) = .ok dead3 :=
  ⟨⟨by decide, (checkPairInv_iff _ _).1 (by decide +kernel)⟩, rfl⟩

end MV.EdgeOp
