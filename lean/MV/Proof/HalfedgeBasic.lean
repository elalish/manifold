import MV.Model.Halfedge
import MV.Proof.Mesh
import MV.Proof.ListArray
/-!
What every proof about the transliteration of `CreateHalfedges` starts from: the edge key as
arithmetic, checked reads and writes that are in range, `NextHalfedge`, and the prepared
halfedge array in terms of the directed-edge list.
-/
namespace MV.Halfedge
open MV.Mesh List

theorem edgeKey_eq {a b : Nat} (ha : a < 2 ^ 31) (hb : b < 2 ^ 31) :
    edgeKey a b = (if a < b then 2 ^ 63 else 0) + min a b * 2 ^ 32 + max a b := by
  unfold edgeKey
  have hmin : min a b < 2 ^ 31 := by omega
  have hmax : max a b < 2 ^ 32 := by omega
  have h1 : (if a < b then 1 else 0) <<< 63 ||| min a b <<< 32
      = (if a < b then 1 else 0) <<< 63 + min a b <<< 32 := by
    rw [Nat.shiftLeft_add_eq_or_of_lt]
    rw [Nat.shiftLeft_eq]; omega
  have h2 : (if a < b then 1 else 0) <<< 63 + min a b <<< 32
      = ((if a < b then 1 else 0) * 2 ^ 31 + min a b) <<< 32 := by
    simp only [Nat.shiftLeft_eq]; split <;> omega
  rw [h1, h2, ← Nat.shiftLeft_add_eq_or_of_lt hmax, Nat.shiftLeft_eq]
  split <;> omega

theorem edgeKey_of_lt {a b : Nat} (ha : a < 2 ^ 31) (hb : b < 2 ^ 31) (h : a < b) :
    edgeKey a b = 2 ^ 63 + a * 2 ^ 32 + b := by
  rw [edgeKey_eq ha hb, if_pos h, Nat.min_eq_left (Nat.le_of_lt h), Nat.max_eq_right (Nat.le_of_lt h)]

theorem edgeKey_of_ge {a b : Nat} (ha : a < 2 ^ 31) (hb : b < 2 ^ 31) (h : b ≤ a) :
    edgeKey a b = b * 2 ^ 32 + a := by
  rw [edgeKey_eq ha hb, if_neg (Nat.not_lt.2 h), Nat.min_eq_right h, Nat.max_eq_left h, Nat.zero_add]

theorem edgeKey_lt_iff {a b : Nat} (ha : a < 2 ^ 31) (hb : b < 2 ^ 31) :
    edgeKey a b < 2 ^ 63 ↔ ¬ a < b := by
  rcases Nat.lt_or_ge a b with h | h
  · rw [edgeKey_of_lt ha hb h]; omega
  · rw [edgeKey_of_ge ha hb h]; omega

/-- the key of the reversed edge -/
theorem edgeKey_swap {a b : Nat} (ha : a < 2 ^ 31) (hb : b < 2 ^ 31) (h : b < a) :
    edgeKey b a = edgeKey a b + 2 ^ 63 := by
  rw [edgeKey_of_lt hb ha h, edgeKey_of_ge ha hb (Nat.le_of_lt h)]; omega

/-- direction bit, smaller and larger vertex occupy disjoint bit ranges -/
theorem edgeKey_inj {a b c d : Nat} (ha : a < 2 ^ 31) (hb : b < 2 ^ 31) (hc : c < 2 ^ 31)
    (hd : d < 2 ^ 31) (h : edgeKey a b = edgeKey c d) :
    a = c ∧ b = d := by
  rcases Nat.lt_or_ge a b with h1 | h1 <;> rcases Nat.lt_or_ge c d with h2 | h2
  · rw [edgeKey_of_lt ha hb h1, edgeKey_of_lt hc hd h2] at h; omega
  · rw [edgeKey_of_lt ha hb h1, edgeKey_of_ge hc hd h2] at h; omega
  · rw [edgeKey_of_ge ha hb h1, edgeKey_of_lt hc hd h2] at h; omega
  · rw [edgeKey_of_ge ha hb h1, edgeKey_of_ge hc hd h2] at h; omega

theorem rd_ok {α : Type} {x : Array α} {k : Nat} {v : α} (h : x[k]? = some v) :
    rd x (k : Int) = .ok v := by
  unfold rd
  have : ¬ ((k : Int) < 0) := by omega
  simp [this, h]

theorem wr_ok {α : Type} {x : Array α} {k : Nat} {v : α} (h : k < x.size) :
    wr x (k : Int) v = .ok (x.setIfInBounds k v) := by
  unfold wr
  have : ¬ ((k : Int) < 0) := by omega
  simp [this, h]

/-- a read at an index in range, with the value written as `getD` (which is also `x[k]!`) -/
theorem rd_nat {α : Type} {x : Array α} {k : Nat} (d : α) (h : k < x.size) :
    rd x (k : Int) = .ok (x.getD k d) := rd_ok (getElem?_eq_some_getD d h)

theorem rd_int {α : Type} {x : Array α} {k : Int} (d : α) (h0 : 0 ≤ k) (h1 : k < x.size) :
    rd x k = .ok (x.getD k.toNat d) := by
  obtain ⟨p, rfl⟩ := Int.eq_ofNat_of_zero_le h0
  rw [rd_nat d (by omega)]; simp

theorem wr_int {α : Type} {x : Array α} {k : Int} (v : α) (h0 : 0 ≤ k) (h1 : k < x.size) :
    wr x k v = .ok (x.setIfInBounds k.toNat v) := by
  obtain ⟨p, rfl⟩ := Int.eq_ofNat_of_zero_le h0
  rw [wr_ok (by omega)]; simp

theorem next_lt {n e : Nat} (h3 : n % 3 = 0) (he : e < n) : nextHalfedge e < n := by
  unfold nextHalfedge; split <;> omega

/-- within triangle `e / 3` the corner index advances cyclically -/
theorem nextHalfedge_eq (e : Nat) : nextHalfedge e = 3 * (e / 3) + (e % 3 + 1) % 3 := by
  unfold nextHalfedge; split <;> omega

theorem next_next_next (e : Nat) : nextHalfedge (nextHalfedge (nextHalfedge e)) = e := by
  rw [nextHalfedge_eq, nextHalfedge_eq, nextHalfedge_eq]; omega

theorem next_add3 (e : Nat) : nextHalfedge (e + 3) = nextHalfedge e + 3 := by
  unfold nextHalfedge
  have : (e + 3) % 3 = e % 3 := by omega
  rw [this]; split <;> omega

theorem prep_toList (ts : List Tri) :
    (prep ts).toList = (dirEdges ts).map (fun e => (⟨e.1, e.2, e.1⟩ : CH)) := by
  simp only [prep, dirEdges, List.map_flatMap]
  rfl

theorem dirEdges_cons (t : Tri) (ts : List Tri) :
    dirEdges (t :: ts) = (t.1, t.2.1) :: (t.2.1, t.2.2) :: (t.2.2, t.1) :: dirEdges ts := rfl
theorem dirEdges_next (d : Nat × Nat) : ∀ (ts : List Tri) (e : Nat), e < 3 * ts.length →
    ((dirEdges ts).getD (nextHalfedge e) d).1 = ((dirEdges ts).getD e d).2
  | [], e, h => by simp at h
  | t :: ts, 0, _ => by simp [dirEdges_cons, nextHalfedge]
  | t :: ts, 1, _ => by simp [dirEdges_cons, nextHalfedge]
  | t :: ts, 2, _ => by simp [dirEdges_cons, nextHalfedge]
  | t :: ts, e + 3, h => by
    rw [next_add3, dirEdges_cons]
    simp only [List.getD_cons_succ]
    exact dirEdges_next d ts e (by simp at h; omega)

/-- directed edge of halfedge `e` -/
def edgeAt (ts : List Tri) (e : Nat) : Nat × Nat := (dirEdges ts).getD e (0, 0)

/-- the vertex of the triangle of halfedge `e` that is not on `e` -/
def thirdAt (ts : List Tri) (e : Nat) : Nat := (edgeAt ts (nextHalfedge e)).2

theorem prep_size (ts : List Tri) : (prep ts).size = 3 * ts.length := by
  rw [← Array.length_toList, prep_toList, length_map, length_dirEdges]

theorem prep_getD (ts : List Tri) (e : Nat) (he : e < 3 * ts.length) :
    (prep ts).getD e default = ⟨(edgeAt ts e).1, (edgeAt ts e).2, (edgeAt ts e).1⟩ := by
  have h2 : e < (dirEdges ts).length := by rw [length_dirEdges]; exact he
  rw [Array.getD_eq_getD_getElem?, ← Array.getElem?_toList, prep_toList]
  simp [edgeAt, List.getD_eq_getElem?_getD, h2]

theorem get!_of {x : Array Int} {e : Nat} {v : Int} (h : x[e]? = some v) : x[e]! = v := by
  simp [getElem!_def, h]
end MV.Halfedge
