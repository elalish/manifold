import MV.Model.Mesh
import MV.Proof.SortOrder
/-!
Lemmas about the mesh vocabulary: correctness of the checker, invariance of
`Closed2Manifold` under permutation / rotation / relabelling, Euler count.
-/
namespace MV.Mesh
open List

theorem adjDup_none_iff_nodup : ∀ (l : List Nat), l.Pairwise (· ≤ ·) → (adjDup l = none ↔ l.Nodup)
  | [], _ => by simp [adjDup]
  | [a], _ => by simp [adjDup]
  | a :: b :: l, h => by
    have ih := adjDup_none_iff_nodup (b :: l) h.tail
    rw [pairwise_cons] at h
    unfold adjDup
    by_cases hab : a = b
    · subst hab; simp
    · simp only [hab, if_false, ih]
      constructor
      · intro hn
        refine nodup_cons.2 ⟨?_, hn⟩
        intro hm
        rcases mem_cons.1 hm with rfl | hm
        · exact hab rfl
        · have h1 := h.1 b mem_cons_self
          have h2 := (pairwise_cons.1 h.2).1 a hm
          omega
      · intro hn; exact (nodup_cons.1 hn).2

theorem firstUnmatched_none_iff : ∀ (l₁ l₂ : List Nat), firstUnmatched l₁ l₂ = none ↔ l₁ = l₂
  | [], [] => by simp [firstUnmatched]
  | a :: _, [] => by simp [firstUnmatched]
  | [], b :: _ => by simp [firstUnmatched]
  | a :: as, b :: bs => by
    unfold firstUnmatched
    by_cases hab : a = b
    · subst hab; simp [firstUnmatched_none_iff as bs]
    · by_cases hlt : a < b <;> simp [hab, hlt]

/-- sorting by a natural-number key sorts the keys -/
theorem pairwise_mergeSort_key {α : Type} (f : α → Nat) (l : List α) :
    (l.mergeSort fun a b => decide (f a ≤ f b)).Pairwise fun a b => f a ≤ f b := by
  rw [MV.Par.decide_le_eq_not_decide_lt]; exact MV.Par.pairwise_mergeSort_natKey f l

theorem sorted_natKeys (l : List Nat) : (l.mergeSort).Pairwise (· ≤ ·) :=
  pairwise_mergeSort_key (fun a => a) l

theorem mergeSort_eq_iff_perm (l₁ l₂ : List Nat) : l₁.mergeSort = l₂.mergeSort ↔ l₁ ~ l₂ := by
  constructor
  · intro h
    have h1 := (mergeSort_perm l₁ (fun a b => decide (a ≤ b))).symm
    rw [h] at h1
    exact h1.trans (mergeSort_perm l₂ _)
  · intro h
    apply Perm.eq_of_pairwise (le := (· ≤ ·)) (fun a b _ _ h1 h2 => Nat.le_antisymm h1 h2)
      (sorted_natKeys l₁) (sorted_natKeys l₂)
    exact ((mergeSort_perm l₁ _).trans h).trans (mergeSort_perm l₂ _).symm

theorem key_inj {nV a b c d : Nat} (hb : b < nV) (hd : d < nV) (h : a * nV + b = c * nV + d) :
    a = c ∧ b = d := by
  have h1 : (a * nV + b) / nV = a := by
    rw [Nat.mul_comm, Nat.mul_add_div (by omega), Nat.div_eq_of_lt hb]; rfl
  have h2 : (c * nV + d) / nV = c := by
    rw [Nat.mul_comm, Nat.mul_add_div (by omega), Nat.div_eq_of_lt hd]; rfl
  have hac : a = c := by rw [← h1, ← h2, h]
  subst hac
  exact ⟨rfl, by omega⟩

theorem mem_dirEdges {ts : List Tri} {e : Nat × Nat} :
    e ∈ dirEdges ts ↔ ∃ t ∈ ts, e ∈ triEdges t := by
  simp [dirEdges, mem_flatMap]

theorem mem_triEdges {t : Tri} {e : Nat × Nat} :
    e ∈ triEdges t ↔ e = (t.1, t.2.1) ∨ e = (t.2.1, t.2.2) ∨ e = (t.2.2, t.1) := by
  simp [triEdges]

theorem mem_triVerts {t : Tri} {v : Nat} :
    v ∈ triVerts t ↔ v = t.1 ∨ v = t.2.1 ∨ v = t.2.2 := by
  simp [triVerts]

/-- a vertex is a corner of a triangle iff it starts one of its edges -/
theorem mem_triVerts_iff_start {t : Tri} {v : Nat} :
    v ∈ triVerts t ↔ ∃ b, (v, b) ∈ triEdges t := by
  simp only [mem_triVerts, mem_triEdges, Prod.mk.injEq]
  constructor
  · rintro (h | h | h)
    · exact ⟨_, .inl ⟨h, rfl⟩⟩
    · exact ⟨_, .inr (.inl ⟨h, rfl⟩)⟩
    · exact ⟨_, .inr (.inr ⟨h, rfl⟩)⟩
  · rintro ⟨b, h | h | h⟩
    · exact .inl h.1
    · exact .inr (.inl h.1)
    · exact .inr (.inr h.1)

theorem mem_triVerts_iff_end {t : Tri} {v : Nat} :
    v ∈ triVerts t ↔ ∃ a, (a, v) ∈ triEdges t := by
  simp only [mem_triVerts, mem_triEdges, Prod.mk.injEq]
  constructor
  · rintro (h | h | h)
    · exact ⟨_, .inr (.inr ⟨rfl, h⟩)⟩
    · exact ⟨_, .inl ⟨rfl, h⟩⟩
    · exact ⟨_, .inr (.inl ⟨rfl, h⟩)⟩
  · rintro ⟨b, h | h | h⟩
    · exact .inr (.inl h.2)
    · exact .inr (.inr h.2)
    · exact .inl h.2

theorem triInRange_iff {nV : Nat} {t : Tri} : triInRange nV t = true ↔ TriInRange nV t := by
  simp [triInRange, TriInRange, and_assoc]

theorem triNondeg_iff {t : Tri} : triNondeg t = true ↔ TriNondeg t := by
  simp [triNondeg, TriNondeg, and_assoc]

theorem edges_inRange {nV : Nat} {ts : List Tri} (h : ∀ t ∈ ts, TriInRange nV t)
    {e : Nat × Nat} (he : e ∈ dirEdges ts) : e.1 < nV ∧ e.2 < nV := by
  obtain ⟨t, ht, he⟩ := mem_dirEdges.1 he
  have := h t ht
  rcases mem_triEdges.1 he with rfl | rfl | rfl
  · exact ⟨this.1, this.2.1⟩
  · exact ⟨this.2.1, this.2.2⟩
  · exact ⟨this.2.2, this.1⟩

theorem nodup_edgeKeys {nV : Nat} {ts : List Tri} (hr : ∀ t ∈ ts, TriInRange nV t) :
    (edgeKeys nV (dirEdges ts)).Nodup ↔ (dirEdges ts).Nodup := by
  unfold edgeKeys
  apply nodup_map_iff_of_injOn
  intro x hx y hy h
  have := key_inj (edges_inRange hr hx).2 (edges_inRange hr hy).2 h
  exact Prod.ext this.1 this.2

theorem nodup_revKeys {nV : Nat} {ts : List Tri} (hr : ∀ t ∈ ts, TriInRange nV t) :
    (revKeys nV (dirEdges ts)).Nodup ↔ (dirEdges ts).Nodup := by
  unfold revKeys
  apply nodup_map_iff_of_injOn
  intro x hx y hy h
  have := key_inj (edges_inRange hr hx).1 (edges_inRange hr hy).1 h
  exact Prod.ext this.2 this.1

theorem getD_set1 (m : Array Bool) (a v : Nat) :
    (m.setIfInBounds a true).getD v false
      = (m.getD v false || (decide (v < m.size) && v == a)) := by
  rw [Array.getD_setIfInBounds]
  by_cases h : a = v
  · subst h
    by_cases hv : a < m.size
    · simp [hv]
    · simp [hv, Array.getD_eq_getD_getElem?]
  · have h' : ¬ v = a := fun e => h e.symm
    simp [h, h']

theorem markVerts_go (ts : List Tri) (m : Array Bool) (v : Nat) :
    (ts.foldl (fun m t => ((m.setIfInBounds t.1 true).setIfInBounds t.2.1 true).setIfInBounds t.2.2 true) m).getD v false
      = (m.getD v false || (decide (v < m.size) && ts.any fun t => v == t.1 || v == t.2.1 || v == t.2.2)) ∧
    (ts.foldl (fun m t => ((m.setIfInBounds t.1 true).setIfInBounds t.2.1 true).setIfInBounds t.2.2 true) m).size = m.size := by
  induction ts generalizing m with
  | nil => simp
  | cons t ts ih =>
    simp only [foldl_cons, any_cons]
    obtain ⟨h1, h2⟩ := ih (((m.setIfInBounds t.1 true).setIfInBounds t.2.1 true).setIfInBounds t.2.2 true)
    refine ⟨?_, by rw [h2]; simp⟩
    rw [h1, getD_set1, getD_set1, getD_set1]
    simp only [Array.size_setIfInBounds]
    cases m.getD v false <;> cases decide (v < m.size) <;> simp

theorem markVerts_getD (nV : Nat) (ts : List Tri) (v : Nat) :
    (markVerts nV ts).getD v false = true ↔ v < nV ∧ ∃ t ∈ ts, v ∈ triVerts t := by
  unfold markVerts
  rw [(markVerts_go ts _ v).1]
  have : (Array.replicate nV false).getD v false = false := by
    simp only [Array.getD_eq_getD_getElem?, Array.getElem?_replicate]
    split <;> rfl
  rw [this]
  simp only [Array.size_replicate, Bool.false_or, Bool.and_eq_true, decide_eq_true_eq, any_eq_true,
    Bool.or_eq_true, beq_iff_eq, mem_triVerts, or_assoc]

theorem firstUnreferenced_none_iff (nV : Nat) (ex : Nat → Bool) (ts : List Tri) :
    firstUnreferenced nV ex ts = none ↔
      ∀ v, v < nV → ex v = false → ∃ t ∈ ts, v ∈ triVerts t := by
  unfold firstUnreferenced
  simp only [find?_eq_none, mem_range]
  constructor
  · intro h v hv hex
    have := h v hv
    simp only [hex, Bool.not_false, Bool.and_true, Bool.not_eq_true', Bool.not_eq_false] at this
    exact ((markVerts_getD nV ts v).1 (by simpa using this)).2
  · intro h v hv
    cases hex : ex v
    · have := (markVerts_getD nV ts v).2 ⟨hv, h v hv hex⟩
      simp [this]
    · simp

theorem matched_iff_sorted_eq {nV : Nat} {ts : List Tri} (hr : ∀ t ∈ ts, TriInRange nV t)
    (hnd : (dirEdges ts).Nodup) :
    (edgeKeys nV (dirEdges ts)).mergeSort = (revKeys nV (dirEdges ts)).mergeSort ↔
      ∀ a b, (a, b) ∈ dirEdges ts → (b, a) ∈ dirEdges ts := by
  rw [mergeSort_eq_iff_perm]
  have hk := (nodup_edgeKeys hr).2 hnd
  have hrk := (nodup_revKeys hr).2 hnd
  rw [perm_ext_iff_of_nodup hk hrk]
  unfold edgeKeys revKeys
  simp only [mem_map, Prod.exists]
  constructor
  · intro h a b hab
    obtain ⟨c, d, hcd, hkey⟩ := (h (b * nV + a)).2 ⟨a, b, hab, rfl⟩
    have := key_inj (edges_inRange hr hcd).2 (edges_inRange hr hab).1 hkey
    obtain ⟨rfl, rfl⟩ := this
    exact hcd
  · intro h k
    constructor
    · rintro ⟨a, b, hab, rfl⟩; exact ⟨b, a, h a b hab, rfl⟩
    · rintro ⟨a, b, hab, rfl⟩; exact ⟨b, a, h a b hab, rfl⟩

theorem err_iff {e : MeshErr} {P : Prop} (h : ¬ P) :
    ((Except.error e : Except MeshErr Unit) = .ok () ↔ P) :=
  ⟨fun h' => by simp at h', fun hp => absurd hp h⟩

theorem checkMeshEx_iff (nV : Nat) (ex : Nat → Bool) (ts : List Tri) :
    checkMeshEx nV ex ts = .ok () ↔ Closed2ManifoldEx nV ex ts := by
  unfold checkMeshEx Closed2ManifoldEx
  split
  · rename_i i hi
    have : ¬ ∀ t ∈ ts, TriInRange nV t := by
      intro h
      have := (findIdx?_eq_none_iff (xs := ts) (p := fun t => !triInRange nV t)).2
        (by intro t ht; simp [triInRange_iff.2 (h t ht)])
      rw [this] at hi; cases hi
    exact err_iff (fun h => this h.1)
  rename_i h1
  have hr : ∀ t ∈ ts, TriInRange nV t := by
    intro t ht
    have := (findIdx?_eq_none_iff.1 h1) t ht
    exact triInRange_iff.1 (by simpa using this)
  split
  · rename_i i hi
    have : ¬ ∀ t ∈ ts, TriNondeg t := by
      intro h
      have := (findIdx?_eq_none_iff (xs := ts) (p := fun t => !triNondeg t)).2
        (by intro t ht; simp [triNondeg_iff.2 (h t ht)])
      rw [this] at hi; cases hi
    exact err_iff (fun h => this h.2.1)
  rename_i h2
  have hd : ∀ t ∈ ts, TriNondeg t := by
    intro t ht
    have := (findIdx?_eq_none_iff.1 h2) t ht
    exact triNondeg_iff.1 (by simpa using this)
  have hnodup : adjDup (edgeKeys nV (dirEdges ts)).mergeSort = none ↔ (dirEdges ts).Nodup := by
    rw [adjDup_none_iff_nodup _ (sorted_natKeys _), (mergeSort_perm _ _).nodup_iff, nodup_edgeKeys hr]
  simp only []
  split
  · rename_i k hk
    have : ¬ (dirEdges ts).Nodup := by
      intro h; rw [hnodup.2 h] at hk; cases hk
    exact err_iff (fun h => this h.2.2.1)
  rename_i h3
  have hnd := hnodup.1 h3
  have hm := matched_iff_sorted_eq hr hnd
  rw [← firstUnmatched_none_iff] at hm
  split
  · rename_i k hk
    have : ¬ ∀ a b, (a, b) ∈ dirEdges ts → (b, a) ∈ dirEdges ts := by
      intro h; rw [hm.2 h] at hk; cases hk
    exact err_iff (fun h => this h.2.2.2.1)
  · rename_i k hk
    have : ¬ ∀ a b, (a, b) ∈ dirEdges ts → (b, a) ∈ dirEdges ts := by
      intro h; rw [hm.2 h] at hk; cases hk
    exact err_iff (fun h => this h.2.2.2.1)
  rename_i h4
  have hmt := hm.1 h4
  have hu := firstUnreferenced_none_iff nV ex ts
  split
  · rename_i v hv
    have : ¬ ∀ v, v < nV → ex v = false → ∃ t ∈ ts, v ∈ triVerts t := by
      intro h; rw [hu.2 h] at hv; cases hv
    exact err_iff (fun h => this h.2.2.2.2)
  · rename_i h5
    simp only [true_iff]
    exact ⟨hr, hd, hnd, hmt, hu.1 h5⟩

theorem closed2Manifold_iff_ex (nV : Nat) (ts : List Tri) :
    Closed2Manifold nV ts ↔ Closed2ManifoldEx nV (fun _ => false) ts := by
  simp [Closed2Manifold, Closed2ManifoldEx]

theorem checkMesh_iff' (nV : Nat) (ts : List Tri) :
    checkMesh nV ts = .ok () ↔ Closed2Manifold nV ts := by
  rw [closed2Manifold_iff_ex]; exact checkMeshEx_iff nV _ ts

/-! ## decidability (for `decide` on concrete meshes) -/

theorem closed2ManifoldEx_iff_bounded (nV : Nat) (ex : Nat → Bool) (ts : List Tri) :
    Closed2ManifoldEx nV ex ts ↔
      (∀ t ∈ ts, TriInRange nV t) ∧ (∀ t ∈ ts, TriNondeg t) ∧ (dirEdges ts).Nodup ∧
      (∀ e ∈ dirEdges ts, (e.2, e.1) ∈ dirEdges ts) ∧
      (∀ v, v < nV → ex v = false → ∃ t ∈ ts, v ∈ triVerts t) := by
  unfold Closed2ManifoldEx
  have : (∀ a b, (a, b) ∈ dirEdges ts → (b, a) ∈ dirEdges ts) ↔
      (∀ e ∈ dirEdges ts, (e.2, e.1) ∈ dirEdges ts) :=
    ⟨fun h e he => h e.1 e.2 he, fun h a b hab => h (a, b) hab⟩
  rw [this]

instance (nV : Nat) (ex : Nat → Bool) (ts : List Tri) : Decidable (Closed2ManifoldEx nV ex ts) :=
  decidable_of_iff _ (closed2ManifoldEx_iff_bounded nV ex ts).symm

instance (nV : Nat) (ts : List Tri) : Decidable (Closed2Manifold nV ts) :=
  decidable_of_iff _ (closed2Manifold_iff_ex nV ts).symm

instance (ts : List Tri) : Decidable (ClosedOriented ts) :=
  decidable_of_iff ((∀ t ∈ ts, TriNondeg t) ∧ (dirEdges ts).Nodup ∧
      (∀ e ∈ dirEdges ts, (e.2, e.1) ∈ dirEdges ts))
    ⟨fun h => ⟨h.1, h.2.1, fun a b hab => h.2.2 (a, b) hab⟩,
     fun h => ⟨h.1, h.2.1, fun e he => h.2.2 e.1 e.2 he⟩⟩

/-- `Closed2ManifoldEx` stated on the list of directed edges only -/
def EdgeSpec (nV : Nat) (ex : Nat → Bool) (es : List (Nat × Nat)) : Prop :=
  (∀ e ∈ es, e.1 < nV) ∧ (∀ e ∈ es, e.1 ≠ e.2) ∧ es.Nodup ∧
  (∀ a b, (a, b) ∈ es → (b, a) ∈ es) ∧ (∀ v, v < nV → ex v = false → ∃ b, (v, b) ∈ es)

theorem inRange_iff_edges {nV : Nat} {ts : List Tri} :
    (∀ t ∈ ts, TriInRange nV t) ↔ ∀ e ∈ dirEdges ts, e.1 < nV := by
  constructor
  · intro h e he; exact (edges_inRange h he).1
  · intro h t ht
    refine ⟨h (t.1, t.2.1) ?_, h (t.2.1, t.2.2) ?_, h (t.2.2, t.1) ?_⟩ <;>
      exact mem_dirEdges.2 ⟨t, ht, by simp [triEdges]⟩

theorem nondeg_iff_edges {ts : List Tri} :
    (∀ t ∈ ts, TriNondeg t) ↔ ∀ e ∈ dirEdges ts, e.1 ≠ e.2 := by
  constructor
  · intro h e he
    obtain ⟨t, ht, he⟩ := mem_dirEdges.1 he
    have := h t ht
    rcases mem_triEdges.1 he with rfl | rfl | rfl
    · exact this.1
    · exact this.2.1
    · exact this.2.2
  · intro h t ht
    refine ⟨h (t.1, t.2.1) ?_, h (t.2.1, t.2.2) ?_, h (t.2.2, t.1) ?_⟩ <;>
      exact mem_dirEdges.2 ⟨t, ht, by simp [triEdges]⟩

/-- `v` is a corner of some triangle -/
def Used (ts : List Tri) (v : Nat) : Prop := ∃ t ∈ ts, v ∈ triVerts t

theorem used_iff_start {ts : List Tri} {v : Nat} : Used ts v ↔ ∃ b, (v, b) ∈ dirEdges ts := by
  unfold Used
  constructor
  · rintro ⟨t, ht, hv⟩
    obtain ⟨b, hb⟩ := mem_triVerts_iff_start.1 hv
    exact ⟨b, mem_dirEdges.2 ⟨t, ht, hb⟩⟩
  · rintro ⟨b, hb⟩
    obtain ⟨t, ht, he⟩ := mem_dirEdges.1 hb
    exact ⟨t, ht, mem_triVerts_iff_start.2 ⟨b, he⟩⟩

theorem used_iff_end {ts : List Tri} {v : Nat} : Used ts v ↔ ∃ a, (a, v) ∈ dirEdges ts := by
  unfold Used
  constructor
  · rintro ⟨t, ht, hv⟩
    obtain ⟨b, hb⟩ := mem_triVerts_iff_end.1 hv
    exact ⟨b, mem_dirEdges.2 ⟨t, ht, hb⟩⟩
  · rintro ⟨b, hb⟩
    obtain ⟨t, ht, he⟩ := mem_dirEdges.1 hb
    exact ⟨t, ht, mem_triVerts_iff_end.2 ⟨b, he⟩⟩

theorem closed2ManifoldEx_iff_edges (nV : Nat) (ex : Nat → Bool) (ts : List Tri) :
    Closed2ManifoldEx nV ex ts ↔ EdgeSpec nV ex (dirEdges ts) := by
  unfold Closed2ManifoldEx EdgeSpec
  rw [inRange_iff_edges, nondeg_iff_edges]
  have : (∀ v, v < nV → ex v = false → ∃ t ∈ ts, v ∈ triVerts t) ↔
      (∀ v, v < nV → ex v = false → ∃ b, (v, b) ∈ dirEdges ts) := by
    constructor
    · intro h v hv hx; exact used_iff_start.1 (h v hv hx)
    · intro h v hv hx; exact used_iff_start.2 (h v hv hx)
  rw [this]

/-- Everything `Closed2Manifold` says depends only on the multiset of directed edges. -/
theorem closed2ManifoldEx_of_dirEdges_perm {nV : Nat} {ex : Nat → Bool} {ts ts' : List Tri}
    (h : dirEdges ts ~ dirEdges ts') :
    Closed2ManifoldEx nV ex ts ↔ Closed2ManifoldEx nV ex ts' := by
  rw [closed2ManifoldEx_iff_edges, closed2ManifoldEx_iff_edges]
  unfold EdgeSpec
  simp only [h.mem_iff, h.nodup_iff]

theorem closed2Manifold_of_dirEdges_perm {nV : Nat} {ts ts' : List Tri}
    (h : dirEdges ts ~ dirEdges ts') : Closed2Manifold nV ts ↔ Closed2Manifold nV ts' := by
  rw [closed2Manifold_iff_ex, closed2Manifold_iff_ex, closed2ManifoldEx_of_dirEdges_perm h]

/-- rotate a triangle's corners: `(a,b,c) ↦ (b,c,a)` -/
def rotTri (t : Tri) : Tri := (t.2.1, t.2.2, t.1)

/-- the same oriented triangle up to rotation of its three indices -/
def RotEq (t t' : Tri) : Prop := t' = t ∨ t' = rotTri t ∨ t' = rotTri (rotTri t)

instance (t t' : Tri) : Decidable (RotEq t t') := by unfold RotEq; infer_instance

theorem triEdges_rot (t : Tri) : triEdges (rotTri t) ~ triEdges t := by
  show [(t.2.1, t.2.2), (t.2.2, t.1), (t.1, t.2.1)] ~ [(t.1, t.2.1), (t.2.1, t.2.2), (t.2.2, t.1)]
  exact (perm_append_comm (l₁ := [(t.2.1, t.2.2), (t.2.2, t.1)]) (l₂ := [(t.1, t.2.1)]))

theorem triEdges_rotEq {t t' : Tri} (h : RotEq t t') : triEdges t' ~ triEdges t := by
  rcases h with rfl | rfl | rfl
  · exact Perm.refl _
  · exact triEdges_rot t
  · exact (triEdges_rot _).trans (triEdges_rot t)

theorem dirEdges_perm {ts ts' : List Tri} (h : ts ~ ts') : dirEdges ts ~ dirEdges ts' :=
  h.flatMap_right _

/-- position-wise: every triangle of `ts'` is the triangle of `ts` at the same position with its
three indices rotated (by 0, 1 or 2 places) -/
inductive Rotated : List Tri → List Tri → Prop
  | nil : Rotated [] []
  | cons {t t' : Tri} {ts ts' : List Tri} : RotEq t t' → Rotated ts ts' → Rotated (t :: ts) (t' :: ts')

theorem dirEdges_rot {ts ts' : List Tri} (h : Rotated ts ts') :
    dirEdges ts ~ dirEdges ts' := by
  induction h with
  | nil => exact Perm.refl _
  | cons hab _ ih =>
    simp only [dirEdges, flatMap_cons] at ih ⊢
    exact (triEdges_rotEq hab).symm.append ih

theorem dirEdges_map (f : Nat → Nat) (ts : List Tri) :
    dirEdges (ts.map (mapTri f)) = (dirEdges ts).map (fun e => (f e.1, f e.2)) := by
  induction ts with
  | nil => rfl
  | cons t ts ih =>
    simp only [dirEdges, map_cons, flatMap_cons, map_append] at ih ⊢
    rw [ih]; rfl

theorem closedOriented_iff_edges (ts : List Tri) :
    ClosedOriented ts ↔ (∀ e ∈ dirEdges ts, e.1 ≠ e.2) ∧ (dirEdges ts).Nodup ∧
      (∀ a b, (a, b) ∈ dirEdges ts → (b, a) ∈ dirEdges ts) := by
  unfold ClosedOriented; rw [nondeg_iff_edges]

theorem Closed2ManifoldEx.closedOriented {nV : Nat} {ex : Nat → Bool} {ts : List Tri}
    (h : Closed2ManifoldEx nV ex ts) : ClosedOriented ts := ⟨h.2.1, h.2.2.1, h.2.2.2.1⟩

theorem Closed2Manifold.closedOriented {nV : Nat} {ts : List Tri}
    (h : Closed2Manifold nV ts) : ClosedOriented ts := ⟨h.2.1, h.2.2.1, h.2.2.2.1⟩

theorem length_dirEdges (ts : List Tri) : (dirEdges ts).length = 3 * ts.length := by
  induction ts with
  | nil => rfl
  | cons t ts ih => simp only [dirEdges, flatMap_cons, length_append, length_cons] at ih ⊢; rw [ih]; simp [triEdges]; omega

theorem length_fwd_add_bwd (es : List (Nat × Nat)) (h : ∀ e ∈ es, e.1 ≠ e.2) :
    es.length = (es.filter fun e => e.1 < e.2).length + (es.filter fun e => e.2 < e.1).length := by
  induction es with
  | nil => rfl
  | cons e es ih =>
    have hne := h e mem_cons_self
    have := ih (fun x hx => h x (mem_cons_of_mem _ hx))
    simp only [filter_cons, length_cons]
    by_cases h1 : e.1 < e.2
    · have h2 : ¬ e.2 < e.1 := by omega
      simp [h1, h2]; omega
    · have h2 : e.2 < e.1 := by omega
      simp [h1, h2]; omega

/-- a closed oriented mesh: the directed edges are a permutation of their own reversals -/
theorem _root_.MV.Measure.dirEdges_perm_swap {ts : List Tri} (h : ClosedOriented ts) :
    ((dirEdges ts).map Prod.swap).Perm (dirEdges ts) := by
  obtain ⟨_, hnd, hrev⟩ := h
  refine (perm_ext_iff_of_nodup ((nodup_map_iff_of_injOn fun x _ y _ h => ?_).2 hnd) hnd).2
    fun e => ⟨fun he => ?_, fun he => mem_map.2 ⟨e.swap, hrev e.1 e.2 he, rfl⟩⟩
  · exact Prod.ext (congrArg Prod.snd h) (congrArg Prod.fst h)
  · obtain ⟨x, hx, rfl⟩ := mem_map.1 he
    exact hrev x.1 x.2 hx

theorem euler_edges {ts : List Tri} (h : ClosedOriented ts) :
    3 * ts.length = 2 * numUndirected ts := by
  have h1 := length_fwd_add_bwd _ ((closedOriented_iff_edges ts).1 h).1
  have h2 := ((MV.Measure.dirEdges_perm_swap h).filter fun e => e.1 < e.2).length_eq
  rw [List.filter_map, List.length_map] at h2
  rw [length_dirEdges] at h1
  unfold numUndirected
  have : ((fun e : Nat × Nat => decide (e.1 < e.2)) ∘ Prod.swap) = fun e => decide (e.2 < e.1) := rfl
  rw [this] at h2
  omega

/-! ## merge vectors: the table is the specification function -/

theorem mergeTable_go (v : Nat) : ∀ (l : List (Nat × Nat)) (m : Array Nat), v < m.size →
    (l.foldl (fun m ft => m.setIfInBounds ft.1 ft.2) m).getD v v =
      (match l.reverse.find? (fun ft => ft.1 == v) with
       | some ft => ft.2
       | none => m.getD v v)
  | [], m, _ => by simp
  | p :: l, m, hv => by
    rw [foldl_cons, mergeTable_go v l _ (by simpa using hv), reverse_cons, find?_append]
    cases h : l.reverse.find? (fun ft => ft.1 == v) with
    | some ft => simp
    | none =>
      simp only [Option.none_or, find?_cons, find?_nil]
      by_cases hp : p.1 = v
      · subst hp
        simp [Array.getD_eq_getD_getElem?, hv]
      · have : (p.1 == v) = false := by simpa using hp
        simp [this, Array.getD_eq_getD_getElem?, hp]

theorem mergeTable_getD (n : Nat) (mf mt : List Nat) (v : Nat) (hv : v < n) :
    (mergeTable n mf mt).getD v v = mergeFun mf mt v := by
  unfold mergeTable mergeFun
  rw [mergeTable_go v _ _ (by simpa using hv)]
  cases (mf.zip mt).reverse.find? (fun ft => ft.1 == v) with
  | some ft => rfl
  | none => simp [Array.getD_eq_getD_getElem?, hv]

theorem indexBound_go : ∀ (ts : List Tri) (n F : Nat),
    ts.foldl (fun n t => max (max (max n (t.1 + 1)) (t.2.1 + 1)) (t.2.2 + 1)) n = F →
    n ≤ F ∧ ∀ t ∈ ts, t.1 < F ∧ t.2.1 < F ∧ t.2.2 < F
  | [], n, F, h => ⟨Nat.le_of_eq h, by simp⟩
  | t :: ts, n, F, h => by
    obtain ⟨h1, h2⟩ :=
      indexBound_go ts (max (max (max n (t.1 + 1)) (t.2.1 + 1)) (t.2.2 + 1)) F h
    refine ⟨by omega, ?_⟩
    intro t' ht'
    rcases mem_cons.1 ht' with rfl | ht'
    · omega
    · exact h2 t' ht'

/-- `applyMerge` (array table, O(n)) maps every index through `mergeFun` (the specification:
last matching `mergeFrom[i]` wins, no chaining). -/
theorem applyMerge_eq (mf mt : List Nat) (ts : List Tri) :
    applyMerge mf mt ts = ts.map (mapTri (mergeFun mf mt)) := by
  unfold applyMerge
  apply map_congr_left
  intro t ht
  obtain ⟨h1, h2, h3⟩ := (indexBound_go ts 0 _ rfl).2 t ht
  unfold mapTri
  simp only [indexBound, mergeTable_getD _ mf mt _ h1, mergeTable_getD _ mf mt _ h2,
    mergeTable_getD _ mf mt _ h3]

end MV.Mesh
