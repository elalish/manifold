/-
`BuildInternalBoxes` / `UpdateBoxes` / `Collider::Transform` (collider.h:219-235, 290-313):
the bottom-up box refit is correct for every arrival order of the leaves, the local union
invariant gives the block statement, and `Transform` preserves the invariant for axis-aligned
matrices on valid (non-inverted) boxes.  Core Lean only.
-/
import MV.Proof.ColliderCells

namespace MV.Collider

theorem unionList_append : ∀ (l1 l2 : List Box) (u1 u2 : Box),
    unionList l1 = some u1 → unionList l2 = some u2 →
    unionList (l1 ++ l2) = some (u1.union u2) := by
  intro l1
  induction l1 with
  | nil => intro l2 u1 u2 h; simp [unionList] at h
  | cons x xs ih =>
    intro l2 u1 u2 h1 h2
    simp only [List.cons_append, unionList] at h1 ⊢
    cases hxs : unionList xs with
    | none =>
      rw [hxs] at h1
      simp only [Option.some.injEq] at h1
      subst h1
      cases xs with
      | nil => simp only [List.nil_append, h2]
      | cons y ys =>
        simp only [unionList] at hxs
        split at hxs <;> simp at hxs
    | some u =>
      rw [hxs] at h1
      simp only [Option.some.injEq] at h1
      subst h1
      rw [ih l2 u u2 hxs h2, Box.union_assoc]

theorem unionList_val (g : Nat → Box) : ∀ t : T,
    unionList (t.leaves.map g) = some (T.val Box.union g t)
  | .leaf _ => rfl
  | .node _ a b => by
    rw [T.leaves, List.map_append]
    exact unionList_append _ _ _ _ (unionList_val g a) (unionList_val g b)

/-- the local invariant gives the block statement: the cell of every node of the tree is the
componentwise union of the leaf boxes of its block -/
theorem unionBoxes_block {ch : Array (Int × Int)} {boxes leafBB : Array Box} {n : Nat}
    (hub : unionBoxes ch boxes leafBB n = true) (t : T) (hr : Rep ch t) (hb : Below n t) :
    boxes[t.id.toNat]? = unionList (t.leaves.map fun i => leafBB.getD i default) :=
  (cells_of_unionBoxes hub t hr hb).cell.trans (unionList_val _ t).symm

theorem affine_min_max_nonneg {c : Int} (hc : 0 ≤ c) (t p r : Int) :
    c * min p r + t = min (c * p + t) (c * r + t) ∧
    c * max p r + t = max (c * p + t) (c * r + t) := by
  rcases Int.le_total p r with h | h
  · have := Int.add_le_add_right (Int.mul_le_mul_of_nonneg_left h hc) t
    rw [Int.min_eq_left h, Int.max_eq_right h, Int.min_eq_left this, Int.max_eq_right this]
    exact ⟨rfl, rfl⟩
  · have := Int.add_le_add_right (Int.mul_le_mul_of_nonneg_left h hc) t
    rw [Int.min_eq_right h, Int.max_eq_left h, Int.min_eq_right this, Int.max_eq_left this]
    exact ⟨rfl, rfl⟩

theorem affine_min_max_nonpos {c : Int} (hc : c ≤ 0) (t p r : Int) :
    c * min p r + t = max (c * p + t) (c * r + t) ∧
    c * max p r + t = min (c * p + t) (c * r + t) := by
  rcases Int.le_total p r with h | h
  · have := Int.add_le_add_right (Int.mul_le_mul_of_nonpos_left hc h) t
    rw [Int.min_eq_left h, Int.max_eq_right h, Int.max_eq_left this, Int.min_eq_right this]
    exact ⟨rfl, rfl⟩
  · have := Int.add_le_add_right (Int.mul_le_mul_of_nonpos_left hc h) t
    rw [Int.min_eq_right h, Int.max_eq_left h, Int.max_eq_right this, Int.min_eq_left this]
    exact ⟨rfl, rfl⟩

/-- the image of the hull of `[p,q]` and `[r,s]` under `v ↦ c * v + t` is the hull of the images:
the ends are mapped by `affine_min_max_*`, and the images of `[p,q]`, `[r,s]` are ordered by the
sign of `c` -/
theorem scal_min_max (c t p q r s : Int) (h1 : p ≤ q) (h2 : r ≤ s) :
    min (c * min p r + t) (c * max q s + t) = min (min (c * p + t) (c * q + t)) (min (c * r + t) (c * s + t)) ∧
    max (c * min p r + t) (c * max q s + t) = max (max (c * p + t) (c * q + t)) (max (c * r + t) (c * s + t)) := by
  rcases Int.le_total 0 c with hc | hc
  · have a1 := Int.add_le_add_right (Int.mul_le_mul_of_nonneg_left h1 hc) t
    have a2 := Int.add_le_add_right (Int.mul_le_mul_of_nonneg_left h2 hc) t
    rw [(affine_min_max_nonneg hc t p r).1, (affine_min_max_nonneg hc t q s).2,
      Int.min_eq_left a1, Int.min_eq_left a2, Int.max_eq_right a1, Int.max_eq_right a2]
    have h : min (c * p + t) (c * r + t) ≤ max (c * q + t) (c * s + t) :=
      Int.le_trans (Int.min_le_left ..) (Int.le_trans a1 (Int.le_max_left ..))
    exact ⟨Int.min_eq_left h, Int.max_eq_right h⟩
  · have a1 := Int.add_le_add_right (Int.mul_le_mul_of_nonpos_left hc h1) t
    have a2 := Int.add_le_add_right (Int.mul_le_mul_of_nonpos_left hc h2) t
    rw [(affine_min_max_nonpos hc t p r).1, (affine_min_max_nonpos hc t q s).2,
      Int.min_eq_right a1, Int.min_eq_right a2, Int.max_eq_left a1, Int.max_eq_left a2]
    have h : min (c * q + t) (c * s + t) ≤ max (c * p + t) (c * r + t) :=
      Int.le_trans (Int.min_le_left ..) (Int.le_trans a1 (Int.le_max_left ..))
    exact ⟨Int.min_eq_right h, Int.max_eq_left h⟩

theorem Row4.axisAligned_cases {r : Row4} (h : r.axisAligned = true) :
    (r.b = 0 ∧ r.c = 0) ∨ (r.a = 0 ∧ r.c = 0) ∨ (r.a = 0 ∧ r.b = 0) := by
  unfold Row4.axisAligned at h
  simp only [beq_iff_eq] at h
  by_cases ha : r.a = 0 <;> by_cases hb : r.b = 0 <;> by_cases hc : r.c = 0 <;>
    simp [ha, hb, hc] at h ⊢

/-- valid = non-inverted box -/
def Box.Valid (b : Box) : Prop := b.min.x ≤ b.max.x ∧ b.min.y ≤ b.max.y ∧ b.min.z ≤ b.max.z

theorem Box.valid_union {a : Box} (ha : a.Valid) (b : Box) : (a.union b).Valid :=
  ⟨Int.le_trans (Int.min_le_left ..) (Int.le_trans ha.1 (Int.le_max_left ..)),
   Int.le_trans (Int.min_le_left ..) (Int.le_trans ha.2.1 (Int.le_max_left ..)),
   Int.le_trans (Int.min_le_left ..) (Int.le_trans ha.2.2 (Int.le_max_left ..))⟩

theorem Box.valid_transform (m : Mat34) (b : Box) : (b.transform m).Valid := by
  unfold Box.Valid
  simp only [Box.transform]
  omega

theorem Row4.apply_union {r : Row4} (hr : r.axisAligned = true) {a b : Box}
    (ha : a.Valid) (hb : b.Valid) :
    min (r.apply (a.union b).min) (r.apply (a.union b).max) =
      min (min (r.apply a.min) (r.apply a.max)) (min (r.apply b.min) (r.apply b.max)) ∧
    max (r.apply (a.union b).min) (r.apply (a.union b).max) =
      max (max (r.apply a.min) (r.apply a.max)) (max (r.apply b.min) (r.apply b.max)) := by
  obtain ⟨hx, hy, hz⟩ := ha
  obtain ⟨hx', hy', hz'⟩ := hb
  rcases Row4.axisAligned_cases hr with ⟨e1, e2⟩ | ⟨e1, e2⟩ | ⟨e1, e2⟩ <;>
    simp only [Row4.apply, Box.union, e1, e2, Int.zero_mul, Int.add_zero, Int.zero_add]
  · exact scal_min_max _ _ _ _ _ _ hx hx'
  · exact scal_min_max _ _ _ _ _ _ hy hy'
  · exact scal_min_max _ _ _ _ _ _ hz hz'

/-- Box::Transform commutes with Union on valid boxes for axis-aligned matrices -/
theorem Box.transform_union {m : Mat34} (hm : m.isAxisAligned = true) {a b : Box} (ha : a.Valid) (hb : b.Valid) :
    (a.union b).transform m = (a.transform m).union (b.transform m) := by
  unfold Mat34.isAxisAligned at hm
  simp only [Bool.and_eq_true] at hm
  obtain ⟨⟨h0, h1⟩, h2⟩ := hm
  have r0 := Row4.apply_union h0 ha hb
  have r1 := Row4.apply_union h1 ha hb
  have r2 := Row4.apply_union h2 ha hb
  simp only [Box.transform, Mat34.apply]
  rw [r0.1, r0.2, r1.1, r1.2, r2.1, r2.2]
  simp only [Box.union]

/-- all leaves of `t` have arrived -/
def complete (S : List Nat) (t : T) : Prop := ∀ i ∈ t.leaves, i ∈ S

instance (S : List Nat) (t : T) : Decidable (complete S t) := by
  unfold complete; infer_instance

/-- contribution of a child to its parent's counter -/
def cnt (S : List Nat) (t : T) : Nat := if complete S t then 1 else 0

/-- the state invariant after the leaves in `S` have been processed -/
def Inv (g : Nat → Box) (S : List Nat) (st : BState) : T → Prop
  | .leaf i => st.boxes[2 * i]? = some (some (g i))
  | .node k a b =>
    st.counter[k]? = some (cnt S a + cnt S b) ∧
    (complete S a → complete S b →
      st.boxes[2 * k + 1]? = some (some ((T.val Box.union g a).union (T.val Box.union g b)))) ∧
    Inv g S st a ∧ Inv g S st b

theorem leaves_ne_nil (t : T) : t.leaves ≠ [] := by
  intro h
  have := leaves_length t
  rw [h] at this
  simp at this

theorem complete_node {S : List Nat} {k : Nat} {a b : T} :
    complete S (.node k a b) ↔ complete S a ∧ complete S b :=
  List.forall_mem_append

theorem complete_congr {S S' : List Nat} {t : T} (h : ∀ i ∈ t.leaves, (i ∈ S ↔ i ∈ S')) :
    complete S t ↔ complete S' t :=
  forall_congr' fun i => imp_congr_right (h i)

theorem cnt_congr {S S' : List Nat} {t : T} (h : ∀ i ∈ t.leaves, (i ∈ S ↔ i ∈ S')) :
    cnt S t = cnt S' t := by
  unfold cnt
  simp only [complete_congr h]

theorem not_complete_of_mem {S : List Nat} {t : T} {l : Nat} (h1 : l ∈ t.leaves) (h2 : l ∉ S) :
    ¬ complete S t := fun h => h2 (h l h1)

theorem cnt_le_one (S : List Nat) (t : T) : cnt S t ≤ 1 := by
  unfold cnt; split <;> omega

/-- what a walk may change: only counters / internal cells with index in `L` -/
structure Frame (L : List Nat) (st st' : BState) : Prop where
  ok : st'.ok = st.ok
  size : st'.boxes.size = st.boxes.size
  leafc : ∀ i, st'.boxes[2 * i]? = st.boxes[2 * i]?
  other : ∀ k, k ∉ L → st'.counter[k]? = st.counter[k]? ∧ st'.boxes[2 * k + 1]? = st.boxes[2 * k + 1]?

theorem Frame.refl (L : List Nat) (st : BState) : Frame L st st :=
  ⟨rfl, rfl, fun _ => rfl, fun _ _ => ⟨rfl, rfl⟩⟩

theorem Frame.trans {L1 L2 L : List Nat} {st st1 st2 : BState} (h1 : Frame L1 st st1)
    (h2 : Frame L2 st1 st2) (s1 : ∀ x ∈ L1, x ∈ L) (s2 : ∀ x ∈ L2, x ∈ L) : Frame L st st2 := by
  refine ⟨h2.ok.trans h1.ok, h2.size.trans h1.size, fun i => (h2.leafc i).trans (h1.leafc i), ?_⟩
  intro k hk
  have k1 : k ∉ L1 := fun h => hk (s1 k h)
  have k2 : k ∉ L2 := fun h => hk (s2 k h)
  exact ⟨(h2.other k k2).1.trans (h1.other k k1).1, (h2.other k k2).2.trans (h1.other k k1).2⟩

theorem Frame.mono {L1 L : List Nat} {st st1 : BState} (h1 : Frame L1 st st1)
    (s1 : ∀ x ∈ L1, x ∈ L) : Frame L st st1 :=
  Frame.trans h1 (Frame.refl [] st1) s1 (fun _ h => by simp at h)

theorem Frame.counter (st : BState) (k v : Nat) :
    Frame [k] st { st with counter := st.counter.setIfInBounds k v } := by
  refine ⟨rfl, rfl, fun _ => rfl, ?_⟩
  intro x hx
  simp only [List.mem_singleton] at hx
  refine ⟨?_, rfl⟩
  exact Array.getElem?_setIfInBounds_ne (fun h => hx h.symm)

theorem Frame.both (st : BState) (k v : Nat) (w : Option Box) :
    Frame [k] st { boxes := st.boxes.setIfInBounds (2 * k + 1) w,
                   counter := st.counter.setIfInBounds k v, ok := st.ok } := by
  refine ⟨rfl, Array.size_setIfInBounds, ?_, ?_⟩
  · intro i
    exact Array.getElem?_setIfInBounds_ne (by omega)
  · intro x hx
    simp only [List.mem_singleton] at hx
    exact ⟨Array.getElem?_setIfInBounds_ne (fun h => hx h.symm),
      Array.getElem?_setIfInBounds_ne (by omega)⟩

theorem Inv_frame {g : Nat → Box} {S S' : List Nat} {L : List Nat} {st st' : BState}
    (hF : Frame L st st') : ∀ (t : T), (∀ k ∈ t.internals, k ∉ L) →
    (∀ i ∈ t.leaves, (i ∈ S ↔ i ∈ S')) → Inv g S st t → Inv g S' st' t := by
  intro t
  induction t with
  | leaf i =>
    intro _ _ h
    simp only [Inv] at h ⊢
    rw [hF.leafc i]; exact h
  | node k a b iha ihb =>
    intro hk hS h
    simp only [Inv] at h ⊢
    obtain ⟨h1, h2, h3, h4⟩ := h
    have hSa : ∀ i ∈ a.leaves, (i ∈ S ↔ i ∈ S') := fun i hi => hS i (by simp [T.leaves, hi])
    have hSb : ∀ i ∈ b.leaves, (i ∈ S ↔ i ∈ S') := fun i hi => hS i (by simp [T.leaves, hi])
    have hkk : k ∉ L := hk k (by simp [T.internals])
    refine ⟨?_, ?_, iha (fun x hx => hk x (by simp [T.internals, hx])) hSa h3,
      ihb (fun x hx => hk x (by simp [T.internals, hx])) hSb h4⟩
    · rw [(hF.other k hkk).1, h1, cnt_congr hSa, cnt_congr hSb]
    · intro ca cb
      rw [(hF.other k hkk).2]
      exact h2 ((complete_congr hSa).mpr ca) ((complete_congr hSb).mpr cb)

/-- the cell of a leaf, or of a complete internal node, holds its final value -/
theorem Inv_cell {g : Nat → Box} {S : List Nat} {st : BState} {t : T}
    (h : Inv g S st t) (hc : complete S t) :
    st.boxes[t.id.toNat]? = some (some (T.val Box.union g t)) := by
  cases t with
  | leaf i =>
    simp only [Inv] at h
    rw [id_leaf_toNat, h]; rfl
  | node k a b =>
    simp only [Inv] at h
    have ⟨ca, cb⟩ := complete_node.mp hc
    rw [id_node_toNat, h.2.1 ca cb]; rfl

theorem node2Internal_odd (k : Nat) : (node2Internal (2 * (k : Int) + 1)).toNat = k := by
  simp only [node2Internal]; omega

/-- first arrival: bump the counter and return -/
theorem leafWalk_first {parent : Array Int} {ch : Array (Int × Int)} {f : Nat} {c : Int}
    {st : BState} {k : Nat} {c1 c2 : Int}
    (hc : 0 ≤ c) (hp : parent[c.toNat]? = some (2 * (k : Int) + 1)) (hch : ch[k]? = some (c1, c2))
    (hcnt : st.counter[k]? = some 0) :
    leafWalk parent ch (f + 1) c st = { st with counter := st.counter.setIfInBounds k 1 } := by
  unfold leafWalk
  have h0 : ¬ c < 0 := by omega
  have h1 : ¬ (2 * (k : Int) + 1 < 1) := by omega
  simp only [h0, if_false, hp, h1, node2Internal_odd, hcnt, hch]
  simp

/-- second arrival: bump the counter, write the union, continue from the parent -/
theorem leafWalk_second {parent : Array Int} {ch : Array (Int × Int)} {f : Nat} {c : Int}
    {st : BState} {k : Nat} {c1 c2 : Int} {x y : Box}
    (hc : 0 ≤ c) (hp : parent[c.toNat]? = some (2 * (k : Int) + 1)) (hch : ch[k]? = some (c1, c2))
    (hcnt : st.counter[k]? = some 1) (h1 : 0 ≤ c1) (h2 : 0 ≤ c2)
    (hb1 : st.boxes[c1.toNat]? = some (some x)) (hb2 : st.boxes[c2.toNat]? = some (some y))
    (hsz : 2 * k + 1 < st.boxes.size) :
    leafWalk parent ch (f + 1) c st =
      if (2 * (k : Int) + 1 != kRoot) = true then
        leafWalk parent ch f (2 * (k : Int) + 1)
          { boxes := st.boxes.setIfInBounds (2 * k + 1) (some (x.union y)),
            counter := st.counter.setIfInBounds k 2, ok := st.ok }
      else
        { boxes := st.boxes.setIfInBounds (2 * k + 1) (some (x.union y)),
          counter := st.counter.setIfInBounds k 2, ok := st.ok } := by
  conv => lhs; unfold leafWalk
  have h0 : ¬ c < 0 := by omega
  have h1' : ¬ (2 * (k : Int) + 1 < 1) := by omega
  have h3 : ¬ c1 < 0 := by omega
  have h4 : ¬ c2 < 0 := by omega
  have h5 : (2 * (k : Int) + 1).toNat = 2 * k + 1 := by omega
  simp only [h0, if_false, hp, h1', node2Internal_odd, hcnt, hch, BState.read, h3, h4, hb1, hb2,
    h5, Option.join_some, hsz, if_true]
  simp

/-- the walk has arrived at the top of `s` and is about to look up its parent (the C++ loop
stops at the root) -/
def cont (parent : Array Int) (ch : Array (Int × Int)) (f : Nat) (s : T) (st : BState) : BState :=
  if (s.id != kRoot) = true then leafWalk parent ch f s.id st else st

/-- result of walking from leaf `l` to the top of `s`: either the walk is at the top of `s`
(all of `s` has arrived) or it has returned inside `s`.  `d` is the number of loop iterations the
walk has spent so far, one per level climbed, hence `≤ s.height`.  `climb_parent` lifts this from a
child `c` to its parent `k`: a walk at the top of `c` reads the counter of `k`; if the sibling was
not complete it was still 0, the walk bumps it and returns (first arrival), otherwise it writes the
union of the two child cells and is at the top of `k` (second arrival).  So the arrival of a leaf
climbs to the first ancestor whose counter was still 0. -/
def Climbed (parent : Array Int) (ch : Array (Int × Int)) (g : Nat → Box) (S : List Nat)
    (l : Nat) (s : T) (st : BState) : Prop :=
  ∃ st' d, Frame s.internals st st' ∧ Inv g (l :: S) st' s ∧ d ≤ s.height ∧
    ((complete (l :: S) s ∧
        ∀ f, leafWalk parent ch (f + d) (2 * (l : Int)) st = cont parent ch f s st') ∨
     (¬ complete (l :: S) s ∧ ∀ f, leafWalk parent ch (f + d) (2 * (l : Int)) st = st'))

theorem climb_parent {parent : Array Int} {ch : Array (Int × Int)} {g : Nat → Box}
    {S : List Nat} {l k : Nat} {a b c sib : T} {st : BState}
    (hside : (c = a ∧ sib = b) ∨ (c = b ∧ sib = a))
    (hlS : l ∉ S) (hlc : l ∈ c.leaves) (hls : l ∉ sib.leaves)
    (hkc : k ∉ c.internals) (hks : k ∉ sib.internals) (hdisj : ∀ x ∈ sib.internals, x ∉ c.internals)
    (hch : ch[k]? = some (a.id, b.id))
    (hpar : parent[c.id.toNat]? = some (2 * (k : Int) + 1)) (hc1 : c.id ≠ 1)
    (hkN : 2 * k + 1 < st.boxes.size)
    (hinv : Inv g S st (.node k a b))
    (hcl : Climbed parent ch g S l c st) :
    Climbed parent ch g S l (.node k a b) st := by
  obtain ⟨st1, d1, hF, hinvc, hd1, hwalk⟩ := hcl
  have hcnt0 : cnt S c = 0 := by
    unfold cnt; rw [if_neg (not_complete_of_mem hlc hlS)]
  have hSsib : ∀ i ∈ sib.leaves, (i ∈ S ↔ i ∈ l :: S) := by
    intro i hi
    simp only [List.mem_cons]
    constructor
    · exact Or.inr
    · intro h; rcases h with h | h
      · subst h; exact absurd hi hls
      · exact h
  have hcntS : st.counter[k]? = some (cnt S sib) := by
    simp only [Inv] at hinv
    rw [hinv.1]
    rcases hside with ⟨rfl, rfl⟩ | ⟨rfl, rfl⟩ <;> rw [hcnt0] <;> simp
  have hinvsib : Inv g S st sib := by
    simp only [Inv] at hinv
    rcases hside with ⟨rfl, rfl⟩ | ⟨rfl, rfl⟩
    · exact hinv.2.2.2
    · exact hinv.2.2.1
  have hheight : c.height + 1 ≤ (T.node k a b).height := by
    simp only [T.height]
    have hm1 : a.height ≤ Nat.max a.height b.height := Nat.le_max_left _ _
    have hm2 : b.height ≤ Nat.max a.height b.height := Nat.le_max_right _ _
    rcases hside with ⟨rfl, rfl⟩ | ⟨rfl, rfl⟩ <;> omega
  have hsubc : ∀ x ∈ k :: c.internals, x ∈ (T.node k a b).internals := by
    intro x hx
    simp only [T.internals, List.mem_cons, List.mem_append] at hx ⊢
    rcases hside with ⟨rfl, rfl⟩ | ⟨rfl, rfl⟩
    · rcases hx with hx | hx
      · exact Or.inl hx
      · exact Or.inr (Or.inl hx)
    · rcases hx with hx | hx
      · exact Or.inl hx
      · exact Or.inr (Or.inr hx)
  have hcompl : complete (l :: S) (.node k a b) ↔ complete (l :: S) c ∧ complete (l :: S) sib := by
    rw [complete_node]
    rcases hside with ⟨rfl, rfl⟩ | ⟨rfl, rfl⟩
    · exact Iff.rfl
    · exact And.comm
  have assemble : ∀ st', Frame [k] st1 st' →
      st'.counter[k]? = some (cnt (l :: S) c + cnt (l :: S) sib) →
      (complete (l :: S) c → complete (l :: S) sib →
        st'.boxes[2 * k + 1]? = some (some ((T.val Box.union g a).union (T.val Box.union g b)))) →
      Frame (T.node k a b).internals st st' ∧ Inv g (l :: S) st' (.node k a b) := by
    intro st' hF1 hcn hbx
    have hF2 : Frame (k :: c.internals) st st' :=
      Frame.trans hF hF1 (fun x hx => List.mem_cons_of_mem _ hx)
        (fun x hx => by simp only [List.mem_singleton] at hx; subst hx; exact List.mem_cons_self)
    have ic : Inv g (l :: S) st' c :=
      Inv_frame hF1 c (fun x hx h => by
        simp only [List.mem_singleton] at h; subst h; exact hkc hx) (fun _ _ => Iff.rfl) hinvc
    have is : Inv g (l :: S) st' sib :=
      Inv_frame hF2 sib (fun x hx h => by
        simp only [List.mem_cons] at h
        rcases h with h | h
        · subst h; exact hks hx
        · exact hdisj x hx h) hSsib hinvsib
    refine ⟨hF2.mono hsubc, ?_⟩
    simp only [Inv]
    rcases hside with ⟨rfl, rfl⟩ | ⟨rfl, rfl⟩
    · exact ⟨hcn, hbx, ic, is⟩
    · exact ⟨by rw [hcn, Nat.add_comm], fun h1 h2 => hbx h2 h1, is, ic⟩
  have hk1 : st1.counter[k]? = some (cnt S sib) := by rw [(hF.other k hkc).1, hcntS]
  have hcntsib : cnt (l :: S) sib = cnt S sib := (cnt_congr hSsib).symm
  rcases hwalk with ⟨hcc, hw⟩ | ⟨hcc, hw⟩
  · -- the walk reaches the top of `c`
    have hcontc : ∀ f, cont parent ch (f + 1) c st1 = leafWalk parent ch (f + 1) c.id st1 :=
      fun f => if_pos (by simp only [kRoot, bne_iff_ne]; exact hc1)
    have hlt : k < st1.counter.size := (Array.getElem?_eq_some_iff.mp hk1).1
    have hcnt1 : cnt (l :: S) c = 1 := by unfold cnt; rw [if_pos hcc]
    by_cases hsc : complete S sib
    · -- second arrival
      have hs1 : cnt S sib = 1 := by unfold cnt; rw [if_pos hsc]
      have hsc' : complete (l :: S) sib := (complete_congr hSsib).mp hsc
      have is1 : Inv g (l :: S) st1 sib :=
        Inv_frame hF sib hdisj hSsib hinvsib
      have cellc := Inv_cell hinvc hcc
      have cells := Inv_cell is1 hsc'
      have cella : st1.boxes[a.id.toNat]? = some (some (T.val Box.union g a)) := by
        rcases hside with ⟨rfl, rfl⟩ | ⟨rfl, rfl⟩
        · exact cellc
        · exact cells
      have cellb : st1.boxes[b.id.toNat]? = some (some (T.val Box.union g b)) := by
        rcases hside with ⟨rfl, rfl⟩ | ⟨rfl, rfl⟩
        · exact cells
        · exact cellc
      have hkN1 : 2 * k + 1 < st1.boxes.size := by rw [hF.size]; exact hkN
      rw [hs1] at hk1
      have hstep := fun f => leafWalk_second (parent := parent) (ch := ch) (f := f)
        (id_nonneg c) hpar hch hk1 (id_nonneg a) (id_nonneg b) cella cellb hkN1
      have ⟨hFr, hI⟩ := assemble _ (Frame.both st1 k 2 (some ((T.val Box.union g a).union (T.val Box.union g b))))
        (by
          show (st1.counter.setIfInBounds k 2)[k]? = _
          rw [Array.getElem?_setIfInBounds_self_of_lt hlt, hcnt1, hcntsib, hs1])
        (by
          intro _ _
          show (st1.boxes.setIfInBounds (2 * k + 1) _)[2 * k + 1]? = _
          rw [Array.getElem?_setIfInBounds_self_of_lt hkN1])
      refine ⟨_, d1 + 1, hFr, hI, by omega, Or.inl ⟨hcompl.mpr ⟨hcc, hsc'⟩, ?_⟩⟩
      intro f
      rw [show f + (d1 + 1) = f + 1 + d1 from (Nat.add_right_comm f 1 d1).symm, hw (f + 1), hcontc f,
        hstep f]
      rfl
    · -- first arrival
      have hs0 : cnt S sib = 0 := by unfold cnt; rw [if_neg hsc]
      have hsc' : ¬ complete (l :: S) sib := fun h => hsc ((complete_congr hSsib).mpr h)
      rw [hs0] at hk1
      have hstep := fun f => leafWalk_first (parent := parent) (ch := ch) (f := f)
        (id_nonneg c) hpar hch hk1
      have ⟨hFr, hI⟩ := assemble _ (Frame.counter st1 k 1)
        (by
          show (st1.counter.setIfInBounds k 1)[k]? = _
          rw [Array.getElem?_setIfInBounds_self_of_lt hlt, hcnt1, hcntsib, hs0])
        (fun _ h => absurd h hsc')
      refine ⟨_, d1 + 1, hFr, hI, by omega, Or.inr ⟨fun h => hsc' (hcompl.mp h).2, ?_⟩⟩
      intro f
      rw [show f + (d1 + 1) = f + 1 + d1 from (Nat.add_right_comm f 1 d1).symm, hw (f + 1), hcontc f,
        hstep f]
  · -- the walk returned inside `c`
    have hcnt0' : cnt (l :: S) c = 0 := by unfold cnt; rw [if_neg hcc]
    have ⟨hFr, hI⟩ := assemble st1 (Frame.refl _ _)
      (by rw [hk1, hcnt0', hcntsib]; simp)
      (fun h _ => absurd h hcc)
    exact ⟨st1, d1, hFr, hI, by omega, Or.inr ⟨fun h => hcc (hcompl.mp h).1, hw⟩⟩

/-- the walk from leaf `l` through any subtree `s` that contains it -/
theorem climb {parent : Array Int} {ch : Array (Int × Int)} {g : Nat → Box}
    {S : List Nat} {l : Nat} (hlS : l ∉ S) (hp1 : parent[1]? = some (-1)) :
    ∀ (s : T) (st : BState), l ∈ s.leaves → s.leaves.Nodup → s.internals.Nodup → Rep ch s →
      s.parentOk parent = true → (∀ k ∈ s.internals, 2 * k + 1 < st.boxes.size) →
      Inv g S st s → Climbed parent ch g S l s st := by
  intro s
  induction s with
  | leaf i =>
    intro st hl _ _ _ _ _ hinv
    simp only [T.leaves, List.mem_singleton] at hl
    subst hl
    refine ⟨st, 0, Frame.refl _ _, hinv, Nat.le_refl _, Or.inl ⟨?_, ?_⟩⟩
    · intro i hi
      simp only [T.leaves, List.mem_singleton] at hi
      subst hi; exact List.mem_cons_self
    · intro f
      unfold cont
      have : ((T.leaf l).id != kRoot) = true := by
        simp only [T.id, kRoot, bne_iff_ne]; omega
      rw [if_pos this]
      rfl
  | node k a b iha ihb =>
    intro st hl hnl hni hrep hpo hsz hinv
    simp only [T.leaves, List.mem_append] at hl
    simp only [T.leaves, List.nodup_append] at hnl
    obtain ⟨nla, nlb, dl⟩ := hnl
    simp only [T.internals, List.nodup_cons, List.mem_append, List.nodup_append, not_or] at hni
    obtain ⟨⟨hka, hkb⟩, nia, nib, di⟩ := hni
    obtain ⟨hch, ra, rb⟩ := hrep
    simp only [T.parentOk, Bool.and_eq_true, beq_iff_eq] at hpo
    obtain ⟨⟨⟨pa, pb⟩, poa⟩, pob⟩ := hpo
    have e1 : (1 : Int).toNat = 1 := rfl
    have ha1 : a.id ≠ 1 := by
      intro h; rw [h, e1, hp1] at pa
      simp only [Option.some.injEq] at pa; omega
    have hb1 : b.id ≠ 1 := by
      intro h; rw [h, e1, hp1] at pb
      simp only [Option.some.injEq] at pb; omega
    have hkN : 2 * k + 1 < st.boxes.size := hsz k (by simp [T.internals])
    have hinv' := hinv
    simp only [Inv] at hinv'
    by_cases hla : l ∈ a.leaves
    · have ca := iha st hla nla nia ra poa
        (fun x hx => hsz x (by simp [T.internals, hx])) hinv'.2.2.1
      exact climb_parent (Or.inl ⟨rfl, rfl⟩) hlS hla (fun h => dl l hla l h rfl) hka hkb
        (fun x hx h => di x h x hx rfl) hch pa ha1 hkN hinv ca
    · have hlb : l ∈ b.leaves := by
        rcases hl with h | h
        · exact absurd h hla
        · exact h
      have cb := ihb st hlb nlb nib rb pob
        (fun x hx => hsz x (by simp [T.internals, hx])) hinv'.2.2.2
      exact climb_parent (Or.inr ⟨rfl, rfl⟩) hlS hlb hla hkb hka
        (fun x hx h => di x hx x h rfl) hch pb hb1 hkN hinv cb

theorem not_complete_nil (t : T) : ¬ complete [] t := by
  intro h
  cases e : t.leaves with
  | nil => exact leaves_ne_nil t e
  | cons x xs => exact List.not_mem_nil (h x (e ▸ List.mem_cons_self))

theorem Inv_init (leafBB : Array Box) : ∀ (t : T), Below leafBB.size t →
    Inv (fun i => leafBB.getD i default) [] (initBState leafBB) t := by
  intro t
  induction t with
  | leaf i =>
    intro hi
    have hi : i < leafBB.size := hi
    simp only [Inv, initBState, Array.getElem?_map, Array.getElem?_range]
    rw [if_pos (by omega)]
    have h1 : 2 * i % 2 = 0 := by omega
    have h2 : 2 * i / 2 = i := by omega
    simp only [Option.map_some, h1, if_true, h2, getElem?_eq_some_getD default hi]
  | node k a b iha ihb =>
    intro ⟨hk, ba, bb⟩
    have c0 : ∀ t : T, cnt [] t = 0 := fun t => if_neg (not_complete_nil t)
    refine ⟨?_, fun h _ => absurd h (not_complete_nil a), iha ba, ihb bb⟩
    simp only [initBState, Array.getElem?_replicate, c0]
    rw [if_pos hk]

/-- the state invariant between two leaves -/
def Good (g : Nat → Box) (n : Nat) (t0 : T) (S : List Nat) (st : BState) : Prop :=
  st.ok = true ∧ st.boxes.size = 2 * n - 1 ∧ Inv g S st t0

theorem step_good {ch : Array (Int × Int)} {parent : Array Int} {n : Nat} {t0 : T}
    (c : TreeCtx ch parent n t0) {g : Nat → Box} {S : List Nat} {l : Nat} {st : BState}
    (hlS : l ∉ S) (hl : l < n) (hg : Good g n t0 S st) :
    Good g n t0 (l :: S) (leafWalk parent ch parent.size (leaf2Node (l : Int)) st) := by
  obtain ⟨hok, hsz, hinv⟩ := hg
  have hn := c.hn
  have hcl := climb (g := g) hlS c.hp1 t0 st ((c.mem_leaves l).mpr hl)
    c.nodup_leaves c.nodup_internals c.rep c.hpo
    (fun k hk => by have := (c.mem_internals k).mp hk; omega) hinv
  obtain ⟨st', d, hF, hI, hd, hw⟩ := hcl
  have hh := c.height_le
  have e1 : parent.size = (parent.size - d) + d := by rw [c.hps]; omega
  have e2 : leaf2Node (l : Int) = 2 * (l : Int) := by simp only [leaf2Node]; omega
  have hres : leafWalk parent ch parent.size (leaf2Node (l : Int)) st = st' := by
    rw [e1, e2]
    rcases hw with ⟨_, hw⟩ | ⟨_, hw⟩
    · rw [hw]
      unfold cont
      rw [c.id_eq]
      simp [kRoot]
    · rw [hw]
  rw [hres]
  exact ⟨hF.ok.trans hok, hF.size.trans hsz, hI⟩

theorem fold_good {ch : Array (Int × Int)} {parent : Array Int} {n : Nat} {t0 : T}
    (c : TreeCtx ch parent n t0) {g : Nat → Box} :
    ∀ (order : List Nat) (S : List Nat) (st : BState), order.Nodup →
      (∀ l ∈ order, l ∉ S ∧ l < n) → Good g n t0 S st →
      Good g n t0 (order.reverse ++ S) (buildInternalBoxes parent ch order st) := by
  intro order
  induction order with
  | nil => intro S st _ _ hg; simpa [buildInternalBoxes] using hg
  | cons l ls ih =>
    intro S st hnd hmem hg
    simp only [List.nodup_cons] at hnd
    have ⟨hlS, hl⟩ := hmem l List.mem_cons_self
    have hg' := step_good c hlS hl hg
    have := ih (l :: S) _ hnd.2 (fun x hx => by
      have ⟨h1, h2⟩ := hmem x (List.mem_cons_of_mem _ hx)
      refine ⟨?_, h2⟩
      simp only [List.mem_cons, not_or]
      exact ⟨fun e => hnd.1 (e ▸ hx), h1⟩) hg'
    unfold buildInternalBoxes at this ⊢
    simp only [List.foldl_cons, hg.1, if_true, List.reverse_cons, List.append_assoc,
      List.singleton_append]
    exact this

theorem Inv_leaf {g : Nat → Box} {S : List Nat} {st : BState} : ∀ (t : T),
    Inv g S st t → ∀ i ∈ t.leaves, st.boxes[2 * i]? = some (some (g i))
  | .leaf _, h, _, hi => List.mem_singleton.mp hi ▸ h
  | .node _ a b, h, i, hi =>
    (List.mem_append.mp hi).elim (Inv_leaf a h.2.2.1 i) (Inv_leaf b h.2.2.2 i)

/-- when every leaf of a subtree has arrived its cells are written and hold the node values -/
theorem cells_of_inv {g : Nat → Box} {S : List Nat} {st : BState} : ∀ t : T,
    Inv g S st t → complete S t →
      Cells Box.union g st.final t ∧ ∀ k ∈ t.internals, ∃ b, st.boxes[2 * k + 1]? = some (some b)
  | .leaf i, h, _ => by
    refine ⟨?_, fun k hk => nomatch hk⟩
    rw [Cells, BState.final, Array.getElem?_map, show st.boxes[2 * i]? = _ from h]; rfl
  | .node k a b, h, hc => by
    have ⟨ca, cb⟩ := complete_node.mp hc
    have ha := cells_of_inv a h.2.2.1 ca
    have hb := cells_of_inv b h.2.2.2 cb
    refine ⟨⟨?_, ha.1, hb.1⟩, fun j hj => ?_⟩
    · rw [BState.final, Array.getElem?_map, h.2.1 ca cb]; rfl
    · rcases List.mem_cons.mp hj with rfl | hj
      · exact ⟨_, h.2.1 ca cb⟩
      · exact (List.mem_append.mp hj).elim (ha.2 j) (hb.2 j)

/-- any arrival order: the kernel never reads an unwritten box, never leaves an array, every
cell ends up written, and the decidable union invariant holds -/
theorem updateBoxes_correct {ch : Array (Int × Int)} {parent : Array Int} {n : Nat}
    (hwf : wfTree ch parent n = true) (leafBB : Array Box) (hsz : leafBB.size = n)
    (order : List Nat) (hperm : order.Perm (List.range n)) :
    (updateBoxes parent ch leafBB order).ok = true ∧
    (updateBoxes parent ch leafBB order).boxes.size = 2 * n - 1 ∧
    (∀ i, i < 2 * n - 1 → ∃ b, (updateBoxes parent ch leafBB order).boxes[i]? = some (some b)) ∧
    unionBoxes ch (updateBoxes parent ch leafBB order).final leafBB n = true := by
  obtain ⟨t0, c⟩ := wfTree_iff.mp hwf
  have hn := c.hn
  have hupd : updateBoxes parent ch leafBB order =
      buildInternalBoxes parent ch order (initBState leafBB) := by
    unfold updateBoxes; rw [if_neg (by rw [c.hcs]; omega)]
  rw [hupd]
  have hg0 : Good (fun i => leafBB.getD i default) n t0 [] (initBState leafBB) :=
    ⟨rfl, by simp [initBState, hsz], Inv_init leafBB t0 (hsz ▸ c.below)⟩
  have hmem : ∀ l, l ∈ order ↔ l < n := fun l => by rw [hperm.mem_iff, List.mem_range]
  obtain ⟨hok, hbs, hinv⟩ := fold_good c order [] _ (hperm.nodup_iff.mpr List.nodup_range)
    (fun l hl => ⟨by simp, (hmem l).mp hl⟩) hg0
  generalize buildInternalBoxes parent ch order (initBState leafBB) = st at *
  obtain ⟨hcells, hwr⟩ := cells_of_inv t0 hinv (fun i hi => by
    rw [List.append_nil, List.mem_reverse]; exact (hmem i).mpr ((c.mem_leaves i).mp hi))
  refine ⟨hok, hbs, fun i hi => ?_, unionBoxes_of_cells c (by simp [BState.final, hbs]) hsz hcells⟩
  obtain ⟨j, rfl | rfl⟩ : ∃ j, i = 2 * j ∨ i = 2 * j + 1 := ⟨i / 2, by omega⟩
  · exact ⟨_, Inv_leaf t0 hinv j ((c.mem_leaves j).mpr (by omega))⟩
  · exact hwr j ((c.mem_internals j).mpr (by omega))

/-- non-vacuity: the hypotheses of `updateBoxes_correct` are met by the tree built from the codes
`3,3,3,7,7,9`, six leaf boxes and a scrambled arrival order -/
example :
    let t := createRadixTree #[3, 3, 3, 7, 7, 9]
    let leafBB : Array Box := #[⟨⟨0, 0, 0⟩, ⟨1, 1, 1⟩⟩, ⟨⟨2, 0, 0⟩, ⟨3, 1, 1⟩⟩, ⟨⟨0, 2, 0⟩, ⟨1, 3, 1⟩⟩,
      ⟨⟨5, 5, 5⟩, ⟨6, 6, 6⟩⟩, ⟨⟨7, 5, 5⟩, ⟨8, 6, 6⟩⟩, ⟨⟨9, 9, 9⟩, ⟨9, 9, 9⟩⟩]
    wfTree t.1 t.2 6 = true ∧ leafBB.size = 6 ∧ [4, 2, 0, 5, 1, 3].Perm (List.range 6) ∧
    (updateBoxes t.2 t.1 leafBB [4, 2, 0, 5, 1, 3]).ok = true := by
  intro t leafBB
  have h1 : wfTree t.1 t.2 6 = true := by decide +kernel
  have h2 : leafBB.size = 6 := rfl
  have h3 : [4, 2, 0, 5, 1, 3].Perm (List.range 6) := by decide
  exact ⟨h1, h2, h3, (updateBoxes_correct h1 leafBB h2 _ h3).1⟩

end MV.Collider
