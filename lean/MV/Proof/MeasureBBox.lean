/-
Lemmas for property C18: `CalculateBBox`.  Coordinates are `Option F` (`none` = NaN) with
the exact `Scalar` instance of `MV/Props/C02.lean` (`exactScalar`: comparisons with NaN are false).
The two lambdas skip an operand whose **x** is NaN; a vertex is admissible when it is entirely
non-NaN (`lift p`) or has a NaN x.  For admissible vertices EVERY bracketing of the reduction
(`Red`) returns the tight box of the non-NaN vertices - in particular libstdc++'s 4-way unrolled
`std::reduce` (`stdReduce`), the left fold, and `tbb::parallel_reduce` under every schedule
(`parReduce_red`).
-/
import MV.Model.Measure
import MV.Props.C02
import MV.Model.Par
import Mathlib.Order.Lattice
import Mathlib.Order.MinMax

set_option linter.unusedSectionVars false

namespace MV.Measure
open MV.Bool3 MV.Bool3.C02

/-- `r` is obtained from the list by combining neighbours with `op` in SOME bracketing -/
inductive Red {β : Type} (op : β → β → β) : List β → β → Prop where
  | one (x : β) : Red op [x] x
  | join {xs ys : List β} {a b : β} : Red op xs a → Red op ys b → Red op (xs ++ ys) (op a b)

theorem foldl_red {β : Type} (op : β → β → β) (xs : List β) {L : List β} {v : β}
    (h : Red op L v) : Red op (L ++ xs) (xs.foldl op v) := by
  induction xs generalizing L v with
  | nil => simpa using h
  | cons x xs ih =>
    have := ih (Red.join h (Red.one x))
    simpa [List.append_assoc] using this

/-- libstdc++'s `std::reduce` is one particular bracketing of `init :: xs` -/
theorem stdReduce_red' {β : Type} (op : β → β → β) (v : β) (xs : List β) :
    ∀ {L : List β}, Red op L v → Red op (L ++ xs) (stdReduce op v xs) := by
  fun_induction stdReduce op v xs with
  | case1 v x0 x1 x2 x3 rest ih =>
    intro L h
    have := ih (Red.join h (Red.join (Red.join (Red.one x0) (Red.one x1)) (Red.join (Red.one x2) (Red.one x3))))
    simpa [List.append_assoc] using this
  | case2 v rest _ => exact fun h => foldl_red op rest h

theorem stdReduce_red {β : Type} (op : β → β → β) (init : β) (xs : List β) :
    Red op (init :: xs) (stdReduce op init xs) :=
  stdReduce_red' op init xs (Red.one init)

theorem mem_take_or_drop {β : Type} (xs : List β) (k : Nat) (x : β) : x ∈ xs ↔ x ∈ xs.take k ∨ x ∈ xs.drop k := by
  rw [← List.mem_append, List.take_append_drop]

open MV.Par in
/-- a body that walks a sub-tree with running value `v`, itself a bracketing of `L ∋ idn`, returns a
bracketing of the same elements and those of its range: a stolen part only adds copies of `idn` -/
theorem reduceGo_red {β : Type} (op : β → β → β) (idn : β) :
    ∀ (t : Sched) (v : β) (xs L : List β), Red op L v → idn ∈ L →
      ∃ L', Red op L' (reduceGo op idn t v xs) ∧ ∀ x, x ∈ L' ↔ x ∈ L ∨ x ∈ xs
  | .leaf, v, xs, L, h, _ => ⟨L ++ xs, foldl_red op xs h, fun _ => List.mem_append⟩
  | .node k false l r, v, xs, L, h, hi => by
    obtain ⟨L1, h1, m1⟩ := reduceGo_red op idn l v (xs.take k) L h hi
    obtain ⟨L2, h2, m2⟩ := reduceGo_red op idn r _ (xs.drop k) L1 h1 ((m1 _).2 (Or.inl hi))
    exact ⟨L2, h2, fun x => by rw [m2, m1, or_assoc, ← mem_take_or_drop]⟩
  | .node k true l r, v, xs, L, h, hi => by
    obtain ⟨L1, h1, m1⟩ := reduceGo_red op idn l v (xs.take k) L h hi
    obtain ⟨L2, h2, m2⟩ := reduceGo_red op idn r idn (xs.drop k) [idn] (Red.one idn) (List.mem_singleton_self _)
    refine ⟨L1 ++ L2, Red.join h1 h2, fun x => ?_⟩
    rw [List.mem_append, m1, m2, List.mem_singleton, mem_take_or_drop xs k x]
    constructor
    · rintro ((h | h) | (rfl | h))
      exacts [Or.inl h, Or.inr (Or.inl h), Or.inl hi, Or.inr (Or.inr h)]
    · rintro (h | h | h)
      exacts [Or.inl (Or.inl h), Or.inl (Or.inr h), Or.inr (Or.inr h)]

open MV.Par in
/-- `manifold::reduce(Par, …)` for every split tree is a bracketing of `init` and the elements -/
theorem parReduce_red {β : Type} (op : β → β → β) (init : β) (t : Sched) (xs : List β) :
    ∃ L', Red op L' (parReduce op init t xs) ∧ ∀ x, x ∈ L' ↔ x ∈ init :: xs := by
  unfold parReduce
  split
  · next he => exact ⟨[init], Red.one _, fun x => by rw [List.isEmpty_iff.1 he]⟩
  · obtain ⟨L', hr, hm⟩ := reduceGo_red op init t init xs [init] (Red.one _) (List.mem_singleton_self _)
    exact ⟨L', hr, fun x => by rw [hm, List.mem_singleton, List.mem_cons]⟩

section
variable {F : Type} [Field F] [LinearOrder F]

/-- a vertex without NaN -/
def lift (p : V3 F) : V3 (Option F) := ⟨some p.x, some p.y, some p.z⟩

/-- admissible vertex: NaN in x (skipped by the reduction) or no NaN at all -/
def Adm (v : V3 (Option F)) : Prop := v.x = none ∨ ∃ p : V3 F, v = lift p

/-- the common shape of the two lambdas of `CalculateBBox` -/
def bbOp (sel : Option F → Option F → Option F) (a b : V3 (Option F)) : V3 (Option F) :=
  if isNaN a.x then b else if isNaN b.x then a else ⟨sel a.x b.x, sel a.y b.y, sel a.z b.z⟩

theorem bbMin_eq : (bbMin : V3 (Option F) → _ → _) = bbOp laMin := rfl
theorem bbMax_eq : (bbMax : V3 (Option F) → _ → _) = bbOp laMax := rfl

theorem isNaN_none : isNaN (none : Option F) = true := rfl
theorem isNaN_some (x : F) : isNaN (some x) = false := by
  show (!decide (x = x)) = false
  simp

theorem bbOp_left (sel) (a b : V3 (Option F)) (h : a.x = none) : bbOp sel a b = b := by
  unfold bbOp; rw [h, isNaN_none]; rfl

theorem bbOp_right (sel) (p : V3 F) (b : V3 (Option F)) (h : b.x = none) :
    bbOp sel (lift p) b = lift p := by
  unfold bbOp
  have : (lift p).x = some p.x := rfl
  rw [this, isNaN_some, h, isNaN_none]; rfl

theorem bbOp_lift (sel : Option F → Option F → Option F) (s : F → F → F)
    (hs : ∀ x y, sel (some x) (some y) = some (s x y)) (p q : V3 F) :
    bbOp sel (lift p) (lift q) = lift ⟨s p.x q.x, s p.y q.y, s p.z q.z⟩ := by
  unfold bbOp
  have h1 : (lift p).x = some p.x := rfl
  have h2 : (lift q).x = some q.x := rfl
  rw [h1, h2, isNaN_some, isNaN_some]
  simp only [Bool.false_eq_true, if_false]
  show (⟨sel (some p.x) (some q.x), sel (some p.y) (some q.y), sel (some p.z) (some q.z)⟩ : V3 (Option F)) = _
  rw [hs, hs, hs]; rfl

theorem laMin_some (x y : F) : laMin (some x) (some y) = some (min x y) := by
  rw [min_def_lt, apply_ite some]
  exact if_congr decide_eq_true_iff rfl rfl

theorem laMax_some (x y : F) : laMax (some x) (some y) = some (max x y) := by
  rw [max_def_lt, apply_ite some]
  exact if_congr decide_eq_true_iff rfl rfl

theorem lift_inj {p q : V3 F} (h : lift p = lift q) : p = q := by
  cases p; cases q
  simp only [lift, V3.mk.injEq, Option.some.injEq] at h
  obtain ⟨h1, h2, h3⟩ := h
  subst h1 h2 h3; rfl

theorem lift_x_ne_none (p : V3 F) : (lift p).x ≠ none := by simp [lift]

/-- `r` is the tight bound, with respect to `R`, of the NaN-free vertices of `L`: there is none and
`r` has a NaN x, or `r` is NaN-free and every coordinate of it bounds that coordinate of every
NaN-free vertex and is attained by one. -/
def Tight (R : F → F → Prop) (L : List (V3 (Option F))) (r : V3 (Option F)) : Prop :=
  (r.x = none ∧ ∀ q, lift q ∉ L) ∨
  ∃ p : V3 F, r = lift p ∧ ∀ c ∈ [V3.x, V3.y, V3.z],
    (∀ q : V3 F, lift q ∈ L → R (c p) (c q)) ∧ ∃ q : V3 F, lift q ∈ L ∧ c q = c p

/-- `Tight` only looks at which NaN-free vertices occur -/
theorem Tight.congr {R : F → F → Prop} {L L' : List (V3 (Option F))} {r : V3 (Option F)}
    (hm : ∀ q, lift q ∈ L ↔ lift q ∈ L') (h : Tight R L r) : Tight R L' r := by
  rcases h with ⟨h1, h2⟩ | ⟨p, rfl, hp⟩
  · exact Or.inl ⟨h1, fun q hq => h2 q ((hm q).2 hq)⟩
  · refine Or.inr ⟨p, rfl, fun c hc => ?_⟩
    obtain ⟨hb, q, m, e⟩ := hp c hc
    exact ⟨fun q hq => hb q ((hm q).2 hq), q, (hm q).1 m, e⟩

/-- the selection `s` picks one of its arguments and is an `R`-lower bound of both -/
structure Sel (R : F → F → Prop) (s : F → F → F) : Prop where
  refl : ∀ x, R x x
  trans : ∀ {x y z}, R x y → R y z → R x z
  left : ∀ x y, R (s x y) x
  right : ∀ x y, R (s x y) y
  choice : ∀ x y, s x y = x ∨ s x y = y

theorem sel_min : Sel (fun x y : F => x ≤ y) min :=
  ⟨le_refl, fun h1 h2 => le_trans h1 h2, min_le_left, min_le_right, min_choice⟩

theorem sel_max : Sel (fun x y : F => y ≤ x) max :=
  ⟨le_refl, fun h1 h2 => le_trans h2 h1, le_max_left, le_max_right, max_choice⟩

theorem Tight.one {R : F → F → Prop} (hrefl : ∀ x, R x x) {v : V3 (Option F)} (hv : Adm v) : Tight R [v] v := by
  rcases hv with hx | ⟨p, rfl⟩
  · exact Or.inl ⟨hx, fun q hq => lift_x_ne_none q (List.mem_singleton.1 hq ▸ hx)⟩
  · refine Or.inr ⟨p, rfl, fun c _ => ⟨fun q hq => ?_, p, List.mem_singleton_self _, rfl⟩⟩
    rw [lift_inj (List.mem_singleton.1 hq)]
    exact hrefl _

/-- combining the tight bounds of two lists gives the tight bound of both: a side without NaN-free
vertex is skipped, otherwise each coordinate is the selected one of the two, which bounds both
sides and is attained where it was chosen -/
theorem Tight.join {R : F → F → Prop} {s : F → F → F} (hS : Sel R s)
    {sel : Option F → Option F → Option F} (hs : ∀ x y, sel (some x) (some y) = some (s x y))
    {xs ys : List (V3 (Option F))} {a b : V3 (Option F)} (ha : Tight R xs a) (hb : Tight R ys b) :
    Tight R (xs ++ ys) (bbOp sel a b) := by
  rcases ha with ⟨hax, hxs⟩ | ⟨p, rfl, hp⟩
  · rw [bbOp_left _ _ _ hax]
    exact hb.congr fun q => by simp only [List.mem_append, hxs q, false_or]
  rcases hb with ⟨hbx, hys⟩ | ⟨q, rfl, hq⟩
  · rw [bbOp_right _ _ _ hbx]
    exact Tight.congr (fun q => by simp only [List.mem_append, hys q, or_false]) (Or.inr ⟨p, rfl, hp⟩)
  rw [bbOp_lift sel s hs]
  refine Or.inr ⟨_, rfl, fun c hc => ?_⟩
  obtain ⟨pb, pw, pm, pe⟩ := hp c hc
  obtain ⟨qb, qw, qm, qe⟩ := hq c hc
  have hc' : c ⟨s p.x q.x, s p.y q.y, s p.z q.z⟩ = s (c p) (c q) := by
    simp only [List.mem_cons, List.not_mem_nil, or_false] at hc
    rcases hc with rfl | rfl | rfl <;> rfl
  rw [hc']
  refine ⟨fun w hw => ?_, ?_⟩
  · rcases List.mem_append.1 hw with h | h
    · exact hS.trans (hS.left _ _) (pb w h)
    · exact hS.trans (hS.right _ _) (qb w h)
  · rcases hS.choice (c p) (c q) with e | e
    · exact ⟨pw, List.mem_append_left _ pm, pe.trans e.symm⟩
    · exact ⟨qw, List.mem_append_right _ qm, qe.trans e.symm⟩

/-- every bracketing of the reduction over admissible vertices gives the tight bound -/
theorem red_tight {R : F → F → Prop} {s : F → F → F} (hS : Sel R s)
    {sel : Option F → Option F → Option F} (hs : ∀ x y, sel (some x) (some y) = some (s x y))
    {L : List (V3 (Option F))} {r : V3 (Option F)} (h : Red (bbOp sel) L r)
    (hadm : ∀ v ∈ L, Adm v) : Tight R L r := by
  induction h with
  | one x => exact Tight.one hS.refl (hadm x (List.mem_singleton_self _))
  | join _ _ iha ihb =>
    exact Tight.join hS hs (iha fun v hv => hadm v (List.mem_append_left _ hv))
      (ihb fun v hv => hadm v (List.mem_append_right _ hv))

/-- a list that starts with a NaN-free vertex has a NaN-free tight bound -/
theorem Tight.of_head {R : F → F → Prop} {i : V3 F} {verts : List (V3 (Option F))} {r : V3 (Option F)}
    (h : Tight R (lift i :: verts) r) :
    ∃ p : V3 F, r = lift p ∧
      (∀ q : V3 F, lift q ∈ lift i :: verts → R p.x q.x ∧ R p.y q.y ∧ R p.z q.z) ∧
      (∃ q : V3 F, lift q ∈ lift i :: verts ∧ q.x = p.x) ∧ (∃ q : V3 F, lift q ∈ lift i :: verts ∧ q.y = p.y) ∧
      (∃ q : V3 F, lift q ∈ lift i :: verts ∧ q.z = p.z) := by
  rcases h with ⟨_, hall⟩ | ⟨p, rfl, hp⟩
  · exact absurd (List.mem_cons_self ..) (hall i)
  · have hx := hp V3.x (by simp)
    have hy := hp V3.y (by simp)
    have hz := hp V3.z (by simp)
    exact ⟨p, rfl, fun q hq => ⟨hx.1 q hq, hy.1 q hq, hz.1 q hq⟩, hx.2, hy.2, hz.2⟩

theorem adm_cons (i : V3 F) {verts : List (V3 (Option F))} (hadm : ∀ v ∈ verts, Adm v) :
    ∀ v ∈ lift i :: verts, Adm v := by
  intro v hv
  rcases List.mem_cons.1 hv with rfl | hv
  · exact Or.inr ⟨i, rfl⟩
  · exact hadm v hv

/-- the parallel reduction gives the tight bound whatever the schedule -/
theorem parReduce_tight {R : F → F → Prop} {s : F → F → F} (hS : Sel R s)
    {sel : Option F → Option F → Option F} (hs : ∀ x y, sel (some x) (some y) = some (s x y))
    (i : V3 F) {verts : List (V3 (Option F))} (hadm : ∀ v ∈ verts, Adm v) (t : MV.Par.Sched) :
    Tight R (lift i :: verts) (MV.Par.parReduce (bbOp sel) (lift i) t verts) := by
  obtain ⟨L', hr, hm⟩ := parReduce_red (bbOp sel) (lift i) t verts
  exact (red_tight hS hs hr fun v hv => adm_cons i hadm v ((hm v).1 hv)).congr fun q => hm _

end
end MV.Measure
