/-
Lemmas for property C18: the exact (`no rounding`) instance of the `Scalar` interface at a
linearly ordered field, the Kahan loop, the signed-tetrahedron sum and its translation invariance
on closed meshes.
-/
import MV.Model.Measure
import MV.Proof.Mesh
import Mathlib.Algebra.Order.Field.Basic
import Mathlib.Algebra.BigOperators.Group.List.Basic
import Mathlib.Tactic.Ring
import Mathlib.Tactic.Linarith
import Mathlib.Tactic.FieldSimp
import Mathlib.Data.List.Nodup

namespace MV.Measure
open MV.Bool3 MV.Mesh

/-- `Scalar` at a linearly ordered field: exact arithmetic, total division (`x / 0 = 0` as in
Mathlib), comparisons decided by the order, everything finite. -/
@[reducible] def fieldScalar (F : Type) [Field F] [LinearOrder F] : Scalar F where
  zero := 0
  add a b := a + b
  sub a b := a - b
  mul a b := a * b
  div a b := a / b
  neg a := -a
  abs a := |a|
  lt a b := decide (a < b)
  beq a b := decide (a = b)
  isFinite _ := true

namespace Exact
scoped instance (F : Type) [Field F] [LinearOrder F] : Scalar F := fieldScalar F
end Exact
open Exact

section Field
variable {F : Type} [Field F] [LinearOrder F] [IsStrictOrderedRing F]

/-- the triple product `a · (b × c)` = determinant of the three positions -/
def det3 (a b c : V3 F) : F :=
  a.x * (b.y * c.z - b.z * c.y) + a.y * (b.z * c.x - b.x * c.z) + a.z * (b.x * c.y - b.y * c.x)

/-- squared length -/
def normSq (a : V3 F) : F := a.x * a.x + a.y * a.y + a.z * a.z

omit [IsStrictOrderedRing F] in
theorem dot_eq (a b : V3 F) : dot a b = a.x * b.x + a.y * b.y + a.z * b.z := by
  show ((0 : F) + a.x * b.x) + a.y * b.y + a.z * b.z = _
  ring

omit [IsStrictOrderedRing F] in
theorem dot_self_eq (a : V3 F) : dot a a = normSq a := by rw [dot_eq]; rfl

omit [IsStrictOrderedRing F] in
/-- `dot(cross(b - a, c - a), a)` is the determinant of `(a, b, c)` -/
theorem dot_cross_sub (a b c : V3 F) : dot (cross (vsub b a) (vsub c a)) a = det3 a b c := by
  rw [dot_eq]
  show ((b.y - a.y) * (c.z - a.z) - (b.z - a.z) * (c.y - a.y)) * a.x +
      ((b.z - a.z) * (c.x - a.x) - (b.x - a.x) * (c.z - a.z)) * a.y +
      ((b.x - a.x) * (c.y - a.y) - (b.y - a.y) * (c.x - a.x)) * a.z = det3 a b c
  unfold det3; ring

/-! ## Kahan summation without rounding -/

omit [IsStrictOrderedRing F] in
theorem kahan_foldl (xs : List F) (v c : F) :
    xs.foldl kahanStep (v, c) = (v + xs.sum, c) := by
  induction xs generalizing v c with
  | nil => simp
  | cons x xs ih =>
    rw [List.foldl_cons]
    have : kahanStep (v, c) x = (v + x, c) := by
      show (v + x, c + ((v - (v + x)) + x)) = (v + x, c)
      congr 1; ring
    rw [this, ih, List.sum_cons]; congr 1; ring

omit [IsStrictOrderedRing F] in
/-- without rounding the compensated sum is the plain sum -/
theorem kahan_eq_sum (xs : List F) : kahan xs = xs.sum := by
  unfold kahan
  show (xs.foldl kahanStep ((0 : F), (0 : F))).1 + (xs.foldl kahanStep ((0 : F), (0 : F))).2 = _
  rw [kahan_foldl]; simp

/-! ## the triangle list of a `KMesh` -/

/-- triangle `t` of the halfedge arrays: the start vertices of halfedges `3t, 3t+1, 3t+2` -/
def meshTri (m : KMesh F) (t : Nat) : Tri := (m.startOf (3 * t), m.startOf (3 * t + 1), m.startOf (3 * t + 2))

def meshTris (m : KMesh F) : List Tri := (List.range (numTri m)).map (meshTri m)

/-- six times the signed volume: the sum of the determinants of the triangles' corner positions -/
def vol6 (pos : Nat → V3 F) (ts : List Tri) : F :=
  (ts.map fun t => det3 (pos t.1) (pos t.2.1) (pos t.2.2)).sum

omit [IsStrictOrderedRing F] in
theorem triVolume_eq [MConst F] (m : KMesh F) (t : Nat) :
    triVolume m t = det3 (m.pos (meshTri m t).1) (m.pos (meshTri m t).2.1) (m.pos (meshTri m t).2.2)
      / (MConst.six : F) := by
  unfold triVolume
  show dot (cross (vsub (corner m t 1) (corner m t 0)) (vsub (corner m t 2) (corner m t 0))) (corner m t 0)
    / (MConst.six : F) = _
  rw [dot_cross_sub]; rfl

omit [LinearOrder F] [IsStrictOrderedRing F] in
theorem sum_map_div (l : List Nat) (f : Nat → F) (c : F) :
    (l.map fun t => f t / c).sum = (l.map f).sum / c := by
  induction l with
  | nil => simp
  | cons a l ih => simp only [List.map_cons, List.sum_cons, ih]; ring

omit [IsStrictOrderedRing F] in
/-- **volume_def** in the form used below: `Volume()` is the sum of the corner determinants over six -/
theorem volume_eq_vol6 [MConst F] (m : KMesh F) :
    volume m = vol6 m.pos (meshTris m) / (MConst.six : F) := by
  unfold volume
  split
  · next h =>
    have h0 : numTri m = 0 := by simpa using h
    unfold vol6 meshTris; rw [h0]; simp
    rfl
  · rw [kahan_eq_sum]
    have : (List.range (numTri m)).map (triVolume m) =
        (List.range (numTri m)).map (fun t =>
          det3 (m.pos (meshTri m t).1) (m.pos (meshTri m t).2.1) (m.pos (meshTri m t).2.2) / (MConst.six : F)) :=
      List.map_congr_left fun t _ => triVolume_eq m t
    rw [this, sum_map_div]
    unfold vol6 meshTris
    rw [List.map_map]; rfl

/-! ## translation invariance on closed meshes -/

/-- `d · (u × v)` -/
def dcross (d u v : V3 F) : F :=
  d.x * (u.y * v.z - u.z * v.y) + d.y * (u.z * v.x - u.x * v.z) + d.z * (u.x * v.y - u.y * v.x)

omit [LinearOrder F] [IsStrictOrderedRing F] in
theorem dcross_antisymm (d u v : V3 F) : dcross d v u = -dcross d u v := by unfold dcross; ring

def vaddF (a d : V3 F) : V3 F := ⟨a.x + d.x, a.y + d.y, a.z + d.z⟩

omit [LinearOrder F] [IsStrictOrderedRing F] in
/-- multilinearity: translating the three corners by `d` changes the determinant by
`d · (a×b + b×c + c×a)` -/
theorem det3_translate (a b c d : V3 F) :
    det3 (vaddF a d) (vaddF b d) (vaddF c d) =
      det3 a b c + (dcross d a b + dcross d b c + dcross d c a) := by
  unfold det3 dcross vaddF; ring

omit [LinearOrder F] [IsStrictOrderedRing F] in
/-- the correction terms of all triangles are a sum over the directed edges -/
theorem sum_tri_edges (g : Nat × Nat → F) (ts : List Tri) :
    (ts.map fun t => g (t.1, t.2.1) + g (t.2.1, t.2.2) + g (t.2.2, t.1)).sum =
      ((dirEdges ts).map g).sum := by
  induction ts with
  | nil => rfl
  | cons t ts ih =>
    have : dirEdges (t :: ts) = triEdges t ++ dirEdges ts := List.flatMap_cons
    rw [this, List.map_append, List.sum_append, List.map_cons, List.sum_cons, ih]
    simp only [triEdges, List.map_cons, List.map_nil, List.sum_cons, List.sum_nil, add_zero, add_assoc]

/-- the sum of an antisymmetric edge function over the directed edges of a closed mesh vanishes -/
theorem sum_antisymm_closed {ts : List Tri} (h : ClosedOriented ts) (g : Nat × Nat → F)
    (hg : ∀ u v, g (v, u) = -g (u, v)) : ((dirEdges ts).map g).sum = 0 := by
  -- the sum equals its own negative: reversing every edge permutes the list and negates every term
  apply self_eq_neg.1
  rw [List.sum_neg, List.map_map, ← ((dirEdges_perm_swap h).map g).sum_eq, List.map_map]
  exact congrArg List.sum (List.map_congr_left fun e _ => hg e.1 e.2)

/-- **translation invariance of the signed-tetrahedron sum** on closed oriented meshes -/
theorem vol6_translate {ts : List Tri} (h : ClosedOriented ts) (pos : Nat → V3 F) (d : V3 F) :
    vol6 (fun v => vaddF (pos v) d) ts = vol6 pos ts := by
  unfold vol6
  let g : Nat × Nat → F := fun e => dcross d (pos e.1) (pos e.2)
  have h1 : (ts.map fun t => det3 (vaddF (pos t.1) d) (vaddF (pos t.2.1) d) (vaddF (pos t.2.2) d)) =
      ts.map fun t => det3 (pos t.1) (pos t.2.1) (pos t.2.2) +
        (g (t.1, t.2.1) + g (t.2.1, t.2.2) + g (t.2.2, t.1)) :=
    List.map_congr_left fun t _ => det3_translate _ _ _ _
  rw [h1, List.sum_map_add, sum_tri_edges g ts,
    sum_antisymm_closed h g (fun u v => dcross_antisymm d (pos u) (pos v)), add_zero]

end Field
end MV.Measure
