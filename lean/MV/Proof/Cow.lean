import MV.Model.Cow
/-! Lemmas for the copy-on-write heap model: association-map algebra, the invariant `Inv`
(stored reference count = number of live handles, no dangling handle, no leaked buffer) and
its preservation by the four primitive state changes; frame lemmas for `observe`.  `Acts S s s'` packs what
a state change on the handles in `S` guarantees for everybody else; `step_acts` (one accepted event) and
`run_acts` (an accepted trace) are the two statements the results of `MV/Props/C05.lean` are read off. -/
namespace MV.Cow
open AMap

variable {β : Type}

@[simp] theorem get_nil (k : Nat) : get ([] : AMap β) k = none := rfl

theorem get_cons (k' : Nat) (v : β) (t : AMap β) (k : Nat) :
    get ((k', v) :: t) k = if k' = k then some v else get t k := rfl

theorem get_del (m : AMap β) (k k' : Nat) :
    get (del m k) k' = if k' = k then none else get m k' := by
  induction m with
  | nil => simp [del]
  | cons p t ih =>
    obtain ⟨k0, v⟩ := p
    simp only [del]
    by_cases h0 : k0 = k
    · simp only [h0, if_true, ih, get_cons]
      by_cases h1 : k' = k
      · simp [h1]
      · have : ¬ k = k' := fun e => h1 e.symm
        simp [h1, this]
    · simp only [h0, if_false, get_cons, ih]
      by_cases h1 : k' = k
      · simp [h1]
        intro e; exact absurd e h0
      · simp [h1]

theorem get_set (m : AMap β) (k : Nat) (v : β) (k' : Nat) :
    get (set m k v) k' = if k' = k then some v else get m k' := by
  simp only [AMap.set, get_cons, get_del]
  by_cases h : k' = k
  · simp [h]
  · have : ¬ k = k' := fun e => h e.symm
    simp [h, this]

theorem del_of_get_none (m : AMap β) (k : Nat) (h : get m k = none) : del m k = m := by
  induction m with
  | nil => rfl
  | cons p t ih =>
    obtain ⟨k0, v⟩ := p
    simp only [get_cons] at h
    by_cases h0 : k0 = k
    · simp [h0] at h
    · simp only [h0, if_false] at h
      simp [del, h0, ih h]

/-- every key occurs at most once -/
def KeysNodup : AMap β → Prop
  | [] => True
  | (k, _) :: t => get t k = none ∧ KeysNodup t

theorem keysNodup_del (m : AMap β) (k : Nat) (h : KeysNodup m) : KeysNodup (del m k) := by
  induction m with
  | nil => trivial
  | cons p t ih =>
    obtain ⟨k0, v⟩ := p
    obtain ⟨h1, h2⟩ := h
    simp only [del]
    by_cases h0 : k0 = k
    · simp only [h0, if_true]; exact ih h2
    · simp only [h0, if_false]
      refine ⟨?_, ih h2⟩
      rw [get_del]; simp [h0, h1]

theorem keysNodup_set (m : AMap β) (k : Nat) (v : β) (h : KeysNodup m) : KeysNodup (set m k v) := by
  refine ⟨?_, keysNodup_del m k h⟩
  rw [get_del]; simp

theorem mem_iff_get (m : AMap β) (hn : KeysNodup m) (k : Nat) (v : β) :
    (k, v) ∈ m ↔ get m k = some v := by
  induction m with
  | nil => simp
  | cons p t ih =>
    obtain ⟨k0, v0⟩ := p
    obtain ⟨h1, h2⟩ := hn
    rw [List.mem_cons, get_cons, ih h2, Prod.mk.injEq]
    by_cases hk : k0 = k
    · rw [hk] at h1; simp [hk, h1, eq_comm]
    · simp [hk, Ne.symm hk]

theorem keys_nodup (m : AMap β) (hn : KeysNodup m) : (m.map (·.1)).Nodup := by
  induction m with
  | nil => exact List.nodup_nil
  | cons p t ih =>
    obtain ⟨k0, v0⟩ := p
    obtain ⟨h1, h2⟩ := hn
    refine List.nodup_cons.2 ⟨fun hm => ?_, ih h2⟩
    obtain ⟨⟨k, v⟩, hkv, rfl⟩ := List.mem_map.1 hm
    rw [(mem_iff_get t h2 k v).1 hkv] at h1
    cases h1

theorem refs_cons (k : Nat) (v : BufId) (t : AMap BufId) (b : BufId) :
    refs ((k, v) :: t) b = (if v = b then 1 else 0) + refs t b := rfl

theorem refs_pos_of_get (m : AMap BufId) (h : Handle) (b : BufId) (hg : get m h = some b) :
    1 ≤ refs m b := by
  induction m with
  | nil => simp at hg
  | cons p t ih =>
    obtain ⟨k0, v⟩ := p
    simp only [get_cons] at hg
    rw [refs_cons]
    by_cases h0 : k0 = h
    · simp only [h0, if_true, Option.some.injEq] at hg
      simp [hg]
    · simp only [h0, if_false] at hg
      have := ih hg
      omega

theorem refs_del (m : AMap BufId) (h : Handle) (b : BufId) (hn : KeysNodup m) :
    refs m b = refs (del m h) b + (if get m h = some b then 1 else 0) := by
  induction m with
  | nil => simp [refs, del]
  | cons p t ih =>
    obtain ⟨k0, v⟩ := p
    obtain ⟨h1, h2⟩ := hn
    simp only [del, get_cons, refs_cons]
    by_cases h0 : k0 = h
    · subst h0
      simp only [if_true, Option.some.injEq]
      rw [del_of_get_none t k0 h1]
      omega
    · simp only [h0, if_false, refs_cons]
      rw [ih h2]
      omega

theorem refs_zero (m : AMap BufId) (b : BufId) (hn : KeysNodup m)
    (h : ∀ k, get m k ≠ some b) : refs m b = 0 := by
  induction m with
  | nil => rfl
  | cons p t ih =>
    obtain ⟨k0, v⟩ := p
    obtain ⟨h1, h2⟩ := hn
    rw [refs_cons]
    have hv : v ≠ b := by
      intro e
      have := h k0
      simp [get_cons, e] at this
    have ht : ∀ k, get t k ≠ some b := by
      intro k
      by_cases hk : k0 = k
      · subst hk; rw [h1]; simp
      · have := h k
        simpa [get_cons, hk] using this
    simp [hv, ih h2 ht]

theorem refs_ge_two (m : AMap BufId) (h h' : Handle) (b : BufId) (hn : KeysNodup m)
    (hne : h' ≠ h) (hg : get m h = some b) (hg' : get m h' = some b) : 2 ≤ refs m b := by
  have h1 := refs_del m h b hn
  have h2 : get (del m h) h' = some b := by rw [get_del]; simp [hne, hg']
  have h3 := refs_pos_of_get _ _ _ h2
  simp only [hg, if_true] at h1
  omega

theorem refs_eq_filter (m : AMap BufId) (b : BufId) :
    refs m b = (m.filter (fun p => p.2 == b)).length := by
  induction m with
  | nil => rfl
  | cons p t ih =>
    obtain ⟨k0, v⟩ := p
    rw [refs_cons, ih, List.filter_cons]
    by_cases hv : v = b
    · simp [hv]; omega
    · simp [hv]

structure Inv (s : State) : Prop where
  nodup : KeysNodup s.hmap
  rc_eq : ∀ b x, get s.bufs b = some x → x.rc = refs s.hmap b
  rc_pos : ∀ b x, get s.bufs b = some x → 1 ≤ x.rc
  buf_live : ∀ h b, get s.hmap h = some b → ∃ x, get s.bufs b = some x
  fresh : ∀ b, s.next ≤ b → get s.bufs b = none

theorem inv_init : Inv {} := by
  constructor
  · trivial
  · intro b x h; simp at h
  · intro b x h; simp at h
  · intro h b hg; simp at hg
  · intro b _; rfl

theorem Inv.not_next {s : State} (hi : Inv s) (h : Handle) : get s.hmap h ≠ some s.next := by
  intro hg
  obtain ⟨x, hx⟩ := hi.buf_live h _ hg
  rw [hi.fresh s.next (Nat.le_refl _)] at hx
  simp at hx

theorem Inv.lt_next {s : State} (hi : Inv s) {b : BufId} {x : Buf} (hb : get s.bufs b = some x) :
    b < s.next := by
  rcases Nat.lt_or_ge b s.next with h | h
  · exact h
  · rw [hi.fresh b h] at hb; simp at hb

theorem refs_set (m : AMap BufId) (h : Handle) (b b' : BufId) (hd : get m h = none) :
    refs (AMap.set m h b) b' = (if b = b' then 1 else 0) + refs m b' := by
  rw [AMap.set, refs_cons, del_of_get_none m h hd]

/-- What the invariant says about one buffer id: an allocated buffer is below `next` and counts its
handles, of which there is at least one; no handle points at anything else. -/
def BufOk (s : State) (b : BufId) : Prop :=
  match get s.bufs b with
  | some x => x.rc = refs s.hmap b ∧ 1 ≤ x.rc ∧ b < s.next
  | none => refs s.hmap b = 0

theorem Inv.bufOk {s : State} (hi : Inv s) (b : BufId) : BufOk s b := by
  unfold BufOk
  cases hb : get s.bufs b with
  | some x => exact ⟨hi.rc_eq b x hb, hi.rc_pos b x hb, hi.lt_next hb⟩
  | none =>
    refine refs_zero s.hmap b hi.nodup fun k hk => ?_
    obtain ⟨x, hx⟩ := hi.buf_live k b hk
    rw [hb] at hx; cases hx

theorem Inv.of_bufOk {s : State} (hn : KeysNodup s.hmap) (h : ∀ b, BufOk s b) : Inv s := by
  refine ⟨hn, fun b x hb => ?_, fun b x hb => ?_, fun k b hk => ?_, fun b hb => ?_⟩
  · have := h b; rw [BufOk, hb] at this; exact this.1
  · have := h b; rw [BufOk, hb] at this; exact this.2.1
  · have := h b
    have hpos := refs_pos_of_get s.hmap k b hk
    cases hx : get s.bufs b with
    | some x => exact ⟨x, rfl⟩
    | none => rw [BufOk, hx] at this; omega
  · have := h b
    cases hx : get s.bufs b with
    | none => rfl
    | some x => rw [BufOk, hx] at this; omega

/-- `bindNew` on a dead handle keeps the invariant. -/
theorem inv_bindNew {s : State} (hi : Inv s) (h : Handle) (d : List Int)
    (hd : get s.hmap h = none) : Inv (bindNew s h d) := by
  refine Inv.of_bufOk (keysNodup_set _ _ _ hi.nodup) fun b => ?_
  have hb := hi.bufOk b
  have hfresh := hi.fresh s.next (Nat.le_refl _)
  simp only [BufOk, bindNew, get_set, refs_set _ _ _ _ hd] at hb ⊢
  by_cases hbn : b = s.next
  · -- the new buffer: nothing pointed at `next` before
    rw [hbn, hfresh] at hb
    simp [hbn, hb]
  · have hne : ¬ s.next = b := fun e => hbn e.symm
    simp only [hbn, hne, if_false, Nat.zero_add]
    split <;> simp_all <;> omega

/-- `bindShare` of a dead handle to an allocated buffer keeps the invariant. -/
theorem inv_bindShare {s : State} (hi : Inv s) (h : Handle) (b : BufId) (x : Buf)
    (hd : get s.hmap h = none) (hb : get s.bufs b = some x) : Inv (bindShare s h b) := by
  simp only [bindShare, hb]
  refine Inv.of_bufOk (keysNodup_set _ _ _ hi.nodup) fun b' => ?_
  have hb' := hi.bufOk b'
  simp only [BufOk, get_set, refs_set _ _ _ _ hd] at hb' ⊢
  by_cases hbb : b' = b
  · rw [hbb, hb] at hb'
    simp [hbb, hb']; omega
  · have hne : ¬ b = b' := fun e => hbb e.symm
    simp only [hbb, hne, if_false, Nat.zero_add]
    exact hb'

/-- `release` of a live handle keeps the invariant. -/
theorem inv_release {s : State} (hi : Inv s) (h : Handle) : Inv (release s h) := by
  unfold release
  cases hg : get s.hmap h with
  | none => exact hi
  | some b =>
    obtain ⟨x, hx⟩ := hi.buf_live h b hg
    have hbx := hi.bufOk b
    rw [BufOk, hx] at hbx
    -- every buffer keeps its handles, except that `b` loses `h`
    have hcount : ∀ b', refs s.hmap b' = refs (del s.hmap h) b' + (if b = b' then 1 else 0) := by
      intro b'
      have := refs_del s.hmap h b' hi.nodup
      rw [hg] at this
      simpa using this
    simp only [hx]
    split
    all_goals
      refine Inv.of_bufOk (keysNodup_del _ _ hi.nodup) fun b' => ?_
      have hb' := hi.bufOk b'
      have hc := hcount b'
      simp only [BufOk, get_del, get_set] at hb' ⊢
      by_cases hbb : b' = b
      · rw [hbb] at hc; simp only [hbb, if_true] at hc ⊢; omega
      · have hne : ¬ b = b' := fun e => hbb e.symm
        simp only [hbb, hne, if_false, Nat.add_zero] at hc ⊢
        rw [← hc]; exact hb'

theorem inv_setData {s : State} (hi : Inv s) (h : Handle) (f : List Int → List Int) :
    Inv (setData s h f) := by
  unfold setData
  cases hg : get s.hmap h with
  | none => exact hi
  | some b =>
    dsimp only
    cases hx : get s.bufs b with
    | none => exact hi
    | some x =>
      refine Inv.of_bufOk hi.nodup fun b' => ?_
      have hb' := hi.bufOk b'
      simp only [BufOk, get_set] at hb' ⊢
      by_cases hbb : b' = b
      · rw [hbb, hx] at hb'; simp only [hbb, if_true]; exact hb'
      · simp only [hbb, if_false]; exact hb'

theorem hmap_bindNew (s : State) (h : Handle) (d : List Int) (h' : Handle) :
    get (bindNew s h d).hmap h' = if h' = h then some s.next else get s.hmap h' := by
  simp [bindNew, get_set]

theorem observe_bindNew {s : State} (hi : Inv s) (h : Handle) (d : List Int) (h' : Handle) :
    observe (bindNew s h d) h' = if h' = h then some d else observe s h' := by
  unfold observe
  rw [hmap_bindNew]
  by_cases hh : h' = h
  · simp [hh, bindNew, get_set]
  · simp only [hh, if_false]
    cases hg : get s.hmap h' with
    | none => rfl
    | some b =>
      have : b ≠ s.next := fun e => hi.not_next h' (e ▸ hg)
      simp [bindNew, get_set, this]

theorem hmap_bindShare (s : State) (h : Handle) (b : BufId) (x : Buf) (hb : get s.bufs b = some x)
    (h' : Handle) :
    get (bindShare s h b).hmap h' = if h' = h then some b else get s.hmap h' := by
  simp [bindShare, hb, get_set]

theorem observe_bindShare (s : State) (h : Handle) (b : BufId) (x : Buf)
    (hb : get s.bufs b = some x) (h' : Handle) :
    observe (bindShare s h b) h' = if h' = h then some x.data else observe s h' := by
  unfold observe
  rw [hmap_bindShare s h b x hb]
  by_cases hh : h' = h
  · simp [hh, bindShare, hb, get_set]
  · simp only [hh, if_false]
    cases hg : get s.hmap h' with
    | none => rfl
    | some b' =>
      simp only [bindShare, hb, get_set]
      by_cases hbb : b' = b
      · subst hbb; simp [hb]
      · simp [hbb]

theorem hmap_release (s : State) (h h' : Handle) :
    get (release s h).hmap h' = if h' = h then none else get s.hmap h' := by
  unfold release
  cases hg : get s.hmap h with
  | none =>
    by_cases hh : h' = h
    · simp [hh, hg]
    · simp [hh]
  | some b =>
    dsimp only
    cases hx : get s.bufs b with
    | none => simp [get_del]
    | some x =>
      by_cases hle : x.rc ≤ 1 <;> simp [hle, get_del]

/-- Releasing `h` leaves every other live handle's observation alone. -/
theorem observe_release {s : State} (hi : Inv s) (h h' : Handle) (hne : h' ≠ h) :
    observe (release s h) h' = observe s h' := by
  unfold observe
  rw [hmap_release]
  simp only [hne, if_false]
  cases hg' : get s.hmap h' with
  | none => rfl
  | some b' =>
    simp only
    unfold release
    cases hg : get s.hmap h with
    | none => rfl
    | some b =>
      obtain ⟨x, hx⟩ := hi.buf_live h b hg
      simp only [hx]
      by_cases hle : x.rc ≤ 1
      · simp only [hle, if_true, get_del]
        by_cases hbb : b' = b
        · subst hbb
          have := refs_ge_two s.hmap h h' b' hi.nodup hne hg hg'
          have := hi.rc_eq b' x hx
          omega
        · simp [hbb]
      · simp only [hle, if_false, get_set]
        by_cases hbb : b' = b
        · subst hbb; simp [hx]
        · simp [hbb]

theorem hmap_setData (s : State) (h : Handle) (f : List Int → List Int) :
    (setData s h f).hmap = s.hmap := by
  unfold setData
  cases get s.hmap h with
  | none => rfl
  | some b => dsimp only; cases get s.bufs b <;> rfl

/-- A write through `h` while its buffer has reference count 1 leaves every other handle's
observation alone. -/
theorem observe_setData_other {s : State} (hi : Inv s) (h h' : Handle)
    (f : List Int → List Int) (hne : h' ≠ h) (hrc : rcH s h = 1) :
    observe (setData s h f) h' = observe s h' := by
  unfold observe
  rw [hmap_setData]
  cases hg' : get s.hmap h' with
  | none => rfl
  | some b' =>
    simp only
    unfold setData
    cases hg : get s.hmap h with
    | none => rfl
    | some b =>
      dsimp only
      cases hx : get s.bufs b with
      | none => rfl
      | some x =>
        simp only [get_set]
        by_cases hbb : b' = b
        · subst hbb
          have h2 := refs_ge_two s.hmap h h' b' hi.nodup hne hg hg'
          have h3 := hi.rc_eq b' x hx
          simp only [rcH, hg, rcOf, hx] at hrc
          omega
        · simp [hbb]

theorem observe_setData_self (s : State) (h : Handle) (f : List Int → List Int) :
    observe (setData s h f) h = (observe s h).map f := by
  unfold observe
  rw [hmap_setData]
  cases hg : get s.hmap h with
  | none => rfl
  | some b =>
    simp only
    unfold setData
    simp only [hg]
    cases hx : get s.bufs b with
    | none => simp [hx]
    | some x => simp [get_set]

/-- `s'` comes from `s` by an operation on the handles in `S`: the heap stays well formed, and every other
handle keeps its binding and what it reads. -/
structure Acts (S : Handle → Prop) (s s' : State) : Prop where
  inv : Inv s'
  hmap : ∀ k, ¬ S k → get s'.hmap k = get s.hmap k
  obs : ∀ k, ¬ S k → observe s' k = observe s k

variable {s s' s'' : State} {S U : Handle → Prop}

theorem Acts.refl (hi : Inv s) : Acts S s s := ⟨hi, fun _ _ => rfl, fun _ _ => rfl⟩

theorem Acts.mono (h : Acts S s s') (hsub : ∀ k, S k → U k) : Acts U s s' :=
  ⟨h.inv, fun k hk => h.hmap k fun hS => hk (hsub k hS), fun k hk => h.obs k fun hS => hk (hsub k hS)⟩

theorem Acts.trans (h1 : Acts S s s') (h2 : Acts S s' s'') : Acts S s s'' :=
  ⟨h2.inv, fun k hk => (h2.hmap k hk).trans (h1.hmap k hk), fun k hk => (h2.obs k hk).trans (h1.obs k hk)⟩

theorem acts_bindNew (hi : Inv s) {h : Handle} (d : List Int) (hd : get s.hmap h = none) :
    Acts (· = h) s (bindNew s h d) :=
  ⟨inv_bindNew hi h d hd, fun k hk => by rw [hmap_bindNew, if_neg hk],
    fun k hk => by rw [observe_bindNew hi, if_neg hk]⟩

theorem acts_bindShare (hi : Inv s) {h : Handle} {b : BufId} {x : Buf} (hd : get s.hmap h = none)
    (hb : get s.bufs b = some x) : Acts (· = h) s (bindShare s h b) :=
  ⟨inv_bindShare hi h b x hd hb, fun k hk => by rw [hmap_bindShare s h b x hb, if_neg hk],
    fun k hk => by rw [observe_bindShare s h b x hb, if_neg hk]⟩

theorem acts_release (hi : Inv s) (h : Handle) : Acts (· = h) s (release s h) :=
  ⟨inv_release hi h, fun k hk => by rw [hmap_release, if_neg hk], fun k hk => observe_release hi h k hk⟩

theorem acts_setData (hi : Inv s) (h : Handle) (f : List Int → List Int) (hrc : rcH s h = 1) :
    Acts (· = h) s (setData s h f) :=
  ⟨inv_setData hi h f, fun k _ => by rw [hmap_setData], fun k hk => observe_setData_other hi h k f hk hrc⟩

theorem live_iff (s : State) (h : Handle) : live s h = true ↔ ∃ b, get s.hmap h = some b := by
  unfold live
  cases get s.hmap h <;> simp

theorem not_live_iff (s : State) (h : Handle) : live s h = false ↔ get s.hmap h = none := by
  unfold live
  cases get s.hmap h <;> simp

/-- `share`, `clone` and `move` are accepted from a live source, which then points at an allocated
buffer, into a dead target -/
theorem src_dst {s : State} (hi : Inv s) {h h' : Handle} (ha : (live s h && !live s h') = true) :
    ∃ b x, get s.hmap h = some b ∧ get s.bufs b = some x ∧ get s.hmap h' = none := by
  simp only [Bool.and_eq_true, Bool.not_eq_true', not_live_iff, live_iff] at ha
  obtain ⟨⟨b, hb⟩, hd⟩ := ha
  obtain ⟨x, hx⟩ := hi.buf_live h b hb
  exact ⟨b, x, hb, hx, hd⟩

/-- An accepted event acts on its subjects only. -/
theorem step_acts (hi : Inv s) (e : Event) (ha : accept s e = true) :
    Acts (· ∈ subjects e) s (step s e) := by
  cases e with
  | alloc h n =>
    exact (acts_bindNew hi _ ((not_live_iff s h).1 (by simpa [accept] using ha))).mono (by simp [subjects])
  | share h h' =>
    obtain ⟨b, x, hb, hx, hd⟩ := src_dst hi ha
    simp only [step, hb]
    exact (acts_bindShare hi hd hx).mono (by simp [subjects])
  | clone h h' =>
    obtain ⟨b, x, hb, hx, hd⟩ := src_dst hi ha
    simp only [step, observe, hb, hx, Option.map_some]
    exact (acts_bindNew hi _ hd).mono (by simp [subjects])
  | makeUnique h =>
    obtain ⟨b, hb⟩ := (live_iff s h).1 ha
    obtain ⟨x, hx⟩ := hi.buf_live h b hb
    simp only [step]
    split
    · exact .refl hi
    · simp only [observe, hb, hx, Option.map_some]
      exact ((acts_release hi h).trans
        (acts_bindNew (inv_release hi h) _ (by rw [hmap_release, if_pos rfl]))).mono (by simp [subjects])
  | write h _ _ | resize h _ =>
    simp only [accept, Bool.and_eq_true, beq_iff_eq] at ha
    simp only [step]
    exact (acts_setData hi h _ ha.2).mono (by simp [subjects])
  | free h => exact (acts_release hi h).mono (by simp [subjects])
  | move h h' =>
    obtain ⟨b, x, hb, hx, hd⟩ := src_dst hi ha
    simp only [step, hb]
    exact ((acts_bindShare hi hd hx).mono (by simp [subjects])).trans
      ((acts_release (inv_bindShare hi h' b x hd hx) h).mono (by simp [subjects]))

/-- An accepted trace acts on the subjects of its events only. -/
theorem run_acts (hi : Inv s) (es : List Event) (ha : accepted s es = true) :
    Acts (fun k => ∃ e ∈ es, k ∈ subjects e) s (run s es) := by
  induction es generalizing s with
  | nil => exact .refl hi
  | cons e es ih =>
    simp only [accepted, Bool.and_eq_true] at ha
    have h1 := step_acts hi e ha.1
    exact (h1.mono fun k hk => ⟨e, List.mem_cons_self .., hk⟩).trans
      ((ih h1.inv ha.2).mono fun k ⟨e', he', hk⟩ => ⟨e', List.mem_cons_of_mem _ he', hk⟩)

theorem inv_run (hi : Inv s) (es : List Event) (ha : accepted s es = true) : Inv (run s es) :=
  (run_acts hi es ha).inv

theorem live_of_hmap {k : Handle} (h : get s'.hmap k = get s.hmap k) : live s' k = live s k := by
  unfold live; rw [h]

end MV.Cow
