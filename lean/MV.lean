import MV.Gen.Atomics
import MV.Gen.CBind
import MV.Gen.CancelSites
import MV.Gen.Inclusion
import MV.Gen.Minkowski
import MV.Gen.Phases
import MV.Gen.Shapes
import MV.Gen.Tet
import MV.Gen.WindRule
import MV.Model.Arrange2
import MV.Model.Bool3
import MV.Model.BoolAssembly
import MV.Model.Broad2
import MV.Model.CBind
import MV.Model.CBindExceptions
import MV.Model.CBindLifecycle
import MV.Model.CancelSites
import MV.Model.CrossOps
import MV.Model.CsgBatch
import MV.Model.Ctor
import MV.Model.Determ
import MV.Model.DetermSites
import MV.Model.EdgeOp
import MV.Model.Export
import MV.Model.Extrude
import MV.Model.HalfedgeGate
import MV.Model.HullCheck
import MV.Model.Ingest
import MV.Model.LazyEval
import MV.Model.Measure
import MV.Model.MergeSweep
import MV.Model.MeshIds
import MV.Model.Minkowski
import MV.Model.Par
import MV.Model.Partition
import MV.Model.PartitionCheck
import MV.Model.PolyGeom
import MV.Model.Progress
import MV.Model.PropInterp
import MV.Model.Sweep2
import MV.Model.Sync
import MV.Model.Tet
import MV.Proof.Affine
import MV.Proof.Arrange2Adj
import MV.Proof.Arrange2Queue
import MV.Proof.BoolAsmPair
import MV.Proof.BoolAsmWinding
import MV.Proof.Broad2Bvh
import MV.Proof.Broad2Kd
import MV.Proof.Broad2Sweep
import MV.Proof.Cow
import MV.Proof.CrossOpsDecompose
import MV.Proof.CrossOpsField
import MV.Proof.CrossOpsHull
import MV.Proof.CrossOpsHullA
import MV.Proof.CrossOpsHullB
import MV.Proof.CrossOpsHullC
import MV.Proof.CrossOpsJoin
import MV.Proof.CrossOpsSimplify
import MV.Proof.Csg
import MV.Proof.CsgBatchHeap
import MV.Proof.CsgBatchHeapPerm
import MV.Proof.CsgBatchUnion
import MV.Proof.Ctor
import MV.Proof.EarClip
import MV.Proof.EarClipAlgebra
import MV.Proof.EarClipMesh
import MV.Proof.EarClipRings
import MV.Proof.EdgeOpBasic
import MV.Proof.EdgeOpCollapse
import MV.Proof.EdgeOpFormLoop
import MV.Proof.EdgeOpLocal
import MV.Proof.EdgeOpOrbit
import MV.Proof.Export
import MV.Proof.ExportIds
import MV.Proof.ExportRoundtrip
import MV.Proof.ExportRuns
import MV.Proof.ExportVerts
import MV.Proof.Extrude
import MV.Proof.Halfedge
import MV.Proof.HalfedgeBasic
import MV.Proof.HalfedgeGate
import MV.Proof.HalfedgeSoupA
import MV.Proof.HalfedgeSoupB
import MV.Proof.HalfedgeSoupC
import MV.Proof.HullCheck
import MV.Proof.Ingest
import MV.Proof.IngestSafe
import MV.Proof.LazyEval
import MV.Proof.ListArray
import MV.Proof.AssocList
import MV.Proof.PermRange
import MV.Proof.Measure
import MV.Proof.MeasureBBox
import MV.Proof.MeasureDecomp
import MV.Proof.MeasureGap
import MV.Proof.MergeSweep
import MV.Proof.Mesh
import MV.Proof.Minkowski
import MV.Proof.ParScan
import MV.Proof.ParSort
import MV.Proof.Partition
import MV.Proof.PartitionCheck
import MV.Proof.PartitionGeomNat
import MV.Proof.PartitionTabQ3
import MV.Proof.PartitionTabQ4
import MV.Proof.PartitionTabT5
import MV.Proof.PartitionTabT6
import MV.Proof.PartitionTabT7
import MV.Proof.PartitionTabT8
import MV.Proof.PolyGeomField
import MV.Proof.PolyGeomReal
import MV.Proof.Progress
import MV.Proof.PropInterpBary
import MV.Proof.PropInterpDedup
import MV.Proof.PropInterpField
import MV.Proof.SortOrder
import MV.Proof.Sweep2Order
import MV.Proof.Sweep2PolySet
import MV.Proof.Sweep2Vert
import MV.Proof.Sweep2Walk
import MV.Proof.Sweep2Wind
import MV.Proof.SyncHB
import MV.Proof.SyncLockset
import MV.Proof.SyncSpec
import MV.Proof.TwoLock
import MV.Props.C01a
import MV.Props.C01b
import MV.Props.C02
import MV.Props.C02b
import MV.Props.C03
import MV.Props.C03Batch
import MV.Props.C04
import MV.Props.C05
import MV.Props.C06
import MV.Props.C07
import MV.Props.C07b
import MV.Props.C08a
import MV.Props.C08b
import MV.Props.C09
import MV.Props.C09b
import MV.Props.C10
import MV.Props.C10b
import MV.Props.C11
import MV.Props.C11b
import MV.Props.C12
import MV.Props.C13a
import MV.Props.C13b
import MV.Props.C13c
import MV.Props.C14
import MV.Props.C14b
import MV.Props.C15
import MV.Props.C16
import MV.Props.C16b
import MV.Props.C17
import MV.Props.C18
import MV.Props.C19
import MV.Props.C20

/-! Root of the library `MV`: the regenerated tables, the models, the proof modules that no property file
imports, and the property files (DESIGN.md 2.6 says what each module holds). -/
